/-
A stream object keeps its identity, for every history of one endpoint and any peer: objects are never
removed or renumbered, and an object's flow id and target (the host bytes and port of the `Connect`
that created it, shown to the accepting application) never change — whatever is written, read,
received, dropped, and through the wind-down.  `Dst` holds across every primitive update
(`Lemmas/MuxTrace.lean`), hence across every function of the endpoint model, every stimulus and every
history.
Core Lean only.
-/
import Penguin.Lemmas.MuxTrace

namespace Penguin.Mux

def Obj.ident (o : Obj) : Nat × Bytes × Nat := (o.fid, o.destHost, o.destPort)

structure Dst (e e' : EP) : Prop where
  keep : ∀ (k : Nat) (o : Obj), e.objs[k]? = some o → ∃ o', e'.objs[k]? = some o' ∧ o'.ident = o.ident

theorem Dst.refl (e : EP) : Dst e e := ⟨fun _ o h => ⟨o, h, rfl⟩⟩
theorem Dst.trans {a b c : EP} (s : Dst a b) (t : Dst b c) : Dst a c :=
  ⟨fun k o h => by
    obtain ⟨o1, h1, i1⟩ := s.keep k o h
    obtain ⟨o2, h2, i2⟩ := t.keep k o1 h1
    exact ⟨o2, h2, i2.trans i1⟩⟩
theorem Dst.same {e e' : EP} (ho : e'.objs = e.objs) : Dst e e' := ⟨fun k o h => ⟨o, by rw [ho]; exact h, rfl⟩⟩

theorem Dst.of_upd {k : Kind} {e e' : EP} {x : List Ev} (u : Upd k e x e') : Dst e e' := by
  cases u with
  | obj ok _ i f hf =>
    exact ⟨modObj_rel hf (fun _ _ u => by obtain ⟨h1, h2, h3⟩ := u.fixed; simp only [Obj.ident, h1, h2, h3]) fun _ => rfl⟩
  | newStream _ fid rwnd host port => exact ⟨fun k o h => ⟨o, getElem?_append_keep _ h, rfl⟩⟩
  | enq _ _ m => exact .same (enq_objs e m)
  | send => exact .same ((Upd.send e).frame .objs)
  | queue q => exact .same (q.frame .objs)
  | ctl c => exact .same (c.frame .objs)
  | req r => exact .same (r.frame .objs)
  | _ => exact .same rfl

theorem Dst.of_path {A : Kinds} {e e' : EP} {x : List Ev} (p : Path A e x e') : Dst e e' :=
  p.rel0 Dst.refl Dst.trans fun _ u => .of_upd u

theorem Dst.openRound (e : EP) (r : OpenReq) : Dst e (openRound e r).1 := .of_path (.openRoundAny e r)
theorem Dst.closeFlow (e : EP) (fid : Nat) (inh : Bool) : Dst e (closeFlow e fid inh).1 :=
  .of_path (.closeFlow e fid inh)
theorem Dst.processFrame (e : EP) (f : Frame) (ig : Bool) : Dst e (processFrame e f ig).1 :=
  .of_path (.processFrame e f ig)
theorem Dst.windDown (e : EP) (drain : Bool) (res : ExitRes) : Dst e (windDown e drain res).1 :=
  .of_path (.windDown e drain res)
theorem Dst.unpark (e : EP) : Dst e (unpark e) := .of_path (.unpark e)
theorem Dst.settleLoop (fuel : Nat) (e : EP) (acc : List Ev) : Dst e (settleLoop fuel e acc).1 :=
  let ⟨_, _, p⟩ := Path.settleLoop fuel e acc; .of_path p
theorem Dst.runRetries (e : EP) (l : List Nat) : Dst e (runRetries e l).1 := .of_path (.runRetries e l)
theorem Dst.runDone (e : EP) (l : List (Nat × Nat)) : Dst e (runDone e l).1 := .of_path (.runDone e l)
theorem Dst.settle (e : EP) : Dst e (settle e).1 := .of_path (.settle e)
theorem Dst.appWrite (e : EP) (h : Nat) (d : Bytes) : Dst e (appWrite e h d).1 := .of_path (.appWrite e h d)
theorem Dst.fillBuf (fuel : Nat) (e : EP) (i : Nat) : Dst e (fillBuf fuel e i).1 := .of_path (.fillBuf fuel e i)
theorem Dst.appRead (e : EP) (h n : Nat) : Dst e (appRead e h n).1 := .of_path (.appRead e h n)
theorem Dst.appShutdown (e : EP) (h : Nat) : Dst e (appShutdown e h).1 := .of_path (.appShutdown e h)
theorem Dst.appDropStream (e : EP) (h : Nat) : Dst e (appDropStream e h).1 := .of_path (.appDropStream e h)
theorem Dst.appBindReq (e : EP) (req : Nat) (bt : BindType) (host : Bytes) (port : Nat) :
    Dst e (appBindReq e req bt host port).1 :=
  .of_path (.appBindReq e req bt host port)
theorem Dst.appBindNext (e : EP) : Dst e (appBindNext e).1 := .of_path (.appBindNext e)
theorem Dst.appBindReply (e : EP) (k : Nat) (a : Bool) : Dst e (appBindReply e k a).1 :=
  .of_path (.appBindReply e k a)
theorem Dst.appBindDrop (e : EP) (k : Nat) : Dst e (appBindDrop e k).1 := .of_path (.appBindDrop e k)
theorem Dst.opStep (e : EP) (op : Op) : Dst e (opStep e op).1 := .of_path (.opStep e op)
theorem Dst.applyOp (e : EP) (op : Op) : Dst e (applyOp e op).1 := .of_path (.applyOp e op)
theorem Dst.runOps (e : EP) (ops : List Op) : Dst e (runOps e ops) := let ⟨_, p⟩ := Path.runOps e ops; .of_path p

/-- Over any history and any continuation of it: an object that exists keeps its place, its flow id
    and its target. -/
theorem object_identity_is_stable (e : EP) (ops more : List Op) (k : Nat) (o : Obj)
    (h : (runOps e ops).objs[k]? = some o) :
    ∃ o', (runOps e (ops ++ more)).objs[k]? = some o' ∧ o'.fid = o.fid ∧ o'.destHost = o.destHost ∧ o'.destPort = o.destPort := by
  rw [runOps_append]
  obtain ⟨o', h1, h2⟩ := (Dst.runOps (runOps e ops) more).keep k o h
  simp only [Obj.ident, Prod.mk.injEq] at h2
  exact ⟨o', h1, h2.1, h2.2.1, h2.2.2⟩

end Penguin.Mux
