/-
The pair of BIND VIEWS (`BV`, `Lemmas/BindAllSteps.lean`) of two endpoints, joined by the two wires, with the two
observers' records, and its small steps: one `BStep` of either side (what it sends goes onto its wire, what
the observer records is appended to its record), a delivery, a lost wire (cut, or a delivered Close).
Then the numeric summary of the pair with respect to one flow id (`Sm`, `sm`), the id discipline stated on it (`Num`,
with `HalfN` per asking side), and the eight ways a small step changes the summary, each with the proof that it keeps
`Num` (`Num.shrink` … `Num.next`).  Everything here is about plain lists and records; the endpoint model does not occur.
Core Lean only.
-/
import Penguin.Lemmas.BindAllSteps

namespace Penguin.BindAll
open Penguin.Mux
open Penguin.PairAll (inMsgs inMsgs_append)

structure BC where
  a : BV
  b : BV
  ab : List Msg
  ba : List Msg
  abOpen : Bool
  baOpen : Bool
  ga : List BEv
  gb : List BEv

def BC.swap (c : BC) : BC :=
  { a := c.b, b := c.a, ab := c.ba, ba := c.ab, abOpen := c.baOpen, baOpen := c.abOpen, ga := c.gb, gb := c.ga }

@[simp] theorem BC.swap_swap (c : BC) : c.swap.swap = c := rfl

/-- A small step in which the LEFT view acts or receives. -/
inductive CStepL : BC → BC → Prop
  | act (c : BC) (v : BV) (ws : List Msg) (gs : List BEv) (h : BStep c.a v ws gs) :
      CStepL c { c with a := v, ab := if c.abOpen then c.ab ++ ws else c.ab, ga := c.ga ++ gs }
  /-- the oldest message in transit is delivered (and ignored by a source that has ended) -/
  | dlv (c : BC) (m : Msg) (rest : List Msg) (deaf : Bool) (h : c.ba = m :: rest) (hd : deaf = deafV c.a) :
      CStepL c { c with ba := rest, a := { c.a with inbox := if deaf then c.a.inbox else c.a.inbox ++ [.msg m] } }
  /-- the wire to the left side is lost (a cut, or a Close was delivered): items that are not frames may
      enter the inbox -/
  | lose (c : BC) (extra : List WsIn) (deaf : Bool) (hx : inMsgs extra = [] ∨ inMsgs extra = [.close]) :
      CStepL c { c with ba := [], baOpen := false,
                        a := { c.a with inbox := if deaf then c.a.inbox else c.a.inbox ++ extra } }

/-- The pair after a step of the left view (what `CStepL.act` spells out). -/
def BC.actL (c : BC) (v : BV) (ws : List Msg) (gs : List BEv) : BC :=
  { c with a := v, ab := if c.abOpen then c.ab ++ ws else c.ab, ga := c.ga ++ gs }

/-- The messages on their way from the left to the right endpoint, oldest first. -/
def BC.path (c : BC) : List Msg := inMsgs c.b.inbox ++ c.ab ++ c.a.outq

/-! ### Counting what concerns flow id `x`

`isConnX x`, `isBindX x`, `isFinX x` are the same functions as `PairAll.isConn x` / `isBind x` / `isFin x`
(`Lemmas/PairAllSteps.lean`); they have names of their own because the summary `sm` and the statements about it (Props C15)
are written with them.  `isAPX x` is `PairAll.isAP x` (Acknowledge or Push) of `Lemmas/PairAllCore.lean`, the stream
invariant, which the bind development does not import. -/

def isConnX (x : Nat) : Msg → Bool
  | .frame (.connect f _ _ _) => f == x
  | _ => false
def isBindX (x : Nat) : Msg → Bool
  | .frame (.bind f _ _ _) => f == x
  | _ => false
def isFinX (x : Nat) : Msg → Bool
  | .frame (.finish f) => f == x
  | _ => false
def isAPX (x : Nat) : Msg → Bool
  | .frame (.acknowledge f _) => f == x
  | .frame (.push f _) => f == x
  | _ => false
def isRstX (x : Nat) : Msg → Bool
  | .frame (.reset f) => f == x
  | _ => false

def isBR (x : Nat) : Nat × Slot → Bool
  | (k, .bindRequested _) => k == x
  | _ => false
def isRQ (x : Nat) : Nat × Slot → Bool
  | (k, .requested _) => k == x
  | _ => false
def isES (x : Nat) : Nat × Slot → Bool
  | (k, .established _) => k == x
  | _ => false

def isAsked (x : Nat) : BEv → Bool
  | .asked _ f _ _ _ => f == x
  | _ => false
def isShown (x : Nat) : BEv → Bool
  | .shown _ f _ _ _ => f == x
  | _ => false

def parkX (x : Nat) : Option BindIn → Nat
  | some b => if b.fid == x then 1 else 0
  | none => 0

def enX (x : Nat) (v : BV) : Nat := v.bindq.countP (·.fid == x) + parkX x v.park

/-- The numeric summary of the pair with respect to `x` (`sm` below). Suffix `a`/`A`: left side, `b`/`B`: right side,
    `P`: on the path left to right, `Q`: on the path right to left.
    With `a`/`b`: `c` occurrences of `x` in the id script; `br`/`rq`/`es` slots of `x` that are `bindRequested` /
    `requested` / `established`; `f` stream objects carrying `x`.  With `A`/`B`: `as`/`sh` `asked` / `shown` records of `x`;
    `en` bind requests of `x` queued or parked for the application; `h` `BindRequest`s of `x` handed out.  With `P`/`Q`
    (frames of `x` under way): `c` Connect, `b` Bind, `f` Finish, `ap` Acknowledge or Push. -/
structure Sm where
  ca : Nat
  cb : Nat
  bra : Nat
  brb : Nat
  rqa : Nat
  rqb : Nat
  esa : Nat
  esb : Nat
  fa : Nat
  fb : Nat
  asA : Nat
  asB : Nat
  shA : Nat
  shB : Nat
  enA : Nat
  enB : Nat
  hA : Nat
  hB : Nat
  cP : Nat
  bP : Nat
  fP : Nat
  apP : Nat
  cQ : Nat
  bQ : Nat
  fQ : Nat
  apQ : Nat

def Sm.swap (s : Sm) : Sm :=
  { ca := s.cb, cb := s.ca, bra := s.brb, brb := s.bra, rqa := s.rqb, rqb := s.rqa, esa := s.esb, esb := s.esa,
    fa := s.fb, fb := s.fa, asA := s.asB, asB := s.asA, shA := s.shB, shB := s.shA, enA := s.enB, enB := s.enA,
    hA := s.hB, hB := s.hA, cP := s.cQ, bP := s.bQ, fP := s.fQ, apP := s.apQ, cQ := s.cP, bQ := s.bP, fQ := s.fP,
    apQ := s.apP }

def sm (x : Nat) (c : BC) : Sm :=
  { ca := c.a.rng.count x, cb := c.b.rng.count x,
    bra := c.a.flows.countP (isBR x), brb := c.b.flows.countP (isBR x),
    rqa := c.a.flows.countP (isRQ x), rqb := c.b.flows.countP (isRQ x),
    esa := c.a.flows.countP (isES x), esb := c.b.flows.countP (isES x),
    fa := c.a.fids.count x, fb := c.b.fids.count x,
    asA := c.ga.countP (isAsked x), asB := c.gb.countP (isAsked x),
    shA := c.ga.countP (isShown x), shB := c.gb.countP (isShown x),
    enA := enX x c.a, enB := enX x c.b,
    hA := c.a.held.countP (·.fid == x), hB := c.b.held.countP (·.fid == x),
    cP := c.path.countP (isConnX x), bP := c.path.countP (isBindX x), fP := c.path.countP (isFinX x),
    apP := c.path.countP (isAPX x),
    cQ := c.swap.path.countP (isConnX x), bQ := c.swap.path.countP (isBindX x), fQ := c.swap.path.countP (isFinX x),
    apQ := c.swap.path.countP (isAPX x) }

theorem sm_swap (x : Nat) (c : BC) : sm x c.swap = (sm x c).swap := rfl

/-- The part of the invariant that speaks of the LEFT side as the one asking with `x`.
    `nobind`: without a request of the left side nothing of a bind request of `x` exists towards or at the right side;
    `binda`: the left side asks with `x` at most once, `x` is then no stream id anywhere, and the request is in exactly
    one place (under way, waiting, or shown) or gone; `held`: what the right side handed out it has shown. -/
structure HalfN (s : Sm) : Prop where
  nobind : s.asA = 0 → s.bP = 0 ∧ s.enB = 0 ∧ s.shB = 0 ∧ s.bra = 0
  binda : 1 ≤ s.asA → s.asA = 1 ∧ s.ca = 0 ∧ s.cb = 0 ∧ s.rqa = 0 ∧ s.esa = 0 ∧ s.brb = 0 ∧ s.rqb = 0 ∧ s.esb = 0 ∧
    s.fa = 0 ∧ s.fb = 0 ∧ s.cP = 0 ∧ s.cQ = 0 ∧ s.fP = 0 ∧ s.apP = 0 ∧ s.apQ = 0 ∧ s.bP + s.enB + s.shB ≤ 1 ∧
    s.asB = 0 ∧ s.hA = 0 ∧ s.shA = 0 ∧ s.enA = 0 ∧ s.bQ = 0
  held : s.hB ≤ s.shB

/-- The id discipline for `x`. `sum`: `x` is in at most one script, once; `fresh`: while it is, nothing else
    mentions `x`; `l`/`r`: either side as the asking one. -/
structure Num (s : Sm) : Prop where
  sum : s.ca + s.cb ≤ 1
  fresh : 1 ≤ s.ca + s.cb →
    s.bra = 0 ∧ s.brb = 0 ∧ s.rqa = 0 ∧ s.rqb = 0 ∧ s.esa = 0 ∧ s.esb = 0 ∧ s.fa = 0 ∧ s.fb = 0 ∧ s.asA = 0 ∧ s.asB = 0 ∧
    s.shA = 0 ∧ s.shB = 0 ∧ s.enA = 0 ∧ s.enB = 0 ∧ s.hA = 0 ∧ s.hB = 0 ∧ s.cP = 0 ∧ s.bP = 0 ∧ s.fP = 0 ∧ s.apP = 0 ∧
    s.cQ = 0 ∧ s.bQ = 0 ∧ s.fQ = 0 ∧ s.apQ = 0
  l : HalfN s
  r : HalfN s.swap

/-- The conjuncts of `HalfN.binda` that are read alone, by name and not by position: an id the left side asked with is
    carried by no stream object. -/
theorem HalfN.binda_fa {s : Sm} (h : HalfN s) (ha : 1 ≤ s.asA) : s.fa = 0 := by have := h.binda ha; omega

theorem HalfN.binda_fb {s : Sm} (h : HalfN s) (ha : 1 ≤ s.asA) : s.fb = 0 := by have := h.binda ha; omega

theorem HalfN.binda_rqa {s : Sm} (h : HalfN s) (ha : 1 ≤ s.asA) : s.rqa = 0 := by have := h.binda ha; omega

theorem HalfN.binda_esa {s : Sm} (h : HalfN s) (ha : 1 ≤ s.asA) : s.esa = 0 := by have := h.binda ha; omega

/-- Two conjuncts of `Num.fresh` by name (`omega` finds them: no position to count). -/
theorem Num.fresh_shB {s : Sm} (h : Num s) (hc : 1 ≤ s.ca + s.cb) : s.shB = 0 := by have := h.fresh hc; omega

theorem Num.fresh_fQ {s : Sm} (h : Num s) (hc : 1 ≤ s.ca + s.cb) : s.fQ = 0 := by have := h.fresh hc; omega

theorem Num.swap {s : Sm} (h : Num s) : Num s.swap := by
  refine ⟨?_, fun hc => ?_, h.r, h.l⟩
  · have := h.sum; simp only [Sm.swap]; omega
  · have z := h.fresh (by simp only [Sm.swap] at hc; omega)
    simp only [Sm.swap, z, and_self]

structure RightSame (s s' : Sm) : Prop where
  cb : s'.cb = s.cb
  brb : s'.brb = s.brb
  rqb : s'.rqb = s.rqb
  esb : s'.esb = s.esb
  fb : s'.fb = s.fb
  asB : s'.asB = s.asB
  shB : s'.shB = s.shB
  enB : s'.enB = s.enB
  hB : s'.hB = s.hB

theorem RightSame.eqs {s s' : Sm} (rs : RightSame s s') :
    s'.cb = s.cb ∧ s'.brb = s.brb ∧ s'.rqb = s.rqb ∧ s'.esb = s.esb ∧ s'.fb = s.fb ∧ s'.asB = s.asB ∧ s'.shB = s.shB ∧
      s'.enB = s.enB ∧ s'.hB = s.hB :=
  ⟨rs.cb, rs.brb, rs.rqb, rs.esb, rs.fb, rs.asB, rs.shB, rs.enB, rs.hB⟩

/- In the proofs below the fields that a step leaves alone are rewritten to their old values first; a clause that
   speaks only of such fields is then the old clause. -/

theorem Num.shrink {s s' : Sm} (h : Num s) (rs : RightSame s s') (h1 : s'.ca ≤ s.ca) (h2 : s'.bra ≤ s.bra) (h3 : s'.rqa ≤ s.rqa) (h4 : s'.esa ≤ s.esa)
      (h5 : s'.fa = s.fa) (h6 : s'.asA = s.asA) (h7 : s'.shA = s.shA) (h8 : s'.enA ≤ s.enA) (h9 : s'.hA = s.hA)
      (p1 : s'.cP ≤ s.cP) (p2 : s'.bP ≤ s.bP) (p3 : s'.fP ≤ s.fP) (p4 : s'.apP ≤ s.apP)
      (q1 : s'.cQ ≤ s.cQ) (q2 : s'.bQ ≤ s.bQ) (q3 : s'.fQ ≤ s.fQ) (q4 : s'.apQ ≤ s.apQ) : Num s' := by
  refine ⟨?_, ?_, ⟨?_, ?_, ?_⟩, ⟨?_, ?_, ?_⟩⟩ <;>
    simp only [Sm.swap, rs.eqs, h5, h6, h7, h9]
  · have := h.sum; omega
  · intro hc
    have z := h.fresh (by omega)
    simp only [z, Nat.le_zero_eq] at h2 h3 h4 h8 p1 p2 p3 p4 q1 q2 q3 q4
    simp only [z, h2, h3, h4, h8, p1, p2, p3, p4, q1, q2, q3, q4, and_self]
  · intro ha
    have := h.l.nobind ha; omega
  · intro ha
    have z := h.l.binda ha
    simp only [z, Nat.le_zero_eq] at h1 h3 h4 h8 p1 p3 p4 q1 q2 q4
    simp only [z, h1, h3, h4, h8, p1, p3, p4, q1, q2, q4, true_and, and_true]
    omega
  · exact h.l.held
  · intro hb
    have := h.r.nobind hb; simp only [Sm.swap] at this; omega
  · intro hb
    have z := h.r.binda hb
    simp only [Sm.swap] at z
    simp only [z, Nat.le_zero_eq] at h1 h2 h3 h4 p1 p2 p4 q1 q3 q4
    simp only [z, h1, h2, h3, h4, p1, p2, p4, q1, q3, q4, true_and, and_true]
    omega
  · exact h.r.held

/-- A frame of the STREAM `x` is queued (`S`): a Finish, an Acknowledge or a Push. -/
theorem Num.enqS {s s' : Sm} (h : Num s) (rs : RightSame s s') (h0 : 1 ≤ s.fa ∨ (1 ≤ s.hA ∧ s'.apP = s.apP))
      (h1 : s'.ca = s.ca) (h2 : s'.bra = s.bra) (h3 : s'.rqa = s.rqa) (h4 : s'.esa = s.esa)
      (h5 : s'.fa = s.fa) (h6 : s'.asA = s.asA) (h7 : s'.shA = s.shA) (h8 : s'.enA = s.enA) (h9 : s'.hA = s.hA)
      (p1 : s'.cP = s.cP) (p2 : s'.bP = s.bP) (p4 : s'.apP ≤ s.apP + 1)
      (q1 : s'.cQ = s.cQ) (q2 : s'.bQ = s.bQ) (q3 : s'.fQ = s.fQ) (q4 : s'.apQ = s.apQ) : Num s' := by
  have hf : 1 ≤ s.fa + s.hA := by omega
  refine ⟨?_, ?_, ⟨?_, ?_, ?_⟩, ⟨?_, ?_, ?_⟩⟩ <;>
    simp only [Sm.swap, rs.eqs, h1, h2, h3, h4, h5, h6, h7, h8, h9,
      p1, p2, q1, q2, q3, q4]
  · exact h.sum
  · intro hc
    -- `hf` says what is needed of the disjunction `h0`, which `omega` would otherwise split
    have := h.fresh hc; clear h0; omega
  · exact h.l.nobind
  · intro ha
    have := h.l.binda ha; clear h0; omega
  · exact h.l.held
  · exact h.r.nobind
  · -- the right side asks with `x`: no stream object here, so the frame answers a request held here
    intro hb
    have z := h.r.binda hb
    simp only [Sm.swap] at z
    have e : s'.apP = s.apP := by omega
    simpa only [e] using z
  · exact h.r.held

theorem Num.drawOpen {s s' : Sm} (h : Num s) (rs : RightSame s s') (h1 : s'.ca < s.ca) (h2 : s'.bra = s.bra) (h3 : s'.rqa = s.rqa + 1) (h4 : s'.esa = s.esa)
      (h5 : s'.fa = s.fa) (h6 : s'.asA = s.asA) (h7 : s'.shA = s.shA) (h8 : s'.enA = s.enA) (h9 : s'.hA = s.hA)
      (p1 : s'.cP = s.cP + 1) (p2 : s'.bP = s.bP) (p3 : s'.fP = s.fP) (p4 : s'.apP = s.apP)
      (q1 : s'.cQ = s.cQ) (q2 : s'.bQ = s.bQ) (q3 : s'.fQ = s.fQ) (q4 : s'.apQ = s.apQ) : Num s' := by
  have hs := h.sum
  have z := h.fresh (by omega)
  refine ⟨?_, ?_, ⟨?_, ?_, ?_⟩, ⟨?_, ?_, ?_⟩⟩ <;>
    simp only [Sm.swap, rs.eqs, h2, h3, h4, h5, h6, h7, h8, h9,
      p1, p2, p3, p4, q1, q2, q3, q4]
  · omega
  · intro hc; omega
  · exact h.l.nobind
  · intro ha; omega
  · exact h.l.held
  · exact h.r.nobind
  · intro hb; omega
  · exact h.r.held

theorem Num.drawBind {s s' : Sm} (h : Num s) (rs : RightSame s s') (h1 : s'.ca < s.ca) (h2 : s'.bra = s.bra + 1) (h3 : s'.rqa = s.rqa) (h4 : s'.esa = s.esa)
      (h5 : s'.fa = s.fa) (h6 : s'.asA = s.asA + 1) (h7 : s'.shA = s.shA) (h8 : s'.enA = s.enA) (h9 : s'.hA = s.hA)
      (p1 : s'.cP = s.cP) (p2 : s'.bP = s.bP + 1) (p3 : s'.fP = s.fP) (p4 : s'.apP = s.apP)
      (q1 : s'.cQ = s.cQ) (q2 : s'.bQ = s.bQ) (q3 : s'.fQ = s.fQ) (q4 : s'.apQ = s.apQ) : Num s' := by
  have hs := h.sum
  have z := h.fresh (by omega)
  have h1' : s'.ca = 0 := by omega
  have hcb : s.cb = 0 := by omega
  refine ⟨?_, ?_, ⟨?_, ?_, ?_⟩, ⟨?_, ?_, ?_⟩⟩ <;>
    simp only [Sm.swap, rs.eqs, h1', h2, h3, h4, h5, h6, h7, h8, h9,
      p1, p2, p3, p4, q1, q2, q3, q4]
  · omega
  · intro hc; omega
  · intro ha; omega
  · intro _; simp [z, hcb]
  · exact h.l.held
  · exact h.r.nobind
  · intro hb; omega
  · exact h.r.held

/-- An id for which a stream object, a Connect or a stream frame exists is in no script and in no bind request. -/
theorem Num.stream_id {s : Sm} (h : Num s) (hs : 1 ≤ s.rqa + s.fa + s.cQ) :
    ¬ 1 ≤ s.ca + s.cb ∧ ¬ 1 ≤ s.asA ∧ ¬ 1 ≤ s.asB := by
  refine ⟨fun hc => ?_, fun ha => ?_, fun hb => ?_⟩
  · have := h.fresh hc; omega
  · have := h.l.binda ha; omega
  · have := h.r.binda hb; simp only [Sm.swap] at this; omega

theorem Num.connNew {s s' : Sm} (h : Num s) (rs : RightSame s s') (h1 : s'.ca = s.ca) (h2 : s'.bra = s.bra) (h3 : s'.rqa = s.rqa) (h4 : s'.esa = s.esa + 1)
      (h5 : s'.fa = s.fa + 1) (h6 : s'.asA = s.asA) (h7 : s'.shA = s.shA) (h8 : s'.enA = s.enA) (h9 : s'.hA = s.hA)
      (p1 : s'.cP = s.cP) (p2 : s'.bP = s.bP) (p3 : s'.fP = s.fP) (p4 : s'.apP = s.apP)
      (q1 : s'.cQ + 1 = s.cQ) (q2 : s'.bQ = s.bQ) (q3 : s'.fQ = s.fQ) (q4 : s'.apQ = s.apQ) : Num s' := by
  obtain ⟨nc, na, nb⟩ := h.stream_id (by omega)
  refine ⟨?_, ?_, ⟨?_, ?_, ?_⟩, ⟨?_, ?_, ?_⟩⟩ <;>
    simp only [Sm.swap, rs.eqs, h1, h2, h3, h4, h5, h6, h7, h8, h9,
      p1, p2, p3, p4, q2, q3, q4]
  · exact h.sum
  · exact fun hc => absurd hc nc
  · exact h.l.nobind
  · exact fun ha => absurd ha na
  · exact h.l.held
  · exact h.r.nobind
  · exact fun hb => absurd hb nb
  · exact h.r.held

theorem Num.ackNew {s s' : Sm} (h : Num s) (rs : RightSame s s') (h0 : 1 ≤ s.rqa) (h1 : s'.ca = s.ca) (h2 : s'.bra = 0) (h3 : s'.rqa = 0) (h4 : s'.esa = 1)
      (h5 : s'.fa = s.fa + 1) (h6 : s'.asA = s.asA) (h7 : s'.shA = s.shA) (h8 : s'.enA = s.enA) (h9 : s'.hA = s.hA)
      (p1 : s'.cP = s.cP) (p2 : s'.bP = s.bP) (p3 : s'.fP = s.fP) (p4 : s'.apP = s.apP)
      (q1 : s'.cQ = s.cQ) (q2 : s'.bQ = s.bQ) (q3 : s'.fQ = s.fQ) : Num s' := by
  obtain ⟨nc, na, nb⟩ := h.stream_id (by omega)
  refine ⟨?_, ?_, ⟨?_, ?_, ?_⟩, ⟨?_, ?_, ?_⟩⟩ <;>
    simp only [Sm.swap, rs.eqs, h1, h2, h3, h4, h5, h6, h7, h8, h9,
      p1, p2, p3, p4, q1, q2, q3]
  · exact h.sum
  · exact fun hc => absurd hc nc
  · intro ha
    simp only [h.l.nobind ha, and_self]
  · exact fun ha => absurd ha na
  · exact h.l.held
  · exact h.r.nobind
  · exact fun hb => absurd hb nb
  · exact h.r.held

/-- A bind request of `x` on its way to or waiting at the left side: the right side asked with `x`. -/
theorem Num.bind_id {s : Sm} (h : Num s) (hs : 1 ≤ s.bQ + s.enA + s.shA) :
    ¬ 1 ≤ s.ca + s.cb ∧ ¬ 1 ≤ s.asA ∧ 1 ≤ s.asB := by
  refine ⟨fun hc => ?_, fun ha => ?_, ?_⟩
  · have := h.fresh hc; omega
  · have := h.l.binda ha; omega
  · have := h.r.nobind; simp only [Sm.swap] at this; omega

theorem Num.offer {s s' : Sm} (h : Num s) (rs : RightSame s s') (h1 : s'.ca = s.ca) (h2 : s'.bra = s.bra) (h3 : s'.rqa = s.rqa) (h4 : s'.esa = s.esa)
      (h5 : s'.fa = s.fa) (h6 : s'.asA = s.asA) (h7 : s'.shA = s.shA) (h8 : s'.enA ≤ s.enA + 1) (h9 : s'.hA = s.hA)
      (p1 : s'.cP = s.cP) (p2 : s'.bP = s.bP) (p3 : s'.fP = s.fP) (p4 : s'.apP = s.apP)
      (q1 : s'.cQ = s.cQ) (q2 : s'.bQ + 1 = s.bQ) (q3 : s'.fQ = s.fQ) (q4 : s'.apQ = s.apQ) : Num s' := by
  obtain ⟨nc, na, hb⟩ := h.bind_id (by omega)
  have z := h.r.binda hb
  simp only [Sm.swap] at z
  refine ⟨?_, ?_, ⟨?_, ?_, ?_⟩, ⟨?_, ?_, ?_⟩⟩ <;>
    simp only [Sm.swap, rs.eqs, h1, h2, h3, h4, h5, h6, h7, h9,
      p1, p2, p3, p4, q1, q3, q4]
  · exact h.sum
  · exact fun hc => absurd hc nc
  · exact h.l.nobind
  · exact fun ha => absurd ha na
  · exact h.l.held
  · intro hb'; omega
  · intro _
    simp only [z, true_and, and_true]
    omega
  · exact h.r.held

theorem Num.next {s s' : Sm} (h : Num s) (rs : RightSame s s') (h1 : s'.ca = s.ca) (h2 : s'.bra = s.bra) (h3 : s'.rqa = s.rqa) (h4 : s'.esa = s.esa)
      (h5 : s'.fa = s.fa) (h6 : s'.asA = s.asA) (h7 : s'.shA = s.shA + 1) (h8 : s'.enA + 1 = s.enA) (h9 : s'.hA = s.hA + 1)
      (p1 : s'.cP = s.cP) (p2 : s'.bP = s.bP) (p3 : s'.fP = s.fP) (p4 : s'.apP = s.apP)
      (q1 : s'.cQ = s.cQ) (q2 : s'.bQ = s.bQ) (q3 : s'.fQ = s.fQ) (q4 : s'.apQ = s.apQ) : Num s' := by
  obtain ⟨nc, na, hb⟩ := h.bind_id (by omega)
  have z := h.r.binda hb
  simp only [Sm.swap] at z
  refine ⟨?_, ?_, ⟨?_, ?_, ?_⟩, ⟨?_, ?_, ?_⟩⟩ <;>
    simp only [Sm.swap, rs.eqs, h1, h2, h3, h4, h5, h6, h7, h9,
      p1, p2, p3, p4, q1, q2, q3, q4]
  · exact h.sum
  · exact fun hc => absurd hc nc
  · exact h.l.nobind
  · exact fun ha => absurd ha na
  · exact h.l.held
  · intro hb'; omega
  · intro _
    simp only [z, true_and, and_true]
    omega
  · exact Nat.succ_le_succ h.r.held

end Penguin.BindAll
