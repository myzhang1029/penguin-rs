/-
The byte invariant `Dir` (`Lemmas/PairAllDir.lean`) of the direction left → right is preserved by every
small step in which the RIGHT side (the receiver of that direction, with its stream object `j`) acts or
receives: the payloads accepted into `j` are appended to `R`.
Core Lean only.
-/
import Penguin.Lemmas.PairAllDir

namespace Penguin.PairAll
open Penguin.Mux

variable {x j : Nat} {ownA ownB : Prop}

theorem cAP_live_le (x : Nat) (c : PC) : cAP x c.live ≤ cAP x c.path := by
  by_cases h : c.abOpen = true <;> simp [PC.live, PC.path, cAP_append, h]

theorem pX_inMsgs_cons (x : Nat) (w : WsIn) (r : List WsIn) (hw : ∀ m, w = .msg m → isPush x m = false) :
    pX x (inMsgs (w :: r)) = pX x (inMsgs r) := by
  cases w with
  | msg m => exact pX_cons_other x m _ (hw m rfl)
  | _ => rfl

theorem hasConn_inMsgs_cons (x : Nat) (w : WsIn) (r : List WsIn) (A B : List Msg)
    (h : hasConn x (inMsgs r ++ A ++ B) = true) : hasConn x (inMsgs (w :: r) ++ A ++ B) = true := by
  cases w with
  | msg m =>
    simp only [inMsgs, List.cons_append, hasConn, List.any_cons] at h ⊢
    rw [h]; simp
  | _ => exact h

theorem guarded_inMsgs_cons (x : Nat) (w : WsIn) (r : List WsIn) (A B : List Msg)
    (hw : ∀ m, w = .msg m → isAck x m = false ∧ isPush x m = false) :
    guarded x (inMsgs (w :: r) ++ A ++ B) = guarded x (inMsgs r ++ A ++ B) := by
  cases w with
  | msg m =>
    obtain ⟨h1, h2⟩ := hw m rfl
    simp only [inMsgs, List.cons_append, guarded, h1, h2, Bool.false_eq_true, if_false]
  | _ => rfl

theorem hasAck_inMsgs_cons (x : Nat) (w : WsIn) (r : List WsIn) (A B : List Msg)
    (hw : ∀ m, w = .msg m → isAck x m = false) :
    hasAck x (inMsgs (w :: r) ++ A ++ B) = hasAck x (inMsgs r ++ A ++ B) := by
  cases w with
  | msg m =>
    simp only [inMsgs, List.cons_append, hasAck, List.any_cons, hw m rfl, Bool.false_or]
  | _ => rfl

theorem hasConn_path_popB {c c' : PC} {w : WsIn} {r : List WsIn} (h : c.b.inbox = w :: r) (hp : hasConn x c'.path = true)
    (e1 : c'.b.inbox = r := by rfl) (e2 : c'.ab = c.ab := by rfl) (e3 : c'.a.outq = c.a.outq := by rfl) :
    hasConn x c.path = true := by
  simp only [PC.path, e1, e2, e3] at hp
  simp only [PC.path]; rw [h]; exact hasConn_inMsgs_cons x w r _ _ hp

theorem Pot.popB {c c' : PC} {w : WsIn} {r : List WsIn} (h : c.b.inbox = w :: r) (ea : c'.a = c.a) (e1 : c'.b.inbox = r)
    (e2 : c'.ab = c.ab) (e8 : c'.b.cnt = c.b.cnt)
    (h3 : ∀ q, c'.b.slot = some (.requested q) → ∃ q', c.b.slot = some (.requested q')) (hp : Pot x c') : Pot x c :=
  Pot.mono (Nat.le_of_eq (by rw [ea])) (Nat.le_of_eq e8) h3 (fun hh => hasConn_path_popB h hh e1 e2 (by rw [ea])) hp

theorem inMsgs_sublist_of_cons {l r : List WsIn} {w : WsIn} (h : l = w :: r) : List.Sublist (inMsgs r) (inMsgs l) :=
  h ▸ inMsgs_tail_sublist w r

theorem pX_inMsgs_of_fin_cons {l r : List WsIn} (h : l = .msg (.frame (.finish x)) :: r) : pX x (inMsgs r) = pX x (inMsgs l) := by
  rw [h]; rfl

theorem guarded_push_cons (x : Nat) (dd : Bytes) (l : List Msg) : guarded x (.frame (.push x dd) :: l) = false := by
  simp [guarded, isAck, isPush]

theorem Dir.transB {c c' : PC} {S R : List Bytes} (d : Dir x j c S R)
    (e1 : c'.a.nobj = c.a.nobj) (e4 : c'.a.outClosed = c.a.outClosed) (e11 : c'.abOpen = c.abOpen)
    (hlen : c.b.len ≤ c'.b.len) (hcan : c'.b.canJ = true → c.b.canJ = true) (hpot : Pot x c' → Pot x c)
    (h3 : ∀ q, c'.b.slot = some (.requested q) → ∃ q', c.b.slot = some (.requested q') ∧
       (guarded x c.live = true → guarded x c'.live = true) ∧ (hasAck x c.live = true → hasAck x c'.live = true))
    (hpo : c.abOpen = true → pX x (inMsgs c'.b.inbox) ++ pX x c'.ab = pX x (inMsgs c.b.inbox) ++ pX x c.ab)
    (hpc : c.abOpen = false → pX x (inMsgs c'.b.inbox) = pX x (inMsgs c.b.inbox)) : Dir x j c' S R := by
  refine ⟨?_, ?_, ?_, ?_, ?_, d.d5⟩
  · rw [e1]; exact d.d0
  · intro hl
    have := d.d1 (Nat.le_trans hlen hl)
    refine ⟨this.1, ?_⟩
    cases hk : c'.b.canJ with
    | false => rfl
    | true => rw [hcan hk] at this; exact absurd this.2 (by simp)
  · intro hl hp
    have := d.d2 (Nat.le_trans hlen hl) (hpot hp)
    rw [e11]
    exact ⟨fun ho => by rw [hpo ho]; exact this.1 ho, fun ho => by rw [hpc ho]; exact this.2 ho⟩
  · intro q hq
    obtain ⟨q', hq', hg, ha⟩ := h3 q hq
    have := d.d3 q' hq'
    rw [e1, e11, e4]
    exact ⟨hg this.1, fun a b c => ha (this.2 a b c)⟩
  · intro hk
    have := d.d4 (hcan hk)
    rw [e11]
    refine ⟨fun ho => ?_, fun ho => ?_⟩
    · rw [List.append_assoc, hpo ho, ← List.append_assoc]; exact this.1 ho
    · rw [hpc ho]; exact this.2 ho

/-- `x` is drawn at the right side: its script still had `x`, so nothing about `x` is anywhere. -/
theorem Dir.drawB {c : PC} {S R : List Bytes} (hc : CoreS ownA ownB (sm x c)) (d : Dir x j c S R) (hk : 1 ≤ c.b.cnt)
    (k : Nat) (n : Bool) (s : Slot) (oq ba' : List Msg) :
    Dir x j { c with b := { c.b with cnt := k, rngNil := n, slot := some s, outq := oq }, ba := ba' } S R := by
  obtain ⟨hap, _, hna, _, _⟩ := core_fresh hc (Or.inr hk)
  have hap : cAP x c.path = 0 := hap
  have hna : c.a.nobj = 0 := hna
  have hS : S = [] := d.d0 hna
  have hap' := hap
  simp only [PC.path, cAP_append] at hap'
  have h1 : pX x (inMsgs c.b.inbox) = [] := pX_of_cAP x _ (by omega)
  have h2 : pX x c.ab = [] := pX_of_cAP x _ (by omega)
  refine ⟨d.d0, d.d1, ?_, ?_, d.d4, d.d5⟩
  · intro _ _
    dsimp only
    rw [h1, h2, hS]
    exact ⟨fun _ => rfl, fun _ => List.prefix_refl _⟩
  · intro q _
    refine ⟨guarded_of_cAP x _ ?_, fun h => ?_⟩
    · have := cAP_live_le x c
      exact Nat.le_zero.1 (hap ▸ this)
    · dsimp only at h; omega

theorem Dir.popB {c : PC} {S R : List Bytes} (d : Dir x j c S R) {w : WsIn} {r : List WsIn} (h : c.b.inbox = w :: r)
    (hw : ∀ m, w = .msg m → isPush x m = false)
    (hw3 : (∀ m, w = .msg m → isAck x m = false) ∨ ∀ q, c.b.slot ≠ some (.requested q))
    (se : Bool) (ba' : List Msg) :
    Dir x j { c with b := { c.b with inbox := r, srcEnded := se }, ba := ba' } S R := by
  refine d.transB rfl rfl rfl (Nat.le_refl _) id ?_ ?_ ?_ ?_
  · exact Pot.popB h rfl rfl rfl rfl fun q hq => ⟨q, hq⟩
  · intro q hq
    rcases hw3 with hw3 | hw3
    · refine ⟨q, hq, ?_, ?_⟩
      · simp only [PC.live]; rw [h, guarded_inMsgs_cons x w r _ _ (fun m hm => ⟨hw3 m hm, hw m hm⟩)]; exact id
      · simp only [PC.live]; rw [h, hasAck_inMsgs_cons x w r _ _ hw3]; exact id
    · exact absurd hq (hw3 q)
  · intro _; dsimp only; rw [h, pX_inMsgs_cons x w r hw]
  · intro _; dsimp only; rw [h, pX_inMsgs_cons x w r hw]

theorem Dir.newB {c : PC} {S R : List Bytes} (d : Dir x j c S R) (hp : Pot x c) {m : Msg} {r : List WsIn}
    (h : c.b.inbox = .msg m :: r) (hm : isPush x m = false) (i nb nw' : Nat) (rx' : Bool) (oq ba' : List Msg) :
    Dir x j { c with b := { c.b with inbox := r, slot := some (.established i), len := c.b.len + 1, nobj := nb,
                                     canJ := c.b.len == j, nw := nw', rxJ := rx', outq := oq }, ba := ba' } S R := by
  have hpx : pX x (inMsgs c.b.inbox) = pX x (inMsgs r) := by rw [h]; exact pX_cons_other x m _ hm
  refine ⟨d.d0, ?_, ?_, ?_, ?_, d.d5⟩
  · intro hl
    dsimp only at hl ⊢
    refine ⟨(d.d1 (by omega)).1, ?_⟩
    simp only [beq_eq_false_iff_ne, ne_eq]; omega
  · intro hl _
    dsimp only at hl ⊢
    rw [← hpx]; exact d.d2 (by omega) hp
  · intro q hq; dsimp only at hq; cases hq
  · intro hk
    dsimp only at hk ⊢
    have hj : c.b.len = j := by simpa using hk
    have := d.d2 (by omega) hp
    rw [(d.d1 (by omega)).1, List.nil_append, ← hpx]
    exact this

theorem Dir.pushAccB {c : PC} {S R : List Bytes} (d : Dir x j c S R) {dd : Bytes} {r : List WsIn}
    (h : c.b.inbox = .msg (.frame (.push x dd)) :: r) (hcan : c.b.canJ = true) (ba' : List Msg) :
    Dir x j { c with b := { c.b with inbox := r }, ba := ba' } S (R ++ [dd]) := by
  have hlen : ¬ c.b.len ≤ j := fun hl => by have := (d.d1 hl).2; rw [hcan] at this; cases this
  have h4 := d.d4 hcan
  rw [h] at h4; simp only [inMsgs_cons_msg, pX_cons_push] at h4
  have e : ∀ T : List Bytes, R ++ dd :: T = R ++ [dd] ++ T := by intro T; simp
  rw [e] at h4
  refine ⟨d.d0, fun hl => absurd hl hlen, fun hl => absurd hl hlen, ?_, ?_, ?_⟩
  · intro q hq
    have := (d.d3 q hq).1
    simp only [PC.live] at this; rw [h] at this
    rw [inMsgs_cons_msg, List.cons_append, List.cons_append, guarded_push_cons] at this; cases this
  · intro _; exact h4
  · by_cases ho : c.abOpen = true
    · have := h4.1 ho; rw [← this, List.append_assoc]; exact List.prefix_append _ _
    · exact List.IsPrefix.trans (List.prefix_append _ _) (h4.2 (by simpa using ho))

theorem Pot.pushRejB (hex : ¬(ownA ∧ ownB)) {c : PC} {S R : List Bytes} (hc : CoreS ownA ownB (sm x c))
    (d : Dir x j c S R) {dd : Bytes} {r : List WsIn} (h : c.b.inbox = .msg (.frame (.push x dd)) :: r)
    {s : Option Slot} (hs : (s = c.b.slot ∧ c.b.canJ = false) ∨ s = none) (ba' : List Msg) :
    (∀ q, s ≠ some (.requested q)) ∧
      ¬ Pot x { c with b := { c.b with inbox := r, slot := s, canJ := false }, ba := ba' } := by
  have hap : 1 ≤ cAP x c.path := by
    simp only [PC.path]; rw [h]
    simp [inMsgs, cAP_cons, cAP_append, isAP, isPush]
  obtain ⟨hca, hcb, hcp, _⟩ := core_push hex hc hap
  have hca : c.a.cnt = 0 := hca
  have hcb : c.b.cnt = 0 := hcb
  have hcp : cC x c.path = 0 := hcp
  have hnoreq : ∀ q, s ≠ some (.requested q) := by
    intro q hq
    have := (d.d3 q (slot_of_kept (hs.imp And.left id) hq)).1
    simp only [PC.live] at this; rw [h] at this
    rw [inMsgs_cons_msg, List.cons_append, List.cons_append, guarded_push_cons] at this; cases this
  refine ⟨hnoreq, ?_⟩
  rintro (hp | hp | ⟨q, hp⟩ | hp)
  · dsimp only at hp; omega
  · dsimp only at hp; omega
  · exact hnoreq q hp
  · have := (hasConn_iff x _).1 (hasConn_path_popB h hp)
    omega

theorem Dir.pushRejB (hex : ¬(ownA ∧ ownB)) {c : PC} {S R : List Bytes} (hc : CoreS ownA ownB (sm x c))
    (d : Dir x j c S R) {dd : Bytes} {r : List WsIn} (h : c.b.inbox = .msg (.frame (.push x dd)) :: r)
    {s : Option Slot} (hs : (s = c.b.slot ∧ c.b.canJ = false) ∨ s = none) (ba' : List Msg) :
    Dir x j { c with b := { c.b with inbox := r, slot := s, canJ := false }, ba := ba' } S R := by
  obtain ⟨hnoreq, hnp⟩ := Pot.pushRejB hex hc d h hs ba'
  exact ⟨d.d0, fun hl => ⟨(d.d1 hl).1, rfl⟩, fun _ hp => absurd hp hnp, fun q hq => absurd hq (hnoreq q),
    fun hk => (by cases hk), d.d5⟩

theorem Dir.clearInboxB (hex : ¬(ownA ∧ ownB)) {c : PC} {S R : List Bytes} (hc : CoreS ownA ownB (sm x c))
    (d : Dir x j c S R) (ba' : List Msg) :
    Dir x j { c with b := { c.b with inbox := [], slot := none, canJ := false }, ba := ba' } S R := by
  have key : Pot x { c with b := { c.b with inbox := [], slot := none, canJ := false }, ba := ba' } →
      Pot x c ∧ cAP x c.path = 0 := by
    rintro (hp | hp | ⟨q, hp⟩ | hp)
    · exact ⟨Or.inl hp, (core_fresh hc (Or.inl hp)).1⟩
    · exact ⟨Or.inr (Or.inl hp), (core_fresh hc (Or.inr hp)).1⟩
    · cases hp
    · have h1 : hasConn x c.path = true := by
        simp only [PC.path, inMsgs, List.nil_append] at hp ⊢
        rw [List.append_assoc, hasConn_append, hp]; simp
      refine ⟨Or.inr (Or.inr (Or.inr h1)), ?_⟩
      rcases core_conn hc ((hasConn_iff x _).1 h1) with h2 | h2
      · exact h2.1
      · exact absurd h2 hex
  refine ⟨d.d0, fun hl => ⟨(d.d1 hl).1, rfl⟩, ?_, fun q hq => (by cases hq), fun hk => (by cases hk), d.d5⟩
  intro hl hp
  obtain ⟨hp, hap⟩ := key hp
  have h2 := d.d2 hl hp
  simp only [PC.path, cAP_append] at hap
  have h1 : pX x (inMsgs c.b.inbox) = [] := pX_of_cAP x _ (by omega)
  rw [h1] at h2
  exact ⟨h2.1, fun _ => List.nil_prefix⟩

theorem Dir.popFinB {c : PC} {S R : List Bytes} (d : Dir x j c S R) {r : List WsIn} {s : Option Slot}
    (h : c.b.inbox = .msg (.frame (.finish x)) :: r)
    (hs : (∃ i, c.b.slot = some (.established i) ∧ s = c.b.slot) ∨ ((∀ i, c.b.slot ≠ some (.established i)) ∧ s = none))
    (ba' : List Msg) :
    Dir x j { c with b := { c.b with inbox := r, slot := s, canJ := false }, ba := ba' } S R := by
  have hnoreq : ∀ q, s ≠ some (.requested q) := by
    intro q hq
    rcases hs with ⟨i, h1, h2⟩ | ⟨_, h2⟩
    · rw [h2, h1] at hq; cases hq
    · rw [h2] at hq; cases hq
  exact d.transB rfl rfl rfl (Nat.le_refl _) (fun hk => by cases hk)
    (Pot.popB h rfl rfl rfl rfl fun q hq => absurd hq (hnoreq q)) (fun q hq => absurd hq (hnoreq q))
    (fun _ => by dsimp only; rw [pX_inMsgs_of_fin_cons h]) (fun _ => by dsimp only; rw [pX_inMsgs_of_fin_cons h])

theorem Dir.actB (hex : ¬(ownA ∧ ownB)) {c : PC} {S R : List Bytes} {v : View} {ws : List Msg} {acc : List Bytes}
    {xl : List XL} (hc : CoreS ownA ownB (sm x c)) (d : Dir x j c S R) (h : AStep x j c.b v ws acc xl)
    (hn : v.rngNil = false) (ba' : List Msg) : Dir x j { c with b := v, ba := ba' } S (R ++ acc) := by
  cases h with
  -- only the outbound side of the right view changes, which this direction does not read
  | emit | sendClose | enq | enqPush | enqFinS | enqFinB | closeOut | clearOutq =>
    rw [List.append_nil]; exact d.of_eq rfl rfl rfl rfl rfl rfl rfl rfl rfl rfl rfl
  | rng k n hk hn' =>
    rw [List.append_nil]
    exact d.transB rfl rfl rfl (Nat.le_refl _) id (Pot.mono (Nat.le_refl _) hk (fun q hq => ⟨q, hq⟩) id)
      (fun q hq => ⟨q, hq, id, id⟩) (fun _ => rfl) (fun _ => rfl)
  | draw k n s m hk hn' hd hs ho hkind =>
    rw [List.append_nil]
    have hk' : k < c.b.cnt := draw_lt hd hn
    exact d.drawB hc (by omega) k n s _ ba'
  | pop w r h hw =>
    rw [List.append_nil]
    exact d.popB h (fun m hm => (hw m hm).2.2.1) (Or.inl fun m hm => (hw m hm).2.1) _ ba'
  | popFin r s h hs => rw [List.append_nil]; exact d.popFinB h hs ba'
  | popBind m r b h hm hb =>
    rw [List.append_nil]
    have := d.popB h (fun m' hm' => by cases hm'; exact isBind_not_push hm) (Or.inl fun m' hm' => by cases hm'; exact isBind_not_ack hm)
      c.b.srcEnded ba'
    exact this.of_eq rfl rfl rfl rfl rfl rfl rfl rfl rfl rfl rfl
  | degrade s k w b rx hs hk hkeep hw hb hr =>
    rw [List.append_nil]
    have hslot : ∀ q, s = some (.requested q) → c.b.slot = some (.requested q) := fun q hq => slot_of_kept hs hq
    exact d.transB rfl rfl rfl (Nat.le_refl _) (fun h => (hk h).1)
      (Pot.mono (Nat.le_refl _) (Nat.le_refl _) (fun q hq => ⟨q, hslot q hq⟩) id)
      (fun q hq => ⟨q, hslot q hq, id, id⟩) (fun _ => rfl) (fun _ => rfl)
  | connRej m r h hm =>
    rw [List.append_nil]
    exact d.popB h (fun m' hm' => by cases hm'; exact isConn_not_push hm)
      (Or.inl fun m' hm' => by cases hm'; exact isConn_not_ack hm) c.b.srcEnded ba'
  | connNew m r n h hm hs =>
    rw [List.append_nil]
    refine d.newB (Or.inr (Or.inr (Or.inr ?_))) h (isConn_not_push hm) _ _ _ _ _ ba'
    simp only [PC.path, hasConn_append]; rw [h]
    simp [inMsgs, hasConn, hm]
  | ackNew m r q h hm hs =>
    rw [List.append_nil]
    exact d.newB (Or.inr (Or.inr (Or.inl ⟨q, hs⟩))) h (isAck_not_push hm) _ _ _ _ c.b.outq ba'
  | ackOld m r h hm hs =>
    rw [List.append_nil]
    exact d.popB h (fun m' hm' => by cases hm'; exact isAck_not_push hm) (Or.inr hs) c.b.srcEnded ba'
  | pushAcc dd r h hcan => exact d.pushAccB h hcan ba'
  | pushRej dd r s h hs => rw [List.append_nil]; exact d.pushRejB hex hc h hs ba'
  | grow n h =>
    rw [List.append_nil]
    exact d.transB rfl rfl rfl h id id (fun q hq => ⟨q, hq, id, id⟩) (fun _ => rfl) (fun _ => rfl)
  | clearInbox => rw [List.append_nil]; exact d.clearInboxB hex hc ba'

theorem Dir.dlvB {c : PC} {S R : List Bytes} (d : Dir x j c S R) {m : Msg} {rest : List Msg} (h : c.ab = m :: rest)
    (ho : c.abOpen = true) :
    Dir x j { c with ab := rest, b := { c.b with inbox := c.b.inbox ++ [.msg m] } } S R := by
  have hl : inMsgs (c.b.inbox ++ [.msg m]) ++ rest = inMsgs c.b.inbox ++ c.ab := by
    rw [h, inMsgs_append]; simp [inMsgs]
  refine d.transB rfl rfl rfl (Nat.le_refl _) id ?_ ?_ ?_ ?_
  · refine Pot.mono (Nat.le_refl _) (Nat.le_refl _) (fun q hq => ⟨q, hq⟩) ?_
    simp only [PC.path]; rw [hl]; exact id
  · intro q hq
    refine ⟨q, hq, ?_, ?_⟩
    · simp only [PC.live]; rw [hl]; exact id
    · simp only [PC.live]; rw [hl]; exact id
  · intro _
    dsimp only
    rw [← pX_append, ← pX_append, hl]
  · intro hf; rw [ho] at hf; cases hf

theorem Pot.closeB {c : PC} {I' : List WsIn} {E T : List Msg}
    (hI : inMsgs I' = inMsgs c.b.inbox ++ E) (hE : c.ab = E ++ T) :
    Pot x { c with ab := [], abOpen := false, b := { c.b with inbox := I' } } → Pot x c := by
  refine Pot.mono (Nat.le_refl _) (Nat.le_refl _) (fun q hq => ⟨q, hq⟩) ?_
  simp only [PC.path]
  rw [hI, hE, List.append_nil]
  simp only [hasConn_append, Bool.or_eq_true]
  grind

/-- The wire to the right side ends (a delivered Close, or a cut): what was on it is lost. -/
theorem Dir.closeB {c : PC} {S R : List Bytes} (d : Dir x j c S R) {I' : List WsIn} {E T : List Msg}
    (hI : inMsgs I' = inMsgs c.b.inbox ++ E) (hE : c.ab = E ++ T) (hpE : pX x E = []) :
    Dir x j { c with ab := [], abOpen := false, b := { c.b with inbox := I' } } S R := by
  have hpx : pX x (inMsgs I') = pX x (inMsgs c.b.inbox) := by rw [hI, pX_append, hpE, List.append_nil]
  have hpot := Pot.closeB (x := x) hI hE
  refine ⟨d.d0, d.d1, ?_, ?_, ?_, d.d5⟩
  · intro hl hp
    have h2 := d.d2 hl (hpot hp)
    refine ⟨fun hf => (by cases hf), fun _ => ?_⟩
    dsimp only
    rw [hpx]
    by_cases ho : c.abOpen = true
    · rw [← h2.1 ho]; exact List.prefix_append _ _
    · exact h2.2 (by simpa using ho)
  · intro q hq
    refine ⟨?_, fun _ hf => by cases hf⟩
    have h3 := (d.d3 q hq).1
    simp only [PC.live] at h3 ⊢
    rw [hE, ← List.append_assoc, List.append_assoc (inMsgs c.b.inbox ++ E), ← hI] at h3
    have := guarded_prefix x _ _ h3
    simpa using this
  · intro hk
    have h4 := d.d4 hk
    refine ⟨fun hf => (by cases hf), fun _ => ?_⟩
    dsimp only
    rw [hpx]
    by_cases ho : c.abOpen = true
    · rw [← h4.1 ho]; exact List.prefix_append _ _
    · exact h4.2 (by simpa using ho)

theorem Dir.stepB (hex : ¬(ownA ∧ ownB)) {c c'' : PC} {S R : List Bytes} {ws : List Msg} {acc : List Bytes} {xl : List XL}
    (hc : CoreS ownA ownB (sm x c)) (hw : Wires c) (d : Dir x j c S R) (st : CStepL x j c.swap c'' ws acc xl)
    (hn : c''.a.rngNil = false) : Dir x j c''.swap S (R ++ acc) := by
  cases st with
  | act v ws acc xl h => exact Dir.actB hex hc d h hn _
  | dlv m rest h hm =>
    have h : c.ab = m :: rest := h
    obtain ⟨ho, hdf⟩ := hw.listening h
    rw [List.append_nil]
    have := d.dlvB h ho
    show Dir x j { c with ab := rest, b := { c.b with inbox := if deaf c.b = true then c.b.inbox else c.b.inbox ++ [.msg m] } } S R
    rw [if_neg hdf]; exact this
  | dlvClose rest h =>
    have h : c.ab = .close :: rest := h
    obtain ⟨ho, hdf⟩ := hw.listening h
    rw [List.append_nil]
    refine d.closeB (E := [.close]) (T := rest) ?_ h rfl
    show inMsgs (if deaf c.b = true then c.b.inbox else c.b.inbox ++ [.msg .close, .eof]) = _
    rw [if_neg hdf, inMsgs_append]; rfl
  | cut w hw' =>
    rw [List.append_nil]
    refine d.closeB (E := []) (T := c.ab) ?_ rfl rfl
    show inMsgs (if deaf c.b = true then c.b.inbox else c.b.inbox ++ [w]) = _
    split
    · rw [List.append_nil]
    · rw [inMsgs_append, inMsgs_end hw']

end Penguin.PairAll
