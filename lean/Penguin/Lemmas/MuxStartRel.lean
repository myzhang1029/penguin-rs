/-
The endpoint model's reaction to a transport whose outbound direction fails (`Model/MuxStart.lean`:
`taskPollSinkFailed`, `applySinkFail`, `applyStart`) keeps every relation / invariant that the lemma
files over `Model/Mux.lean` prove for the model's other functions:

* `Mono`  (MuxMono)       — `dead`, `outClosed`, a dropped `Multiplexor` only move one way;
* `Keeps` (MuxWake)       — a parked, un-woken writer has no credit and an open stream;
* `KeepsB` (MuxBound)     — the bounds of the queues, flow id 0 never in the table;
* `Grow`  (MuxLeak)       — stream objects are only added, keep their id, slots keep their object;
* `Inv2`  (MuxWF/MuxReach) — well-formed table; once finished no slot refers to a stream;
* `Ended` (MuxEndedTable) — winding down ⇒ queue closed; finished ⇒ flow table empty.

The three functions are `settleLoop`, `windDownPrep`, `windDownTail` and `settle` composed with a few
field updates.  For the four relations this makes them paths of primitive steps (`Lemmas/MuxTrace.lean`);
for the two invariants the per-function lemmas are composed along the same shape.
Core Lean only.
-/
import Penguin.Model.MuxStart
import Penguin.Lemmas.MuxEndedTable
import Penguin.Lemmas.MuxWake
import Penguin.Lemmas.MuxBound
import Penguin.Lemmas.MuxLeak

namespace Penguin.Mux

/-! ### `Mono`, `Keeps`, `KeepsB`, `Grow`: the three functions are paths of primitive updates -/

theorem Mono.taskPollSinkFailed (e : EP) : Mono e (taskPollSinkFailed e).1 := .of_path (.taskPollSinkFailed e)
theorem Mono.applySinkFail (e : EP) : Mono e (applySinkFail e).1 := .of_path (.applySinkFail e)
theorem Mono.applyStart (e : EP) (sf : Bool) : Mono e (applyStart e sf).1 := .of_path (.applyStart e sf)

theorem Keeps.taskPollSinkFailed (e : EP) : Keeps e (taskPollSinkFailed e).1 := .of_path (.taskPollSinkFailed e)
theorem Keeps.applySinkFail (e : EP) : Keeps e (applySinkFail e).1 := .of_path (.applySinkFail e)
theorem Keeps.applyStart (e : EP) (sf : Bool) : Keeps e (applyStart e sf).1 := .of_path (.applyStart e sf)

theorem KeepsB.taskPollSinkFailed (e : EP) : KeepsB e (taskPollSinkFailed e).1 := .of_path (.taskPollSinkFailed e)
theorem KeepsB.applySinkFail (e : EP) : KeepsB e (applySinkFail e).1 := .of_path (.applySinkFail e)
theorem KeepsB.applyStart (e : EP) (sf : Bool) : KeepsB e (applyStart e sf).1 := .of_path (.applyStart e sf)

theorem Grow.taskPollSinkFailed (e : EP) : Grow e (taskPollSinkFailed e).1 := .of_path (.taskPollSinkFailed e)
theorem Grow.applySinkFail (e : EP) : Grow e (applySinkFail e).1 := .of_path (.applySinkFail e)
theorem Grow.applyStart (e : EP) (sf : Bool) : Grow e (applyStart e sf).1 := .of_path (.applyStart e sf)

/-! ### `Inv2` (well-formed; finished ⇒ no slot refers to a stream) -/

theorem WF_windDownPrep {e : EP} (h : WF e) : WF (windDownPrep e) :=
  WF_of (WF_disallowAll e.flows h) rfl rfl

theorem taskPollSinkFailed_inv (e : EP) (h : Inv2 e) : Inv2 (taskPollSinkFailed e).1 := by
  have hl (hd : e.dead = false) : Inv2 (settleLoop (2 * e.inbox.length + 2) { e with droppedq := [] } []).1 :=
    settleLoop_inv _ _ _ (Inv2_of_alive (WF_of h.1 rfl rfl) hd)
  rcases taskPollSinkFailed_cases e with ⟨-, q⟩ | ⟨res, ⟨hd, -, -⟩, q⟩ | ⟨⟨hd, -, -⟩, -, q⟩ | ⟨⟨hd, -, -⟩, ⟨hd2, -⟩, q⟩ <;>
    rw [q]
  · exact h
  · exact windDownTail_inv (e1 := { e with draining := none, outq := [] }) [] e.srcEnded _ (WF_of h.1 rfl rfl) hd
  · exact hl hd
  · exact windDownTail_inv [] _ _ (WF_windDownPrep (hl hd).1) (((Path.windDownPrep _).frame .dead).trans hd2)

theorem applySinkFail_inv (e : EP) (h : Inv2 e) : Inv2 (applySinkFail e).1 := by
  rw [applySinkFail_fst]; exact settle_inv _ (taskPollSinkFailed_inv e h)

theorem applyStart_inv (e : EP) (sf : Bool) (h : Inv2 e) : Inv2 (applyStart e sf).1 := by
  cases sf with
  | true => rw [applyStart_failed]; exact applySinkFail_inv e h
  | false => simp only [applyStart_working]; exact settle_inv e h

/-! ### `Ended` (winding down ⇒ queue closed; finished ⇒ flow table empty) -/

theorem taskPollSinkFailed_ended (e : EP) (h : Ended e) : Ended (taskPollSinkFailed e).1 := by
  rcases taskPollSinkFailed_cases e with ⟨-, q⟩ | ⟨res, ⟨hd, -, hdr⟩, q⟩ | ⟨⟨hd, -, -⟩, -, q⟩ | ⟨⟨hd, -, -⟩, ⟨hd2, -⟩, q⟩ <;>
    rw [q]
  · exact h
  · exact windDownTail_ended { e with draining := none, outq := [] } [] e.srcEnded res
      (h.closed (Or.inr (Or.inl (by rw [hdr]; simp)))) hd
  · exact settleLoop_ended _ _ _ (h.flags ⟨rfl, rfl, rfl, rfl⟩ hd)
  · exact windDownTail_ended _ [] _ _ rfl (((Path.windDownPrep _).frame .dead).trans hd2)

theorem applySinkFail_ended (e : EP) (h : Ended e) : Ended (applySinkFail e).1 := by
  rw [applySinkFail_fst]; exact settle_ended _ (taskPollSinkFailed_ended e h)

theorem applyStart_ended (e : EP) (sf : Bool) (h : Ended e) : Ended (applyStart e sf).1 := by
  cases sf with
  | true => rw [applyStart_failed]; exact applySinkFail_ended e h
  | false => simp only [applyStart_working]; exact settle_ended e h

end Penguin.Mux
