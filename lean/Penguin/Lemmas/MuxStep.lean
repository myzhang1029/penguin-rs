/-
One-step lemmas about the endpoint model, function by function.
Downstream of the trace layer: "leaves field X alone" is a frame of the function's path
(`Lemmas/MuxTrace.lean`); what the layer itself needs is at the end of `Lemmas/MuxBasic.lean`.
`openRejected` and `closeLocal` have no path of their own there (their callers' paths cover them):
what they leave alone is read off their cases here.
-/
import Penguin.Lemmas.MuxBasic
import Penguin.Lemmas.MuxTrace

namespace Penguin.Mux

/-! ### `openRound` -/

/-- What one round of an open request does: either nothing is sent and the flow table is as it was (no retry left,
    no id to draw, or the outbound queue is closed), or exactly one `Connect` with a fresh non-zero id, this endpoint's
    window and the requested target is queued and the id is reserved for the request. -/
theorem openRound_sends (e : EP) (r : OpenReq) :
    ((openRound e r).1.outq = e.outq ∧ (openRound e r).1.flows = e.flows) ∨
    ∃ fid, fid ≠ 0 ∧ lookup e.flows fid = none ∧
      (openRound e r).1.outq = e.outq ++ [.frame (.connect fid e.opts.rwnd r.port r.host)] ∧
      (openRound e r).1.flows = insert e.flows fid (.requested r.req) := by
  unfold openRound
  split
  · exact Or.inl ⟨rfl, rfl⟩
  · split
    · exact Or.inl ⟨rfl, rfl⟩
    · rename_i fid rng' fb' hd
      have hs := drawId_spec _ _ _ _ _ _ _ hd
      simp only
      split
      · exact Or.inl ⟨rfl, by simp⟩
      · rename_i hc
        have hc : e.outClosed = false := by simpa using hc
        exact Or.inr ⟨fid, hs.1, hs.2, by simp [EP.enqFrame, enq_outq, hc], by simp [EP.enqFrame]⟩

theorem openRound_keeps (e : EP) (r : OpenReq) (y : Nat) (s : Slot) (h : lookup e.flows y = some s) :
    lookup (openRound e r).1.flows y = some s := by
  rcases openRound_sends e r with ⟨-, hf⟩ | ⟨fid, -, hfree, -, hf⟩ <;> rw [hf]
  · exact h
  · rw [lookup_insert_ne _ _ _ _ (fun hc => by rw [hc, hfree] at h; cases h)]; exact h

theorem openRound_outq (e : EP) (r : OpenReq) :
    ∃ extra, (openRound e r).1.outq = e.outq ++ extra ∧ ∀ m ∈ extra, Msg.isReset m = false := by
  rcases openRound_sends e r with ⟨h, -⟩ | ⟨fid, -, -, h, -⟩
  · exact ⟨[], by rw [h, List.append_nil], nofun⟩
  · exact ⟨_, h, fun m hm => by rw [List.mem_singleton.mp hm]; rfl⟩

/-! ### `closeLocal`, `closeFlow` -/

theorem openRejected_objs (e : EP) (req : Nat) (final : Bool) : (openRejected e req final).1.objs = e.objs := by
  fun_cases openRejected e req final <;> rfl

theorem openRejected_outq (e : EP) (req : Nat) (final : Bool) : (openRejected e req final).1.outq = e.outq := by
  fun_cases openRejected e req final <;> rfl

theorem closeLocal_other_obj (e : EP) (s : Slot) (fid : Nat) (inh final : Bool) (j : Nat)
    (hne : s ≠ .established j) : (closeLocal e s fid inh final).1.objs[j]? = e.objs[j]? := by
  fun_cases closeLocal e s fid inh final
  case case2 i _ _ _ _ =>
    have hij : j ≠ i := fun hc => hne (hc ▸ rfl)
    simp +zetaDelta only; split <;> simp [EP.enqFrame, modObj_get_ne _ _ _ _ hij]
  case case3 => exact congrArg (·[j]?) (openRejected_objs _ _ _)
  all_goals rfl

theorem closeLocal_inhibit_outq (e : EP) (s : Slot) (fid : Nat) (final : Bool) :
    ∃ extra, (closeLocal e s fid true final).1.outq = e.outq ++ extra ∧ ∀ m ∈ extra, Msg.isReset m = false := by
  fun_cases closeLocal e s fid true final
  case case3 => exact ⟨[], by simp [openRejected_outq], by simp⟩
  all_goals exact ⟨[], by simp +zetaDelta, by simp⟩

theorem closeFlow_other_slot (e : EP) (fid : Nat) (inh : Bool) (y : Nat) (s : Slot)
    (h : lookup e.flows y = some s) (hne : y ≠ fid) : lookup (closeFlow e fid inh).1.flows y = some s := by
  rcases closeFlow_flows e fid inh with ⟨hf, -⟩ | hf <;> rw [hf]
  · exact h
  · rw [lookup_erase_ne _ _ _ hne]; exact h

theorem closeFlow_other_obj (e : EP) (fid : Nat) (inh : Bool) (j : Nat)
    (hne : lookup e.flows fid ≠ some (.established j)) : (closeFlow e fid inh).1.objs[j]? = e.objs[j]? := by
  unfold closeFlow
  split
  · rfl
  · rename_i s hs
    rw [closeLocal_other_obj]
    intro hc; subst hc; exact hne hs

/-! ### `processFrame` -/

theorem offerAccept_flows (e : EP) (i : Nat) : (offerAccept e i).flows = e.flows := (Path.offerAccept e i).frame .flows
theorem offerAccept_objs (e : EP) (i : Nat) : (offerAccept e i).objs = e.objs := (Path.offerAccept e i).frame .objs
theorem offerAccept_outq (e : EP) (i : Nat) : (offerAccept e i).outq = e.outq := (Path.offerAccept e i).frame .outq
theorem offerBind_flows (e : EP) (b : BindIn) : (offerBind e b).flows = e.flows := (Path.offerBind e b).frame .flows
theorem offerBind_objs (e : EP) (b : BindIn) : (offerBind e b).objs = e.objs := (Path.offerBind e b).frame .objs

/-- Processing any frame on a running endpoint never ends the receive loop. -/
theorem processFrame_continues (e : EP) (f : Frame) (ig : Bool) (ho : e.outClosed = false) :
    (processFrame e f ig).2.2 = none := by
  fun_cases processFrame e f ig
  case case2 h => exact absurd h (by simp +zetaDelta [ho])
  all_goals rfl

theorem processFrame_reset_no_reset (e : EP) (fid : Nat) (ig : Bool) :
    ∃ extra, (processFrame e (.reset fid) ig).1.outq = e.outq ++ extra ∧
      ∀ m ∈ extra, Msg.isReset m = false := by
  simp only [processFrame, closeFlow]
  split
  · exact ⟨[], by simp⟩
  · rename_i s hs
    exact closeLocal_inhibit_outq { e with flows := erase e.flows fid } s fid false

theorem processFrame_other_slot (e : EP) (f : Frame) (ig : Bool) (y : Nat) (s : Slot)
    (hy : lookup e.flows y = some s) (hne : ∀ fid, Msg.flow? (.frame f) = some fid → y ≠ fid) :
    lookup (processFrame e f ig).1.flows y = some s := by
  fun_cases processFrame e f ig
  case case25 | case26 | case27 => exact hy
  case case14 h | case19 h =>
    exact (congrArg (fun r => lookup r.1.flows y) h).symm.trans (closeFlow_other_slot e _ _ y s hy (hne _ rfl))
  all_goals
    have h := hne _ rfl
    dsimp only [Frame.id] at h
    simp +zetaDelta [EP.enqFrame, offerAccept_flows, offerBind_flows, lookup_insert_ne _ _ _ _ h,
      lookup_erase_ne _ _ _ h, hy]

theorem processFrame_other_obj (e : EP) (f : Frame) (ig : Bool) (j : Nat) (hj : j < e.objs.length)
    (hne : ∀ fid, Msg.flow? (.frame f) = some fid → lookup e.flows fid ≠ some (.established j)) :
    (processFrame e f ig).1.objs[j]? = e.objs[j]? := by
  have happ : ∀ (o : Obj), (e.objs ++ [o])[j]? = e.objs[j]? := fun o => List.getElem?_append_left hj
  have hnew : ∀ (x : EP) (f : Obj → Obj), (x.modObj e.objs.length f).objs[j]? = x.objs[j]? :=
    fun x f => modObj_get_ne x _ _ f (by omega)
  have hslot : ∀ {fid i}, Msg.flow? (.frame f) = some fid → lookup e.flows fid = some (.established i) → j ≠ i :=
    fun hf hl hc => hne _ hf (hc ▸ hl)
  fun_cases processFrame e f ig
  case case14 h | case19 h =>
    exact (congrArg (fun r => r.1.objs[j]?) h).symm.trans (closeFlow_other_obj e _ _ j (hne _ rfl))
  case case5 | case13 | case18 => exact modObj_get_ne _ _ _ _ (hslot rfl ‹_›)
  all_goals simp +zetaDelta [EP.enqFrame, offerAccept_objs, offerBind_objs, happ, hnew]

/-- Window overrun: only the offending flow is closed; it is reset unless already finished. -/
theorem processFrame_overrun (e : EP) (fid i : Nat) (o : Obj) (d : Bytes) (ig : Bool)
    (hs : lookup e.flows fid = some (.established i)) (ho : e.objs[i]? = some o)
    (halive : o.senderAlive = true) (hopen : o.rxOpen = true) (hfull : ¬ o.rxq.length < o.cap) :
    let r := processFrame e (.push fid d) ig
    r.2.2 = none ∧ lookup r.1.flows fid = none ∧
    (∀ y, y ≠ fid → lookup r.1.flows y = lookup e.flows y) ∧
    r.1.outq = (if o.finishSent then e else e.enqFrame (.reset fid)).outq := by
  have ho' : e.obj? i = some o := ho
  have ho'' : ({ e with flows := erase e.flows fid } : EP).obj? i = some o := ho
  simp only [processFrame, hs, ho', halive, hopen, hfull, closeFlow, closeLocal, ho'']
  cases hf : o.finishSent
  · simp [EP.enqFrame, lookup_erase_self, enq_outq]
    refine ⟨fun y hy => lookup_erase_ne _ _ _ hy, ?_⟩
    split <;> simp_all
  · simp [lookup_erase_self]
    exact fun y hy => lookup_erase_ne _ _ _ hy

/-- Only `Connect` (accept queue full) and `Bind` (bind queue full) can park the receive loop; data,
    acknowledgements, closes and datagrams never do, however slow the application is. -/
theorem processFrame_no_park (e : EP) (f : Frame) (ig : Bool)
    (hf : (∀ a b c d, f ≠ .connect a b c d) ∧ (∀ a b c d, f ≠ .bind a b c d)) :
    (processFrame e f ig).1.park = e.park := by
  cases f with
  | connect a b c d => exact absurd rfl (hf.1 a b c d)
  | bind a b c d => exact absurd rfl (hf.2 a b c d)
  | _ => exact (Path.processFrameOf e _ ig).frame .park (by dsimp only [K.processFrameOf]; decide +kernel)

/-! ### Wind-down -/

theorem drainFlows_flows (e : EP) (l : List (Nat × Slot)) : (drainFlows e l).1.flows = e.flows :=
  congrArg (·.1.flows) (drainFlows_setFlows e e.flows l)

theorem windDownFinish_resolves (e : EP) (res : ExitRes) :
    let r := windDownFinish e res
    r.1.dead = true ∧ r.1.flows = [] ∧ (∀ q ∈ r.1.opens, q.req ∈ r.1.retryq) ∧ r.1.park = none ∧ r.1.closing = none ∧
    r.2.getLast? = some (.exit res) := by
  simp only [windDownFinish]
  refine ⟨trivial, ?_, ?_, trivial, trivial, ?_⟩
  · simp [drainFlows_flows]
  · intro q hq
    simp only [List.mem_filter] at hq
    simpa using hq.2
  · simp [List.getLast?_append]

/-- What the tail of the wind-down returns.  `r` is what the inbox still yields, `e2` the endpoint after it with the
    inbox emptied.  The task finishes at once when the inbox held the peer's end, the source has ended or `res` is an
    error; otherwise it waits for the peer's end.  Either way `flushed` goes first, the Close follows. -/
theorem windDownTail_cases (e1 : EP) (flushed : List Ev) (srcEnded : Bool) (res : ExitRes) :
    let r := windDownInbox e1 e1.inbox
    let e2 : EP := { r.1 with inbox := [] }
    let t := windDownTail e1 flushed srcEnded res
    (t.1 = (windDownFinish e2 res).1 ∧ t.2 = flushed ++ .wireClose :: (r.2.1 ++ (windDownFinish e2 res).2)) ∨
    ((r.2.2 = false ∧ srcEnded = false ∧ res = .ok) ∧
      t.1 = { e2 with closing := some res } ∧ t.2 = flushed ++ .wireClose :: r.2.1) := by
  simp only [windDownTail]
  split
  · exact .inl ⟨rfl, by simp⟩
  · next h => exact .inr ⟨by simpa [and_assoc] using h, rfl, by simp⟩

/-- The tail of the wind-down finishes at once after an error or when the source has ended: the
    task is finished, the flow table empty, the only open requests still listed are those already
    told "rejected", and the task's result is `res`. -/
theorem windDownTail_resolves (e1 : EP) (flushed : List Ev) (srcEnded : Bool) (res : ExitRes)
    (hc : srcEnded = true ∨ res ≠ .ok) :
    let r := windDownTail e1 flushed srcEnded res
    r.1.dead = true ∧ r.1.flows = [] ∧ (∀ q ∈ r.1.opens, q.req ∈ r.1.retryq) ∧ r.1.park = none ∧
    r.2.getLast? = some (.exit res) := by
  rcases windDownTail_cases e1 flushed srcEnded res with ⟨h1, h2⟩ | ⟨⟨-, hs, hr⟩, -⟩
  · obtain ⟨f1, f2, f3, f4, -, f6⟩ := windDownFinish_resolves { (windDownInbox e1 e1.inbox).1 with inbox := [] } res
    simp only [h1, h2]
    exact ⟨f1, f2, f3, f4, by simp [List.getLast?_append, List.getLast?_cons, f6]⟩
  · rcases hc with h | h
    · rw [hs] at h; cases h
    · exact absurd hr h

theorem windDownTail_dead_or_closing (e1 : EP) (flushed : List Ev) (srcEnded : Bool) (res : ExitRes) :
    (windDownTail e1 flushed srcEnded res).1.dead = true ∨ (windDownTail e1 flushed srcEnded res).1.closing = some res := by
  rcases windDownTail_cases e1 flushed srcEnded res with ⟨h, -⟩ | ⟨-, h, -⟩ <;> rw [h]
  · exact Or.inl (windDownFinish_resolves _ res).1
  · exact Or.inr rfl

/-- Without a drain (`drain = false`: every exit but the local drop) the wind-down is its tail. -/
theorem windDown_nodrain (e : EP) (res : ExitRes) :
    windDown e false res = windDownTail (windDownPrep e) [] e.srcEnded res := by
  simp [windDown]

theorem windDown_resolves (e : EP) (res : ExitRes) (hc : e.srcEnded = true ∨ res ≠ .ok) :
    let r := windDown e false res
    r.1.dead = true ∧ r.1.flows = [] ∧ (∀ q ∈ r.1.opens, q.req ∈ r.1.retryq) ∧ r.1.park = none ∧
    r.2.getLast? = some (.exit res) := by
  rw [windDown_nodrain]
  exact windDownTail_resolves _ _ _ _ hc

theorem windDownTail_flushes (e1 : EP) (flushed : List Ev) (srcEnded : Bool) (res : ExitRes) :
    ∃ rest, (windDownTail e1 flushed srcEnded res).2 = flushed ++ Ev.wireClose :: rest := by
  rcases windDownTail_cases e1 flushed srcEnded res with ⟨-, h⟩ | ⟨-, -, h⟩ <;> exact ⟨_, h⟩

theorem sendSome_unlimited (e : EP) (h : e.sinkRoom = none) :
    sendSome e = ({ e with outq := [] }, e.outq.map .wire) := by
  simp [sendSome, h]

theorem dropPrep_outq (e : EP) : (dropPrep e).outq = e.outq := (Path.dropPrep e).frame .outq

/-- Local drop under back-pressure: what the sink accepts goes out at once, in order; if something
    remains, the wind-down parks in its drain loop with exactly the remainder still queued, in
    order; otherwise the sink is closed right after the last message. -/
theorem windDown_drain_partial (e : EP) (res : ExitRes) :
    ∃ sent, sent ++ (sendSome (dropPrep e)).1.outq = e.outq ∧ (sendSome (dropPrep e)).2 = sent.map Ev.wire ∧
      (((sendSome (dropPrep e)).1.outq ≠ [] →
          (windDown e true res).2 = sent.map Ev.wire ∧ (windDown e true res).1.outq = (sendSome (dropPrep e)).1.outq ∧
          (windDown e true res).1.draining = some res) ∧
       ((sendSome (dropPrep e)).1.outq = [] →
          ∃ rest, (windDown e true res).2 = e.outq.map Ev.wire ++ Ev.wireClose :: rest)) := by
  obtain ⟨sent, hs1, hs2⟩ := sendSome_split (dropPrep e)
  rw [dropPrep_outq] at hs2
  refine ⟨sent, hs2, hs1, ?_, ?_⟩
  · intro hne
    have hq : (sendSome (dropPrep e)).1.outq.isEmpty = false := by
      cases h : (sendSome (dropPrep e)).1.outq <;> simp_all
    simp only [windDown, if_true, hq, Bool.false_eq_true, if_false]
    exact ⟨hs1, trivial, trivial⟩
  · intro hempty
    have hq : (sendSome (dropPrep e)).1.outq.isEmpty = true := by simp [hempty]
    simp only [windDown, if_true, hq]
    rw [hempty, List.append_nil] at hs2
    rw [hs1, hs2]
    exact windDownTail_flushes _ _ _ _

theorem windDown_drain_flushes (e : EP) (res : ExitRes) (hs : e.sinkRoom = none) :
    ∃ rest, (windDown e true res).2 = e.outq.map Ev.wire ++ Ev.wireClose :: rest :=
  let ⟨_, _, _, _, h⟩ := windDown_drain_partial e res
  h (by rw [sendSome_unlimited _ (((Path.dropPrep e).frame .sinkRoom).trans hs)])

/-! ### Opening a stream: the request's rounds, the frames that answer it, the futures' next turn -/

theorem openRound_exhausted (e : EP) (r : OpenReq) (h : r.retriesLeft = 0) :
    openRound e r = ({ e with opens := e.opens.filter (·.req ≠ r.req) }, [.openDone r.req .rejected]) := by
  simp [openRound, h]

theorem openRound_decrements (e : EP) (r r' : OpenReq)
    (h : (openRound e r).1.opens.find? (·.req = r.req) = some r') : r'.retriesLeft + 1 = r.retriesLeft := by
  have hfalse : ∀ (l : List OpenReq) (x : OpenReq),
      (l.filter (·.req ≠ r.req)).find? (·.req = r.req) = some x → False := by
    intro l x hx
    have h1 := List.find?_some hx
    have h2 := List.mem_of_find?_eq_some hx
    simp only [List.mem_filter] at h2
    simp_all
  unfold openRound at h
  split at h
  · exact (hfalse _ _ h).elim
  · rename_i hr
    split at h
    · exact (hfalse _ _ h).elim
    · simp only at h
      split at h
      · exact (hfalse _ _ h).elim
      · simp [EP.enqFrame] at h
        subst h; simp only; omega

/-- `Connect` on a free non-zero id (running endpoint): exactly one new stream object with the
    requested target and the requester's window as send credit; the slot is established; one
    `Acknowledge` carrying this endpoint's window is queued; the stream goes to the accept queue. -/
theorem processFrame_connect_accepts (e : EP) (fid rwnd port : Nat) (host : Bytes) (ig : Bool)
    (h0 : fid ≠ 0) (hfree : lookup e.flows fid = none) (hoc : e.outClosed = false) (hm : e.muxAlive = true) :
    let r := processFrame e (.connect fid rwnd port host) ig
    r.1.objs = e.objs ++ [newObj e.opts fid rwnd host port] ∧
    lookup r.1.flows fid = some (.established e.objs.length) ∧
    r.1.outq = e.outq ++ [.frame (.acknowledge fid e.opts.rwnd)] ∧
    (r.1.acceptq = e.acceptq ++ [e.objs.length] ∨ r.1.park = some (.accept e.objs.length)) ∧
    r.2.2 = none := by
  have hnot : ¬ (fid = 0 ∨ (lookup e.flows fid).isSome = true) := by simp [h0, hfree]
  simp only [processFrame, hnot, if_false, hoc, hm, EP.enqFrame, enq_muxAlive]
  refine ⟨by simp [offerAccept_objs], by simp [offerAccept_flows, lookup_insert_self],
    by simp [offerAccept_outq, enq_outq], ?_, by simp⟩
  simp only [Bool.not_true, Bool.false_eq_true, if_false]
  unfold offerAccept
  split
  · left; simp [EP.enq]
  · right; rfl

/-- `Acknowledge` answering a pending open request: exactly one new stream object whose send credit
    is the window the peer advertised; the request is answered with that stream (its future returns it
    when it runs next, `runDone`). -/
theorem processFrame_ack_establishes (e : EP) (fid n req : Nat) (ig : Bool)
    (hs : lookup e.flows fid = some (.requested req)) (hw : (e.opens.find? (·.req = req)).isSome) :
    let r := processFrame e (.acknowledge fid n) ig
    r.1.objs = e.objs ++ [newObj e.opts fid n [] 0] ∧
    lookup r.1.flows fid = some (.established e.objs.length) ∧
    r.1.doneq = e.doneq ++ [(req, e.objs.length)] ∧
    r.2.2 = none ∧ r.1.outq = e.outq := by
  simp only [processFrame, hs]
  cases hf : e.opens.find? (·.req = req) with
  | none => simp [hf] at hw
  | some r => simp [lookup_insert_self]

theorem runDone_single (e : EP) (req i : Nat) :
    runDone e [(req, i)] = ({ e with handles := e.handles ++ [i] }, [.openDone req (.ok e.handles.length)]) := by
  simp [runDone]

/-- A `Reset` for a pending open request is a rejection of the proposed id: the id is released and
    the request is queued for its next round (run by `runRetries` once the task is idle). -/
theorem processFrame_reset_retries (e : EP) (fid req : Nat) (r : OpenReq) (ig : Bool)
    (hs : lookup e.flows fid = some (.requested req)) (hw : e.opens.find? (·.req = req) = some r) :
    processFrame e (.reset fid) ig =
      ({ e with flows := erase e.flows fid, retryq := e.retryq ++ [req] }, [], none) := by
  simp [processFrame, closeFlow, hs, closeLocal, openRejected, hw]

theorem runRetries_single (e : EP) (req : Nat) (r : OpenReq) (hw : e.opens.find? (·.req = req) = some r) :
    runRetries e [req] = ((openRound e r).1, (openRound e r).2 ++ []) := by
  simp [runRetries, hw]

/-- A round of an open request once the outbound queue is closed: the request is answered — FlowIdRejected when no
    retry is left or no id can be drawn, Closed otherwise — and taken off the list; nothing is sent and the flow table
    is as it was (the slot just inserted is taken out again). -/
theorem openRound_closed (e : EP) (r : OpenReq) (hoc : e.outClosed = true) :
    (openRound e r).2 = [.openDone r.req
      (if r.retriesLeft = 0 ∨ (drawId e.flows e.rng e.fallback 64).isSome = false then .rejected else .closed)] ∧
    (openRound e r).1.outq = e.outq ∧ (openRound e r).1.flows = e.flows ∧
    (openRound e r).1.opens = e.opens.filter (·.req ≠ r.req) := by
  unfold openRound
  split
  · next h => simp [h]
  · next h =>
    split
    · next hn => simp [h, hn]
    · next hs => simp [h, hs]

theorem openRound_closed_resolves (e : EP) (r : OpenReq) (hoc : e.outClosed = true) :
    ((openRound e r).2 = [.openDone r.req .rejected] ∨ (openRound e r).2 = [.openDone r.req .closed]) ∧
    (openRound e r).1.outq = e.outq ∧ (∀ q ∈ (openRound e r).1.opens, q.req ≠ r.req) := by
  obtain ⟨h1, h2, -, h4⟩ := openRound_closed e r hoc
  refine ⟨?_, h2, fun q hq => ?_⟩
  · rw [h1]; split <;> simp
  · rw [h4] at hq; simpa using (List.mem_filter.mp hq).2

theorem openRound_closed_flows (e : EP) (r : OpenReq) (hoc : e.outClosed = true) : (openRound e r).1.flows = e.flows :=
  (openRound_closed e r hoc).2.2.1

theorem openRound_closed_opens (e : EP) (r : OpenReq) (hoc : e.outClosed = true) :
    (openRound e r).1.opens = e.opens.filter (·.req ≠ r.req) :=
  (openRound_closed e r hoc).2.2.2

theorem openRound_closed_answer (e : EP) (r : OpenReq) (hoc : e.outClosed = true) (hr : r.retriesLeft ≠ 0)
    (hid : (drawId e.flows e.rng e.fallback 64).isSome = true) :
    (openRound e r).2 = [.openDone r.req .closed] := by
  rw [(openRound_closed e r hoc).1, if_neg (by simp [hr, hid])]

/-! ### One round of the task's loop, and the delivery that starts it -/

theorem unpark_of_none (e : EP) (h : e.park = none) : unpark e = e := by
  unfold unpark; rw [h]

theorem set_inbox_self (e : EP) (ib : List WsIn) (h : e.inbox = ib) : { e with inbox := ib } = e := by
  cases e; simp_all

theorem opStep_deliver (e : EP) (w : WsIn) :
    opStep e (.deliver w) =
      if (e.srcEnded || e.inbox.any (fun x => x == .eof || x == .err)) = true then (e, .unit, [])
      else ({ e with inbox := e.inbox ++ (if w = .msg .close then [.msg .close, .eof] else [w]) }, .unit, []) := by
  simp only [Mux.opStep]
  split
  · rfl
  · split
    · simp
    · rename_i hne
      have : w ≠ .msg .close := fun hh => hne (by rw [hh])
      simp [this]

def recvBranch (n : Nat) (u : EP) (acc : List Ev) (w : WsIn) (rest : List WsIn) : EP × List Ev :=
  match (recvOne u w rest).2.2 with
  | some r =>
    ((windDown (recvOne u w rest).1 false r).1,
     acc ++ (recvOne u w rest).2.1 ++ (windDown (recvOne u w rest).1 false r).2)
  | none => settleLoop n (recvOne u w rest).1 (acc ++ (recvOne u w rest).2.1)

def notifBranch (n : Nat) (u : EP) (acc : List Ev) : EP × List Ev :=
  match u.droppedq with
  | 0 :: rest =>
    ((windDown { u with droppedq := rest } true .ok).1,
     acc ++ (windDown { u with droppedq := rest } true .ok).2)
  | fid :: rest =>
    settleLoop n (closeFlow { u with droppedq := rest } fid false).1
      (acc ++ (closeFlow { u with droppedq := rest } fid false).2)
  | [] => (u, acc)

/-- One iteration of the task's loop, as the model has it, with the two branches named; the lemmas below are its cases.
    (What holds across the whole loop is shown by `fun_induction settleLoop` or along `Path.settleLoop`.) -/
theorem settleLoop_succ (n : Nat) (e : EP) (acc : List Ev) :
    settleLoop (n + 1) e acc =
      if e.dead then (e, acc) else
      match e.draining with
      | some res => ((drainStep e res).1, acc ++ (drainStep e res).2)
      | none =>
      match e.closing with
      | some res => ((closingStep e res).1, acc ++ (closingStep e res).2)
      | none => recvCase (unpark e).park (unpark e).inbox (recvBranch n (unpark e) acc) (notifBranch n (unpark e) acc) := by
  rw [Mux.settleLoop]
  split
  · rfl
  · split
    · rename_i res hdr
      simp only [hdr]
    · rename_i hdr
      simp only [hdr]
      split
      · rename_i res hcl
        simp only [hcl]
      · rename_i hcl
        simp only [hcl]
        split
        · rename_i w rest hp hi
          rw [recvCase_pos _ _ hp hi]
          unfold recvBranch
          rfl
        · rename_i hneg
          rw [recvCase_neg _ _ hneg]
          unfold notifBranch
          rfl

theorem settleLoop_dead (fuel : Nat) (e : EP) (acc : List Ev) (hd : e.dead = true) : settleLoop fuel e acc = (e, acc) := by
  cases fuel with
  | zero => rfl
  | succ n => rw [settleLoop_succ, if_pos hd]

theorem settleLoop_recv (n : Nat) (e : EP) (acc : List Ev) (w : WsIn) (rest : List WsIn)
    (hd : e.dead = false) (hdr : e.draining = none) (hc : e.closing = none) (hp : (unpark e).park = none)
    (hin : (unpark e).inbox = w :: rest) :
    settleLoop (n + 1) e acc = recvBranch n (unpark e) acc w rest := by
  rw [settleLoop_succ]
  simp only [hd, Bool.false_eq_true, if_false, hdr, hc]
  exact recvCase_pos _ _ hp hin

theorem settleLoop_recv_one (n : Nat) (e : EP) (w : WsIn) (rest : List WsIn) (acc : List Ev)
    (hd : e.dead = false) (hdr : e.draining = none) (hc : e.closing = none) (hp : e.park = none)
    (hin : e.inbox = w :: rest) (hex : (recvOne e w rest).2.2 = none) :
    settleLoop (n + 1) e acc = settleLoop n (recvOne e w rest).1 (acc ++ (recvOne e w rest).2.1) := by
  have hu := unpark_of_none e hp
  rw [settleLoop_recv n e acc w rest hd hdr hc (by rw [hu]; exact hp) (by rw [hu]; exact hin), hu, recvBranch, hex]

theorem settleLoop_notif (n : Nat) (e : EP) (acc : List Ev) (hd : e.dead = false) (hdr : e.draining = none)
    (hc : e.closing = none) (hi : e.inbox = []) : settleLoop (n + 1) e acc = notifBranch n (unpark e) acc := by
  have hui : (unpark e).inbox = [] := ((Path.unpark e).frame .inbox).trans hi
  rw [settleLoop_succ]
  simp only [hd, Bool.false_eq_true, if_false, hdr, hc]
  exact recvCase_neg _ _ fun w rest _ h => by rw [hui] at h; cases h

theorem settleLoop_one_notif (fuel : Nat) (e : EP) (acc : List Ev) (fid : Nat) (rest : List Nat)
    (hi : e.inbox = []) (hq : e.droppedq = fid :: rest) (hf : fid ≠ 0) (hd : e.dead = false)
    (hdr : e.draining = none) (hc : e.closing = none) (hm : e.muxAlive = true) :
    settleLoop (fuel + 1) e acc =
      settleLoop fuel (closeFlow { unpark e with droppedq := rest } fid false).1
        (acc ++ (closeFlow { unpark e with droppedq := rest } fid false).2) := by
  have hud : (unpark e).droppedq = fid :: rest := ((Path.unparkAlive e hm).frame .droppedq).trans hq
  rw [settleLoop_notif fuel e acc hd hdr hc hi, notifBranch, hud]
  cases fid with
  | zero => exact absurd rfl hf
  | succ k => rfl

/-! ### The poll with a failed sink -/

/-- What `taskPollSinkFailed` returns, case by case, each under the tests that lead to it (`l`: the receive loop's run).
    A statement about the poll goes through this, not through `unfold taskPollSinkFailed`. -/
theorem taskPollSinkFailed_cases (e : EP) :
    let l := settleLoop (2 * e.inbox.length + 2) { e with droppedq := [] } []
    -- finished, or waiting for the peer's end: nothing happens
    ((e.dead = true ∨ e.closing.isSome = true) ∧ taskPollSinkFailed e = (e, [])) ∨
    -- in the drain after a local drop: the drain ends, the tail of the wind-down follows with the drop's result
    (∃ res, (e.dead = false ∧ e.closing = none ∧ e.draining = some res) ∧
      taskPollSinkFailed e =
        ((windDownTail { e with draining := none, outq := [] } [] e.srcEnded res).1,
         dropWireClose (windDownTail { e with draining := none, outq := [] } [] e.srcEnded res).2)) ∨
    -- running, and the receive loop ended the connection itself
    ((e.dead = false ∧ e.closing = none ∧ e.draining = none) ∧ (l.1.dead = true ∨ l.1.closing.isSome = true) ∧
      taskPollSinkFailed e = (l.1, dropWireClose l.2)) ∨
    -- running: the send loop ends the task with the transport error
    ((e.dead = false ∧ e.closing = none ∧ e.draining = none) ∧ (l.1.dead = false ∧ l.1.closing = none) ∧
      taskPollSinkFailed e =
        ((windDownTail (windDownPrep l.1) [] l.1.srcEnded .wsError).1,
         l.2 ++ dropWireClose (windDownTail (windDownPrep l.1) [] l.1.srcEnded .wsError).2)) := by
  intro l
  unfold taskPollSinkFailed
  split
  · next h0 => exact .inl ⟨by simpa using h0, rfl⟩
  · next h0 =>
    have hr : e.dead = false ∧ e.closing = none := by simpa using h0
    split
    · next res hdr => exact .inr (.inl ⟨res, ⟨hr.1, hr.2, hdr⟩, rfl⟩)
    · next hdr =>
      dsimp only
      split
      · next h1 => exact .inr (.inr (.inl ⟨⟨hr.1, hr.2, hdr⟩, by simpa using h1, rfl⟩))
      · next h1 => exact .inr (.inr (.inr ⟨⟨hr.1, hr.2, hdr⟩, by simpa using h1, rfl⟩))

/-! ### Closed stream objects -/

theorem closeLocal_closes (e : EP) (i fid : Nat) (inh final : Bool) :
    closedAt (closeLocal e (.established i) fid inh final).1 i := by
  unfold closeLocal; dsimp only
  cases hobj : e.obj? i with
  | none => exact fun o ho => nomatch hobj.symm.trans ho
  | some o' =>
    refine fun o ho => closedAt_closeWrite e i o ?_
    dsimp only at ho
    split at ho
    · rwa [EP.enqFrame, enq_objs] at ho
    · exact ho

theorem drainFlows_closes (e : EP) (l : List (Nat × Slot)) (fid i : Nat) (hm : (fid, Slot.established i) ∈ l) :
    closedAt (drainFlows e l).1 i :=
  fun o ho => closeObjs_closed e.objs hm o (by rw [drainFlows_closeObjs] at ho; exact ho)

/-! ### Reading: `fillBuf` -/

theorem ackStep_obj (e : EP) (i : Nat) (o' x : Obj) (hx : e.objs[i]? = some x) :
    ∃ x2, (ackStep e i o').objs[i]? = some x2 ∧ x2.senderAlive = x.senderAlive ∧ x2.rxq = x.rxq ∧
      x2.buf = x.buf ∧ x2.finishSent = x.finishSent := by
  unfold ackStep
  split
  · exact ⟨{ x with recvdSince := 0 }, by simp [EP.enqFrame, modObj_get_self, hx], rfl, rfl, rfl, rfl⟩
  · exact ⟨{ x with recvdSince := o'.recvdSince + 1 }, by simp [modObj_get_self, hx], rfl, rfl, rfl, rfl⟩

/-- A read on an object whose channel sender is gone never stays pending: it returns buffered or
    queued data, or end-of-stream. -/
theorem fillBuf_closed_not_pending (k : Nat) (e : EP) (i : Nat) (o : Obj) (ho : e.objs[i]? = some o)
    (hc : o.senderAlive = false) (hk : o.rxq.length < k) : (fillBuf k e i).2 ≠ .pending := by
  induction k generalizing e o with
  | zero => omega
  | succ k ih =>
    unfold fillBuf
    simp only [ho]
    split
    · simp
    · cases hq : o.rxq with
      | nil => simp [hc]
      | cons f rest =>
        simp only
        split
        · have hlen : rest.length < k := by rw [hq] at hk; simp at hk; omega
          have hx : (e.modObj i fun o => { o with rxq := rest, buf := f }).objs[i]? =
              some { o with rxq := rest, buf := f } := by simp [modObj_get_self, ho]
          obtain ⟨x2, h1, h2, h3, _, _⟩ := ackStep_obj _ i { o with rxq := rest, buf := f } _ hx
          exact ih _ x2 h1 (by rw [h2]; exact hc) (by rw [h3]; exact hlen)
        · simp

end Penguin.Mux
