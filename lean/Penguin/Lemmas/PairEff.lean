/-
Footprints of the endpoint model's functions: `Eff Y e e'` says that going from `e` to `e'` touched
only flow ids satisfying `Y` — slots of other ids, stream objects carrying other ids, notifications
and script entries of other ids are unchanged, every message added to the outbound queue belongs to
an id in `Y` (or to none), and the connection-level flags are untouched.  Used by the pair model
(`Lemmas/PairInv.lean`): a step that concerns flow `y` leaves the view of every flow `x ≠ y` alone.

`Eff` stands apart from the relations that are proved per kind of step (`R.bad`, `R.of_upd`; Lemmas/MuxTrace.lean):
whether a step is within the footprint depends on its PARAMETERS (which id is erased, which object is modified, and
that object's id is read from the state through `SlotFid`), which the kind of a step does not tell.  So only the
functions that concern no flow at all come from their paths (`Eff.of_path`); a function that concerns a flow gets its
footprint by composing the primitive footprints of `namespace Eff` along its branches (`closeFlow_eff`,
`processFrame_eff`, `openRound_eff`, the bind calls), and the four calls on a stream handle get theirs from their exact
effect (`LocalUpd.eff`, Lemmas/PairLocal.lean).
-/
import Penguin.Model.Mux
import Penguin.Lemmas.MuxBasic
import Penguin.Lemmas.MuxTrace

namespace Penguin.Mux

@[simp] theorem enq_droppedq (e : EP) (m : Msg) : (e.enq m).droppedq = e.droppedq := enq_frame e m .droppedq
@[simp] theorem enq_rng (e : EP) (m : Msg) : (e.enq m).rng = e.rng := enq_frame e m .rng
@[simp] theorem modObj_droppedq (e : EP) (i : Nat) (f : Obj → Obj) : (e.modObj i f).droppedq = e.droppedq := rfl
@[simp] theorem modObj_rng (e : EP) (i : Nat) (f : Obj → Obj) : (e.modObj i f).rng = e.rng := rfl

def Msg.isConnect : Msg → Bool
  | .frame (.connect ..) => true
  | _ => false

def SlotFid (e : EP) : Prop :=
  ∀ y k, lookup e.flows y = some (.established k) → ∃ o, e.objs[k]? = some o ∧ o.fid = y

structure Eff (Y : Nat → Prop) (e e' : EP) : Prop where
  opts : e'.opts = e.opts
  outClosed : e'.outClosed = e.outClosed
  muxAlive : e'.muxAlive = e.muxAlive
  dead : e'.dead = e.dead
  flows : ∀ x, ¬ Y x → lookup e'.flows x = lookup e.flows x
  len : e.objs.length ≤ e'.objs.length
  keep : ∀ (k : Nat) (o : Obj), e.objs[k]? = some o → ¬ Y o.fid → e'.objs[k]? = some o
  fid : ∀ (k : Nat) (o : Obj), e.objs[k]? = some o → ∃ o' : Obj, e'.objs[k]? = some o' ∧ o'.fid = o.fid
  fresh : ∀ (k : Nat) (o' : Obj), e.objs.length ≤ k → e'.objs[k]? = some o' → Y o'.fid
  outq : ∃ em, e'.outq = e.outq ++ em ∧ ∀ m ∈ em, ∀ y, Msg.flow? m = some y → Y y ∧ (m.isConnect = true → y ∈ e.rng)
  dq : ∀ x, ¬ Y x → (x ∈ e'.droppedq ↔ x ∈ e.droppedq)
  rng : ∀ x, ¬ Y x → (x ∈ e'.rng ↔ x ∈ e.rng)
  rngSub : e'.rng.Sublist e.rng
  slotFid : SlotFid e → SlotFid e'

namespace Eff

theorem trans {Y : Nat → Prop} {a b c : EP} (s : Eff Y a b) (t : Eff Y b c) : Eff Y a c := by
  refine ⟨by rw [t.opts, s.opts], by rw [t.outClosed, s.outClosed], by rw [t.muxAlive, s.muxAlive],
    by rw [t.dead, s.dead], fun x hx => by rw [t.flows x hx, s.flows x hx], Nat.le_trans s.len t.len,
    fun k o h hy => t.keep k o (s.keep k o h hy) hy, ?_, ?_, ?_,
    fun x hx => (t.dq x hx).trans (s.dq x hx), fun x hx => (t.rng x hx).trans (s.rng x hx),
    t.rngSub.trans s.rngSub, fun h => t.slotFid (s.slotFid h)⟩
  · intro k o h
    obtain ⟨o1, h1, f1⟩ := s.fid k o h
    obtain ⟨o2, h2, f2⟩ := t.fid k o1 h1
    exact ⟨o2, h2, by rw [f2, f1]⟩
  · intro k o' hk h
    rcases Nat.lt_or_ge k b.objs.length with h1 | h1
    · -- created by the first part
      have hb : ∃ ob, b.objs[k]? = some ob := ⟨b.objs[k], by simp [h1]⟩
      obtain ⟨ob, hob⟩ := hb
      obtain ⟨o2, h2, f2⟩ := t.fid k ob hob
      rw [h] at h2
      cases h2
      rw [f2]
      exact s.fresh k ob hk hob
    · exact t.fresh k o' h1 h
  · obtain ⟨em1, h1, g1⟩ := s.outq
    obtain ⟨em2, h2, g2⟩ := t.outq
    refine ⟨em1 ++ em2, by rw [h2, h1, List.append_assoc], ?_⟩
    intro m hm y hy
    rcases List.mem_append.mp hm with h | h
    · exact g1 m h y hy
    · exact ⟨(g2 m h y hy).1, fun hc => s.rngSub.subset ((g2 m h y hy).2 hc)⟩

theorem after {Y : Nat → Prop} {a b c : EP} (t : Eff Y b c) (s : Eff Y a b) : Eff Y a c := s.trans t

theorem mono {Y Y' : Nat → Prop} {e e' : EP} (h : ∀ x, Y x → Y' x) (s : Eff Y e e') : Eff Y' e e' := by
  refine ⟨s.opts, s.outClosed, s.muxAlive, s.dead, fun x hx => s.flows x (fun hy => hx (h x hy)), s.len,
    fun k o ho hy => s.keep k o ho (fun hh => hy (h _ hh)), s.fid, fun k o' hk ho => h _ (s.fresh k o' hk ho), ?_,
    fun x hx => s.dq x (fun hy => hx (h x hy)), fun x hx => s.rng x (fun hy => hx (h x hy)), s.rngSub, s.slotFid⟩
  obtain ⟨em, h1, g1⟩ := s.outq
  exact ⟨em, h1, fun m hm y hy => ⟨h _ (g1 m hm y hy).1, (g1 m hm y hy).2⟩⟩

/-- A change of components no flow's view depends on. -/
theorem silent {Y : Nat → Prop} {e e' : EP} (hf : e'.flows = e.flows) (ho : e'.objs = e.objs)
    (hq : e'.outq = e.outq) (hd : e'.droppedq = e.droppedq) (hr : e'.rng = e.rng)
    (h1 : e'.opts = e.opts) (h2 : e'.outClosed = e.outClosed) (h3 : e'.muxAlive = e.muxAlive)
    (h4 : e'.dead = e.dead) : Eff Y e e' := by
  refine ⟨h1, h2, h3, h4, fun _ _ => by rw [hf], by rw [ho]; exact Nat.le_refl _, fun k o h _ => by rw [ho]; exact h,
    fun k o h => ⟨o, by rw [ho]; exact h, rfl⟩, ?_, ⟨[], by simp [hq], by simp⟩,
    fun _ _ => by rw [hd], fun _ _ => by rw [hr], by rw [hr]; exact List.Sublist.refl _, ?_⟩
  · intro k o' hk h
    rw [ho] at h
    have : k < e.objs.length := (List.getElem?_eq_some_iff.mp h).1
    omega
  · intro hs y k hy
    rw [hf] at hy
    rw [ho]
    exact hs y k hy

theorem refl (Y : Nat → Prop) (e : EP) : Eff Y e e := silent rfl rfl rfl rfl rfl rfl rfl rfl rfl

theorem enq {Y : Nat → Prop} (e : EP) (m : Msg) (hm : ∀ y, Msg.flow? m = some y → Y y ∧ (m.isConnect = true → y ∈ e.rng)) :
    Eff Y e (e.enq m) := by
  unfold EP.enq
  split
  · exact refl Y e
  · refine ⟨rfl, rfl, rfl, rfl, fun _ _ => rfl, Nat.le_refl _, fun _ _ h _ => h, fun _ o h => ⟨o, h, rfl⟩, ?_,
      ⟨[m], rfl, by intro m' hm' y hy; simp at hm'; subst hm'; exact hm y hy⟩,
      fun _ _ => Iff.rfl, fun _ _ => Iff.rfl, List.Sublist.refl _, id⟩
    intro k o' hk h
    have : k < e.objs.length := (List.getElem?_eq_some_iff.mp h).1
    omega

theorem enqFrame {Y : Nat → Prop} (e : EP) (f : Frame)
    (hm : ∀ y, Msg.flow? (.frame f) = some y → Y y ∧ ((Msg.frame f).isConnect = true → y ∈ e.rng)) :
    Eff Y e (e.enqFrame f) := enq e _ hm

theorem enqFrameT {Y : Nat → Prop} (e : EP) (f : Frame) (hc : (Msg.frame f).isConnect = false)
    (hm : ∀ y, Msg.flow? (.frame f) = some y → Y y) : Eff Y e (e.enqFrame f) :=
  enqFrame e f (fun y hy => ⟨hm y hy, by rw [hc]; intro h; cases h⟩)

theorem modObj {Y : Nat → Prop} (e : EP) (i : Nat) (f : Obj → Obj) (hf : ∀ o, (f o).fid = o.fid)
    (hY : ∀ o, e.objs[i]? = some o → Y o.fid) : Eff Y e (e.modObj i f) := by
  have fwd : ∀ {k : Nat} {o : Obj}, e.objs[k]? = some o → ∃ o' : Obj, (e.modObj i f).objs[k]? = some o' ∧ o'.fid = o.fid := by
    intro k o h
    obtain ⟨o', ho', r⟩ := modObj_fwd (R := fun (o o' : Obj) => o'.fid = o.fid) (fun o _ => hf o) h
    exact ⟨o', ho', r.elim (fun he => by rw [he]) id⟩
  refine ⟨rfl, rfl, rfl, rfl, fun _ _ => rfl, by simp, ?_, fun _ _ h => fwd h, ?_, ⟨[], by simp, by simp⟩,
    fun _ _ => Iff.rfl, fun _ _ => Iff.rfl, List.Sublist.refl _, ?_⟩
  · intro k o h hy
    by_cases hk : k = i
    · subst hk; exact absurd (hY o h) hy
    · rw [modObj_get_ne _ _ _ _ hk]; exact h
  · intro k o' hk h
    have := (List.getElem?_eq_some_iff.mp h).1
    rw [modObj_length] at this
    omega
  · intro hs y k hy
    obtain ⟨o, ho, hfid⟩ := hs y k hy
    obtain ⟨o', ho', hf'⟩ := fwd ho
    exact ⟨o', ho', hf'.trans hfid⟩

theorem eraseFlow {Y : Nat → Prop} (e : EP) (y : Nat) (hy : Y y) : Eff Y e { e with flows := erase e.flows y } := by
  refine ⟨rfl, rfl, rfl, rfl, ?_, Nat.le_refl _, fun _ _ h _ => h, fun _ o h => ⟨o, h, rfl⟩, ?_, ⟨[], by simp, by simp⟩,
    fun _ _ => Iff.rfl, fun _ _ => Iff.rfl, List.Sublist.refl _, ?_⟩
  · intro x hx
    have : x ≠ y := fun h => hx (h ▸ hy)
    exact lookup_erase_ne _ _ _ this
  · intro k o' hk h
    have : k < e.objs.length := (List.getElem?_eq_some_iff.mp h).1
    omega
  · intro hs z k hz
    by_cases hzy : z = y
    · subst hzy; simp [lookup_erase_self] at hz
    · rw [show lookup (erase e.flows y) z = lookup e.flows z from lookup_erase_ne _ _ _ hzy] at hz
      exact hs z k hz

theorem insertPending {Y : Nat → Prop} (e : EP) (y : Nat) (s : Slot) (hy : Y y) (hs : ∀ i, s ≠ .established i) :
    Eff Y e { e with flows := insert e.flows y s } := by
  refine ⟨rfl, rfl, rfl, rfl, ?_, Nat.le_refl _, fun _ _ h _ => h, fun _ o h => ⟨o, h, rfl⟩, ?_, ⟨[], by simp, by simp⟩,
    fun _ _ => Iff.rfl, fun _ _ => Iff.rfl, List.Sublist.refl _, ?_⟩
  · intro x hx
    have : x ≠ y := fun h => hx (h ▸ hy)
    exact lookup_insert_ne _ _ _ _ this
  · intro k o' hk h
    have : k < e.objs.length := (List.getElem?_eq_some_iff.mp h).1
    omega
  · intro hsf z k hz
    by_cases hzy : z = y
    · subst hzy
      rw [show lookup (insert e.flows z s) z = some s from lookup_insert_self _ _ _] at hz
      cases hz
      exact absurd rfl (hs k)
    · rw [show lookup (insert e.flows y s) z = lookup e.flows z from lookup_insert_ne _ _ _ _ hzy] at hz
      exact hsf z k hz

theorem newStream {Y : Nat → Prop} (e : EP) (y : Nat) (o : Obj) (hy : Y y) (ho : o.fid = y) :
    Eff Y e { e with objs := e.objs ++ [o], flows := insert e.flows y (.established e.objs.length) } := by
  refine ⟨rfl, rfl, rfl, rfl, ?_, by simp, ?_, ?_, ?_, ⟨[], by simp, by simp⟩,
    fun _ _ => Iff.rfl, fun _ _ => Iff.rfl, List.Sublist.refl _, ?_⟩
  · intro x hx
    have : x ≠ y := fun h => hx (h ▸ hy)
    exact lookup_insert_ne _ _ _ _ this
  · intro k o' h _
    have hk : k < e.objs.length := (List.getElem?_eq_some_iff.mp h).1
    show (e.objs ++ [o])[k]? = some o'
    rw [List.getElem?_append_left hk]; exact h
  · intro k o' h
    have hk : k < e.objs.length := (List.getElem?_eq_some_iff.mp h).1
    exact ⟨o', by show (e.objs ++ [o])[k]? = some o'; rw [List.getElem?_append_left hk]; exact h, rfl⟩
  · intro k o' hk h
    have h' : (e.objs ++ [o])[k]? = some o' := h
    rw [List.getElem?_append_right hk] at h'
    have : k - e.objs.length = 0 := by
      rcases Nat.eq_zero_or_pos (k - e.objs.length) with h0 | h0
      · exact h0
      · have hl : [o].length ≤ k - e.objs.length := h0
        rw [List.getElem?_eq_none hl] at h'
        cases h'
    rw [this] at h'
    simp at h'
    subst h'
    rw [ho]; exact hy
  · intro hsf z k hz
    by_cases hzy : z = y
    · subst hzy
      rw [show lookup (insert e.flows z (.established e.objs.length)) z = some (.established e.objs.length)
            from lookup_insert_self _ _ _] at hz
      cases hz
      exact ⟨o, by show (e.objs ++ [o])[e.objs.length]? = some o; simp, ho⟩
    · rw [show lookup (insert e.flows y (.established e.objs.length)) z = lookup e.flows z
            from lookup_insert_ne _ _ _ _ hzy] at hz
      obtain ⟨o', ho', hf'⟩ := hsf z k hz
      have hk : k < e.objs.length := (List.getElem?_eq_some_iff.mp ho').1
      exact ⟨o', by show (e.objs ++ [o])[k]? = some o'; rw [List.getElem?_append_left hk]; exact ho', hf'⟩

theorem dqPush {Y : Nat → Prop} (e : EP) (y : Nat) (hy : Y y) : Eff Y e { e with droppedq := e.droppedq ++ [y] } := by
  refine ⟨rfl, rfl, rfl, rfl, fun _ _ => rfl, Nat.le_refl _, fun _ _ h _ => h, fun _ o h => ⟨o, h, rfl⟩, ?_,
    ⟨[], by simp, by simp⟩, ?_, fun _ _ => Iff.rfl, List.Sublist.refl _, id⟩
  · intro k o' hk h
    have : k < e.objs.length := (List.getElem?_eq_some_iff.mp h).1
    omega
  · intro x hx
    have : x ≠ y := fun h => hx (h ▸ hy)
    simp [this]

theorem dqPop {Y : Nat → Prop} (e : EP) (y : Nat) (rest : List Nat) (hq : e.droppedq = y :: rest) (hy : Y y) :
    Eff Y e { e with droppedq := rest } := by
  refine ⟨rfl, rfl, rfl, rfl, fun _ _ => rfl, Nat.le_refl _, fun _ _ h _ => h, fun _ o h => ⟨o, h, rfl⟩, ?_,
    ⟨[], by simp, by simp⟩, ?_, fun _ _ => Iff.rfl, List.Sublist.refl _, id⟩
  · intro k o' hk h
    have : k < e.objs.length := (List.getElem?_eq_some_iff.mp h).1
    omega
  · intro x hx
    have : x ≠ y := fun h => hx (h ▸ hy)
    simp [hq, this]

theorem rngPop {Y : Nat → Prop} (e : EP) (y : Nat) (rest : List Nat) (fb : Nat) (hq : e.rng = y :: rest) (hy : Y y) :
    Eff Y e { e with rng := rest, fallback := fb } := by
  refine ⟨rfl, rfl, rfl, rfl, fun _ _ => rfl, Nat.le_refl _, fun _ _ h _ => h, fun _ o h => ⟨o, h, rfl⟩, ?_,
    ⟨[], by simp, by simp⟩, fun _ _ => Iff.rfl, ?_, by rw [hq]; exact List.sublist_cons_self _ _, id⟩
  · intro k o' hk h
    have : k < e.objs.length := (List.getElem?_eq_some_iff.mp h).1
    omega
  · intro x hx
    have : x ≠ y := fun h => hx (h ▸ hy)
    simp [hq, this]

end Eff

/-! ### Footprints of the endpoint model's functions -/

theorem drawId_head (flows : List (Nat × Slot)) (y : Nat) (rest : List Nat) (fb fuel : Nat)
    (h0 : y ≠ 0) (hfree : lookup flows y = none) : drawId flows (y :: rest) fb fuel = some (y, rest, fb) := by
  simp [drawId, drawScript, h0, hfree]

theorem openRound_spec (e : EP) (r : OpenReq) (y : Nat) (rest : List Nat) (hq : e.rng = y :: rest)
    (h0 : y ≠ 0) (hfree : lookup e.flows y = none) (hr : r.retriesLeft ≠ 0) (hoc : e.outClosed = false) :
    (openRound e r).1 =
      ({ e with rng := rest, flows := insert e.flows y (.requested r.req),
                opens := { r with retriesLeft := r.retriesLeft - 1 } :: e.opens.filter (·.req ≠ r.req) } : EP).enqFrame
        (.connect y e.opts.rwnd r.port r.host) := by
  unfold openRound
  rw [if_neg hr, hq, drawId_head _ _ _ _ _ h0 hfree]
  simp [hoc]

theorem openRound_eff (e : EP) (r : OpenReq) (y : Nat) (rest : List Nat) (hq : e.rng = y :: rest)
    (h0 : y ≠ 0) (hfree : lookup e.flows y = none) (hoc : e.outClosed = false) :
    Eff (· = y) e (openRound e r).1 := by
  by_cases hr : r.retriesLeft = 0
  · unfold openRound; rw [if_pos hr]
    exact Eff.silent rfl rfl rfl rfl rfl rfl rfl rfl rfl
  · have heq : (openRound e r).1 =
        { (({ e with flows := insert e.flows y (.requested r.req) } : EP).enqFrame (.connect y e.opts.rwnd r.port r.host)) with
            rng := rest, fallback := e.fallback,
            opens := { r with retriesLeft := r.retriesLeft - 1 } :: e.opens.filter (·.req ≠ r.req) } := by
      rw [openRound_spec e r y rest hq h0 hfree hr hoc]
      simp [EP.enqFrame, EP.enq, hoc]
    rw [heq]
    have s1 := Eff.insertPending (Y := (· = y)) e y (.requested r.req) rfl (by intro i h; cases h)
    have s2 := s1.trans (Eff.enqFrame (Y := (· = y)) _ (.connect y e.opts.rwnd r.port r.host)
      (by intro z hz; simp [Msg.flow?, Frame.id] at hz; exact ⟨hz.symm, fun _ => by rw [← hz]; show y ∈ e.rng; rw [hq]; simp⟩))
    have s3 := s2.trans (Eff.rngPop (Y := (· = y)) _ y rest e.fallback (by simp [EP.enqFrame, EP.enq, hoc, hq]) rfl)
    exact s3.trans (Eff.silent rfl rfl rfl rfl rfl rfl rfl rfl rfl)

theorem drawId_nil (flows : List (Nat × Slot)) (fb fuel k : Nat) (rng' : List Nat) (fb' : Nat)
    (h : drawId flows [] fb fuel = some (k, rng', fb')) : rng' = [] := by
  unfold drawId at h
  simp only [drawScript] at h
  generalize drawFallback flows fb fuel = df at h
  cases df with
  | none => simp at h
  | some v => simp at h; exact h.2.1

theorem openRound_rng_nil (e : EP) (r : OpenReq) (h : e.rng = []) : (openRound e r).1.rng = [] := by
  unfold openRound
  split
  · exact h
  · rw [h]
    generalize hd : drawId e.flows [] e.fallback 64 = dd
    cases dd with
    | none => simpa using h
    | some v =>
      obtain ⟨k, rng', fb'⟩ := v
      have := drawId_nil _ _ _ _ _ _ hd
      subst this
      simp only
      split <;> simp [EP.enqFrame]

theorem runRetries_rng_nil (e : EP) (l : List Nat) (h : e.rng = []) : (runRetries e l).1.rng = [] := by
  induction l generalizing e with
  | nil => exact h
  | cons req rest ih =>
    unfold runRetries
    split
    · exact ih e h
    · exact ih _ (openRound_rng_nil e _ h)

/-- The kinds of step that write something a flow's view, or the footprint, reads: across them `Eff` needs to know
    which flow the step concerns. -/
def Eff.bad : Kinds :=
  Field.flows.writers ∪ Field.objs.writers ∪ Field.outq.writers ∪ Field.droppedq.writers ∪ Field.rng.writers ∪
    Field.outClosed.writers ∪ Field.muxAlive.writers ∪ Field.dead.writers

theorem Eff.of_path {Y : Nat → Prop} {A : Kinds} {e e' : EP} {x : List Ev} (p : Path A e x e')
    (hA : A.disj Eff.bad = true := by decide +kernel) : Eff Y e e' :=
  Eff.silent (p.frame .flows (Kinds.disj_mono hA (by decide +kernel))) (p.frame .objs (Kinds.disj_mono hA (by decide +kernel)))
    (p.frame .outq (Kinds.disj_mono hA (by decide +kernel))) (p.frame .droppedq (Kinds.disj_mono hA (by decide +kernel)))
    (p.frame .rng (Kinds.disj_mono hA (by decide +kernel))) (p.frame .opts (Kinds.disj_mono hA (by decide +kernel)))
    (p.frame .outClosed (Kinds.disj_mono hA (by decide +kernel))) (p.frame .muxAlive (Kinds.disj_mono hA (by decide +kernel)))
    (p.frame .dead (Kinds.disj_mono hA (by decide +kernel)))

theorem appAccept_eff (Y : Nat → Prop) (e : EP) : Eff Y e (appAccept e).1 := .of_path (.appAccept e)

def hfid (e : EP) (h : Nat) : Nat :=
  match e.handleObj h with
  | some (_, o) => o.fid
  | none => 0

theorem appSendDgram_eff (Y : Nat → Prop) (e : EP) (d : Dgram) : Eff Y e (appSendDgram e d).1 := by
  unfold appSendDgram
  repeat' split
  all_goals first
    | exact Eff.refl Y e
    | exact Eff.enqFrameT _ _ rfl (by intro z hz; simp [Msg.flow?] at hz)

theorem appRecvDgram_eff (Y : Nat → Prop) (e : EP) : Eff Y e (appRecvDgram e).1 := .of_path (.appRecvDgram e)

theorem openRejected_eff (Y : Nat → Prop) (e : EP) (req : Nat) (final : Bool) : Eff Y e (openRejected e req final).1 := by
  unfold openRejected
  repeat' split
  all_goals first | exact Eff.refl Y e | exact Eff.silent rfl rfl rfl rfl rfl rfl rfl rfl rfl

/-- `close_flow_local` on a slot that carries flow `fid`. -/
theorem closeLocal_eff (e : EP) (s : Slot) (fid : Nat) (inh final : Bool)
    (hs : ∀ i o, s = .established i → e.objs[i]? = some o → o.fid = fid) :
    Eff (· = fid) e (closeLocal e s fid inh final).1 := by
  unfold closeLocal
  cases s with
  | established i =>
    simp only
    cases ho : e.obj? i with
    | none => exact Eff.refl _ e
    | some o =>
      have ho' : e.objs[i]? = some o := ho
      have s1 : Eff (· = fid) e (e.modObj i (fun o => { o.disallowWrite with senderAlive := false })) :=
        Eff.modObj e i _ (by intro x; simp [Obj.disallowWrite, Obj.wake]; split <;> rfl)
          (by intro o' h'; exact hs i o' rfl h')
      simp only
      split
      · exact (Eff.enqFrameT _ _ rfl (by intro z hz; simp [Msg.flow?, Frame.id] at hz; exact hz.symm)).after s1
      · exact s1
  | requested req => exact openRejected_eff _ e req final
  | bindRequested req => exact Eff.refl _ e

theorem closeFlow_eff (e : EP) (fid : Nat) (inh : Bool) (hsf : SlotFid e) :
    Eff (· = fid) e (closeFlow e fid inh).1 := by
  unfold closeFlow
  cases hl : lookup e.flows fid with
  | none => exact Eff.refl _ e
  | some s =>
    simp only
    refine (closeLocal_eff _ s fid inh false ?_).after (Eff.eraseFlow e fid rfl)
    intro i o hs ho
    subst hs
    obtain ⟨o', ho', hf'⟩ := hsf fid i hl
    have ho2 : e.objs[i]? = some o := ho
    rw [ho2] at ho'; cases ho'; exact hf'

theorem offerAccept_eff (Y : Nat → Prop) (e : EP) (i : Nat) : Eff Y e (offerAccept e i) := .of_path (.offerAccept e i)

theorem offerBind_eff (Y : Nat → Prop) (e : EP) (b : BindIn) : Eff Y e (offerBind e b) := .of_path (.offerBind e b)

/-! ### Footprints of the bind calls -/

theorem appBindNext_eff (Y : Nat → Prop) (e : EP) : Eff Y e (appBindNext e).1 := .of_path (.appBindNext e)

def heldFid (e : EP) (k : Nat) : Nat :=
  match e.held[k]? with
  | some b => b.fid
  | none => 0

theorem appBindReply_eff (e : EP) (k : Nat) (acc : Bool) : Eff (· = heldFid e k) e (appBindReply e k acc).1 := by
  unfold appBindReply heldFid
  cases hk : e.held[k]? with
  | none => exact Eff.refl _ e
  | some b =>
    simp only
    split
    · exact Eff.refl _ e
    · split
      · exact Eff.refl _ e
      · refine Eff.trans (Eff.enqFrameT (Y := (· = b.fid)) e (if acc then .finish b.fid else .reset b.fid)
            (by cases acc <;> rfl) (by intro z hz; cases acc <;> simp [Msg.flow?, Frame.id] at hz <;> exact hz.symm)) ?_
        exact Eff.silent rfl rfl rfl rfl rfl rfl rfl rfl rfl

theorem appBindDrop_eff (e : EP) (k : Nat) : Eff (· = heldFid e k) e (appBindDrop e k).1 := by
  unfold appBindDrop heldFid
  cases hk : e.held[k]? with
  | none => exact Eff.refl _ e
  | some b =>
    simp only
    split
    · exact Eff.refl _ e
    · have s1 : Eff (· = b.fid) e { e with held := e.held.modify k (fun b => { b with alive := false }) } :=
        Eff.silent rfl rfl rfl rfl rfl rfl rfl rfl rfl
      split
      · exact s1
      · exact s1.trans (Eff.enqFrameT _ _ rfl (by intro z hz; simp [Msg.flow?, Frame.id] at hz; exact hz.symm))

theorem appBindReq_spec (e : EP) (req : Nat) (bt : BindType) (host : Bytes) (port : Nat) (y : Nat) (rest : List Nat)
    (hq : e.rng = y :: rest) (h0 : y ≠ 0) (hfree : lookup e.flows y = none) (hoc : e.outClosed = false) :
    (appBindReq e req bt host port).1 =
      ({ e with rng := rest, flows := insert e.flows y (.bindRequested req) } : EP).enqFrame (.bind y bt port host) := by
  unfold appBindReq
  rw [hq, drawId_head _ _ _ _ _ h0 hfree]
  simp [hoc]

theorem appBindReq_eff (e : EP) (req : Nat) (bt : BindType) (host : Bytes) (port : Nat) (y : Nat) (rest : List Nat)
    (hq : e.rng = y :: rest) (h0 : y ≠ 0) (hfree : lookup e.flows y = none) (hoc : e.outClosed = false) :
    Eff (· = y) e (appBindReq e req bt host port).1 := by
  have heq : (appBindReq e req bt host port).1 =
      { (({ e with flows := insert e.flows y (.bindRequested req) } : EP).enqFrame (.bind y bt port host)) with
          rng := rest, fallback := e.fallback } := by
    rw [appBindReq_spec e req bt host port y rest hq h0 hfree hoc]
    simp [EP.enqFrame, EP.enq, hoc]
  rw [heq]
  have s1 := Eff.insertPending (Y := (· = y)) e y (.bindRequested req) rfl (by intro i h; cases h)
  have s2 := s1.trans (Eff.enqFrameT (Y := (· = y)) _ (.bind y bt port host) rfl
    (by intro z hz; simp [Msg.flow?, Frame.id] at hz; exact hz.symm))
  exact s2.trans (Eff.rngPop (Y := (· = y)) _ y rest e.fallback (by simp [EP.enqFrame, EP.enq, hoc, hq]) rfl)

theorem appBindReq_rng_nil (e : EP) (req : Nat) (bt : BindType) (host : Bytes) (port : Nat) (h : e.rng = []) :
    (appBindReq e req bt host port).1.rng = [] := by
  unfold appBindReq
  rw [h]
  generalize hd : drawId e.flows [] e.fallback 64 = dd
  cases dd with
  | none => simpa using h
  | some v =>
    obtain ⟨k, rng', fb'⟩ := v
    have := drawId_nil _ _ _ _ _ _ hd
    subst this
    simp only
    split <;> simp [EP.enqFrame]

/-! ### One frame -/

theorem flow_eq {f : Frame} {z : Nat} (hz : Msg.flow? (.frame f) = some z) : z = f.id := by
  cases f <;> simp [Msg.flow?, Frame.id] at hz ⊢ <;> omega

theorem append_self_get {α : Type} (l : List α) (a : α) : (l ++ [a])[l.length]? = some a := by simp

theorem processFrame_eff (e : EP) (f : Frame) (ig : Bool) (hsf : SlotFid e) :
    Eff (· = f.id) e (processFrame e f ig).1 := by
  have hrst : ∀ (e0 : EP) (fid : Nat), fid = f.id → Eff (· = f.id) e0 (e0.enqFrame (.reset fid)) := by
    intro e0 fid h
    exact Eff.enqFrameT _ _ rfl (by intro z hz; simp [Msg.flow?, Frame.id] at hz; omega)
  cases f with
  | connect fid rwnd port host =>
    simp only [processFrame, Frame.id] at *
    split
    · exact hrst e fid rfl
    · have s1 := Eff.newStream (Y := (· = fid)) e fid (newObj e.opts fid rwnd host port) rfl rfl
      split
      · exact s1
      · have s2 := s1.trans (Eff.enqFrameT (Y := (· = fid)) _ (.acknowledge fid e.opts.rwnd) rfl
            (by intro z hz; simp [Msg.flow?, Frame.id] at hz; omega))
        split
        · refine Eff.after ?_ s2
          refine Eff.after (Eff.dqPush (Y := (· = fid)) _ fid rfl) ?_
          refine Eff.modObj _ _ _ (fun _ => rfl) ?_
          intro o' ho'
          simp only [EP.enqFrame, enq_objs, append_self_get] at ho'
          cases ho'; rfl
        · exact (offerAccept_eff _ _ _).after s2
  | acknowledge fid n =>
    simp only [processFrame, Frame.id] at *
    split
    · rename_i i hl
      refine Eff.modObj e i _ ?_ ?_
      · intro x; simp [Obj.wake]; split <;> rfl
      · intro o' ho'
        obtain ⟨o2, h2, f2⟩ := hsf fid i hl
        rw [ho'] at h2; cases h2; exact f2
    · rename_i req hl
      have s1 := Eff.newStream (Y := (· = fid)) e fid (newObj e.opts fid n [] 0) rfl rfl
      split
      · exact s1.trans (Eff.silent rfl rfl rfl rfl rfl rfl rfl rfl rfl)
      · refine Eff.after ?_ s1
        refine Eff.after (Eff.dqPush (Y := (· = fid)) _ fid rfl) ?_
        refine Eff.modObj _ _ _ (fun _ => rfl) ?_
        intro o' ho'
        simp only [append_self_get] at ho'
        cases ho'; rfl
    · exact hrst e fid rfl
    · exact hrst e fid rfl
  | finish fid =>
    simp only [processFrame, Frame.id] at *
    split
    · exact hrst e fid rfl
    · exact Eff.eraseFlow e fid rfl
    · refine (hrst _ fid rfl).after ?_
      exact (Eff.eraseFlow (Y := (· = fid)) e fid rfl).trans (Eff.silent rfl rfl rfl rfl rfl rfl rfl rfl rfl)
    · rename_i i hl
      refine Eff.modObj e i _ (fun _ => rfl) ?_
      intro o' ho'
      obtain ⟨o2, h2, f2⟩ := hsf fid i hl
      rw [ho'] at h2; cases h2; exact f2
  | reset fid =>
    simp only [processFrame, Frame.id] at *
    exact closeFlow_eff e fid true hsf
  | push fid d =>
    simp only [processFrame, Frame.id] at *
    split
    · rename_i i hl
      split
      · exact Eff.refl _ e
      · rename_i o ho
        split
        · exact hrst e fid rfl
        · split
          · exact Eff.refl _ e
          · split
            · refine Eff.modObj e i _ (fun _ => rfl) ?_
              intro o' ho'
              obtain ⟨o2, h2, f2⟩ := hsf fid i hl
              rw [ho'] at h2; cases h2; exact f2
            · exact closeFlow_eff e fid false hsf
    · exact hrst e fid rfl
  | bind fid bt port host =>
    simp only [processFrame, Frame.id] at *
    split
    · exact hrst e fid rfl
    · split
      · exact Eff.refl _ e
      · split
        · exact hrst e fid rfl
        · exact offerBind_eff _ _ _
  | datagram fid port host d =>
    simp only [processFrame, Frame.id] at *
    repeat' split
    all_goals first | exact Eff.refl _ e | exact Eff.silent rfl rfl rfl rfl rfl rfl rfl rfl rfl

theorem unpark_eff (Y : Nat → Prop) (e : EP) (hm : e.muxAlive = true) : Eff Y e (unpark e) := .of_path (.unparkAlive e hm)

theorem runDone_eff (Y : Nat → Prop) (e : EP) (l : List (Nat × Nat)) : Eff Y e (runDone e l).1 := .of_path (.runDone e l)

end Penguin.Mux
