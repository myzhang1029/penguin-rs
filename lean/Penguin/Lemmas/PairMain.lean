/-
The invariant of the pair model holds in every reachable state: it holds initially and every
action of either side preserves it — the stream part (`stepL_core`; the four bind calls and a `Bind`
frame concern a flow id that is bound, hence dead) and the separation of bind requests from streams
(`stepL_binds`).
-/
import Penguin.Lemmas.PairBind

namespace Penguin.Pair
open Penguin.Mux

/-- A dropped-handle notification is handled: a linked flow is released (it stays linked, its sending
    direction continues with the sender frozen); a flow that was never linked is dead. -/
theorem inv_notif {p : PS} (h : InvCore p) (fid : Nat) (rest : List Nat) (hq : p.a.droppedq = fid :: rest) :
    InvCore { p with a := (closeFlow { p.a with droppedq := rest } fid false).1 } := by
  have s1 : Eff (· = fid) p.a { p.a with droppedq := rest } := Eff.dqPop p.a fid rest hq rfl
  have s := s1.trans (closeFlow_eff _ fid false (s1.slotFid h.sfA))
  have hgf : GhostFresh (closeFlow { p.a with droppedq := rest } fid false).1 p.ga :=
    fun k hk => h.ghA k (Nat.le_trans s.len hk)
  refine inv_of_eff (g' := p.ga) (ba' := p.ba) (lk' := p.linked) h s (Or.inl rfl) (fun x _ => GhostAgree.refl x _ _) hgf
    (fun _ _ hh => hh) ?_
  intro x hx
  subst hx
  have hin : x ∈ p.a.droppedq := by rw [hq]; simp
  have hsub : ∀ z, z ∈ rest → z ∈ p.a.droppedq := fun z hz => by rw [hq]; exact List.mem_cons_of_mem _ hz
  have live : Linked x (ev x p.a p.ga) (ev x p.b p.gb) (fl x (pathAB p)) (fl x (pathBA p)) →
      Linked x (ev x (closeFlow { p.a with droppedq := rest } x false).1 p.ga) (ev x p.b p.gb)
        (fl x (p.ab ++ (closeFlow { p.a with droppedq := rest } x false).1.outq)) (fl x (p.ba ++ p.b.outq)) := by
    intro r
    obtain ⟨i, j, oA, oB, h3, h4, h5, h6, c1, c2, sl1, sl2, n1, n2, w1, w2, q1, q2, k1, k2⟩ := r.body
    obtain ⟨ho, hfid⟩ := objView_some h3
    rcases sl1 with sl1 | ⟨sl1, f1, f2⟩
    · have hs : lookup p.a.flows x = some (.established i) := sl1
      have u := closeFlow_est { p.a with droppedq := rest } x i oA false hs ho h.runA.outClosed
      have hrx : oA.rxOpen = false := q1 hin
      refine linked_release (hd := []) r hs ho hfid ?_ u.rng u.opts u.others u.self u.outq
        (fun hh => by rw [u.dq] at hh; exact hsub _ hh) ?_ ?_ rfl
      · rw [u.flows]; exact lookup_erase_self _ _
      · cases hfs : oA.finishSent with
        | true => left; simp
        | false => right; simp
      · refine RelCase.notif rfl hrx ?_
        intro hfs; simp [hfs]
    · -- already released: nothing happens
      have hs : lookup p.a.flows x = none := sl1
      have he : (closeFlow { p.a with droppedq := rest } x false).1 = { p.a with droppedq := rest } := by
        unfold closeFlow
        have : lookup ({ p.a with droppedq := rest } : EP).flows x = none := hs
        rw [this]
      rw [he]
      refine ⟨r.ra, r.rb, r.nab, r.nba, ⟨i, j, oA, oB, h3, h4, h5, h6, c1, c2, Or.inr ⟨sl1, f1, f2⟩, sl2, n1, n2, w1, w2,
        fun hh => q1 (hsub _ hh), q2, k1, k2⟩⟩
  by_cases hL : Linked x (ev x p.a p.ga) (ev x p.b p.gb) (fl x (pathAB p)) (fl x (pathBA p))
  · exact ⟨inj_linked (live hL), fun _ => live hL⟩
  · refine ⟨?_, fun hx => absurd (h.live x hx) hL⟩
    rcases h.phase x with r | r | r | r | r | r | r
    · exact absurd hin r.da
    · exact absurd hin r.da
    · exact absurd hin r.db
    · exact absurd hin r.da
    · obtain ⟨j, oP, rest', l, _, _, _, h4, h5, _⟩ := r.body
      refine Or.inr (Or.inr (Or.inr (Or.inr (Or.inr (Or.inr ⟨fun hh => r.rb (s.rngSub.subset hh), r.ra,
        noConnect_eff (p := p) s r.rb ?_, (show noConnect (fl x (pathBA p)) by rw [r.fab]; intro m hm; cases hm),
        Or.inl (closeFlow_slot_none _ x false)⟩)))))
      rw [h4]
      intro m hm
      rcases List.mem_cons.mp hm with hh | hh
      · subst hh; rfl
      · exact (h5 m hh).1
    · exact absurd r hL
    · exact dead_step (hd := []) r s rfl (fun _ => closeFlow_slot_none _ x false) (fun hh => (hh (fun _ hm => nomatch hm)).elim)

/-- The rejected open requests run their next round. -/
theorem inv_runRetries {p : PS} (h : Inv p) (l : List Nat) (hne : (Mux.runRetries p.a l).1.rng ≠ []) :
    Inv { p with a := (Mux.runRetries p.a l).1 } := by
  induction l generalizing p with
  | nil => exact h
  | cons req rest ih =>
    cases hf : p.a.opens.find? (·.req = req) with
    | none =>
      have he : Mux.runRetries p.a (req :: rest) = Mux.runRetries p.a rest := by
        rw [Mux.runRetries]; simp only [hf]
      rw [he] at hne ⊢
      exact ih h hne
    | some r =>
      have he : (Mux.runRetries p.a (req :: rest)).1 = (Mux.runRetries (openRound p.a r).1 rest).1 := by
        rw [Mux.runRetries]; simp only [hf]
      rw [he] at hne ⊢
      have hne1 : (openRound p.a r).1.rng ≠ [] := fun hh => hne (runRetries_rng_nil _ rest hh)
      exact ih (p := { p with a := (openRound p.a r).1 })
        ⟨inv_openRound h.toInvCore r hne1, binds_openRound h.toInvCore h.binds r hne1⟩ hne

theorem inv_retries {p : PS} (h : Inv p) (l : List Nat) (hne : (Mux.runRetries { p.a with retryq := [] } l).1.rng ≠ []) :
    Inv { p with a := (Mux.runRetries { p.a with retryq := [] } l).1 } :=
  inv_runRetries (p := { p with a := { p.a with retryq := [] } })
    ⟨inv_of_silent h.toInvCore (Eff.silent rfl rfl rfl rfl rfl rfl rfl rfl rfl),
     binds_silent (g' := p.ga) h.binds (Eff.silent rfl rfl rfl rfl rfl rfl rfl rfl rfl) (BSame.silent rfl rfl rfl rfl)⟩
    l hne

theorem stepL_core {p p' : PS} (a : Act) (hi : Inv p) (hs : stepL p a = some p') : InvCore p' := by
  have h : InvCore p := hi.toInvCore
  cases stepL_shape hs with
  | «open» _ _ _ _ hr => exact inv_openRound h _ hr
  | cancelOpen req => exact inv_cancelOpen h req
  | accept => exact inv_accept h
  | write hd d => exact inv_write h hd d
  | read hd n => exact inv_read h hd n
  | shutdown hd => exact inv_shutdown h hd
  | dropStream hd => exact inv_dropStream h hd _
  | sendDgram d => exact inv_sendDgram h d
  | recvDgram => exact inv_recvDgram h
  | xmit m rest hq => exact inv_xmit h m rest hq
  | recv f rest e _ _ hba hpf =>
    have he : e = (processFrame p.a f false).1 := by rw [hpf]
    subst he
    by_cases hb : ∃ x bt port host, f = .bind x bt port host
    · obtain ⟨x, bt, port, host, rfl⟩ := hb
      exact core_recvBind h hi.binds x bt port host rest hba
    · have hnb : ∀ a b c d, f ≠ .bind a b c d := fun a b c d hf => hb ⟨a, b, c, d, hf⟩
      exact inv_recv h f rest hba hnb
  | notif fid rest hq => exact inv_notif h fid rest hq
  | unpark => exact inv_unpark h
  | runDone => exact inv_runDone h
  | runRetries hr => exact (inv_retries hi _ hr).toInvCore
  | bindReq req bt host port hr => exact (core_bindReq h req bt host port hr).1
  | bindNext => exact core_bindNext h
  | bindReply k acc => exact core_bindReply h hi.binds k acc
  | bindDrop k => exact core_bindDrop h hi.binds k

theorem stepL_binds {p p' : PS} (a : Act) (hi : Inv p) (hs : stepL p a = some p') : Binds p' := by
  have h : InvCore p := hi.toInvCore
  have hb : Binds p := hi.binds
  cases stepL_shape hs with
  | «open» _ _ _ _ hr => exact binds_openRound h hb _ hr
  | cancelOpen =>
    exact binds_silent (g' := p.ga) hb (Eff.silent rfl rfl rfl rfl rfl rfl rfl rfl rfl) (BSame.silent rfl rfl rfl rfl)
  | accept => exact binds_silent (g' := p.ga) hb (appAccept_eff _ _) (BSame.appAccept _ _)
  | write hd d => exact binds_write h hb hd d _
  | read hd n => exact binds_read h hb hd n _
  | shutdown hd => exact binds_shutdown h hb hd
  | dropStream hd => exact binds_dropStream h hb hd _
  | sendDgram => exact binds_silent hb (appSendDgram_eff _ _ _) (BSame.appSendDgram _ _ _)
  | recvDgram => exact binds_silent hb (appRecvDgram_eff _ _) (BSame.appRecvDgram _ _)
  | xmit m rest hq => exact binds_xmit hb m rest hq
  | recv f rest e _ _ hba hpf =>
    have he : e = (processFrame p.a f false).1 := by rw [hpf]
    subst he
    exact binds_recv h hb f rest hba _
  | notif fid rest hq => exact binds_notif h hb fid rest hq
  | unpark => exact binds_silent (g' := p.ga) hb (unpark_eff _ _ h.runA.muxAlive) (BSame.unpark _ _)
  | runDone =>
    exact binds_silent (g' := p.ga) hb
      ((Eff.silent rfl rfl rfl rfl rfl rfl rfl rfl rfl : Eff _ p.a { p.a with doneq := [] }).trans (runDone_eff _ _ _))
      ((BSame.silent rfl rfl rfl rfl : BSame _ p.a { p.a with doneq := [] }).trans (BSame.runDone _ _ _))
  | runRetries hr => exact (inv_retries hi _ hr).binds
  | bindReq req bt host port hr => exact binds_bindReq h hb req bt host port hr
  | bindNext => exact binds_bindNext hb
  | bindReply k acc => exact binds_bindReply hb k acc
  | bindDrop k => exact binds_bindDrop hb k

theorem stepL_inv {p p' : PS} (a : Act) (h : Inv p) (hs : stepL p a = some p') : Inv p' :=
  ⟨stepL_core a h hs, stepL_binds a h hs⟩

theorem fresh_of_inRng {p : PS} (h : Inv p) (x : Nat) (hx : x ∈ p.a.rng ∨ x ∈ p.b.rng) :
    Fresh x (ev x p.a p.ga) (ev x p.b p.gb) (fl x (pathAB p)) (fl x (pathBA p)) :=
  fresh_of_inRng_core h.toInvCore x hx

theorem step_inv {p p' : PS} (s : Side) (a : Act) (h : Inv p) (hs : step p s a = some p') : Inv p' :=
  step_keeps (P := Inv) (fun _ => Inv.swap) (fun _ _ h hs => stepL_inv a h hs) s h hs

theorem run_inv (p : PS) (as : List (Side × Act)) (h : Inv p) : Inv (run p as) :=
  run_keeps (P := Inv) (fun _ => Inv.swap) p as (fun sa _ _ _ h hs => stepL_inv sa.2 h hs) h

theorem init_inv (oa ob : Opts) (ra rb : List Nat)
    (hoa : 0 < oa.rwnd ∧ oa.rwnd < 4294967296) (hob : 0 < ob.rwnd ∧ ob.rwnd < 4294967296)
    (hnd : (ra ++ rb).Nodup) (hnz : ∀ k ∈ ra ++ rb, k ≠ 0) : Inv (init oa ob ra rb) := by
  refine ⟨?_, ?_⟩
  · refine ⟨⟨rfl, rfl, rfl, hoa.1, hoa.2⟩, ⟨rfl, rfl, rfl, hob.1, hob.2⟩, ?_, ?_, hnd, hnz,
      fun _ _ => ⟨rfl, rfl, rfl⟩, fun _ _ => ⟨rfl, rfl, rfl⟩, ?_, fun x hx => by cases hx⟩
    · intro y k hy; simp [init] at hy
    · intro y k hy; simp [init] at hy
    · intro x
      by_cases hx : x ∈ ra ∨ x ∈ rb
      · exact Or.inl ⟨hx, rfl, rfl, rfl, rfl, fun k => by simp [ev, objView, init], fun k => by simp [ev, objView, init],
          by simp [ev, init], by simp [ev, init]⟩
      · have h1 : ¬ x ∈ ra := fun hh => hx (Or.inl hh)
        have h2 : ¬ x ∈ rb := fun hh => hx (Or.inr hh)
        exact Or.inr (Or.inr (Or.inr (Or.inr (Or.inr (Or.inr ⟨h1, h2, (by intro m hm; cases hm), (by intro m hm; cases hm), Or.inl rfl⟩)))))
  · -- nothing is marked
    intro x hm
    rcases hm with ⟨m, hm, _⟩ | ⟨m, hm, _⟩ | hm | hm
    · simp [init, pathAB] at hm
    · simp [init, pathBA] at hm
    · simp [init, bindIds] at hm
    · simp [init, bindIds] at hm

end Penguin.Pair
