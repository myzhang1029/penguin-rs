/-
`BSim` (see `Lemmas/BindAllView.lean`) — building blocks shared by the simulation proofs.
Core Lean only.
-/
import Penguin.Lemmas.BindAllView
import Penguin.Lemmas.PairAllSimBase
import Penguin.Lemmas.ListFacts

namespace Penguin.BindAll
open Penguin.Mux
open Penguin.PairAll (inMsgs)

theorem bview_modObj (e : EP) (l : List WsIn) (i : Nat) (f : Obj → Obj) (hf : ∀ o, (f o).fid = o.fid) :
    bview (e.modObj i f) l = bview e l := by
  simp [bview, EP.modObj, setObj, map_modify_of_eq (·.fid) f hf]

theorem BSim.modObj {l : List WsIn} (e : EP) (i : Nat) (f : Obj → Obj) (hf : ∀ o, (f o).fid = o.fid) :
    BSim l e l (e.modObj i f) [] [] :=
  BSim.same (bview_modObj e l i f hf) rfl

/-- Side condition of `BSim.modObj`. -/
macro "bsim_fid" : tactic =>
  `(tactic| first
    | (intro o; rfl)
    | (intro o; simp only [Obj.disallowWrite, Obj.wake]; split <;> rfl))

/-- A state that differs from `e` in fields the view does not look at. -/
macro "bsim_same" : tactic => `(tactic| exact BSim.same rfl rfl)

theorem not_mem_of_lookup_none {m : List (Nat × Slot)} {k : Nat} (h : lookup m k = none) (s : Slot) : (k, s) ∉ m := by
  induction m with
  | nil => simp
  | cons p r ih =>
    obtain ⟨k', v⟩ := p
    simp only [lookup] at h
    split at h
    · cases h
    · rename_i hne
      intro hm
      rcases List.mem_cons.mp hm with h1 | h1
      · simp only [Prod.mk.injEq] at h1; exact hne h1.1.symm
      · exact ih h h1

theorem erase_sublist (m : List (Nat × Slot)) (k : Nat) : (Mux.erase m k).Sublist m := List.filter_sublist

/-- A message is queued (nothing happens if the outbound queue is closed). -/
theorem BSim.enq {l : List WsIn} (e : EP) (m : Msg) (ok : OkEnq (bview e l) m) : BSim l e l (e.enq m) [] [] := by
  unfold EP.enq
  split
  · exact BSim.refl l e
  · rename_i hc
    exact BSim.one (BStep.enq (bview e l) m (by simpa [bview] using hc) ok) rfl rfl

theorem BSim.enqFrame {l : List WsIn} (e : EP) (f : Frame) (ok : OkEnq (bview e l) (.frame f)) :
    BSim l e l (e.enqFrame f) [] [] := BSim.enq e _ ok

/-- The item `w` may be taken from the inbox silently: it is no answer frame (`Finish y` / `Reset y`) of a flow
    whose slot is a pending bind request. -/
def PopOk (fl : List (Nat × Slot)) (w : WsIn) : Prop :=
  ∀ y r, lookup fl y = some (.bindRequested r) → ∀ m, w = .msg m → ansOf y m = none

theorem PopOk.other {fl : List (Nat × Slot)} {w : WsIn} (h : ∀ m, w = .msg m → ∀ y, ansOf y m = none) : PopOk fl w :=
  fun y _ _ m hm => h m hm y

theorem PopOk.finish {fl : List (Nat × Slot)} {fid : Nat} (h : ∀ r, lookup fl fid ≠ some (.bindRequested r)) :
    PopOk fl (.msg (.frame (.finish fid))) := by
  intro y r hl m hm
  cases hm
  simp only [ansOf]
  split
  · rename_i he; subst he; exact absurd hl (h r)
  · rfl

theorem PopOk.reset {fl : List (Nat × Slot)} {fid : Nat} (h : ∀ r, lookup fl fid ≠ some (.bindRequested r)) :
    PopOk fl (.msg (.frame (.reset fid))) := by
  intro y r hl m hm
  cases hm
  simp only [ansOf]
  split
  · rename_i he; subst he; exact absurd hl (h r)
  · rfl

theorem ans_inMsgs_cons {fl : List (Nat × Slot)} {w : WsIn} (hg : PopOk fl w) (l : List WsIn) (y r : Nat)
    (hl : lookup fl y = some (.bindRequested r)) : ans y (inMsgs l) = ans y (inMsgs (w :: l)) := by
  cases w with
  | msg m => simp [inMsgs, ans, hg y r hl m rfl]
  | _ => rfl

theorem BSim.pop {l : List WsIn} (e : EP) (w : WsIn) (hg : PopOk e.flows w) : BSim (w :: l) e l e [] [] :=
  BSim.shrink { Shrinks.refl (bview e (w :: l)) with
    inbox := List.suffix_cons w l, pops := fun y r hl => ans_inMsgs_cons hg l y r hl } rfl

theorem BSim.flows {l : List WsIn} (e : EP) (fl : List (Nat × Slot)) (h : fl.Sublist e.flows) :
    BSim l e l { e with flows := fl } [] [] :=
  BSim.shrink { Shrinks.refl (bview e l) with flows := h } rfl

theorem BSim.erase {l : List WsIn} (e : EP) (fid : Nat) : BSim l e l { e with flows := Mux.erase e.flows fid } [] [] :=
  BSim.flows e _ (erase_sublist _ _)

theorem BSim.notify {l : List WsIn} (e : EP) (y : Nat) (hy : y = 0 ∨ y ∈ (bview e l).fids) :
    BSim l e l { e with droppedq := e.droppedq ++ [y] } [] [] := by
  refine BSim.shrink { Shrinks.refl (bview e l) with dq := ?_ } rfl
  intro z hz
  rcases List.mem_append.mp hz with h | h
  · exact Or.inr (Or.inl h)
  · have hz' : z = y := by simpa using h
    subst hz'
    rcases hy with h | h
    · exact Or.inl h
    · exact Or.inr (Or.inr h)

/-- One round of `new_stream_channel`. -/
theorem BSim.openRound {l : List WsIn} (e : EP) (r : OpenReq) :
    BSim l e l (openRound e r).1 (openRound e r).2 (doneEvs (openRound e r).2) := by
  unfold Mux.openRound
  split
  · exact BSim.same rfl rfl
  · split
    · exact BSim.same rfl rfl
    · rename_i fid rng' fb' hd
      obtain ⟨hs1, hs2⟩ := drawId_suffix _ _ _ _ _ _ _ hd
      obtain ⟨_, hfree⟩ := drawId_spec _ _ _ _ _ _ _ hd
      simp only
      split
      · exact BSim.shrink { Shrinks.refl (bview e l) with rng := hs2 } rfl
      · rename_i hoc
        have hoc' : e.outClosed = false := by simpa using hoc
        refine BSim.one (BStep.drawOpen (bview e l) fid r.req rng' e.opts.rwnd r.port r.host hs1
          (not_mem_of_lookup_none hfree) hoc') ?_ rfl
        simp [bview, EP.enqFrame, EP.enq, hoc']

end Penguin.BindAll
