/-
From the endpoint model to the pair of bind views: the observers' records along a run of `Model/PairAll.lean` (`runB`),
and what one stimulus is in the views: a call is a sequence of small steps of the acting side (`bstar_call`), a delivery or
a cut changes the inbox as the view step says (`bview_deliver_*`).  That the invariant holds in every reachable state is
`Lemmas/BindAllReach.lean`.
Core Lean only.
-/
import Penguin.Lemmas.BindAllInv
import Penguin.Lemmas.BindAllSimApp
import Penguin.Lemmas.BindAllSimTask

namespace Penguin.BindAll
open Penguin.Mux Penguin.PairAll
open Penguin.PairAll (inMsgs inMsgs_append wireMsgs)

theorem BStar.rng_suffix {v v' : BV} {ws : List Msg} {gs : List BEv} (h : BStar v v' ws gs) : v'.rng <:+ v.rng := by
  induction h with
  | refl v => exact List.suffix_refl _
  | step st _ ih => exact ih.trans st.rng_suffix

theorem actL_trans (c : BC) (v1 v2 : BV) (w1 w2 : List Msg) (g1 g2 : List BEv) :
    (c.actL v1 w1 g1).actL v2 w2 g2 = c.actL v2 (w1 ++ w2) (g1 ++ g2) := by
  cases c with
  | mk a b ab ba abo bao ga gb => cases abo <;> simp [BC.actL]

theorem actL_nil (c : BC) : c.actL c.a [] [] = c := by
  cases c with
  | mk a b ab ba abo bao ga gb => cases abo <;> simp [BC.actL]

theorem starL_of_act {I : BC → Prop}
    (act : ∀ {c : BC} {v : BV} {ws : List Msg} {gs : List BEv}, I c → BStep c.a v ws gs → v.rng ≠ [] → I (c.actL v ws gs))
    {c : BC} {v : BV} {ws : List Msg} {gs : List BEv} (h : I c) (st : BStar c.a v ws gs) (hn : v.rng ≠ []) :
    I (c.actL v ws gs) := by
  generalize hva : c.a = va at st
  induction st generalizing c with
  | refl v => subst hva; rw [actL_nil]; exact h
  | @step v0 v1 v2 w1 w2 g1 g2 s rest ih =>
    subst hva
    have hn1 : v1.rng ≠ [] := by
      intro h0
      have := rest.rng_suffix
      rw [h0] at this
      exact hn (List.suffix_nil.mp this)
    have h2 := ih (act h s hn1) hn rfl
    rw [actL_trans] at h2
    exact h2

theorem Inv.starL {c : BC} {v : BV} {ws : List Msg} {gs : List BEv} (h : Inv c) (st : BStar c.a v ws gs) (hn : v.rng ≠ []) :
    Inv (c.actL v ws gs) :=
  starL_of_act Inv.act h st hn

theorem Inv.starR {c : BC} {v : BV} {ws : List Msg} {gs : List BEv} (h : Inv c) (st : BStar c.b v ws gs) (hn : v.rng ≠ []) :
    Inv (c.swap.actL v ws gs).swap :=
  (h.swap.starL st hn).swap

def bgStep (e : EP) (g : List BEv) (op : Mux.Op) : List BEv :=
  g ++ (callEvs e op (applyOp e op).2.1 ++ doneEvs (applyOp e op).2.2)

def stimOp (p : PS) : Stim → Mux.Op
  | .call op => op
  | .deliver => match p.ba with
    | [] => .deliver .eof    -- not enabled
    | m :: _ => .deliver (.msg m)
  | .cut eof => .deliver (if eof then .eof else .err)

structure PB where
  p : PS
  ha : List BEv := []
  hb : List BEv := []

def stepB (q : PB) (s : Side) (st : Stim) : PB :=
  match s with
  | .A => match stepL q.p st with
    | some p' => { p := p', ha := bgStep q.p.a q.ha (stimOp q.p st), hb := q.hb }
    | none => q
  | .B => match stepL q.p.swap st with
    | some p' => { p := p'.swap, ha := q.ha, hb := bgStep q.p.b q.hb (stimOp q.p.swap st) }
    | none => q

def runB (q : PB) : List (Side × Stim) → PB
  | [] => q
  | (s, st) :: rest => runB (stepB q s st) rest

theorem stepB_p (q : PB) (s : Side) (st : Stim) : (stepB q s st).p = (step q.p s st).getD q.p := by
  cases s with
  | A => simp only [stepB, step]; cases stepL q.p st <;> rfl
  | B => simp only [stepB, step]; cases stepL q.p.swap st <;> rfl

theorem runB_p (q : PB) (l : List (Side × Stim)) : (runB q l).p = run q.p l := by
  induction l generalizing q with
  | nil => rfl
  | cons a l ih => obtain ⟨s, st⟩ := a; simp only [runB, run]; rw [ih, stepB_p]

theorem bstar_call (e : EP) (op : Mux.Op) (hc : isCall op = true) :
    BStar (bview e e.inbox) (bview (applyOp e op).1 (applyOp e op).1.inbox) (wireMsgs (applyOp e op).2.2)
      (callEvs e op (applyOp e op).2.1 ++ doneEvs (applyOp e op).2.2) := by
  have s2 := BSim.settle (opStep e op).1
  rw [Mux.opStep_call_inbox e op hc] at s2
  rw [applyOp_fst, applyOp_res, applyOp_evs, doneEvs_append, ← List.append_assoc]
  exact (BSim.opStep e op hc).trans s2

theorem bstar_deliver (e : EP) (w : WsIn) :
    BStar (bview (opStep e (.deliver w)).1 (opStep e (.deliver w)).1.inbox)
      (bview (applyOp e (.deliver w)).1 (applyOp e (.deliver w)).1.inbox) (wireMsgs (applyOp e (.deliver w)).2.2)
      (callEvs e (.deliver w) (applyOp e (.deliver w)).2.1 ++ doneEvs (applyOp e (.deliver w)).2.2) := by
  have hc : callEvs e (.deliver w) (applyOp e (.deliver w)).2.1 = [] := rfl
  rw [hc, applyOp_fst, applyOp_evs, opStep_deliver_evs, List.nil_append, List.nil_append]
  exact BSim.settle (opStep e (.deliver w)).1

/-- Whether the endpoint ignores deliveries. -/
def deafE (e : EP) : Bool := e.srcEnded || e.inbox.any (fun x => x == .eof || x == .err)

theorem deafE_eq (e : EP) : deafE e = deafV (bview e e.inbox) := rfl

theorem bview_deliver_msg (e : EP) (m : Msg) (hm : m ≠ .close) :
    bview (opStep e (.deliver (.msg m))).1 (opStep e (.deliver (.msg m))).1.inbox =
      { bview e e.inbox with inbox := if deafE e then e.inbox else e.inbox ++ [.msg m] } := by
  simp only [Mux.opStep, deafE]
  split
  · rename_i h; simp [bview, h]
  · rename_i h
    cases m with
    | close => exact absurd rfl hm
    | frame f => simp [bview, h]
    | ping => simp [bview, h]
    | pong => simp [bview, h]

theorem bview_deliver_close (e : EP) :
    bview (opStep e (.deliver (.msg .close))).1 (opStep e (.deliver (.msg .close))).1.inbox =
      { bview e e.inbox with inbox := if deafE e then e.inbox else e.inbox ++ [.msg .close, .eof] } := by
  simp only [Mux.opStep, deafE]
  split
  · rename_i h; simp [bview, h]
  · rename_i h; simp [bview, h]

theorem bview_deliver_end (e : EP) (w : WsIn) (hw : w = .eof ∨ w = .err) :
    bview (opStep e (.deliver w)).1 (opStep e (.deliver w)).1.inbox =
      { bview e e.inbox with inbox := if deafE e then e.inbox else e.inbox ++ [w] } := by
  simp only [Mux.opStep, deafE]
  split
  · rename_i h; simp [bview, h]
  · rename_i h
    rcases hw with rfl | rfl <;> simp [bview, h]

end Penguin.BindAll
