/-
The invariants of ONE endpoint and its observer, each preserved by every small step of the bind view: held
requests were shown and shown requests are held (`HeldShown`, `ShownHeld`), pending slots were asked
(`SlotAsked`), the flags of the view are tied to the record (`Loc`, `DropU`); and the order of the recorded
replies: "first recorded reply is `true`" / "a `reply(false)` with no `reply(true)` before it".
Core Lean only.
-/
import Penguin.Lemmas.BindAllFacts

namespace Penguin.BindAll
open Penguin.Mux
open Penguin.PairAll (inMsgs inMsgs_append)

variable {v v' : BV} {ws : List Msg} {gs : List BEv}

def HeldShown (v : BV) (g : List BEv) : Prop :=
  ∀ k b, v.held[k]? = some b → BEv.shown k b.fid b.bt b.host b.port ∈ g

def SlotAsked (v : BV) (g : List BEv) : Prop :=
  ∀ y r, (y, Slot.bindRequested r) ∈ v.flows → ∃ bt host port, BEv.asked r y bt host port ∈ g

theorem getElem?_modify_fields {l : List BindIn} {k k' : Nat} {f : BindIn → BindIn} {b : BindIn}
    (hf : ∀ b, (f b).fid = b.fid ∧ (f b).bt = b.bt ∧ (f b).host = b.host ∧ (f b).port = b.port)
    (h : (l.modify k f)[k']? = some b) :
    ∃ b0, l[k']? = some b0 ∧ b.fid = b0.fid ∧ b.bt = b0.bt ∧ b.host = b0.host ∧ b.port = b0.port := by
  rw [List.getElem?_modify] at h
  cases h0 : l[k']? with
  | none => simp [h0] at h
  | some b0 =>
    simp only [h0, Option.map_eq_map, Option.map_some, Option.some.injEq] at h
    refine ⟨b0, rfl, ?_⟩
    subst h
    split
    · exact hf b0
    · exact ⟨rfl, rfl, rfl, rfl⟩

theorem HeldShown.step {g : List BEv} (h : HeldShown v g) (st : BStep v v' ws gs) : HeldShown v' (g ++ gs) := by
  intro k b hk
  cases st with
  | shrink v' hs => rw [hs.held] at hk; exact List.mem_append_left _ (h k b hk)
  | bindNext b' r hq =>
    simp only at hk
    by_cases hlt : k < v.held.length
    · rw [List.getElem?_append_left hlt] at hk
      exact List.mem_append_left _ (h k b hk)
    · have hge : v.held.length ≤ k := Nat.le_of_not_lt hlt
      rw [List.getElem?_append_right hge] at hk
      have hk0 : k - v.held.length = 0 := by
        cases hd : k - v.held.length with
        | zero => rfl
        | succ n => simp [hd] at hk
      simp only [hk0, List.getElem?_cons_zero, Option.some.injEq] at hk
      subst hk
      have : k = v.held.length := by omega
      subst this
      simp
  | reply k' b' acc hk' hal ho =>
    obtain ⟨b0, h0, e1, e2, e3, e4⟩ := getElem?_modify_fields (f := fun b => { b with replied := true })
      (fun _ => ⟨rfl, rfl, rfl, rfl⟩) hk
    rw [e1, e2, e3, e4]; exact List.mem_append_left _ (h k b0 h0)
  | dropReq k' b' hk' =>
    obtain ⟨b0, h0, e1, e2, e3, e4⟩ := getElem?_modify_fields (f := fun b => { b with alive := false })
      (fun _ => ⟨rfl, rfl, rfl, rfl⟩) hk
    rw [e1, e2, e3, e4]; exact List.mem_append_left _ (h k b0 h0)
  | _ => exact List.mem_append_left _ (h k b hk)

theorem SlotAsked.step {g : List BEv} (h : SlotAsked v g) (st : BStep v v' ws gs) : SlotAsked v' (g ++ gs) := by
  intro y r hm
  rcases st.pending_back y r hm with h1 | ⟨bt, host, port, ha⟩
  · obtain ⟨bt, host, port, ha⟩ := h y r h1
    exact ⟨bt, host, port, List.mem_append_left _ ha⟩
  · exact ⟨bt, host, port, List.mem_append_right _ ha⟩

structure Loc (v : BV) (g : List BEv) : Prop where
  mux : v.muxAlive = false → BEv.muxDropped ∈ g
  /-- a dropped-handle notification names the `0` of a dropped `Multiplexor` or an id carried by a stream object -/
  dq : ∀ y ∈ v.dq, y = 0 ∨ y ∈ v.fids
  kb : ∀ k, ((∃ acc, BEv.replied k acc ∈ g) ∨ BEv.dropped k ∈ g) → k < v.held.length
  unrep : ∀ k b, v.held[k]? = some b → b.replied = false → ∀ acc, BEv.replied k acc ∉ g
  dropd : ∀ k b, v.held[k]? = some b → BEv.dropped k ∈ g → b.alive = false

theorem Loc.frame {g : List BEv} (h : Loc v g) (hh : v'.held = v.held) (hm : v'.muxAlive = v.muxAlive)
    (hd : ∀ y ∈ v'.dq, y = 0 ∨ y ∈ v.dq ∨ y ∈ v.fids) (hf : ∀ y, y ∈ v.fids → y ∈ v'.fids)
    (hr : ∀ k acc, BEv.replied k acc ∉ gs) (hq : ∀ k, BEv.dropped k ∉ gs) : Loc v' (g ++ gs) := by
  refine ⟨?_, ?_, ?_, ?_, ?_⟩
  · intro hma; rw [hm] at hma; exact List.mem_append_left _ (h.mux hma)
  · intro y hy
    rcases hd y hy with h1 | h1 | h1
    · exact Or.inl h1
    · rcases h.dq y h1 with h2 | h2
      · exact Or.inl h2
      · exact Or.inr (hf y h2)
    · exact Or.inr (hf y h1)
  · intro k hk
    rw [hh]
    refine h.kb k ?_
    rcases hk with ⟨acc, hk⟩ | hk
    · rcases List.mem_append.mp hk with hk | hk
      · exact Or.inl ⟨acc, hk⟩
      · exact absurd hk (hr k acc)
    · rcases List.mem_append.mp hk with hk | hk
      · exact Or.inr hk
      · exact absurd hk (hq k)
  · intro k b hk hb acc hm
    rw [hh] at hk
    rcases List.mem_append.mp hm with hm | hm
    · exact h.unrep k b hk hb acc hm
    · exact hr k acc hm
  · intro k b hk hm
    rw [hh] at hk
    rcases List.mem_append.mp hm with hm | hm
    · exact h.dropd k b hk hm
    · exact absurd hm (hq k)

theorem Loc.step {g : List BEv} (h : Loc v g) (st : BStep v v' ws gs) : Loc v' (g ++ gs) := by
  have dq0 : ∀ y ∈ v.dq, y = 0 ∨ y ∈ v.dq ∨ y ∈ v.fids := fun y hy => Or.inr (Or.inl hy)
  cases st with
  | shrink v' hs =>
    exact h.frame hs.held hs.muxAlive hs.dq (by intro y hy; rw [hs.fids]; exact hy) (by simp) (by simp)
  | connNew y w p hh r hi hf =>
    exact h.frame rfl rfl dq0 (fun y hy => List.mem_append_left _ hy) (by simp) (by simp)
  | ackNew y n q r hi hs =>
    exact h.frame rfl rfl dq0 (fun y hy => List.mem_append_left _ hy) (by simp) (by simp)
  | finishAll =>
    exact h.frame rfl rfl dq0 (fun y hy => hy) (not_mem_refusals_replied _)
      (fun _ hm => by obtain ⟨_, h⟩ := mem_refusals hm; cases h)
  | bindNext b r hq =>
    refine ⟨fun hma => List.mem_append_left _ (h.mux hma), h.dq, ?_, ?_, ?_⟩
    · intro k hk
      have : k < v.held.length := h.kb k (by
        rcases hk with ⟨acc, hk⟩ | hk
        · exact Or.inl ⟨acc, by simpa using hk⟩
        · exact Or.inr (by simpa using hk))
      simp only [List.length_append, List.length_singleton]; omega
    · intro k b' hk hb acc hm
      have hm' : BEv.replied k acc ∈ g := by simpa using hm
      have hlt := h.kb k (Or.inl ⟨acc, hm'⟩)
      simp only at hk
      rw [List.getElem?_append_left hlt] at hk
      exact h.unrep k b' hk hb acc hm'
    · intro k b' hk hm
      have hm' : BEv.dropped k ∈ g := by simpa using hm
      have hlt := h.kb k (Or.inr hm')
      simp only at hk
      rw [List.getElem?_append_left hlt] at hk
      exact h.dropd k b' hk hm'
  | reply k0 b0 acc0 hk0 hal ho =>
    refine ⟨fun hma => List.mem_append_left _ (h.mux hma), h.dq, ?_, ?_, ?_⟩
    · intro k hk
      simp only [List.length_modify]
      rcases hk with ⟨acc, hk⟩ | hk
      · rcases List.mem_append.mp hk with hk | hk
        · exact h.kb k (Or.inl ⟨acc, hk⟩)
        · simp only [List.mem_singleton, BEv.replied.injEq] at hk
          rw [hk.1]; exact (List.getElem?_eq_some_iff.mp hk0).1
      · exact h.kb k (Or.inr (by simpa using hk))
    · intro k b hk hb acc hm
      simp only [List.getElem?_modify] at hk
      cases h0 : v.held[k]? with
      | none => simp [h0] at hk
      | some b1 =>
        simp only [h0, Option.map_eq_map, Option.map_some, Option.some.injEq] at hk
        by_cases hkk : k0 = k
        · subst hk; simp [hkk] at hb
        · simp only [hkk, if_false] at hk
          subst hk
          rcases List.mem_append.mp hm with hm | hm
          · exact h.unrep k b1 h0 hb acc hm
          · simp only [List.mem_singleton, BEv.replied.injEq] at hm
            exact hkk hm.1.symm
    · intro k b hk hm
      have hm' : BEv.dropped k ∈ g := by simpa using hm
      simp only [List.getElem?_modify] at hk
      cases h0 : v.held[k]? with
      | none => simp [h0] at hk
      | some b1 =>
        simp only [h0, Option.map_eq_map, Option.map_some, Option.some.injEq] at hk
        have := h.dropd k b1 h0 hm'
        subst hk
        split <;> simpa using this
  | dropReq k0 b0 hk0 =>
    refine ⟨fun hma => List.mem_append_left _ (h.mux hma), h.dq, ?_, ?_, ?_⟩
    · intro k hk
      simp only [List.length_modify]
      rcases hk with ⟨acc, hk⟩ | hk
      · exact h.kb k (Or.inl ⟨acc, by simpa using hk⟩)
      · rcases List.mem_append.mp hk with hk | hk
        · exact h.kb k (Or.inr hk)
        · simp only [List.mem_singleton, BEv.dropped.injEq] at hk
          rw [hk]; exact (List.getElem?_eq_some_iff.mp hk0).1
    · intro k b hk hb acc hm
      have hm' : BEv.replied k acc ∈ g := by simpa using hm
      simp only [List.getElem?_modify] at hk
      cases h0 : v.held[k]? with
      | none => simp [h0] at hk
      | some b1 =>
        simp only [h0, Option.map_eq_map, Option.map_some, Option.some.injEq] at hk
        refine h.unrep k b1 h0 ?_ acc hm'
        subst hk
        split at hb <;> simpa using hb
    · intro k b hk hm
      simp only [List.getElem?_modify] at hk
      cases h0 : v.held[k]? with
      | none => simp [h0] at hk
      | some b1 =>
        simp only [h0, Option.map_eq_map, Option.map_some, Option.some.injEq] at hk
        by_cases hkk : k0 = k
        · subst hk; simp [hkk]
        · simp only [hkk, if_false] at hk
          subst hk
          rcases List.mem_append.mp hm with hm | hm
          · exact h.dropd k b1 h0 hm
          · simp only [List.mem_singleton, BEv.dropped.injEq] at hm
            exact absurd hm.symm hkk
  | dropMux =>
    refine ⟨fun _ => by simp, h.dq, ?_, ?_, ?_⟩
    · intro k hk
      exact h.kb k (by
        rcases hk with ⟨acc, hk⟩ | hk
        · exact Or.inl ⟨acc, by simpa using hk⟩
        · exact Or.inr (by simpa using hk))
    · intro k b hk hb acc hm; exact h.unrep k b hk hb acc (by simpa using hm)
    · intro k b hk hm; exact h.dropd k b hk (by simpa using hm)
  | _ => exact h.frame rfl rfl dq0 (fun y hy => hy) (by simp) (by simp)

/-- `BindRequest` number `k` was dropped without ever having been answered. -/
def DropU (k : Nat) (g : List BEv) : Prop := BEv.dropped k ∈ g ∧ ∀ acc, BEv.replied k acc ∉ g

/-- … and stays so: a dropped `BindRequest` takes no reply. -/
theorem DropU.step {g : List BEv} {k : Nat} (hd : DropU k g) (h : Loc v g) (st : BStep v v' ws gs) : DropU k (g ++ gs) := by
  refine ⟨List.mem_append_left _ hd.1, ?_⟩
  intro acc hm
  rcases List.mem_append.mp hm with hm | hm
  · exact hd.2 acc hm
  · obtain ⟨b, hk, hal, _⟩ := st.reply_out k acc hm
    have := h.dropd k b hk hd.1
    rw [this] at hal; cases hal

def ShownHeld (v : BV) (g : List BEv) : Prop :=
  ∀ k y bt h p, BEv.shown k y bt h p ∈ g → ∃ b, v.held[k]? = some b ∧ b.fid = y

theorem ShownHeld.step {g : List BEv} (h : ShownHeld v g) (st : BStep v v' ws gs) : ShownHeld v' (g ++ gs) := by
  intro k y bt hh p hm
  have keep : (∀ (k : Nat) (b : BindIn), v.held[k]? = some b → ∃ b' : BindIn, v'.held[k]? = some b' ∧ b'.fid = b.fid) →
      BEv.shown k y bt hh p ∈ g → ∃ b, v'.held[k]? = some b ∧ b.fid = y := fun hk hg => by
    obtain ⟨b, hb, hf⟩ := h k y bt hh p hg
    obtain ⟨b', hb', hf'⟩ := hk k b hb
    exact ⟨b', hb', hf'.trans hf⟩
  have modk : ∀ (f : BindIn → BindIn) (k0 : Nat), (∀ b, (f b).fid = b.fid) →
      ∀ (k : Nat) (b : BindIn), v.held[k]? = some b → ∃ b' : BindIn, (v.held.modify k0 f)[k]? = some b' ∧ b'.fid = b.fid := by
    intro f k0 hf k b hb
    rw [List.getElem?_modify, hb]
    by_cases hk : k0 = k
    · exact ⟨f b, by simp [hk], hf b⟩
    · exact ⟨b, by simp [hk], rfl⟩
  cases st with
  | shrink v' hs => exact keep (fun k b hb => ⟨b, by rw [hs.held]; exact hb, rfl⟩) (by simpa using hm)
  | bindNext b r hq =>
    rcases List.mem_append.mp hm with hm | hm
    · refine keep (fun k b' hb => ⟨b', ?_, rfl⟩) hm
      have hlt : k < v.held.length := (List.getElem?_eq_some_iff.mp hb).1
      simp only; rw [List.getElem?_append_left hlt]; exact hb
    · simp only [List.mem_singleton, BEv.shown.injEq] at hm
      obtain ⟨rfl, rfl, _⟩ := hm
      exact ⟨b, by simp, rfl⟩
  | reply k0 b0 acc hk0 hal ho =>
    exact keep (modk _ k0 (fun _ => rfl)) (by simpa using hm)
  | dropReq k0 b0 hk0 =>
    exact keep (modk _ k0 (fun _ => rfl)) (by simpa using hm)
  | finishAll =>
    rcases List.mem_append.mp hm with hm | hm
    · exact keep (fun k b hb => ⟨b, hb, rfl⟩) hm
    · simp only [List.mem_filterMap] at hm
      obtain ⟨q, _, hq⟩ := hm
      split at hq <;> cases hq
  | _ => exact keep (fun k b hb => ⟨b, hb, rfl⟩) (by simpa using hm)

def FirstAcc (k : Nat) (g : List BEv) : Prop :=
  ∃ g1 g2, g = g1 ++ BEv.replied k true :: g2 ∧ ∀ acc, BEv.replied k acc ∉ g1

def FirstRej (k : Nat) (g : List BEv) : Prop :=
  ∃ g1 g2, g = g1 ++ BEv.replied k false :: g2 ∧ BEv.replied k true ∉ g1

theorem FirstRej.append {k : Nat} {g : List BEv} (h : FirstRej k g) (gs : List BEv) : FirstRej k (g ++ gs) := by
  obtain ⟨g1, g2, he, hn⟩ := h
  exact ⟨g1, g2 ++ gs, by rw [he]; simp, hn⟩

theorem FirstAcc.append {k : Nat} {g : List BEv} (h : FirstAcc k g) (gs : List BEv) : FirstAcc k (g ++ gs) := by
  obtain ⟨g1, g2, he, hn⟩ := h
  exact ⟨g1, g2 ++ gs, by rw [he]; simp, hn⟩

theorem FirstAcc.mem {k : Nat} {g : List BEv} (h : FirstAcc k g) : BEv.replied k true ∈ g := by
  obtain ⟨g1, g2, he, _⟩ := h
  rw [he]; simp

theorem firstRej_or_firstAcc {k : Nat} {g : List BEv} (h : BEv.replied k false ∈ g) : FirstRej k g ∨ FirstAcc k g := by
  induction g with
  | nil => cases h
  | cons e g ih =>
    by_cases he : ∃ acc, e = BEv.replied k acc
    · obtain ⟨acc, rfl⟩ := he
      cases acc with
      | false => exact Or.inl ⟨[], g, rfl, by simp⟩
      | true => exact Or.inr ⟨[], g, rfl, by simp⟩
    · have hne : ∀ acc, e ≠ BEv.replied k acc := fun acc h0 => he ⟨acc, h0⟩
      rcases List.mem_cons.mp h with h1 | h1
      · exact absurd h1.symm (hne false)
      · rcases ih h1 with ⟨g1, g2, e1, hn⟩ | ⟨g1, g2, e1, hn⟩
        · refine Or.inl ⟨e :: g1, g2, by rw [e1]; rfl, ?_⟩
          intro hm
          rcases List.mem_cons.mp hm with h2 | h2
          · exact hne true h2.symm
          · exact hn h2
        · refine Or.inr ⟨e :: g1, g2, by rw [e1]; rfl, ?_⟩
          intro acc hm
          rcases List.mem_cons.mp hm with h2 | h2
          · exact hne acc h2.symm
          · exact hn acc h2

theorem FirstAcc.of_append {k : Nat} {g gs : List BEv} (h : FirstAcc k (g ++ gs)) :
    FirstAcc k g ∨ ((∀ acc, BEv.replied k acc ∉ g) ∧ BEv.replied k true ∈ gs) := by
  obtain ⟨g1, g2, he, hn⟩ := h
  rcases List.append_eq_append_iff.mp he with ⟨a', h1, h2⟩ | ⟨c', h1, h2⟩
  · -- g1 = g ++ a'
    right
    refine ⟨fun acc hm => hn acc (by rw [h1]; exact List.mem_append_left _ hm), ?_⟩
    rw [h2]; simp
  · -- g = g1 ++ c'
    cases c' with
    | nil =>
      right
      simp only [List.append_nil] at h1
      simp only [List.nil_append] at h2
      refine ⟨fun acc hm => hn acc (by rw [← h1]; exact hm), ?_⟩
      rw [← h2]; simp
    | cons r c'' =>
      left
      simp only [List.cons_append, List.cons.injEq] at h2
      exact ⟨g1, c'', by rw [h1, h2.1], hn⟩

end Penguin.BindAll
