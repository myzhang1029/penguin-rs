/-
`Sim` for the functions that open, close and process flows: `openRound`, `closeLocal`, `closeFlow`, `processFrame`
(`processIn` is in `Lemmas/PairAllSimTask.lean`).  The inbox is an argument of `Sim`: the item being processed is its head
before, and gone after.
Core Lean only.
-/
import Penguin.Lemmas.PairAllSimBase

namespace Penguin.PairAll
open Penguin.Mux

variable {x j : Nat}

theorem lookup_insert (m : List (Nat × Slot)) (k y : Nat) (v : Slot) :
    lookup (Mux.insert m k v) y = if y = k then some v else lookup m y := by
  by_cases h : y = k
  · subst h; simp [lookup_insert_self]
  · simp [h, lookup_insert_ne _ _ _ _ h]

theorem Sim.rngStep {l : List WsIn} (e e' : EP) (rng' : List Nat) (h1 : rng'.count x ≤ e.rng.count x)
    (h2 : e.rng.isEmpty = true → rng'.isEmpty = true)
    (hv : view x j e' l = { view x j e l with cnt := rng'.count x, rngNil := rng'.isEmpty }) :
    Sim x j l e l e' [] [] :=
  Sim.one (AStep.rng (view x j e l) (rng'.count x) rng'.isEmpty h1 h2) hv rfl rfl

theorem Sim.openRound {l : List WsIn} (e : EP) (r : OpenReq) : Sim x j l e l (openRound e r).1 (openRound e r).2 [] := by
  unfold Mux.openRound
  split
  · exact Sim.same rfl rfl rfl
  · split
    · exact Sim.same rfl rfl rfl
    · rename_i fid rng' fb' hd
      obtain ⟨hc1, hc2, hc3⟩ := drawId_count _ _ _ _ _ _ _ hd x
      obtain ⟨_, hfree⟩ := drawId_spec _ _ _ _ _ _ _ hd
      simp only
      split
      · exact Sim.rngStep e _ rng' hc1 hc2 rfl
      · rename_i hoc
        have hoc' : e.outClosed = false := by simpa using hoc
        by_cases hx : fid = x
        · subst hx
          refine Sim.one (AStep.draw (view fid j e l) (rng'.count fid) rng'.isEmpty (.requested r.req)
            (.frame (.connect fid e.opts.rwnd r.port r.host)) hc1 hc2 (hc3 rfl) hfree hoc'
            (Or.inl ⟨r.req, rfl, by simp [isConn]⟩)) ?_ rfl rfl
          simp [view, EP.enqFrame, EP.enq, hoc', lookup_insert_self, canAcc, canAccF, hfree, bindHeld]
        · have g1 : Sim x j l e l { e with rng := rng', fallback := fb' } [] [] := Sim.rngStep e _ rng' hc1 hc2 rfl
          have g2 : Sim x j l { e with rng := rng', fallback := fb' } l
              { e with rng := rng', fallback := fb', flows := Mux.insert e.flows fid (.requested r.req),
                       opens := { r with retriesLeft := r.retriesLeft - 1 } :: e.opens.filter (·.req ≠ r.req) } [] [] :=
            (Sim.flows { e with rng := rng', fallback := fb' } (Mux.insert e.flows fid (.requested r.req))
              (Or.inl (lookup_insert_ne _ _ _ _ (Ne.symm hx)))).congr rfl rfl
          exact (g1.tr g2).tr (Sim.enqFrame _ _ (by simp [isConn, hx]) rfl rfl)

theorem Sim.openRejected {l : List WsIn} (e : EP) (req : Nat) (final : Bool) :
    Sim x j l e l (openRejected e req final).1 (openRejected e req final).2 [] := by
  unfold Mux.openRejected
  repeat' split
  all_goals exact Sim.same rfl rfl rfl

/-- `close_flow_local` on an already removed slot; if object `j` is accepting, the slot is not `j`'s. -/
theorem Sim.closeLocal {l : List WsIn} (e : EP) (s : Slot) (fid : Nat) (inh final : Bool)
    (hk : canAcc x j e = true → s ≠ .established j) :
    Sim x j l e l (closeLocal e s fid inh final).1 (closeLocal e s fid inh final).2 [] := by
  unfold Mux.closeLocal
  cases s with
  | established i =>
    simp only
    cases ho : e.obj? i with
    | none => exact Sim.refl l e
    | some o =>
      simp only
      have g := Sim.modObjG (x := x) (j := j) (l := l) e i (fun o => { o.disallowWrite with senderAlive := false })
        (by sim_side) (by intro o; refine ⟨(by intro h; cases h), ?_, ?_⟩ <;> simp only [Obj.disallowWrite, Obj.wake] <;> (try split) <;> simp_all)
        (by intro hc hij; subst hij; exact absurd rfl (hk hc))
      split
      · exact g.tr (Sim.enqFrame _ _ rfl rfl rfl)
      · exact g
  | requested req => exact Sim.openRejected e req final
  | bindRequested req => exact Sim.same rfl rfl rfl

theorem canAcc_erase (e : EP) (fid : Nat) (h : canAcc x j { e with flows := Mux.erase e.flows fid } = true) :
    fid ≠ x ∧ lookup e.flows x = some (.established j) := by
  have hl := ((canAcc_iff x j _).mp h).1
  by_cases hx : x = fid
  · subst hx; rw [show lookup (Mux.erase e.flows x) x = none from lookup_erase_self _ _] at hl; cases hl
  · exact ⟨Ne.symm hx, by rw [← hl]; exact (lookup_erase_ne _ _ _ hx).symm⟩

theorem Sim.closeFlow {l : List WsIn} (e : EP) (fid : Nat) (inh : Bool) (hsf : SF e) (hj : J x j e) :
    Sim x j l e l (closeFlow e fid inh).1 (closeFlow e fid inh).2 [] := by
  unfold Mux.closeFlow
  split
  · exact Sim.refl l e
  · rename_i s hl
    refine (Sim.erase e fid).tr0 (Sim.closeLocal _ _ _ _ _ ?_)
    intro hc hs
    subst hs
    obtain ⟨hne, _⟩ := canAcc_erase e fid hc
    exact hne (hsf.noForeign hj fid hl)

theorem Sim.bhDrop {l : List WsIn} (e e' : EP) (hv : view x j e' l = { view x j e l with bh := bindHeld x e' })
    (hb : bindHeld x e' = true → bindHeld x e = true) : Sim x j l e l e' [] [] := by
  refine Sim.one (AStep.degrade (view x j e l) (lookup e.flows x) (canAcc x j e)
    (e.objs.countP (fun o => o.fid == x && !o.finishSent)) (bindHeld x e') (rxOpenJ j e.objs) (Or.inl rfl)
    (fun h => ⟨h, rfl⟩) (fun h _ _ => h) (Nat.le_refl _) hb (fun h => h)) ?_ rfl rfl
  rw [hv]; rfl

theorem Sim.parkGone {l : List WsIn} (e : EP) : Sim x j l e l { e with park := none } [] [] := by
  refine Sim.bhDrop e _ rfl ?_
  simp only [bindHeld, Bool.or_false]
  intro h; rw [h]; rfl

theorem Sim.offerAccept {l : List WsIn} (e : EP) (i : Nat) : Sim x j l e l (offerAccept e i) [] [] := by
  unfold Mux.offerAccept
  split
  · exact Sim.same rfl rfl rfl
  · refine Sim.bhDrop e _ rfl ?_
    simp only [bindHeld, Bool.or_false]
    intro h; rw [h]; rfl

theorem Sim.offerBind {l : List WsIn} (e : EP) (b : BindIn) (hb : b.fid ≠ x) : Sim x j l e l (offerBind e b) [] [] := by
  have hbx : (b.fid == x) = false := by simp [hb]
  unfold Mux.offerBind
  split
  · refine Sim.bhDrop e _ rfl ?_
    simp only [bindHeld, List.any_append, List.any_cons, hbx, List.any_nil, Bool.or_false]
    exact fun h => h
  · refine Sim.bhDrop e _ rfl ?_
    simp only [bindHeld, hbx, Bool.or_false]
    intro h; rw [h]; rfl

theorem Sim.pop {l : List WsIn} (e : EP) (w : WsIn)
    (hw : ∀ m, w = .msg m → isConn x m = false ∧ isAck x m = false ∧ isPush x m = false ∧ isFin x m = false ∧
      isBind x m = false) (hend : isEnd w = false) :
    Sim x j (w :: l) e l e [] [] := by
  refine Sim.one (AStep.pop (view x j e (w :: l)) w l rfl hw) ?_ rfl rfl
  simp [view, hend]

theorem canAccF_newOther (fl : List (Nat × Slot)) (objs : List Obj) (fid : Nat) (o : Obj)
    (hsf : ∀ i, lookup fl x = some (.established i) → i < objs.length) (hx : fid ≠ x) :
    canAccF x j (Mux.insert fl fid (.established objs.length)) (objs ++ [o]) = canAccF x j fl objs := by
  refine Bool.eq_iff_iff.mpr ?_
  rw [canAccF_iff, canAccF_iff, lookup_insert_ne _ _ _ _ (Ne.symm hx)]
  exact and_congr_right fun hl => by rw [List.getElem?_append_left (hsf j hl)]

theorem SF.lt {e : EP} (hsf : SF e) (y i : Nat) (h : lookup e.flows y = some (.established i)) : i < e.objs.length := by
  obtain ⟨o', ho', _⟩ := hsf y i h
  exact (List.getElem?_eq_some_iff.mp ho').1

theorem rxOpenJ_append_ne (objs : List Obj) (o : Obj) (h : j ≠ objs.length) : rxOpenJ j (objs ++ [o]) = rxOpenJ j objs := by
  unfold rxOpenJ
  by_cases hlt : j < objs.length
  · rw [List.getElem?_append_left hlt]
  · have h1 : objs[j]? = none := List.getElem?_eq_none (by omega)
    have h2 : (objs ++ [o])[j]? = none := List.getElem?_eq_none (by simp; omega)
    rw [h1, h2]

theorem rxOpenJ_append_new (objs : List Obj) (o : Obj) (ho : o.rxOpen = true) :
    rxOpenJ j (objs ++ [o]) = (rxOpenJ j objs || objs.length == j) := by
  by_cases h : j = objs.length
  · subst h; simp [rxOpenJ, ho]
  · rw [rxOpenJ_append_ne objs o h]
    have : (objs.length == j) = false := by simp; omega
    simp [this]

theorem J.ne_at {e' : EP} (hj : J x j e') {n fid : Nat} (h : ∃ o, e'.objs[n]? = some o ∧ o.fid = fid) (hx : fid ≠ x) :
    j ≠ n := by
  intro hjn
  obtain ⟨o, ho, hf⟩ := h
  subst hjn
  exact hx (hf ▸ hj o ho)

theorem J.ne_len {e : EP} {fl : List (Nat × Slot)} {o : Obj} {fid : Nat}
    (hj : J x j { e with objs := e.objs ++ [o], flows := fl }) (hf : o.fid = fid) (hx : fid ≠ x) : j ≠ e.objs.length := by
  intro h
  have := hj o (by subst h; simp)
  exact hx (hf ▸ this)

theorem Sim.newOther {l : List WsIn} (e : EP) (fid : Nat) (o : Obj) (hsf : SF e) (hx : fid ≠ x) (hf : o.fid = fid)
    (hjl : j ≠ e.objs.length) :
    Sim x j l e l { e with objs := e.objs ++ [o], flows := Mux.insert e.flows fid (.established e.objs.length) } [] [] := by
  refine Sim.one (AStep.grow (view x j e l) (e.objs.length + 1) (Nat.le_succ _)) ?_ rfl rfl
  have hne : (o.fid == x) = false := by simp [hf, hx]
  simp [view, canAcc, canAccF_newOther e.flows e.objs fid o (hsf.lt x) hx, lookup_insert_ne _ _ _ _ (Ne.symm hx),
    List.countP_append, hne, bindHeld, rxOpenJ_append_ne e.objs o hjl]

@[simp] theorem newObj_fid (o : Opts) (fid r : Nat) (h : Bytes) (p : Nat) : (newObj o fid r h p).fid = fid :=
  Mux.newObj_fid o fid r h p

theorem canAccF_newSelf (fl : List (Nat × Slot)) (objs : List Obj) (o : Obj) (ha : o.senderAlive = true) (hr : o.rxOpen = true) :
    canAccF x j (Mux.insert fl x (.established objs.length)) (objs ++ [o]) = (objs.length == j) := by
  unfold canAccF
  simp only [lookup_insert_self]
  by_cases h : objs.length = j
  · subst h; simp [ha, hr]
  · simp [h]

theorem finsOf_closeFlowEnds_ne (e : EP) (fid : Nat) (c : EndCause) (hc : c ≠ .peerFinish x) :
    finsOf x j (closeFlowEnds e fid c) = [] := by
  unfold closeFlowEnds
  split
  · rename_i s _
    cases s <;> simp only [slotEnds, finsOf_nil]
    split
    · simp [finsOf, hc]
    · rfl
  · rfl

theorem nw_append_new (objs : List Obj) (o : Obj) (hf : o.fid = x) (hs : o.finishSent = false) :
    (objs ++ [o]).countP (fun o => o.fid == x && !o.finishSent) = objs.countP (fun o => o.fid == x && !o.finishSent) + 1 := by
  simp [List.countP_append, hf, hs]

theorem Sim.popFrame {l : List WsIn} (e : EP) (f : Frame)
    (h : isConn x (.frame f) = false ∧ isAck x (.frame f) = false ∧ isPush x (.frame f) = false ∧
      isFin x (.frame f) = false ∧ isBind x (.frame f) = false) : Sim x j (.msg (.frame f) :: l) e l e [] [] :=
  Sim.pop e _ (by intro m hm; cases hm; exact h) rfl

theorem Sim.popOther {l : List WsIn} (e : EP) (f : Frame) {fid : Nat} (hx : fid ≠ x) (hf : f.id = fid := by rfl) :
    Sim x j (.msg (.frame f) :: l) e l e [] [] :=
  Sim.popFrame e f (by subst hf; cases f <;> simp_all [isConn, isAck, isPush, isFin, isBind, Frame.id])

theorem J.ne_len_connect {e : EP} {ig : Bool} {fid rwnd port : Nat} {host : Bytes}
    (hc : ¬(fid = 0 ∨ (lookup e.flows fid).isSome = true)) (hx : fid ≠ x)
    (hj : J x j (Mux.processFrame e (.connect fid rwnd port host) ig).1) : j ≠ e.objs.length := by
  simp only [Mux.processFrame, hc, if_false] at hj
  refine J.ne_at hj (n := e.objs.length) (fid := fid) ?_ hx
  split
  · exact ⟨newObj e.opts fid rwnd host port, by simp, rfl⟩
  · split
    · refine ⟨{ newObj e.opts fid rwnd host port with rxOpen := false }, ?_, rfl⟩
      simp [EP.enqFrame, EP.enq, EP.modObj, setObj]
      split <;> simp
    · refine ⟨newObj e.opts fid rwnd host port, ?_, rfl⟩
      simp only [EP.enqFrame, EP.enq, Mux.offerAccept]
      split <;> split <;> simp

theorem J.ne_len_ack {e : EP} {ig : Bool} {fid n req : Nat} (hl : lookup e.flows fid = some (.requested req)) (hx : fid ≠ x)
    (hj : J x j (Mux.processFrame e (.acknowledge fid n) ig).1) : j ≠ e.objs.length := by
  simp only [Mux.processFrame, hl] at hj
  refine J.ne_at hj (n := e.objs.length) (fid := fid) ?_ hx
  split
  · exact ⟨newObj e.opts fid n [] 0, by simp, rfl⟩
  · refine ⟨{ newObj e.opts fid n [] 0 with rxOpen := false }, ?_, rfl⟩
    simp [EP.modObj, setObj]

theorem Sim.connectSelf {l : List WsIn} (e : EP) (rwnd port : Nat) (host : Bytes) (hfree : lookup e.flows x = none) :
    (e.outClosed = true → Sim x j (.msg (.frame (.connect x rwnd port host)) :: l) e l
      { e with objs := e.objs ++ [newObj e.opts x rwnd host port], flows := Mux.insert e.flows x (.established e.objs.length) } [] []) ∧
    (e.outClosed = false → Sim x j (.msg (.frame (.connect x rwnd port host)) :: l) e l
      (EP.enqFrame { e with objs := e.objs ++ [newObj e.opts x rwnd host port], flows := Mux.insert e.flows x (.established e.objs.length) }
        (.acknowledge x e.opts.rwnd)) [] []) := by
  have hnew : ∀ e' : EP,
      view x j e' l = { view x j e (.msg (.frame (.connect x rwnd port host)) :: l) with
        inbox := l, slot := some (.established e.objs.length), len := e.objs.length + 1,
        nobj := e.objs.countP (fun o => o.fid == x) + 1, canJ := e.objs.length == j,
        nw := e.objs.countP (fun o => o.fid == x && !o.finishSent) + 1,
        rxJ := rxOpenJ j e.objs || e.objs.length == j,
        outq := if e.outClosed then e.outq else e.outq ++ [.frame (.acknowledge x e.opts.rwnd)] } →
      Sim x j (.msg (.frame (.connect x rwnd port host)) :: l) e l e' [] [] := fun e' hv =>
    Sim.one (AStep.connNew (view x j e (_ :: l)) _ l e.opts.rwnd rfl (by simp [isConn]) hfree) hv rfl rfl
  have hcan := canAccF_newSelf (x := x) (j := j) e.flows e.objs (newObj e.opts x rwnd host port) rfl rfl
  have hnw := nw_append_new (x := x) e.objs (newObj e.opts x rwnd host port) rfl rfl
  have hrx := rxOpenJ_append_new (j := j) e.objs (newObj e.opts x rwnd host port) rfl
  refine ⟨fun hoc => hnew _ ?_, fun hoc => hnew _ ?_⟩
  · simp [view, canAcc, hcan, hnw, hrx, hoc, lookup_insert_self, List.countP_append, bindHeld]
  · simp [view, canAcc, hcan, hnw, hrx, EP.enqFrame, EP.enq, hoc, lookup_insert_self, List.countP_append, bindHeld]

theorem Sim.ackOld {l : List WsIn} (e : EP) (n : Nat) (h : ∀ q, lookup e.flows x ≠ some (.requested q)) :
    Sim x j (.msg (.frame (.acknowledge x n)) :: l) e l e [] [] :=
  Sim.one (AStep.ackOld (view x j e (_ :: l)) _ l rfl (by simp [isAck]) h) rfl rfl rfl

theorem Sim.ackNew {l : List WsIn} (e : EP) (n req : Nat) (hl : lookup e.flows x = some (.requested req)) :
    Sim x j (.msg (.frame (.acknowledge x n)) :: l) e l
      { e with objs := e.objs ++ [newObj e.opts x n [] 0], flows := Mux.insert e.flows x (.established e.objs.length) } [] [] := by
  have hcan := canAccF_newSelf (x := x) (j := j) e.flows e.objs (newObj e.opts x n [] 0) rfl rfl
  have hnw := nw_append_new (x := x) e.objs (newObj e.opts x n [] 0) rfl rfl
  have hrx := rxOpenJ_append_new (j := j) e.objs (newObj e.opts x n [] 0) rfl
  refine Sim.one (AStep.ackNew (view x j e (_ :: l)) _ l req rfl (by simp [isAck]) hl) ?_ rfl rfl
  simp [view, canAcc, hcan, hnw, hrx, lookup_insert_self, List.countP_append, bindHeld]

theorem Sim.pushRej {l : List WsIn} (e : EP) (d : Bytes) (hc : canAcc x j e = false) :
    Sim x j (.msg (.frame (.push x d)) :: l) e l e [] [] := by
  refine Sim.one (AStep.pushRej (view x j e (_ :: l)) d l (lookup e.flows x) rfl (Or.inl ⟨rfl, hc⟩)) ?_ rfl rfl
  simp [view, hc]

theorem Sim.popBind {l : List WsIn} (e : EP) (bt : BindType) (port : Nat) (host : Bytes) (b : Bool) (e' : EP)
    (hb : bindHeld x e = true → b = true)
    (hv : view x j e' l = { view x j e (.msg (.frame (.bind x bt port host)) :: l) with inbox := l, bh := b }) :
    Sim x j (.msg (.frame (.bind x bt port host)) :: l) e l e' [] [] :=
  Sim.one (AStep.popBind (view x j e (_ :: l)) _ l b rfl (by simp [isBind]) hb) hv rfl rfl

theorem Sim.popFin {l : List WsIn} (e : EP) (s : Option Slot) (e' : EP)
    (hs : (∃ i, lookup e.flows x = some (.established i) ∧ s = lookup e.flows x) ∨
      ((∀ i, lookup e.flows x ≠ some (.established i)) ∧ s = none))
    (hv : view x j e' l = { view x j e (.msg (.frame (.finish x)) :: l) with inbox := l, slot := s, canJ := false }) :
    SimX x j (.msg (.frame (.finish x)) :: l) e l e' [] []
      (if lookup e.flows x = some (.established j) then [.fin] else []) :=
  SimX.one (AStep.popFin (view x j e (_ :: l)) l s rfl hs) hv rfl rfl rfl

theorem finsOf_push_ends (e : EP) (fid : Nat) (d : Bytes) : finsOf x j (processFrameEnds e (.push fid d)) = [] := by
  simp only [processFrameEnds]; split <;> first | rfl | exact finsOf_closeFlowEnds_ne _ _ _ (by intro h; cases h)

theorem Sim.processFrame {l : List WsIn} (e : EP) (f : Frame) (ig : Bool) (hsf : SF e)
    (hj : J x j (processFrame e f ig).1) :
    SimX x j (.msg (.frame f) :: l) e l (processFrame e f ig).1 (processFrame e f ig).2.1 (acceptedInto e f)
      (finsOf x j (processFrameEnds e f)) := by
  have hje : J x j e := hj.back (Grow.processFrame e f ig)
  fun_cases Mux.processFrame e f ig
  -- Connect: duplicate id, queue closed, nobody accepts, offered
  case case1 fid rwnd port host h1 =>
    refine Sim.toX ?_
    by_cases hx : fid = x
    · subst hx
      exact (Sim.one (AStep.connRej (view fid j e (_ :: l)) _ l rfl (by simp [isConn])) rfl rfl rfl :
        Sim fid j (.msg (.frame (.connect fid rwnd port host)) :: l) e l e [] []).tr (Sim.enqFrame _ _ rfl rfl rfl)
    · exact (Sim.popOther e _ hx).tr (Sim.enqFrame _ _ rfl rfl rfl)
  case case2 fid rwnd port host h1 _ _ hoc =>
    refine Sim.toX ?_
    have hfree := lookup_free h1
    by_cases hx : fid = x
    · subst hx; exact (Sim.connectSelf e rwnd port host hfree).1 hoc
    · exact (Sim.popOther e _ hx).tr (Sim.newOther e fid _ hsf hx rfl (J.ne_len_connect h1 hx hj))
  case case3 fid rwnd port host h1 _ _ hoc _ hm =>
    refine Sim.toX ?_
    have hfree := lookup_free h1
    have hoc' : e.outClosed = false := by simpa using hoc
    by_cases hx : fid = x
    · subst hx
      exact (((Sim.connectSelf e rwnd port host hfree).2 hoc').tr (Sim.modObj _ e.objs.length (fun o => { o with rxOpen := false })
        (by sim_side) (by sim_side))).tr (Sim.same rfl rfl rfl)
    · exact ((((Sim.popOther e _ hx).tr (Sim.newOther e fid _ hsf hx rfl (J.ne_len_connect h1 hx hj))).tr
        (Sim.enqFrame _ (.acknowledge fid e.opts.rwnd) rfl (by simp [isAck, hx]) rfl)).tr
        (Sim.modObj _ e.objs.length (fun o => { o with rxOpen := false }) (by sim_side) (by sim_side))).tr
        (Sim.same rfl rfl rfl)
  case case4 fid rwnd port host h1 _ _ hoc _ hm =>
    refine Sim.toX ?_
    have hfree := lookup_free h1
    have hoc' : e.outClosed = false := by simpa using hoc
    by_cases hx : fid = x
    · subst hx; exact ((Sim.connectSelf e rwnd port host hfree).2 hoc').tr (Sim.offerAccept _ _)
    · exact (((Sim.popOther e _ hx).tr (Sim.newOther e fid _ hsf hx rfl (J.ne_len_connect h1 hx hj))).tr
        (Sim.enqFrame _ (.acknowledge fid e.opts.rwnd) rfl (by simp [isAck, hx]) rfl)).tr (Sim.offerAccept _ _)
  -- Acknowledge: established, requested (caller waits / abandoned), bind slot, none
  case case5 fid n i hl =>
    refine (Sim.toX ?_).rec rfl
    by_cases hx : fid = x
    · subst hx
      exact (Sim.ackOld e n (by intro q h; rw [hl] at h; cases h)).tr (Sim.modObj _ _ _ (by sim_side) (by sim_side))
    · exact (Sim.popOther e _ hx).tr (Sim.modObj _ _ _ (by sim_side) (by sim_side))
  case case6 fid n req hl _ _ _ _ =>
    refine (Sim.toX ?_).rec rfl
    by_cases hx : fid = x
    · subst hx; exact (Sim.ackNew e n req hl).tr (Sim.same rfl rfl rfl)
    · exact ((Sim.popOther e _ hx).tr (Sim.newOther e fid _ hsf hx rfl (J.ne_len_ack hl hx hj))).tr (Sim.same rfl rfl rfl)
  case case7 fid n req hl _ _ _ =>
    refine (Sim.toX ?_).rec rfl
    by_cases hx : fid = x
    · subst hx
      exact ((Sim.ackNew e n req hl).tr (Sim.modObj _ e.objs.length (fun o => { o with rxOpen := false }) (by sim_side)
        (by sim_side))).tr (Sim.same rfl rfl rfl)
    · exact (((Sim.popOther e _ hx).tr (Sim.newOther e fid _ hsf hx rfl (J.ne_len_ack hl hx hj))).tr
        (Sim.modObj _ e.objs.length (fun o => { o with rxOpen := false }) (by sim_side) (by sim_side))).tr
        (Sim.same rfl rfl rfl)
  case case8 fid n req hl | case9 fid n hl =>
    refine (Sim.toX ?_).rec rfl
    by_cases hx : fid = x
    · subst hx
      exact (Sim.ackOld e n (by intro q h; rw [hl] at h; cases h)).tr (Sim.enqFrame _ _ rfl rfl rfl)
    · exact (Sim.popOther e _ hx).tr (Sim.enqFrame _ _ rfl rfl rfl)
  -- Finish: none, bind slot, requested, established
  case case10 fid hl =>
    simp only [acceptedInto, processFrameEnds]
    by_cases hx : fid = x
    · subst hx
      refine ((Sim.popFin e none e (Or.inr ⟨(by intro i h; rw [hl] at h; cases h), rfl⟩)
        (by simp [view, canAcc, canAccF, hl])).trans (Sim.enqFrame e (.reset fid) rfl rfl rfl).toX).lbl rfl rfl ?_
      simp [closeFlowEnds, hl]
    · refine (Sim.toX ?_).rec (finsOf_closeFlowEnds_ne _ _ _ (by intro h; cases h; exact hx rfl))
      exact (Sim.popOther e _ hx).tr (Sim.enqFrame _ _ rfl rfl rfl (by simp [isFin]))
  case case11 fid req hl =>
    simp only [acceptedInto, processFrameEnds]
    by_cases hx : fid = x
    · subst hx
      refine (Sim.popFin e none _ (Or.inr ⟨(by intro i h; rw [hl] at h; cases h), rfl⟩)
        (by simp [view, canAcc, canAccF, lookup_erase_self, bindHeld])).lbl rfl rfl ?_
      simp [closeFlowEnds, hl, slotEnds]
    · refine (Sim.toX ?_).rec (finsOf_closeFlowEnds_ne _ _ _ (by intro h; cases h; exact hx rfl))
      exact ((Sim.popOther e _ hx).tr (Sim.erase e fid)).lbl rfl rfl
  case case12 fid req hl =>
    simp only [acceptedInto, processFrameEnds]
    by_cases hx : fid = x
    · subst hx
      have hv : view fid j { e with flows := Mux.erase e.flows fid, opens := e.opens.filter (·.req ≠ req) } l =
          { view fid j e (.msg (.frame (.finish fid)) :: l) with inbox := l, slot := none, canJ := false } := by
        simp [view, canAcc, canAccF, lookup_erase_self, bindHeld]
      refine ((Sim.popFin e none _ (Or.inr ⟨(by intro i h; rw [hl] at h; cases h), rfl⟩) hv).trans
        (Sim.enqFrame _ (.reset fid) rfl rfl rfl).toX).lbl ?_ rfl ?_
      · split <;> rfl
      · simp [closeFlowEnds, hl, slotEnds]
    · refine (Sim.toX ?_).rec (finsOf_closeFlowEnds_ne _ _ _ (by intro h; cases h; exact hx rfl))
      have g1 : Sim x j l e l { e with flows := Mux.erase e.flows fid, opens := e.opens.filter (·.req ≠ req) } [] [] :=
        (Sim.erase e fid).congr rfl rfl
      refine (((Sim.popOther e _ hx).tr g1).tr (Sim.enqFrame _ (.reset fid) rfl rfl rfl)).lbl ?_ rfl
      split <;> rfl
  case case13 fid i hl =>
    simp only [acceptedInto, processFrameEnds]
    by_cases hx : fid = x
    · subst hx
      have hi : i < e.objs.length := hsf.lt fid i hl
      have hv : view fid j (e.modObj i (fun o => { o with senderAlive := false })) l =
          { view fid j e (.msg (.frame (.finish fid)) :: l) with inbox := l, slot := lookup e.flows fid, canJ := false } := by
        have h1 : canAccF fid j e.flows (e.objs.modify i (fun o => { o with senderAlive := false })) = false := by
          simp only [canAccF, hl, List.getElem?_modify]
          by_cases hij : i = j
          · subst hij; cases e.objs[i]? <;> simp
          · simp [hij]
        have h2 : rxOpenJ j (e.objs.modify i (fun o => { o with senderAlive := false })) = rxOpenJ j e.objs :=
          rxOpenJ_modify_eq _ _ _ fun _ => rfl
        simp [view, canAcc, h1, h2, EP.modObj, setObj, countP_modify_of_eq, bindHeld, hl]
      refine (Sim.popFin e _ _ (Or.inl ⟨i, hl, rfl⟩) hv).lbl rfl rfl ?_
      simp only [closeFlowEnds, hl, slotEnds, hi, if_true, finsOf]
      by_cases hij : i = j
      · subst hij; simp
      · have : ¬ (Slot.established i = Slot.established j) := by intro h; cases h; exact hij rfl
        simp [hij, this]
    · refine (Sim.toX ?_).rec (finsOf_closeFlowEnds_ne _ _ _ (by intro h; cases h; exact hx rfl))
      refine (Sim.popOther e _ hx).tr (Sim.modObjG _ _ _ (by sim_side)
        (by intro o; exact ⟨(by intro h; cases h), fun h => h, fun h => h⟩) ?_)
      intro _ hij
      subst hij
      exact absurd (hsf.noForeign hje fid hl) hx
  -- Reset
  case case14 fid _ _ hcf =>
    refine (Sim.toX ?_).rec (finsOf_closeFlowEnds_ne _ _ _ (by intro h; cases h))
    have := (Sim.popFrame (l := l) e (.reset fid) (by simp [isConn, isAck, isPush, isFin, isBind])).tr0 (Sim.closeFlow e fid true hsf hje)
    rw [hcf] at this; exact this
  -- Push: no object, sender gone, receiver closed, accepted, overrun, other slot
  case case15 fid d i hl ho =>
    have hL : acceptedInto e (.push fid d) = [] := by simp [acceptedInto, hl, ho]
    rw [hL]; refine (Sim.toX ?_).rec (finsOf_push_ends ..)
    by_cases hx : fid = x
    · subst hx
      refine Sim.pushRej e d ?_
      simp only [canAcc, canAccF, hl]
      by_cases hij : i = j
      · subst hij; simp only [EP.obj?] at ho; simp [ho]
      · simp [hij]
    · exact Sim.popOther e _ hx
  case case16 fid d i hl o ho h1 =>
    have ho' : e.objs[i]? = some o := ho
    have h1' : o.senderAlive = false := by simpa using h1
    have hL : acceptedInto e (.push fid d) = [] := by simp [acceptedInto, hl, ho, h1']
    rw [hL]; refine (Sim.toX ?_).rec (finsOf_push_ends ..)
    by_cases hx : fid = x
    · subst hx
      refine (Sim.pushRej e d ?_).tr (Sim.enqFrame _ _ rfl rfl rfl)
      simp only [canAcc, canAccF, hl]
      by_cases hij : i = j
      · subst hij; simp [ho', h1']
      · simp [hij]
    · exact (Sim.popOther e _ hx).tr (Sim.enqFrame _ _ rfl rfl (by simp [isPush]))
  case case17 fid d i hl o ho h1 h2 =>
    have ho' : e.objs[i]? = some o := ho
    have h2' : o.rxOpen = false := by simpa using h2
    have hL : acceptedInto e (.push fid d) = [] := by simp [acceptedInto, hl, ho, h2']
    rw [hL]; refine (Sim.toX ?_).rec (finsOf_push_ends ..)
    by_cases hx : fid = x
    · subst hx
      refine Sim.pushRej e d ?_
      simp only [canAcc, canAccF, hl]
      by_cases hij : i = j
      · subst hij; simp [ho', h2']
      · simp [hij]
    · exact Sim.popOther e _ hx
  case case18 fid d i hl o ho h1 h2 h3 =>
    have ho' : e.objs[i]? = some o := ho
    have h1' : o.senderAlive = true := by simpa using h1
    have h2' : o.rxOpen = true := by simpa using h2
    have hL : acceptedInto e (.push fid d) = [(i, d)] := by simp [acceptedInto, hl, ho, h1', h2', h3]
    rw [hL]; refine (Sim.toX ?_).rec (finsOf_push_ends ..)
    by_cases hx : fid = x
    · subst hx
      by_cases hij : i = j
      · subst hij
        have hc : canAcc fid i e = true := by simp [canAcc, canAccF, hl, ho', h1', h2']
        have g : Sim fid i (.msg (.frame (.push fid d)) :: l) e l e [] [(i, d)] :=
          Sim.one (AStep.pushAcc (view fid i e (_ :: l)) d l rfl hc) rfl rfl (Log.dataOf_single_self i d)
        exact g.tr1 (Sim.modObj _ _ _ (by sim_side) (by sim_side))
      · have hc : canAcc fid j e = false := by simp [canAcc, canAccF, hl, hij]
        exact ((Sim.pushRej e d hc).tr (Sim.modObj _ _ _ (by sim_side) (by sim_side))).lbl rfl
          (by rw [Log.dataOf_single_ne _ _ _ hij]; rfl)
    · have hij : i ≠ j := fun h => hx (hsf.noForeign hje fid (h ▸ hl))
      exact ((Sim.popOther e _ hx).tr (Sim.modObj _ _ _ (by sim_side) (by sim_side))).lbl rfl
        (by rw [Log.dataOf_single_ne _ _ _ hij]; rfl)
  case case19 fid d i hl o ho h1 h2 h3 e' evs hcf =>
    have h1' : o.senderAlive = true := by simpa using h1
    have h2' : o.rxOpen = true := by simpa using h2
    have hL : acceptedInto e (.push fid d) = [] := by simp [acceptedInto, hl, ho, h1', h2', h3]
    rw [hL]; refine (Sim.toX ?_).rec (finsOf_push_ends ..)
    by_cases hx : fid = x
    · subst hx
      have g : Sim fid j (.msg (.frame (.push fid d)) :: l) e l { e with flows := Mux.erase e.flows fid } [] [] := by
        refine Sim.one (AStep.pushRej (view fid j e (_ :: l)) d l none rfl (Or.inr rfl)) ?_ rfl rfl
        simp [view, canAcc, canAccF, lookup_erase_self, bindHeld]
      have := g.tr0 (Sim.closeLocal _ (.established i) fid false false
        (by intro hc; rw [canAcc_of_none _ (lookup_erase_self _ _)] at hc; cases hc))
      unfold Mux.closeFlow at hcf
      simp only [hl] at hcf
      rw [hcf] at this; exact this
    · have := (Sim.popOther (l := l) e (.push fid d) hx).tr0 (Sim.closeFlow e fid false hsf hje)
      rw [hcf] at this; exact this
  case case20 fid d hne =>
    have hL : acceptedInto e (.push fid d) = [] := by
      simp only [acceptedInto]
    rw [hL]; refine (Sim.toX ?_).rec (finsOf_push_ends ..)
    by_cases hx : fid = x
    · subst hx
      refine (Sim.pushRej e d ?_).tr (Sim.enqFrame _ _ rfl rfl rfl)
      unfold canAcc canAccF; split
      · rename_i i hl; exact (hne i hl).elim
      · rfl
    · exact (Sim.popOther e _ hx).tr (Sim.enqFrame _ _ rfl rfl (by simp [isPush]))
  -- Bind: cap 0, ignored, mux gone, offered
  case case21 fid bt port host _ | case23 fid bt port host _ _ _ =>
    refine (Sim.toX ?_).rec rfl
    by_cases hx : fid = x
    · subst hx; exact (Sim.popBind e bt port host (bindHeld fid e) e (fun h => h) rfl).tr (Sim.enqFrame _ _ rfl rfl rfl)
    · exact (Sim.popOther e _ hx).tr (Sim.enqFrame _ _ rfl rfl rfl)
  case case22 fid bt port host _ _ =>
    refine (Sim.toX ?_).rec rfl
    by_cases hx : fid = x
    · subst hx; exact Sim.popBind e bt port host (bindHeld fid e) e (fun h => h) rfl
    · exact Sim.popOther e _ hx
  case case24 fid bt port host _ _ _ =>
    refine (Sim.toX ?_).rec rfl
    by_cases hx : fid = x
    · subst hx
      refine Sim.popBind e bt port host true _ (fun _ => rfl) ?_
      unfold Mux.offerBind
      split <;> simp [view, canAcc, bindHeld]
    · exact (Sim.popOther e _ hx).tr (Sim.offerBind _ _ hx)
  -- Datagram
  case case25 | case27 => exact ((Sim.popFrame e _ (by simp [isConn, isAck, isPush, isFin, isBind])).toX).rec rfl
  case case26 => exact (((Sim.popFrame e _ (by simp [isConn, isAck, isPush, isFin, isBind])).tr (Sim.same rfl rfl rfl)).toX).rec rfl

end Penguin.PairAll
