/-
Every small step of the pair of views (`CStepL`, `Lemmas/PairAllAbs.lean`) changes the numeric summary
(`sm`, `Lemmas/PairAllCore.lean`) in one of the six ways `SStepL` — so the id-discipline invariant
`CoreS` holds along every sequence of small steps in which the scripts do not run out.
Core Lean only.
-/
import Penguin.Lemmas.PairAllCore

namespace Penguin.PairAll
open Penguin.Mux

variable {x j : Nat}

-- the same `simp` call closes goals of several shapes below
set_option linter.unusedSimpArgs false

theorem cC_append (x : Nat) (a b : List Msg) : cC x (a ++ b) = cC x a + cC x b := by simp [cC]
theorem cAP_append (x : Nat) (a b : List Msg) : cAP x (a ++ b) = cAP x a + cAP x b := by simp [cAP]
theorem cB_append (x : Nat) (a b : List Msg) : cB x (a ++ b) = cB x a + cB x b := by simp [cB]
theorem cC_cons (x : Nat) (m : Msg) (r : List Msg) : cC x (m :: r) = cC x r + (if isConn x m then 1 else 0) := by
  simp [cC, List.countP_cons]
theorem cAP_cons (x : Nat) (m : Msg) (r : List Msg) : cAP x (m :: r) = cAP x r + (if isAP x m then 1 else 0) := by
  simp [cAP, List.countP_cons]
theorem cB_cons (x : Nat) (m : Msg) (r : List Msg) : cB x (m :: r) = cB x r + (if isBind x m then 1 else 0) := by
  simp [cB, List.countP_cons]
@[simp] theorem cC_nil (x : Nat) : cC x [] = 0 := rfl
@[simp] theorem cAP_nil (x : Nat) : cAP x [] = 0 := rfl
@[simp] theorem cB_nil (x : Nat) : cB x [] = 0 := rfl

theorem inMsgs_cons_msg (m : Msg) (r : List WsIn) : inMsgs (.msg m :: r) = m :: inMsgs r := rfl

theorem cC_inMsgs_cons (x : Nat) (w : WsIn) (r : List WsIn) :
    cC x (inMsgs (w :: r)) = cC x (inMsgs r) + (match w with | .msg m => if isConn x m then 1 else 0 | _ => 0) := by
  cases w <;> simp [inMsgs, cC_cons]
theorem cAP_inMsgs_cons (x : Nat) (w : WsIn) (r : List WsIn) :
    cAP x (inMsgs (w :: r)) = cAP x (inMsgs r) + (match w with | .msg m => if isAP x m then 1 else 0 | _ => 0) := by
  cases w <;> simp [inMsgs, cAP_cons]
theorem cB_inMsgs_cons (x : Nat) (w : WsIn) (r : List WsIn) :
    cB x (inMsgs (w :: r)) = cB x (inMsgs r) + (match w with | .msg m => if isBind x m then 1 else 0 | _ => 0) := by
  cases w <;> simp [inMsgs, cB_cons]

macro "sm_unfold" : tactic =>
  `(tactic| simp only [sm, PC.path, PC.swap, cC_append, cAP_append, cB_append, cC_cons, cAP_cons, cB_cons, cC_nil, cAP_nil,
      cB_nil, inMsgs_append, inMsgs_cons_msg, cC_inMsgs_cons, cAP_inMsgs_cons, cB_inMsgs_cons])

theorem sk_none : sk none = 0 := rfl

/-- A slot that stayed or was released: `SStepL.shrink`'s clause about the slot. -/
theorem sk_of_kept {s s0 : Option Slot} (hs : s = s0 ∨ s = none) : sk s = sk s0 ∨ sk s = 0 :=
  hs.imp (congrArg sk) fun h => by rw [h]; rfl

theorem b2n_le (b : Bool) : b2n b ≤ 1 := by cases b <;> simp [b2n]
theorem b2n_mono {a b : Bool} (h : a = true → b = true) : b2n a ≤ b2n b := by
  cases a <;> cases b <;> simp_all [b2n]

/-- Close the sixteen numeric side goals of an `SStepL` constructor. -/
macro "sm_fin" "[" ts:Lean.Parser.Tactic.simpLemma,* "]" : tactic =>
  `(tactic| ((try simp [cC_inMsgs_cons, cAP_inMsgs_cons, cB_inMsgs_cons, cC_append, cAP_append, cB_append, cC_cons, cAP_cons,
        cB_cons, inMsgs, b2n, sk, $ts,*]) <;> (try split) <;> (try omega)))

theorem sm_act {c : PC} {v : View} {ws : List Msg} {acc : List Bytes} {xl : List XL} (h : AStep x j c.a v ws acc xl)
    (hn : v.rngNil = false) :
    SStepL (sm x c) (sm x { c with a := v, ab := if c.abOpen then c.ab ++ ws else c.ab }) := by
  -- both summaries are unfolded once, before the step's sixteen side goals are split off
  cases h with
  | emit m r h =>
    cases c.abOpen <;> simp only [Bool.false_eq_true, if_true, if_false, sm, PC.path, PC.swap, h] <;> sm_unfold <;>
      apply SStepL.shrink <;> sm_fin []
  | sendClose =>
    cases c.abOpen <;> simp only [Bool.false_eq_true, if_true, if_false] <;> sm_unfold <;>
      apply SStepL.shrink <;> sm_fin [isConn, isAP, isAck, isPush, isBind]
  | enq m hc h1 h3 h4 h5 h2 =>
    simp only [List.append_nil, ite_self]
    by_cases hak : isAck x m = true
    · have hap : isAP x m = true := by simp [isAP, hak]
      apply SStepL.enqAP _ _ false (by simpa [sm] using h2 hak) <;> sm_unfold <;> sm_fin [h1, hap, h5]
    · have hap : isAP x m = false := by simp [isAP, hak, h3]
      sm_unfold
      apply SStepL.shrink <;> sm_fin [h1, hap, h5]
  | enqPush d hc hw =>
    simp only [List.append_nil, ite_self]
    apply SStepL.enqAP _ _ true (by simpa [sm] using hw) <;> sm_unfold <;> sm_fin [isConn, isAP, isAck, isPush, isBind]
  | enqFinS | enqFinB =>
    simp only [List.append_nil, ite_self]; sm_unfold
    apply SStepL.shrink <;> sm_fin [isConn, isAP, isAck, isPush, isBind]
  | rng k n hc hn' =>
    simp only [List.append_nil, ite_self]; sm_unfold
    apply SStepL.shrink <;> sm_fin [hc]
  | draw k n s m hc hn' hd hs ho hk' =>
    have hk : k < c.a.cnt := draw_lt hd hn
    simp only [List.append_nil, ite_self]; sm_unfold
    rcases hk' with ⟨q, rfl, hm⟩ | ⟨q, rfl, hm⟩
    · obtain ⟨k1, k2⟩ := isConn_kinds hm
      apply SStepL.draw _ _ false <;> sm_fin [hk, hs, hm, k1, k2]
    · obtain ⟨k1, k2⟩ := isBind_kinds hm
      apply SStepL.draw _ _ true <;> sm_fin [hk, hs, hm, k1, k2]
  | pop w r h hw =>
    simp only [List.append_nil, ite_self, sm, PC.path, PC.swap, h]; sm_unfold
    apply SStepL.shrink <;> (try simp)
    all_goals
      cases w with
      | msg m => obtain ⟨q1, q2, q3, q4, q5⟩ := hw m rfl; simp [q1, isAP, q2, q3, q5]
      | _ => simp
  | popFin r s h hs =>
    simp only [List.append_nil, ite_self, sm, PC.path, PC.swap, h]; sm_unfold
    apply SStepL.shrink <;> (try simp [isConn, isAP, isAck, isPush, isBind]) <;> (try omega)
    all_goals exact sk_of_kept (hs.imp (fun ⟨_, _, h2⟩ => h2) And.right)
  | popBind m r b h hm hb =>
    obtain ⟨k1, k2⟩ := isBind_kinds hm
    have hb1 := b2n_mono hb
    have hb2 := b2n_le b
    simp only [List.append_nil, ite_self, sm, PC.path, PC.swap, h]; sm_unfold
    apply SStepL.popBind <;> (try simp [hm, k1, k2]) <;> (try omega)
    all_goals exact ⟨hb1, hb2⟩
  | degrade s k w b rx hs hk hkeep hw hb hr =>
    have hb1 := b2n_mono hb
    simp only [List.append_nil, ite_self]; sm_unfold
    apply SStepL.shrink <;> (try simp) <;> (try omega) <;> (try exact hb1)
    all_goals exact sk_of_kept hs
  | connRej _ _ h | ackOld _ _ h | pushAcc _ _ h =>
    simp only [List.append_nil, ite_self, sm, PC.path, PC.swap, h]; sm_unfold
    apply SStepL.shrink <;> (try simp) <;> (try omega)
  | connNew m r n h hm hs =>
    obtain ⟨k1, k2⟩ := isConn_kinds hm
    simp only [List.append_nil, ite_self, sm, PC.path, PC.swap, h]; sm_unfold
    apply SStepL.connNew <;> (try simp [hm, k1, k2, hs, sk, sk_none]) <;>
      (try split) <;> (try simp [cC_append, cAP_append, cB_append, cC_cons, cAP_cons, cB_cons, isConn, isAP, isAck, isBind]) <;>
      (try omega)
  | ackNew m r q h hm hs =>
    obtain ⟨k1, k2, k3⟩ := isAck_kinds hm
    simp only [List.append_nil, ite_self, sm, PC.path, PC.swap, h]; sm_unfold
    apply SStepL.ackNew <;> (try simp [k1, k2, k3, hs, sk]) <;> (try omega)
  | pushRej d r s h hs =>
    simp only [List.append_nil, ite_self, sm, PC.path, PC.swap, h]; sm_unfold
    apply SStepL.shrink <;> (try simp) <;> (try omega)
    all_goals exact sk_of_kept (hs.imp And.left id)
  | grow | clearInbox | closeOut | clearOutq =>
    simp only [List.append_nil, ite_self]; sm_unfold
    apply SStepL.shrink <;> sm_fin []

theorem sm_stepL {c c' : PC} {ws : List Msg} {acc : List Bytes} {xl : List XL} (st : CStepL x j c c' ws acc xl)
    (hn : c'.a.rngNil = false) : SStepL (sm x c) (sm x c') := by
  cases st with
  | act v ws acc xl h => exact sm_act h hn
  | dlv m rest h hm =>
    cases deaf c.a <;> simp only [Bool.false_eq_true, if_true, if_false, sm, PC.path, PC.swap, h] <;> sm_unfold <;>
      apply SStepL.shrink <;> (try simp [inMsgs]) <;> (try omega)
  | dlvClose rest h =>
    cases deaf c.a <;> simp only [Bool.false_eq_true, if_true, if_false, sm, PC.path, PC.swap, h] <;> sm_unfold <;>
      apply SStepL.shrink <;> (try simp [inMsgs, isConn, isAP, isAck, isPush, isBind]) <;> (try omega)
  | cut w hw =>
    have hw' := inMsgs_end hw
    cases deaf c.a <;> simp only [Bool.false_eq_true, if_true, if_false, sm, PC.path, PC.swap, inMsgs_append, hw'] <;>
      sm_unfold <;> apply SStepL.shrink <;> (try simp) <;> (try omega)

end Penguin.PairAll
