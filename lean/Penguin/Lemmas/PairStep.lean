/-
Every action of the pair model preserves the invariant: the generic lemma for a step with a
footprint (`inv_of_eff`), the actions that concern no flow at all, `xmit`, and `open` (fresh → requested).
-/
import Penguin.Lemmas.PairInv

namespace Penguin.Pair
open Penguin.Mux

theorem Running.of_eff {Y : Nat → Prop} {e e' : EP} (s : Eff Y e e') (h : Running e) : Running e' :=
  ⟨by rw [s.outClosed]; exact h.outClosed, by rw [s.muxAlive]; exact h.muxAlive, by rw [s.dead]; exact h.dead,
   by rw [s.opts]; exact h.rwndPos, by rw [s.opts]; exact h.rwndU32⟩

/-- A step of endpoint `a` whose footprint is `Y` (and which may have consumed the head of the
    incoming path, a message of a flow in `Y`): it suffices to re-establish the phase of the flows
    in `Y`. -/
theorem inv_of_eff {p : PS} (h : InvCore p) {Y : Nat → Prop} {e' : EP} {g' : Ghost} {ba' : List Msg}
    (s : Eff Y p.a e')
    (hba : ba' = p.ba ∨ ∃ m, p.ba = m :: ba' ∧ ∀ y, Msg.flow? m = some y → Y y)
    (hg : ∀ x, ¬ Y x → GhostAgree x p.a p.ga g') (hgf : GhostFresh e' g')
    {lk' : List Nat} (hlk : ∀ x, ¬ Y x → x ∈ lk' → x ∈ p.linked)
    (hY : ∀ x, Y x → PhaseL x { p with a := e', ga := g', ba := ba', linked := lk' }) :
    InvCore { p with a := e', ga := g', ba := ba', linked := lk' } := by
  have hab : ∀ x, ¬ Y x → fl x (p.ab ++ e'.outq) = fl x (p.ab ++ p.a.outq) := by
    intro x hx
    obtain ⟨em, he, hm⟩ := s.outq
    rw [he, fl_append, fl_append, fl_append]
    rw [fl_other x em (fun m hm' y hy (hyx : y = x) => hx (hyx ▸ (hm m hm' y hy).1))]
    simp
  have hbaeq : ∀ x, ¬ Y x → fl x (ba' ++ p.b.outq) = fl x (p.ba ++ p.b.outq) := by
    intro x hx
    rcases hba with hba | ⟨m, hba, hm⟩
    · rw [hba]
    · rw [hba, List.cons_append, fl_cons, isFl_false_of (fun y hy (hyx : y = x) => hx (hyx ▸ hm y hy))]
      simp
  refine ⟨Running.of_eff s h.runA, h.runB, s.slotFid h.sfA, h.sfB, ?_, ?_, hgf, h.ghB, ?_, ?_⟩
  · exact h.nodup.sublist (List.Sublist.append s.rngSub (List.Sublist.refl _))
  · intro k hk
    apply h.nonzero k
    simp only [List.mem_append] at hk ⊢
    rcases hk with hk | hk
    · exact Or.inl (s.rngSub.subset hk)
    · exact Or.inr hk
  · intro x
    by_cases hx : Y x
    · exact (hY x hx).1
    · exact Phase.congr (p := p) (ev_eq_of_eff s x hx (hg x hx)) rfl (hab x hx) (hbaeq x hx) (h.phase x)
  · intro x hxl
    by_cases hx : Y x
    · exact (hY x hx).2 hxl
    · exact Linked.congr (p := p) (ev_eq_of_eff s x hx (hg x hx)) rfl (hab x hx) (hbaeq x hx) (h.live x (hlk x hx hxl))

theorem inv_of_silent {p : PS} (h : InvCore p) {e' : EP} (s : Eff (fun _ => False) p.a e') :
    InvCore { p with a := e' } := by
  have hgf : GhostFresh e' p.ga := fun k hk => h.ghA k (Nat.le_trans s.len hk)
  exact inv_of_eff (g' := p.ga) (ba' := p.ba) (lk' := p.linked) h s (Or.inl rfl) (fun x _ => GhostAgree.refl x _ _) hgf
    (fun _ _ hh => hh) (fun x hx => absurd hx id)

/-! ### Actions that concern no flow -/

theorem inv_cancelOpen {p : PS} (h : InvCore p) (req : Nat) :
    InvCore { p with a := { p.a with opens := p.a.opens.filter (·.req ≠ req) } } :=
  inv_of_silent h (Eff.silent rfl rfl rfl rfl rfl rfl rfl rfl rfl)

theorem inv_accept {p : PS} (h : InvCore p) : InvCore { p with a := (appAccept p.a).1 } :=
  inv_of_silent h (appAccept_eff _ _)

theorem inv_of_silent_g {p : PS} (h : InvCore p) {e' : EP} (s : Eff (fun _ => False) p.a e') (g' : Ghost)
    (hw : g'.wlog = p.ga.wlog) (hr : g'.rlog = p.ga.rlog) (he : g'.eof = p.ga.eof) :
    InvCore { p with a := e', ga := g' } := by
  have hgf : GhostFresh e' g' := fun k hk => by rw [hw, hr, he]; exact h.ghA k (Nat.le_trans s.len hk)
  exact inv_of_eff (g' := g') (ba' := p.ba) (lk' := p.linked) h s (Or.inl rfl) (fun x _ k _ => by rw [hw, hr, he]; exact ⟨rfl, rfl, rfl⟩) hgf
    (fun _ _ hh => hh) (fun x hx => absurd hx id)

theorem inv_sendDgram {p : PS} (h : InvCore p) (d : Dgram) :
    InvCore { p with a := (appSendDgram p.a d).1,
                     ga := match (appSendDgram p.a d).2 with
                           | .unit => { p.ga with dsent := p.ga.dsent ++ [d] }
                           | _ => p.ga } := by
  refine inv_of_silent_g h (appSendDgram_eff _ _ _) _ ?_ ?_ ?_ <;> (cases (appSendDgram p.a d).2 <;> rfl)

theorem inv_recvDgram {p : PS} (h : InvCore p) :
    InvCore { p with a := (appRecvDgram p.a).1,
                     ga := match (appRecvDgram p.a).2 with
                           | .dgram d => { p.ga with drecv := p.ga.drecv ++ [d] }
                           | _ => p.ga } := by
  refine inv_of_silent_g h (appRecvDgram_eff _ _) _ ?_ ?_ ?_ <;> (cases (appRecvDgram p.a).2 <;> rfl)

theorem inv_unpark {p : PS} (h : InvCore p) : InvCore { p with a := Mux.unpark p.a } :=
  inv_of_silent h (unpark_eff _ _ h.runA.muxAlive)

theorem inv_runDone {p : PS} (h : InvCore p) :
    InvCore { p with a := (Mux.runDone { p.a with doneq := [] } (p.a.doneq.foldr insertDone [])).1 } :=
  inv_of_silent h ((Eff.silent rfl rfl rfl rfl rfl rfl rfl rfl rfl : Eff _ p.a { p.a with doneq := [] }).trans
    (runDone_eff _ _ _))

/-- The send loop hands the oldest queued message to the transport: the path is unchanged. -/
theorem inv_xmit {p : PS} (h : InvCore p) (m : Msg) (rest : List Msg) (hq : p.a.outq = m :: rest) :
    InvCore { p with a := { p.a with outq := rest }, ab := p.ab ++ [m] } := by
  refine ⟨⟨h.runA.outClosed, h.runA.muxAlive, h.runA.dead, h.runA.rwndPos, h.runA.rwndU32⟩, h.runB,
    h.sfA, h.sfB, h.nodup, h.nonzero, h.ghA, h.ghB, ?_, ?_⟩
  · intro x
    refine Phase.congr (p := p) rfl rfl ?_ rfl (h.phase x)
    show fl x ((p.ab ++ [m]) ++ rest) = fl x (p.ab ++ p.a.outq)
    rw [hq]; simp
  · intro x hx
    refine Linked.congr (p := p) rfl rfl ?_ rfl (h.live x hx)
    show fl x ((p.ab ++ [m]) ++ rest) = fl x (p.ab ++ p.a.outq)
    rw [hq]; simp

theorem fresh_of_inRng_core {p : PS} (h : InvCore p) (x : Nat) (hx : x ∈ p.a.rng ∨ x ∈ p.b.rng) :
    Fresh x (ev x p.a p.ga) (ev x p.b p.gb) (fl x (pathAB p)) (fl x (pathBA p)) := by
  have hp := h.phase x
  have ha : (ev x p.a p.ga).inRng = (x ∈ p.a.rng) := rfl
  have hb : (ev x p.b p.gb).inRng = (x ∈ p.b.rng) := rfl
  rcases hp with f | r | r | r | r | r | r
  · exact f
  all_goals
    have h1 := r.ra
    have h2 := r.rb
    rw [ha] at *
    rw [hb] at *
    rcases hx with hx | hx <;> contradiction

theorem script_head {p : PS} (h : InvCore p) {y : Nat} {rest : List Nat} (hq : p.a.rng = y :: rest) :
    Fresh y (ev y p.a p.ga) (ev y p.b p.gb) (fl y (pathAB p)) (fl y (pathBA p)) ∧ y ≠ 0 ∧ y ∉ rest ∧ y ∉ p.b.rng := by
  have hy : y ∈ p.a.rng := by rw [hq]; simp
  refine ⟨fresh_of_inRng_core h y (Or.inl hy), h.nonzero y (List.mem_append_left _ hy), ?_⟩
  have hnd := h.nodup
  rw [hq] at hnd
  simp only [List.cons_append, List.nodup_cons, List.mem_append, not_or] at hnd
  exact hnd.1

/-- `new_stream_channel` starts (or retries): the drawn id goes from fresh to requested. -/
theorem inv_openRound {p : PS} (h : InvCore p) (r : OpenReq) (hne : (openRound p.a r).1.rng ≠ []) :
    InvCore { p with a := (openRound p.a r).1 } := by
  by_cases hr : r.retriesLeft = 0
  · have s0 : Eff (fun _ => False) p.a (openRound p.a r).1 := by
      unfold openRound; rw [if_pos hr]
      exact Eff.silent rfl rfl rfl rfl rfl rfl rfl rfl rfl
    exact inv_of_silent h s0
  cases hq : p.a.rng with
  | nil => exact absurd (openRound_rng_nil p.a r hq) hne
  | cons y rest =>
    obtain ⟨hfr, h0, hxr⟩ := script_head h hq
    have hfree : lookup p.a.flows y = none := hfr.sa
    have s := openRound_eff p.a r y rest hq h0 hfree h.runA.outClosed
    have hgf : GhostFresh (openRound p.a r).1 p.ga := fun k hk => h.ghA k (Nat.le_trans s.len hk)
    refine inv_of_eff (g' := p.ga) (ba' := p.ba) (lk' := p.linked) h s (Or.inl rfl) (fun x _ => GhostAgree.refl x _ _) hgf
      (fun _ _ hh => hh) ?_
    intro x hx
    subst hx
    refine ⟨?_, fun hxl => absurd (show x ∈ p.a.rng by rw [hq]; simp) (h.live x hxl).ra⟩
    · have hspec := openRound_spec p.a r x rest hq h0 hfree hr h.runA.outClosed
      apply Or.inr; apply Or.inl
      show Requested x (ev x (openRound p.a r).1 p.ga) (ev x p.b p.gb) (fl x (p.ab ++ (openRound p.a r).1.outq)) (fl x (pathBA p))
      rw [hspec]
      refine ⟨?_, hxr.2, h0, ⟨r.req, ?_⟩, hfr.sb, ⟨r.port, r.host, ?_⟩, hfr.fba, ?_, hfr.ob, ?_, hfr.db⟩
      · show ¬ x ∈ (EP.enqFrame _ _).rng
        simp [EP.enqFrame]; exact hxr.1
      · show lookup (EP.enqFrame _ _).flows x = _
        simp [EP.enqFrame, lookup_insert_self]
      · show fl x (p.ab ++ (EP.enqFrame _ _).outq) = _
        simp only [EP.enqFrame, enq_outq, h.runA.outClosed]
        have hf : fl x (p.ab ++ p.a.outq) = [] := hfr.fab
        have hc : fl x [Msg.frame (Frame.connect x p.a.opts.rwnd r.port r.host)] =
            [Msg.frame (Frame.connect x p.a.opts.rwnd r.port r.host)] := by
          simp [fl, isFl, Msg.flow?, Frame.id]
        simp only [Bool.false_eq_true, if_false]
        rw [← List.append_assoc, fl_append, hf, hc]
        simp [ev]
      · intro k
        show objView x (EP.enqFrame _ _) k = none
        exact (congrFun (objView_congr x (by simp [EP.enqFrame])) k).trans (hfr.oa k)
      · show ¬ x ∈ (EP.enqFrame _ _).droppedq
        simp [EP.enqFrame]; exact hfr.da

end Penguin.Pair
