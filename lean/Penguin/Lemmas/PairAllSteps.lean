/-
The view of one endpoint with respect to ONE flow id `x` and ONE stream-object index `j` as a type of its own, and
the small steps by which it can change.  The endpoint model does not occur here beyond the types of its messages,
transport items and slots (`Model/Mux.lean`); the abstract invariant (`Lemmas/PairAllAbs.lean` … `PairAllGood.lean`)
stands on this file alone, `Lemmas/PairAllView.lean` says which view an endpoint state has.

A `View` keeps what matters for "which `Push x` frames are accepted into object `j`, and which `Connect x` /
`Acknowledge x` / `Push x` / `Finish x` / `Bind x` frames are sent".  `AStep` lists the ways the view can change in one
atomic action, labelled with the messages handed to the transport, the payloads accepted into object `j`, and the
records `XL`; `Star` is its reflexive-transitive closure.

Adding a step to `AStep`: first see whether it is an instance of `degrade` (the view loses something: `Sim.modObjG`,
`Sim.flows` go through it).  Otherwise: the constructor; `sm_act` (`Lemmas/PairAllCoreStep.lean`: which of the six ways
`SStepL` the numeric summary moves; a seventh way means `CoreS.stepL`, `Sm.dead_stepL` in `Lemmas/PairAllCore.lean` and
`pot_SStepL` in `Lemmas/PairAllFinA.lean`); `AStep.deaf_mono` (`Lemmas/PairAllDir.lean`) if it writes the inbox or
`srcEnded`; `rngNil_mono_step` (`Lemmas/PairAllGood.lean`) if it writes `rngNil`; the four case distinctions `Dir.stepA`,
`Dir.actB`, `Fin.stepA`, `Fin.actB` (`Lemmas/PairAllDirA.lean` … `PairAllFinB.lean`); then the `Sim.f` that produces it.
Core Lean only.
-/
import Penguin.Model.Mux

namespace Penguin.PairAll
open Penguin.Mux

def isConn (x : Nat) : Msg → Bool
  | .frame (.connect f _ _ _) => f == x
  | _ => false

def isAck (x : Nat) : Msg → Bool
  | .frame (.acknowledge f _) => f == x
  | _ => false

def isPush (x : Nat) : Msg → Bool
  | .frame (.push f _) => f == x
  | _ => false

def isFin (x : Nat) : Msg → Bool
  | .frame (.finish f) => f == x
  | _ => false

def isBind (x : Nat) : Msg → Bool
  | .frame (.bind f _ _ _) => f == x
  | _ => false

/-- What a small step records beside what it sends and accepts: a payload queued as `Push x` by a write, or a
    `Finish x` processed while the slot of `x` is `Established j`. -/
inductive XL where
  | wrote (d : Bytes)
  | fin
deriving DecidableEq, Repr

def XL.wrotes : List XL → List Bytes
  | [] => []
  | .wrote d :: r => d :: XL.wrotes r
  | .fin :: r => XL.wrotes r

def XL.fins : List XL → Nat
  | [] => 0
  | .fin :: r => XL.fins r + 1
  | .wrote _ :: r => XL.fins r

theorem XL.wrotes_append (a b : List XL) : XL.wrotes (a ++ b) = XL.wrotes a ++ XL.wrotes b := by
  induction a with
  | nil => rfl
  | cons t r ih => cases t <;> simp [XL.wrotes, ih]

theorem XL.fins_append (a b : List XL) : XL.fins (a ++ b) = XL.fins a + XL.fins b := by
  induction a with
  | nil => simp [XL.fins]
  | cons t r ih => cases t <;> simp [XL.fins, ih] <;> omega

def pX (x : Nat) : List Msg → List Bytes
  | [] => []
  | .frame (.push f d) :: r => if f = x then d :: pX x r else pX x r
  | _ :: r => pX x r

def inMsgs : List WsIn → List Msg
  | [] => []
  | .msg m :: r => m :: inMsgs r
  | _ :: r => inMsgs r

def isEnd : WsIn → Bool
  | .eof => true
  | .err => true
  | _ => false

theorem pX_append (x : Nat) (a b : List Msg) : pX x (a ++ b) = pX x a ++ pX x b := by
  induction a with
  | nil => rfl
  | cons m r ih =>
    cases m with
    | frame f =>
      cases f <;> simp only [List.cons_append, pX, ih]
      split <;> simp
    | ping => simpa [pX] using ih
    | pong => simpa [pX] using ih
    | close => simpa [pX] using ih

theorem inMsgs_append (a b : List WsIn) : inMsgs (a ++ b) = inMsgs a ++ inMsgs b := by
  induction a with
  | nil => rfl
  | cons w r ih => cases w <;> simp [inMsgs, ih]

theorem inMsgs_sublist {l' l : List WsIn} (h : l'.Sublist l) : (inMsgs l').Sublist (inMsgs l) := by
  induction h with
  | slnil => exact List.Sublist.slnil
  | cons a _ ih => cases a <;> simp only [inMsgs] <;> first | exact ih | exact ih.cons _
  | cons_cons a _ ih => cases a <;> simp only [inMsgs] <;> first | exact ih | exact ih.cons_cons _

structure View where
  slot : Option Slot        -- the slot of `x` in the flow table
  nobj : Nat                -- how many stream objects carry the id `x`
  cnt : Nat                 -- how often `x` still occurs in the id script
  rngNil : Bool             -- the script is exhausted
  inbox : List WsIn
  outq : List Msg
  outClosed : Bool
  srcEnded : Bool
  canJ : Bool               -- `x`'s slot is `Established j`, object `j` has its `Sender` and an open `Receiver`
  len : Nat                 -- number of stream objects
  nw : Nat                  -- how many stream objects carrying `x` can still be written (`finishSent = false`)
  bh : Bool                 -- a bind request of the peer with id `x` is held (queued, parked or handed out)
  rxJ : Bool                -- object `j` exists and its `Receiver` is open

inductive AStep (x j : Nat) : View → View → List Msg → List Bytes → List XL → Prop
  /-- the send loop hands the oldest queued message to the transport -/
  | emit (v : View) (m : Msg) (r : List Msg) (h : v.outq = m :: r) : AStep x j v { v with outq := r } [m] [] []
  /-- the sink is closed (a WebSocket Close goes out) -/
  | sendClose (v : View) : AStep x j v v [.close] [] []
  /-- a message is queued that is neither `Connect x`, `Bind x`, `Finish x` nor `Push x`; an `Acknowledge x` only
      by an endpoint that has a stream object carrying `x` -/
  | enq (v : View) (m : Msg) (hc : v.outClosed = false) (h1 : isConn x m = false) (h3 : isPush x m = false)
      (h4 : isFin x m = false) (h5 : isBind x m = false) (h2 : isAck x m = true → 0 < v.nobj) :
      AStep x j v { v with outq := v.outq ++ [m] } [] [] []
  /-- a write queues a `Push x`: only through a stream object carrying `x` whose write side is open -/
  | enqPush (v : View) (d : Bytes) (hc : v.outClosed = false) (hw : 0 < v.nw) :
      AStep x j v { v with outq := v.outq ++ [.frame (.push x d)] } [] [] [.wrote d]
  /-- a stream object carrying `x` is shut down: its write side closes and a `Finish x` is queued -/
  | enqFinS (v : View) (hc : v.outClosed = false) (hw : 0 < v.nw) :
      AStep x j v { v with outq := v.outq ++ [.frame (.finish x)], nw := v.nw - 1 } [] [] []
  /-- a held bind request with id `x` is accepted: a `Finish x` is queued -/
  | enqFinB (v : View) (hc : v.outClosed = false) (hb : v.bh = true) :
      AStep x j v { v with outq := v.outq ++ [.frame (.finish x)] } [] [] []
  /-- ids are consumed from the script without `x` being drawn -/
  | rng (v : View) (c : Nat) (n : Bool) (hc : c ≤ v.cnt) (hn : v.rngNil = true → n = true) :
      AStep x j v { v with cnt := c, rngNil := n } [] [] []
  /-- `x` is drawn for a request: it leaves the script (or the script is exhausted), it had no slot, and
      either a stream is requested (`Connect x` queued) or a bind (`Bind x` queued) -/
  | draw (v : View) (c : Nat) (n : Bool) (s : Slot) (m : Msg) (hc : c ≤ v.cnt) (hn : v.rngNil = true → n = true)
      (hd : c < v.cnt ∨ n = true) (hs : v.slot = none) (ho : v.outClosed = false)
      (hk : (∃ q, s = .requested q ∧ isConn x m = true) ∨ (∃ q, s = .bindRequested q ∧ isBind x m = true)) :
      AStep x j v { v with cnt := c, rngNil := n, slot := some s, outq := v.outq ++ [m] } [] [] []
  /-- the receive loop (or the wind-down) takes an item that is not a `Connect x`, `Acknowledge x`, `Push x`,
      `Finish x`, `Bind x` -/
  | pop (v : View) (w : WsIn) (r : List WsIn) (h : v.inbox = w :: r)
      (hw : ∀ m, w = .msg m → isConn x m = false ∧ isAck x m = false ∧ isPush x m = false ∧ isFin x m = false ∧
        isBind x m = false) :
      AStep x j v { v with inbox := r, srcEnded := v.srcEnded || isEnd w } [] [] []
  /-- a `Finish x` is processed: an `Established` slot stays (its object loses its `Sender`), a pending slot is
      released; recorded if the slot is `Established j` -/
  | popFin (v : View) (r : List WsIn) (s : Option Slot) (h : v.inbox = .msg (.frame (.finish x)) :: r)
      (hs : (∃ i, v.slot = some (.established i) ∧ s = v.slot) ∨ ((∀ i, v.slot ≠ some (.established i)) ∧ s = none)) :
      AStep x j v { v with inbox := r, slot := s, canJ := false } [] []
        (if v.slot = some (.established j) then [.fin] else [])
  /-- a `Bind x` is processed: it may become a held bind request -/
  | popBind (v : View) (m : Msg) (r : List WsIn) (b : Bool) (h : v.inbox = .msg m :: r) (hm : isBind x m = true)
      (hb : v.bh = true → b = true) : AStep x j v { v with inbox := r, bh := b } [] [] []
  /-- the slot of `x` is released, object `j` stops accepting (only by losing the slot or closing its receiver),
      write sides close, held bind requests are forgotten.  Who reads which guard: `hs` the summary (`sm_act`) and both
      byte invariants; `hc` (`j` does not start accepting) `Dir.actB` and `Fin.degradeB`; `hk` (`j` keeps accepting while
      it has the slot and an open receiver) `Fin.degradeB` only; `hw` `sm_act` and `Fin.stepA`; `hb` `sm_act` only; `hr`
      `Fin.degradeB` only. -/
  | degrade (v : View) (s : Option Slot) (c : Bool) (w : Nat) (b rx : Bool) (hs : s = v.slot ∨ s = none)
      (hc : c = true → v.canJ = true ∧ s = v.slot) (hk : v.canJ = true → s = v.slot → rx = true → c = true)
      (hw : w ≤ v.nw) (hb : b = true → v.bh = true) (hr : rx = true → v.rxJ = true) :
      AStep x j v { v with slot := s, canJ := c, nw := w, bh := b, rxJ := rx } [] [] []
  /-- a `Connect x` is refused -/
  | connRej (v : View) (m : Msg) (r : List WsIn) (h : v.inbox = .msg m :: r) (hm : isConn x m = true) :
      AStep x j v { v with inbox := r } [] [] []
  /-- a `Connect x` creates a stream object (index `len`) and is acknowledged -/
  | connNew (v : View) (m : Msg) (r : List WsIn) (n : Nat) (h : v.inbox = .msg m :: r) (hm : isConn x m = true)
      (hs : v.slot = none) :
      AStep x j v { v with inbox := r, slot := some (.established v.len), len := v.len + 1, nobj := v.nobj + 1,
                           canJ := v.len == j, nw := v.nw + 1, rxJ := v.rxJ || v.len == j,
                           outq := if v.outClosed then v.outq else v.outq ++ [.frame (.acknowledge x n)] } [] [] []
  /-- an `Acknowledge x` answers this endpoint's request: a stream object (index `len`) is created -/
  | ackNew (v : View) (m : Msg) (r : List WsIn) (q : Nat) (h : v.inbox = .msg m :: r) (hm : isAck x m = true)
      (hs : v.slot = some (.requested q)) :
      AStep x j v { v with inbox := r, slot := some (.established v.len), len := v.len + 1, nobj := v.nobj + 1,
                           canJ := v.len == j, nw := v.nw + 1, rxJ := v.rxJ || v.len == j } [] [] []
  /-- any other `Acknowledge x` -/
  | ackOld (v : View) (m : Msg) (r : List WsIn) (h : v.inbox = .msg m :: r) (hm : isAck x m = true)
      (hs : ∀ q, v.slot ≠ some (.requested q)) : AStep x j v { v with inbox := r } [] [] []
  /-- a `Push x` is accepted into object `j` -/
  | pushAcc (v : View) (d : Bytes) (r : List WsIn) (h : v.inbox = .msg (.frame (.push x d)) :: r) (hc : v.canJ = true) :
      AStep x j v { v with inbox := r } [] [d] []
  /-- a `Push x` is not accepted into object `j`: `j` was not accepting, or its queue was full and the flow
      is closed -/
  | pushRej (v : View) (d : Bytes) (r : List WsIn) (s : Option Slot) (h : v.inbox = .msg (.frame (.push x d)) :: r)
      (hs : (s = v.slot ∧ v.canJ = false) ∨ s = none) :
      AStep x j v { v with inbox := r, slot := s, canJ := false } [] [] []
  /-- stream objects of other flows are created -/
  | grow (v : View) (n : Nat) (h : v.len ≤ n) : AStep x j v { v with len := n } [] [] []
  /-- the wind-down finishes: what the source still had is dropped, every slot is released -/
  | clearInbox (v : View) : AStep x j v { v with inbox := [], slot := none, canJ := false } [] [] []
  /-- the outbound queue is closed (what it holds is still sent) -/
  | closeOut (v : View) : AStep x j v { v with outClosed := true } [] [] []
  /-- the outbound queue is closed and what it held is dropped -/
  | clearOutq (v : View) : AStep x j v { v with outq := [], outClosed := true } [] [] []

inductive Star (x j : Nat) : View → View → List Msg → List Bytes → List XL → Prop
  | refl (v : View) : Star x j v v [] [] []
  | step {v v1 v2 : View} {w1 w2 : List Msg} {a1 a2 : List Bytes} {x1 x2 : List XL} :
      AStep x j v v1 w1 a1 x1 → Star x j v1 v2 w2 a2 x2 → Star x j v v2 (w1 ++ w2) (a1 ++ a2) (x1 ++ x2)

theorem Star.cast {x j : Nat} {v v' u' : View} {w w' : List Msg} {a a' : List Bytes} {t t' : List XL}
    (s : Star x j v v' w a t) (hv : u' = v') (hw : w' = w) (ha : a' = a) (ht : t' = t := by rfl) :
    Star x j v u' w' a' t' := by
  subst hv hw ha ht; exact s

theorem Star.single {x j : Nat} {v v' : View} {w : List Msg} {a : List Bytes} {t : List XL}
    (s : AStep x j v v' w a t) : Star x j v v' w a t :=
  (Star.step s (Star.refl v')).cast rfl (by simp) (by simp) (by simp)

theorem Star.trans {x j : Nat} {v v1 v2 : View} {w1 w2 : List Msg} {a1 a2 : List Bytes} {t1 t2 : List XL}
    (s : Star x j v v1 w1 a1 t1) (t : Star x j v1 v2 w2 a2 t2) : Star x j v v2 (w1 ++ w2) (a1 ++ a2) (t1 ++ t2) := by
  induction s with
  | refl v => exact t
  | step st _ ih => exact (Star.step st (ih t)).cast rfl (by simp) (by simp) (by simp)

end Penguin.PairAll
