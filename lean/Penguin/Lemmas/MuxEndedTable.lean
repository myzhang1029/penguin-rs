/-
The flow table of an ended connection is empty and stays empty — for every history of one endpoint
and ANY peer.

`Ended e`: once the task is winding down (parked in the drain loop, or waiting for the peer to end
the connection) or has finished, the outbound queue is closed; and once the task has finished the
flow table is empty.  The end of the wind-down clears the table (`windDownFinish`); afterwards the
task does nothing more, and the only application calls that would put a slot into the table —
`new_stream_channel` and `request_bind` — find the outbound queue closed and take the slot they had
inserted out again before they return `Closed` (`openRound_closed_flows`, `appBindReq_closed_flows`).

`Ended` is shown for the initial state and preserved by every function of the endpoint model, hence
by every stimulus and every history: `reachable_dead_table_empty`.  What the application's calls and the open
futures keep (`Still`) holds across every kind of primitive step but those of the wind-down and the peer's frames
(`Still.of_upd`; Lemmas/MuxTrace.lean).
Core Lean only.
-/
import Penguin.Lemmas.MuxMono
import Penguin.Lemmas.MuxWF

namespace Penguin.Mux

structure Ended (e : EP) : Prop where
  /-- winding down or finished: the outbound queue is closed -/
  closed : e.dead = true ∨ e.draining ≠ none ∨ e.closing ≠ none → e.outClosed = true
  empty : e.dead = true → e.flows = []

theorem Ended.of_running {e : EP} (hd : e.dead = false) (hc : e.closing = none) (hdr : e.draining = none) : Ended e :=
  ⟨fun h => by rcases h with h | h | h <;> simp_all, fun h => by rw [hd] at h; cases h⟩

theorem Ended.of_closed_aof {e' : EP} (hc : e'.outClosed = true) (h : AliveOrFinished e') : Ended e' := by
  refine ⟨fun _ => hc, ?_⟩
  rcases h with h | ⟨e0, res, rfl⟩
  · intro hd; rw [h] at hd; cases hd
  · exact fun _ => (windDownFinish_resolves e0 res).2.1

structure Flags (e e' : EP) : Prop where
  dead : e'.dead = e.dead
  draining : e'.draining = e.draining
  closing : e'.closing = e.closing
  outClosed : e'.outClosed = e.outClosed

theorem Flags.refl (e : EP) : Flags e e := ⟨rfl, rfl, rfl, rfl⟩
theorem Flags.trans {a b c : EP} (s : Flags a b) (t : Flags b c) : Flags a c :=
  ⟨by rw [t.dead, s.dead], by rw [t.draining, s.draining], by rw [t.closing, s.closing], by rw [t.outClosed, s.outClosed]⟩

def Flags.bad : Kinds := .of [.die, .draining, .closing, .closeOut]

theorem Flags.of_upd {k : Kind} {e e' : EP} {x : List Ev} (hk : k ∉ Flags.bad) (u : Upd k e x e') : Flags e e' :=
  ⟨u.frame .dead (Kinds.not_mem_of_sub hk),
   u.frame .draining (Kinds.not_mem_of_sub hk),
   u.frame .closing (Kinds.not_mem_of_sub hk),
   u.frame .outClosed (Kinds.not_mem_of_sub hk)⟩

theorem Flags.of_path {A : Kinds} {e e' : EP} {x : List Ev} (p : Path A e x e')
    (hA : A.disj Flags.bad = true := by decide +kernel) : Flags e e' :=
  p.rel0 Flags.refl Flags.trans fun hk u => .of_upd (Kinds.not_mem_of_disj hA hk) u

/-- While the task runs the invariant only depends on the life-cycle fields. -/
theorem Ended.flags {e e' : EP} (h : Ended e) (f : Flags e e') (hd : e.dead = false) : Ended e' :=
  ⟨by rw [f.dead, f.draining, f.closing, f.outClosed]; exact h.closed,
   by rw [f.dead, hd]; intro x; cases x⟩

/-- The life-cycle fields are the same, and so is the flow table if the outbound queue is closed:
    what the application's calls and the open futures do. -/
structure Still (e e' : EP) : Prop extends Flags e e' where
  flows : e.outClosed = true → e'.flows = e.flows

theorem Still.refl (e : EP) : Still e e := ⟨Flags.refl e, fun _ => rfl⟩
theorem Still.trans {a b c : EP} (s : Still a b) (t : Still b c) : Still a c :=
  ⟨s.toFlags.trans t.toFlags, fun h => by rw [t.flows (by rw [s.outClosed]; exact h), s.flows h]⟩

theorem Ended.still {e e' : EP} (h : Ended e) (s : Still e e') : Ended e' := by
  refine ⟨by rw [s.dead, s.draining, s.closing, s.outClosed]; exact h.closed, ?_⟩
  intro hd
  rw [s.dead] at hd
  rw [s.flows (h.closed (Or.inl hd))]; exact h.empty hd

/-- The kinds of step across which it fails: those that write a life-cycle field, and those that change the flow
    table whether or not the outbound queue is closed (a peer's frame, the wind-down). -/
def Still.bad : Kinds :=
  Flags.bad ∪ .of [.erase, .newStream, .acceptBind, .refuseBind, .dropSlots, .drainBind, .rejectSlot]

/-- The two steps left that write the flow table put in a slot for a request, and only with the outbound queue open. -/
theorem Still.of_upd {k : Kind} {e e' : EP} {x : List Ev} (hk : k ∉ Still.bad) (u : Upd k e x e') : Still e e' := by
  refine ⟨.of_upd (Kinds.not_mem_of_sub hk) u, ?_⟩
  cases u with
  | reqSlot _ _ _ _ _ hoc | startBind _ _ _ _ _ hoc => exact fun h => absurd (hoc ▸ h) nofun
  | erase | newStream | acceptBind | refuseBind | dropSlots | drainBind | rejectSlot => exact absurd (by decide +kernel) hk
  | enq _ _ m => exact fun _ => enq_flows e m
  | send => exact fun _ => (Upd.send e).frame .flows
  | queue q => exact fun _ => q.frame .flows
  | ctl c => exact fun _ => c.frame .flows
  | req r => exact fun _ => r.frame .flows
  | _ => exact fun _ => rfl

theorem Still.of_path {A : Kinds} {e e' : EP} {x : List Ev} (p : Path A e x e')
    (hA : A.disj Still.bad = true := by decide +kernel) : Still e e' :=
  p.rel0 Still.refl Still.trans fun hk u => .of_upd (Kinds.not_mem_of_disj hA hk) u

theorem Still.openRound (e : EP) (r : OpenReq) : Still e (openRound e r).1 := .of_path (.openRoundAny e r)

theorem Still.appBindReq (e : EP) (req : Nat) (bt : BindType) (host : Bytes) (port : Nat) :
    Still e (appBindReq e req bt host port).1 := .of_path (.appBindReq e req bt host port)

/-- With the outbound queue closed, `request_bind` leaves the flow table as it was and answers
    `Closed`. -/
theorem appBindReq_closed_flows (e : EP) (req : Nat) (bt : BindType) (host : Bytes) (port : Nat)
    (hoc : e.outClosed = true) :
    (appBindReq e req bt host port).1.flows = e.flows ∧
    (appBindReq e req bt host port).2 = [.bindDone req .closed] := by
  refine ⟨(Still.appBindReq e req bt host port).flows hoc, ?_⟩
  unfold Mux.appBindReq
  split
  · rfl
  · simp only [hoc, if_true]

theorem windDownTail_ended (e1 : EP) (flushed : List Ev) (srcEnded : Bool) (res : ExitRes)
    (hc : e1.outClosed = true) (hd : e1.dead = false) : Ended (windDownTail e1 flushed srcEnded res).1 :=
  .of_closed_aof ((Mono.windDownTail e1 flushed srcEnded res).outClosed hc) (windDownTail_aof _ _ _ _ hd)

theorem windDown_ended (e : EP) (drain : Bool) (res : ExitRes) (hd : e.dead = false) :
    Ended (windDown e drain res).1 := by
  refine .of_closed_aof ?_ (windDown_aof e drain res hd)
  simp only [Mux.windDown]
  split
  · have hc : (sendSome (dropPrep e)).1.outClosed = true := (Mono.sendSome (dropPrep e)).outClosed rfl
    split
    · exact (Mono.windDownTail _ _ _ _).outClosed hc
    · exact hc
  · exact (Mono.windDownTail _ _ _ _).outClosed rfl

theorem drainStep_ended (e : EP) (res : ExitRes) (hc : e.outClosed = true) (hd : e.dead = false) :
    Ended (drainStep e res).1 :=
  .of_closed_aof ((Mono.drainStep e res).outClosed hc) (drainStep_aof e res hd)

theorem closingStep_ended (e : EP) (res : ExitRes) (hc : e.outClosed = true) (hd : e.dead = false) :
    Ended (closingStep e res).1 :=
  .of_closed_aof ((Mono.closingStep e res).outClosed hc) (closingStep_aof e res hd)

theorem Flags.recvOne (e : EP) (w : WsIn) (rest : List WsIn) : Flags e (recvOne e w rest).1 := .of_path (.recvOne e w rest)

/-- Walks the loop itself: the wind-down steps keep `Ended` only from a state that is alive (`windDown_ended`,
    `drainStep_ended`, `closingStep_ended`), so they do not compose along `Mux.Walk` (as with `settleLoop_aof`, Lemmas/MuxWF). -/
theorem settleLoop_ended (fuel : Nat) (e : EP) (acc : List Ev) (h : Ended e) : Ended (settleLoop fuel e acc).1 := by
  revert h
  -- past the first test the task is running; `unpark` and `recvOne` only touch what `Ended` does not read
  have alive : ∀ {e : EP}, ¬e.dead = true → e.dead = false := fun hd => by simpa using hd
  have hun : ∀ {e : EP}, Ended e → ¬e.dead = true → Ended (unpark e) ∧ (unpark e).dead = false :=
    fun h hd => ⟨h.flags (.of_path (.unpark _)) (alive hd), ((Path.unpark _).frame .dead).trans (alive hd)⟩
  fun_induction Mux.settleLoop fuel e acc
  case case1 | case2 => exact id
  case case3 hdr => exact fun h => drainStep_ended _ _ (h.closed (Or.inr (Or.inl (by rw [hdr]; simp)))) (alive ‹_›)
  case case4 hcl => exact fun h => closingStep_ended _ _ (h.closed (Or.inr (Or.inr (by rw [hcl]; simp)))) (alive ‹_›)
  case case5 => exact fun h => windDown_ended _ false _ ((Flags.recvOne _ _ _).dead.trans (hun h ‹_›).2)
  case case6 ih => exact fun h => ih ((hun h ‹_›).1.flags (Flags.recvOne _ _ _) (hun h ‹_›).2)
  case case7 => exact fun h => windDown_ended _ true .ok (hun h ‹_›).2
  case case8 _ e _ _ _ _ fid rest _ hq _ ih =>
    exact fun h => ih ((hun h ‹_›).1.flags
      (.of_path ((Path.one (.ctl (.droppedPop _ fid rest hq))).trans (.closeFlow _ fid false))) (hun h ‹_›).2)
  case case9 => exact fun h => (hun h ‹_›).1

theorem Still.runRetries (e : EP) (l : List Nat) : Still e (runRetries e l).1 := .of_path (.runRetries e l)
theorem Still.runDone (e : EP) (l : List (Nat × Nat)) : Still e (runDone e l).1 := .of_path (.runDone e l)
theorem Still.sendSome (e : EP) : Still e (sendSome e).1 := .of_path (.sendSome e)

theorem settle_ended (e : EP) (h : Ended e) : Ended (settle e).1 :=
  settle_rel (P := fun a b => Ended a → Ended b) (Q := Still) (fun p q h => (p h).still q) Still.trans
    (settleLoop_ended _ e []) (fun a => .of_path (.holdSend a)) (fun a => .of_path (.runDoneq a))
    (fun a => .of_path (.runRetryq a)) h

theorem Still.appWrite (e : EP) (h : Nat) (d : Bytes) : Still e (appWrite e h d).1 := .of_path (.appWrite e h d)
theorem Still.fillBuf (fuel : Nat) (e : EP) (i : Nat) : Still e (fillBuf fuel e i).1 := .of_path (.fillBuf fuel e i)
theorem Still.appRead (e : EP) (h n : Nat) : Still e (appRead e h n).1 := .of_path (.appRead e h n)
theorem Still.appShutdown (e : EP) (h : Nat) : Still e (appShutdown e h).1 := .of_path (.appShutdown e h)
theorem Still.appDropStream (e : EP) (h : Nat) : Still e (appDropStream e h).1 := .of_path (.appDropStream e h)
theorem Still.appBindNext (e : EP) : Still e (appBindNext e).1 := .of_path (.appBindNext e)
theorem Still.appBindReply (e : EP) (k : Nat) (a : Bool) : Still e (appBindReply e k a).1 := .of_path (.appBindReply e k a)
theorem Still.appBindDrop (e : EP) (k : Nat) : Still e (appBindDrop e k).1 := .of_path (.appBindDrop e k)
theorem Still.opStep (e : EP) (op : Op) : Still e (opStep e op).1 := .of_path (.opStepAny e op)

theorem applyOp_ended (e : EP) (op : Op) (h : Ended e) : Ended (applyOp e op).1 := by
  rw [applyOp_fst]
  exact settle_ended _ (h.still (Still.opStep e op))

theorem runOps_ended (e : EP) (ops : List Op) (h : Ended e) : Ended (runOps e ops) := runOps_ind applyOp_ended e ops h

theorem init_ended (o : Opts) : Ended { opts := o } := .of_running rfl rfl rfl

/-- In every state an endpoint reaches — any sequence of application calls and deliveries, any peer:
    once the task is winding down or has finished the outbound queue is closed, and once it has
    finished the flow table is empty. -/
theorem reachable_ended (o : Opts) (ops : List Op) : Ended (runOps { opts := o } ops) :=
  runOps_ended _ ops (init_ended o)

/-- The flow table of an ended connection is empty, whatever is called on it afterwards. -/
theorem reachable_dead_table_empty (o : Opts) (ops : List Op) (hd : (runOps { opts := o } ops).dead = true) :
    (runOps { opts := o } ops).flows = [] :=
  (reachable_ended o ops).empty hd

end Penguin.Mux
