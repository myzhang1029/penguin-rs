/-
The end-of-stream invariant `Fin` (`Lemmas/PairAllDir.lean`) of the direction left → right is preserved by
every small step in which the RIGHT side (the receiver of that direction, with its stream object `j`) acts
or receives: the payloads accepted into `j` are appended to `R`, and `P` counts the `Finish x` frames it
processed while its slot of `x` was `Established j`.
Core Lean only.
-/
import Penguin.Lemmas.PairAllDirB

namespace Penguin.PairAll
open Penguin.Mux
open scoped List

variable {x j : Nat} {ownA ownB : Prop}

private theorem noFin_sublist {l l' : List Msg} (h : l' <+ l) (hp : hasFin x l = false) : hasFin x l' = false :=
  any_false_of_sublist h hp

private theorem hasFin_inMsgs_fin (x : Nat) (r : List WsIn) : hasFin x (inMsgs (.msg (.frame (.finish x)) :: r)) = true := by
  simp [inMsgs, hasFin, isFin]

private theorem hasPush_inMsgs_push (x : Nat) (d : Bytes) (r : List WsIn) :
    hasPush x (inMsgs (.msg (.frame (.push x d)) :: r)) = true := by
  simp [inMsgs, hasPush, isPush]

/-- The general transfer along a step of the right side that accepts nothing: the left view is untouched, the
    delivered and travelling messages become a sublist. -/
theorem Fin.transB {c c' : PC} {S R W : List Bytes} {P P' : Nat} (f : Fin x j c S R W P)
    (hd : (sm x c).dead → (sm x c').dead) (ea : c'.a = c.a)
    (hsub : (inMsgs c'.b.inbox ++ c'.ab) <+ (inMsgs c.b.inbox ++ c.ab))
    (hP : P ≤ P') (hlen : c.b.len ≤ c'.b.len)
    (h4 : c'.abOpen = false → c'.b.canJ = true → hasFin x (inMsgs c'.b.inbox) = true →
      (sm x c').dead ∨ R ++ pX x (inMsgs c'.b.inbox) = S)
    (h4p : c'.abOpen = false → c'.b.len ≤ j → Pot x c' → hasFin x (inMsgs c'.b.inbox) = true →
      (sm x c').dead ∨ pX x (inMsgs c'.b.inbox) = S)
    (h5 : c'.b.slot = some (.established j) → c'.b.rxJ = true → c'.b.canJ = false →
      (c.b.slot = some (.established j) ∧ c.b.rxJ = true ∧ c.b.canJ = false) ∨ 1 ≤ P')
    (hrx : j < c.b.len → c'.b.rxJ = true → c.b.rxJ = true)
    (h6 : P = 0 → 1 ≤ P' → c'.b.rxJ = true → R = W ∧ 1 ≤ c.a.nobj ∧ c.a.nw = 0 ∧ hasPush x c'.path = false)
    (h7 : ∀ i, c'.b.slot = some (.established i) → c.b.slot = some (.established i) ∨ i < c'.b.len)
    (h8 : P = 0 → 1 ≤ P' → j < c'.b.len) : Fin x j c' S R W P' := by
  have hpath : c'.path <+ c.path := by
    simp only [PC.path, ea]; exact hsub.append (List.Sublist.refl _)
  refine ⟨?_, ?_, ?_, ?_, h4, h4p, ?_, ?_, ?_, ?_⟩
  · rw [ea]; exact f.f0
  · rw [ea]; exact f.f1
  · intro hf
    rcases f.f2 (hasFin_sublist hpath hf) with h | ⟨h1, h2, h3⟩
    · exact Or.inl (hd h)
    · rw [ea]; exact Or.inr ⟨h1, h2, finLast_sublist hpath h3⟩
  · intro hf
    rcases f.f3 (hasFin_sublist hsub hf) with h | h
    · exact Or.inl (hd h)
    · exact Or.inr h
  · intro a1 a2 a3
    rcases h5 a1 a2 a3 with ⟨b1, b2, b3⟩ | h
    · exact Nat.le_trans (f.f5 b1 b2 b3) hP
    · exact h
  · intro a1 a2
    rw [ea]
    by_cases hp : 1 ≤ P
    · obtain ⟨b1, b2, b3, b4⟩ := f.f6 hp (hrx (f.f8 hp) a2)
      exact ⟨b1, b2, b3, hasPush_sublist_false hpath b4⟩
    · exact h6 (by omega) a1 a2
  · intro i hi
    rcases h7 i hi with h | h
    · exact Nat.lt_of_lt_of_le (f.f7 i h) hlen
    · exact h
  · intro hp
    by_cases hp0 : 1 ≤ P
    · exact Nat.lt_of_lt_of_le (f.f8 hp0) hlen
    · exact h8 (by omega) hp

theorem Fin.f4_same {c c' : PC} {S R W : List Bytes} {P : Nat} (f : Fin x j c S R W P)
    (hd : (sm x c).dead → (sm x c').dead) (eo : c'.abOpen = c.abOpen) (hcan : c'.b.canJ = true → c.b.canJ = true)
    (hfI : c.abOpen = false → hasFin x (inMsgs c'.b.inbox) = true → hasFin x (inMsgs c.b.inbox) = true)
    (hpc : c.abOpen = false → pX x (inMsgs c'.b.inbox) = pX x (inMsgs c.b.inbox)) :
    c'.abOpen = false → c'.b.canJ = true → hasFin x (inMsgs c'.b.inbox) = true →
      (sm x c').dead ∨ R ++ pX x (inMsgs c'.b.inbox) = S := by
  intro a1 a2 a3
  rw [eo] at a1
  rcases f.f4 a1 (hcan a2) (hfI a1 a3) with h | h
  · exact Or.inl (hd h)
  · rw [hpc a1]; exact Or.inr h

theorem Fin.f4p_same {c c' : PC} {S R W : List Bytes} {P : Nat} (f : Fin x j c S R W P)
    (hd : (sm x c).dead → (sm x c').dead) (eo : c'.abOpen = c.abOpen) (hlen : c.b.len ≤ c'.b.len)
    (hpot : Pot x c' → Pot x c)
    (hfI : c.abOpen = false → hasFin x (inMsgs c'.b.inbox) = true → hasFin x (inMsgs c.b.inbox) = true)
    (hpc : c.abOpen = false → pX x (inMsgs c'.b.inbox) = pX x (inMsgs c.b.inbox)) :
    c'.abOpen = false → c'.b.len ≤ j → Pot x c' → hasFin x (inMsgs c'.b.inbox) = true →
      (sm x c').dead ∨ pX x (inMsgs c'.b.inbox) = S := by
  intro a1 a2 a3 a4
  rw [eo] at a1
  rcases f.f4p a1 (Nat.le_trans hlen a2) (hpot a3) (hfI a1 a4) with h | h
  · exact Or.inl (hd h)
  · rw [hpc a1]; exact Or.inr h

/-- Nothing is gained: the messages become a sublist, `j` does not start accepting, its receiver does not
    reopen, no slot is established, and `j` stops accepting only as `h5` says. -/
theorem Fin.monoB {c c' : PC} {S R W : List Bytes} {P : Nat} (f : Fin x j c S R W P)
    (hd : (sm x c).dead → (sm x c').dead) (ea : c'.a = c.a)
    (hsub : (inMsgs c'.b.inbox ++ c'.ab) <+ (inMsgs c.b.inbox ++ c.ab))
    (eo : c'.abOpen = c.abOpen) (hlen : c.b.len ≤ c'.b.len) (hcan : c'.b.canJ = true → c.b.canJ = true)
    (hfI : c.abOpen = false → hasFin x (inMsgs c'.b.inbox) = true → hasFin x (inMsgs c.b.inbox) = true)
    (hpc : c.abOpen = false → pX x (inMsgs c'.b.inbox) = pX x (inMsgs c.b.inbox))
    (hpot : Pot x c' → Pot x c)
    (h5 : c'.b.slot = some (.established j) → c'.b.rxJ = true → c'.b.canJ = false →
      (c.b.slot = some (.established j) ∧ c.b.rxJ = true ∧ c.b.canJ = false) ∨ 1 ≤ P)
    (hrx : c'.b.rxJ = true → c.b.rxJ = true)
    (hslot : ∀ i, c'.b.slot = some (.established i) → c.b.slot = some (.established i)) : Fin x j c' S R W P :=
  f.transB hd ea hsub (Nat.le_refl _) hlen (f.f4_same hd eo hcan hfI hpc) (f.f4p_same hd eo hlen hpot hfI hpc) h5
    (fun _ => hrx) (fun h0 h1 => by omega) (fun i hi => Or.inl (hslot i hi)) (fun h0 h1 => by omega)

theorem Fin.sameB {c c' : PC} {S R W : List Bytes} {P : Nat} (f : Fin x j c S R W P)
    (hd : (sm x c).dead → (sm x c').dead) (ea : c'.a = c.a) (e1 : c'.b.inbox = c.b.inbox) (e2 : c'.ab = c.ab)
    (e3 : c'.abOpen = c.abOpen) (e4 : c'.b.len = c.b.len) (e5 : c'.b.canJ = c.b.canJ) (e6 : c'.b.rxJ = c.b.rxJ)
    (e7 : ∀ i, c'.b.slot = some (.established i) → c.b.slot = some (.established i)) (hpot : Pot x c' → Pot x c) :
    Fin x j c' S R W P := by
  refine f.monoB hd ea (by rw [e1, e2]; exact List.Sublist.refl _) e3 (Nat.le_of_eq e4.symm) (fun h => e5 ▸ h)
    (fun _ h => e1 ▸ h) (fun _ => by rw [e1]) hpot ?_ (fun h => e6 ▸ h) e7
  intro a1 a2 a3
  exact Or.inl ⟨e7 j a1, e6 ▸ a2, e5 ▸ a3⟩

theorem Fin.popB {c c' : PC} {S R W : List Bytes} {P : Nat} (f : Fin x j c S R W P) {w : WsIn} {r : List WsIn}
    (h : c.b.inbox = w :: r) (hw : ∀ m, w = .msg m → isPush x m = false)
    (hd : (sm x c).dead → (sm x c').dead) (ea : c'.a = c.a) (e1 : c'.b.inbox = r) (e2 : c'.ab = c.ab)
    (e3 : c'.abOpen = c.abOpen) (e4 : c'.b.len = c.b.len) (e5 : c'.b.canJ = c.b.canJ) (e6 : c'.b.rxJ = c.b.rxJ)
    (e7 : c'.b.slot = c.b.slot) (e8 : c'.b.cnt = c.b.cnt) : Fin x j c' S R W P := by
  have hI : inMsgs c'.b.inbox <+ inMsgs c.b.inbox := e1 ▸ inMsgs_sublist_of_cons h
  refine f.monoB hd ea (by rw [e2]; exact hI.append (List.Sublist.refl _)) e3 (Nat.le_of_eq e4.symm) (fun h => e5 ▸ h)
    (fun _ hf => hasFin_sublist hI hf) (fun _ => by rw [e1, h, pX_inMsgs_cons x w r hw]) ?_ ?_ (fun h => e6 ▸ h)
    (fun i hi => e7 ▸ hi)
  · exact Pot.popB h ea e1 e2 e8 fun q hq => ⟨q, e7 ▸ hq⟩
  · intro a1 a2 a3
    exact Or.inl ⟨e7 ▸ a1, e6 ▸ a2, e5 ▸ a3⟩

theorem Fin.pushAccB {c c' : PC} {S R W : List Bytes} {P : Nat} (d : Dir x j c S R) (f : Fin x j c S R W P)
    {dd : Bytes} {r : List WsIn} (h : c.b.inbox = .msg (.frame (.push x dd)) :: r) (hcan : c.b.canJ = true)
    (hd : (sm x c).dead → (sm x c').dead) (ea : c'.a = c.a) (e1 : c'.b.inbox = r) (e2 : c'.ab = c.ab)
    (e3 : c'.abOpen = c.abOpen) (e4 : c'.b.len = c.b.len) (e5 : c'.b.canJ = c.b.canJ) (e6 : c'.b.rxJ = c.b.rxJ)
    (e7 : c'.b.slot = c.b.slot) : Fin x j c' S (R ++ [dd]) W P := by
  have hI : inMsgs c'.b.inbox <+ inMsgs c.b.inbox := e1 ▸ inMsgs_sublist_of_cons h
  have hsub : (inMsgs c'.b.inbox ++ c'.ab) <+ (inMsgs c.b.inbox ++ c.ab) := by
    rw [e2]; exact hI.append (List.Sublist.refl _)
  have hpath : c'.path <+ c.path := by
    simp only [PC.path, ea]; exact hsub.append (List.Sublist.refl _)
  have hlen : ¬ c.b.len ≤ j := fun hl => by have := (d.d1 hl).2; rw [hcan] at this; cases this
  have hpush : hasPush x c.path = true := by
    simp only [PC.path, hasPush_append, h, hasPush_inMsgs_push, Bool.true_or]
  refine ⟨?_, ?_, ?_, ?_, ?_, ?_, ?_, ?_, ?_, ?_⟩
  · rw [ea]; exact f.f0
  · rw [ea]; exact f.f1
  · intro hf
    rcases f.f2 (hasFin_sublist hpath hf) with h | ⟨h1, h2, h3⟩
    · exact Or.inl (hd h)
    · rw [ea]; exact Or.inr ⟨h1, h2, finLast_sublist hpath h3⟩
  · intro hf
    rcases f.f3 (hasFin_sublist hsub hf) with h | h
    · exact Or.inl (hd h)
    · exact Or.inr h
  · intro a1 a2 a3
    rw [e3] at a1
    rcases f.f4 a1 hcan (hasFin_sublist hI a3) with h | h4
    · exact Or.inl (hd h)
    · refine Or.inr ?_
      rw [h] at h4; simp only [inMsgs_cons_msg, pX_cons_push] at h4
      rw [e1, List.append_assoc]; exact h4
  · intro _ a2
    rw [e4] at a2; exact absurd a2 hlen
  · intro a1 a2 a3
    rw [e5, hcan] at a3; cases a3
  · intro a1 a2
    rw [e6] at a2
    have := (f.f6 a1 a2).2.2.2
    rw [hpush] at this; cases this
  · intro i hi
    rw [e4]; exact f.f7 i (e7 ▸ hi)
  · intro hp; rw [e4]; exact f.f8 hp

theorem Fin.pushRejB (hex : ¬(ownA ∧ ownB)) {c : PC} {S R W : List Bytes} {P : Nat} (hc : CoreS ownA ownB (sm x c))
    (d : Dir x j c S R) (f : Fin x j c S R W P) {dd : Bytes} {r : List WsIn}
    (h : c.b.inbox = .msg (.frame (.push x dd)) :: r)
    {s : Option Slot} (hs : (s = c.b.slot ∧ c.b.canJ = false) ∨ s = none) (ba' : List Msg)
    (hd : (sm x c).dead → (sm x { c with b := { c.b with inbox := r, slot := s, canJ := false }, ba := ba' }).dead) :
    Fin x j { c with b := { c.b with inbox := r, slot := s, canJ := false }, ba := ba' } S R W P := by
  obtain ⟨_, hnp⟩ := Pot.pushRejB hex hc d h hs ba'
  have hI : inMsgs r <+ inMsgs c.b.inbox := inMsgs_sublist_of_cons h
  have hslot : ∀ i, s = some (.established i) → c.b.slot = some (.established i) ∧ c.b.canJ = false := by
    intro i hi
    refine ⟨slot_of_kept (hs.imp And.left id) hi, hs.elim And.right fun h1 => ?_⟩
    rw [h1] at hi; cases hi
  refine f.transB hd rfl (hI.append (List.Sublist.refl _)) (Nat.le_refl _) (Nat.le_refl _)
    (fun _ a2 => by cases a2) (fun _ _ a3 => absurd a3 hnp) ?_ (fun _ => id) (fun h0 h1 => by omega)
    (fun i hi => Or.inl (hslot i hi).1) (fun h0 h1 => by omega)
  intro a1 a2 _
  exact Or.inl ⟨(hslot j a1).1, a2, (hslot j a1).2⟩

/-- A `Finish x` is processed while the slot is `Established j`. -/
theorem Fin.popFinJB {c : PC} {S R W : List Bytes} {P : Nat} (hc : CoreS ownA ownB (sm x c))
    (d : Dir x j c S R) (f : Fin x j c S R W P) {r : List WsIn}
    (h : c.b.inbox = .msg (.frame (.finish x)) :: r) (he : c.b.slot = some (.established j)) {s : Option Slot}
    (hs : s = c.b.slot ∨ s = none) (ba' : List Msg)
    (hd : (sm x c).dead → (sm x { c with b := { c.b with inbox := r, slot := s, canJ := false }, ba := ba' }).dead) :
    Fin x j { c with b := { c.b with inbox := r, slot := s, canJ := false }, ba := ba' } S R W (P + 1) := by
  have hI : inMsgs r <+ inMsgs c.b.inbox := inMsgs_sublist_of_cons h
  have hpx : pX x (inMsgs r) = pX x (inMsgs c.b.inbox) := pX_inMsgs_of_fin_cons h
  have hslot : ∀ i, s = some (.established i) → c.b.slot = some (.established i) := fun i hi => slot_of_kept hs hi
  have hnoreq : ∀ q, s ≠ some (.requested q) := fun q hq => by have := slot_of_kept hs hq; rw [he] at this; cases this
  have hpot : Pot x { c with b := { c.b with inbox := r, slot := s, canJ := false }, ba := ba' } → Pot x c :=
    Pot.popB h rfl rfl rfl rfl fun q hq => absurd hq (hnoreq q)
  have hjl : j < c.b.len := f.f7 j he
  refine f.transB hd rfl (hI.append (List.Sublist.refl _)) (Nat.le_succ _) (Nat.le_refl _)
    (fun _ a2 => by cases a2)
    (f.f4p_same hd rfl (Nat.le_refl _) hpot (fun _ hf => hasFin_sublist hI hf) (fun _ => hpx))
    (fun _ _ _ => Or.inr (Nat.le_add_left 1 P)) (fun _ => id) ?_ (fun i hi => Or.inl (hslot i hi)) (fun _ _ => hjl)
  -- the heart: the first `Finish x` processed for `j`, whose receiver is open
  intro hP0 _ hrx
  have hrx : c.b.rxJ = true := hrx
  have hcan : c.b.canJ = true := by
    cases hk : c.b.canJ with
    | true => rfl
    | false => have := f.f5 he hrx hk; omega
  have hnd : ¬ (sm x c).dead := by
    intro hdead
    have h1 : c.b.nobj = 0 := hdead.2.2.2.1
    have h2 : 1 ≤ c.b.nobj := hc.r.estObj (by show sk c.b.slot = 2; rw [he]; rfl)
    omega
  have hfI : hasFin x (inMsgs c.b.inbox) = true := by rw [h]; exact hasFin_inMsgs_fin x r
  have hfp : hasFin x c.path = true := by simp only [PC.path, hasFin_append, hfI, Bool.true_or]
  obtain ⟨hn1, hn2, hfl⟩ : 1 ≤ c.a.nobj ∧ c.a.nw = 0 ∧ finLast x c.path = true := by
    rcases f.f2 hfp with h0 | h0
    · exact absurd h0 hnd
    · exact h0
  have hnp : hasPush x (inMsgs r ++ c.ab ++ c.a.outq) = false := by
    apply finLast_fin_cons x
    simp only [PC.path] at hfl; rw [h] at hfl
    exact hfl
  simp only [hasPush_append, Bool.or_eq_false_iff] at hnp
  obtain ⟨⟨hp1, hp2⟩, hp3⟩ := hnp
  have hSW : S = W := by
    rcases f.f3 (by rw [hasFin_append, hfI, Bool.true_or]) with h0 | h0
    · exact absurd h0 hnd
    · exact h0
  have hRS : R = S := by
    have e1 : pX x (inMsgs c.b.inbox) = [] := by rw [← hpx]; exact pX_of_noPush x _ hp1
    have e2 : pX x c.ab = [] := pX_of_noPush x _ hp2
    cases ho : c.abOpen with
    | true =>
      have := (d.d4 hcan).1 ho
      rw [e1, e2, List.append_nil, List.append_nil] at this; exact this
    | false =>
      rcases f.f4 ho hcan hfI with h0 | h0
      · exact absurd h0 hnd
      · rw [e1, List.append_nil] at h0; exact h0
  refine ⟨hRS.trans hSW, hn1, hn2, ?_⟩
  simp only [PC.path, hasPush_append, hp1, hp2, hp3, Bool.or_self]

/-- A `Finish x` is processed while the slot is not `Established j`. -/
theorem Fin.popFinOB {c : PC} {S R W : List Bytes} {P : Nat} (f : Fin x j c S R W P) {r : List WsIn}
    (h : c.b.inbox = .msg (.frame (.finish x)) :: r) (he : c.b.slot ≠ some (.established j)) {s : Option Slot}
    (hs : (∃ i, c.b.slot = some (.established i) ∧ s = c.b.slot) ∨ s = none) (ba' : List Msg)
    (hd : (sm x c).dead → (sm x { c with b := { c.b with inbox := r, slot := s, canJ := false }, ba := ba' }).dead) :
    Fin x j { c with b := { c.b with inbox := r, slot := s, canJ := false }, ba := ba' } S R W P := by
  have hI : inMsgs r <+ inMsgs c.b.inbox := inMsgs_sublist_of_cons h
  have hpx : pX x (inMsgs r) = pX x (inMsgs c.b.inbox) := pX_inMsgs_of_fin_cons h
  have hslot : ∀ i, s = some (.established i) → c.b.slot = some (.established i) :=
    fun i hi => slot_of_kept (hs.imp (fun ⟨_, _, h1⟩ => h1) id) hi
  have hnoreq : ∀ q, s ≠ some (.requested q) := by
    intro q hq
    rcases hs with ⟨i, h0, h1⟩ | h1
    · rw [h1, h0] at hq; cases hq
    · rw [h1] at hq; cases hq
  have hpot : Pot x { c with b := { c.b with inbox := r, slot := s, canJ := false }, ba := ba' } → Pot x c :=
    Pot.popB h rfl rfl rfl rfl fun q hq => absurd hq (hnoreq q)
  exact f.monoB hd rfl (hI.append (List.Sublist.refl _)) rfl (Nat.le_refl _) (fun a2 => by cases a2)
    (fun _ hf => hasFin_sublist hI hf) (fun _ => hpx) hpot (fun a1 _ _ => absurd (hslot j a1) he) id hslot

theorem Fin.newB {c : PC} {S R W : List Bytes} {P : Nat} (d : Dir x j c S R) (f : Fin x j c S R W P) (hp : Pot x c)
    {m : Msg} {r : List WsIn} (h : c.b.inbox = .msg m :: r) (hm : isPush x m = false) (nb nw' : Nat)
    (oq ba' : List Msg)
    (hd : (sm x c).dead →
      (sm x { c with b := { c.b with inbox := r, slot := some (.established c.b.len), len := c.b.len + 1, nobj := nb,
                                     canJ := c.b.len == j, nw := nw', rxJ := c.b.rxJ || c.b.len == j, outq := oq },
                     ba := ba' }).dead) :
    Fin x j { c with b := { c.b with inbox := r, slot := some (.established c.b.len), len := c.b.len + 1, nobj := nb,
                                     canJ := c.b.len == j, nw := nw', rxJ := c.b.rxJ || c.b.len == j, outq := oq },
                     ba := ba' } S R W P := by
  have hI : inMsgs r <+ inMsgs c.b.inbox := inMsgs_sublist_of_cons h
  have hpx : pX x (inMsgs r) = pX x (inMsgs c.b.inbox) := by rw [h]; exact (pX_cons_other x m _ hm).symm
  refine f.transB hd rfl (hI.append (List.Sublist.refl _)) (Nat.le_refl _) (Nat.le_succ _) ?_ ?_ ?_ ?_
    (fun h0 h1 => by omega) ?_ (fun h0 h1 => by omega)
  · intro a1 a2 a3
    have hj : c.b.len = j := by simpa using a2
    have hl : c.b.len ≤ j := by omega
    rcases f.f4p a1 hl hp (hasFin_sublist hI a3) with h0 | h0
    · exact Or.inl (hd h0)
    · refine Or.inr ?_
      show R ++ pX x (inMsgs r) = S
      rw [(d.d1 hl).1, List.nil_append, hpx]; exact h0
  · intro a1 a2 _ a4
    have hl : c.b.len ≤ j := Nat.le_trans (Nat.le_succ _) a2
    rcases f.f4p a1 hl hp (hasFin_sublist hI a4) with h0 | h0
    · exact Or.inl (hd h0)
    · refine Or.inr ?_
      show pX x (inMsgs r) = S
      rw [hpx]; exact h0
  · intro a1 _ a3
    have a1 : some (Slot.established c.b.len) = some (Slot.established j) := a1
    have a3 : (c.b.len == j) = false := a3
    injection a1 with a1; injection a1 with a1
    rw [a1] at a3; simp at a3
  · intro hjl a2
    have a2 : (c.b.rxJ || c.b.len == j) = true := a2
    cases hr : c.b.rxJ with
    | true => rfl
    | false =>
      rw [hr, Bool.false_or] at a2
      have : c.b.len = j := by simpa using a2
      omega
  · intro i hi
    have hi : some (Slot.established c.b.len) = some (Slot.established i) := hi
    injection hi with hi; injection hi with hi
    exact Or.inr (by show i < c.b.len + 1; omega)

/-- `AStep.degrade` at the right side: while `j` has the slot and an open receiver it keeps accepting (`hkeep`), so
    clause `f5` holds of the new view only if it held of the old one. -/
theorem Fin.degradeB {c : PC} {S R W : List Bytes} {P : Nat} (f : Fin x j c S R W P) {s : Option Slot}
    {k : Bool} {w : Nat} {b rx : Bool} (hs : s = c.b.slot ∨ s = none)
    (hk : k = true → c.b.canJ = true ∧ s = c.b.slot) (hkeep : c.b.canJ = true → s = c.b.slot → rx = true → k = true)
    (hr : rx = true → c.b.rxJ = true) (ba' : List Msg)
    (hd : (sm x c).dead →
      (sm x { c with b := { c.b with slot := s, canJ := k, nw := w, bh := b, rxJ := rx }, ba := ba' }).dead) :
    Fin x j { c with b := { c.b with slot := s, canJ := k, nw := w, bh := b, rxJ := rx }, ba := ba' } S R W P := by
  have hslot : ∀ i, s = some (.established i) → c.b.slot = some (.established i) := fun i hi => slot_of_kept hs hi
  have hreq : ∀ q, s = some (.requested q) → c.b.slot = some (.requested q) := fun q hq => slot_of_kept hs hq
  refine f.monoB hd rfl (List.Sublist.refl _) rfl (Nat.le_refl _) (fun a => (hk a).1) (fun _ => id) (fun _ => rfl)
    (Pot.mono (Nat.le_refl _) (Nat.le_refl _) (fun q hq => ⟨q, hreq q hq⟩) id) ?_ hr hslot
  intro a1 a2 a3
  have a1 : s = some (.established j) := a1
  have a2 : rx = true := a2
  have a3 : k = false := a3
  have e := hslot j a1
  refine Or.inl ⟨e, hr a2, ?_⟩
  cases hcj : c.b.canJ with
  | false => rfl
  | true =>
    have := hkeep hcj (by rw [a1, e]) a2
    rw [a3] at this; cases this

theorem Fin.clearInboxB {c : PC} {S R W : List Bytes} {P : Nat} (f : Fin x j c S R W P) (ba' : List Msg)
    (hd : (sm x c).dead → (sm x { c with b := { c.b with inbox := [], slot := none, canJ := false }, ba := ba' }).dead) :
    Fin x j { c with b := { c.b with inbox := [], slot := none, canJ := false }, ba := ba' } S R W P := by
  refine f.transB hd rfl (List.sublist_append_right _ _) (Nat.le_refl _) (Nat.le_refl _)
    (fun _ a2 => by cases a2) (fun _ _ _ a4 => by cases a4) (fun a1 => by cases a1) (fun _ => id)
    (fun h0 h1 => by omega) (fun i hi => by cases hi) (fun h0 h1 => by omega)

theorem Fin.actB (hex : ¬(ownA ∧ ownB)) {c : PC} {S R W : List Bytes} {P : Nat} {v : View} {ws : List Msg}
    {acc : List Bytes} {xl : List XL} (hc : CoreS ownA ownB (sm x c)) (d : Dir x j c S R) (f : Fin x j c S R W P)
    (h : AStep x j c.b v ws acc xl) (hn : v.rngNil = false) :
    Fin x j { c with b := v, ba := if c.baOpen = true then c.ba ++ ws else c.ba } S (R ++ acc) W (P + XL.fins xl) := by
  have hd : (sm x c).dead → (sm x { c with b := v, ba := if c.baOpen = true then c.ba ++ ws else c.ba }).dead :=
    fun hd => dead_stepR hc hd (CStepL.act c.swap v ws acc xl h) hn
  generalize (if c.baOpen = true then c.ba ++ ws else c.ba) = ba' at hd ⊢
  cases h with
  -- only the outbound side of the right view changes, which this direction does not read
  | emit | sendClose | enq | enqPush | enqFinS | enqFinB | closeOut | clearOutq =>
    rw [List.append_nil]; exact f.sameB hd rfl rfl rfl rfl rfl rfl rfl (fun _ => id) id
  | rng k n hk hn' =>
    rw [List.append_nil]
    exact f.sameB hd rfl rfl rfl rfl rfl rfl rfl (fun _ => id)
      (Pot.mono (Nat.le_refl _) hk (fun q hq => ⟨q, hq⟩) id)
  | draw k n s m hk hn' hd' hs ho hkind =>
    rw [List.append_nil]
    have hk' : k < c.b.cnt := draw_lt hd' hn
    refine f.sameB hd rfl rfl rfl rfl rfl rfl rfl ?_ (fun _ => Or.inr (Or.inl (by omega)))
    intro i hi
    have hi : some s = some (Slot.established i) := hi
    injection hi with hi
    rcases hkind with ⟨q, hq, _⟩ | ⟨q, hq, _⟩ <;> rw [hq] at hi <;> cases hi
  | pop w r h hw =>
    rw [List.append_nil]
    exact f.popB h (fun m hm => (hw m hm).2.2.1) hd rfl rfl rfl rfl rfl rfl rfl rfl rfl
  | popFin r s h hs =>
    rw [List.append_nil]
    by_cases he : c.b.slot = some (.established j)
    · rw [if_pos he]
      refine f.popFinJB hc d h he ?_ _ hd
      rcases hs with ⟨i, _, h2⟩ | ⟨_, h2⟩
      · exact Or.inl h2
      · exact Or.inr h2
    · rw [if_neg he]
      refine f.popFinOB h he ?_ _ hd
      rcases hs with h1 | ⟨_, h2⟩
      · exact Or.inl h1
      · exact Or.inr h2
  | popBind m r b h hm hb =>
    rw [List.append_nil]
    exact f.popB h (fun m' hm' => by cases hm'; exact isBind_not_push hm) hd rfl rfl rfl rfl rfl rfl rfl rfl rfl
  | degrade s k w b rx hs hk hkeep hw hb hr =>
    rw [List.append_nil]; exact f.degradeB hs hk hkeep hr _ hd
  | connRej m r h hm =>
    rw [List.append_nil]
    exact f.popB h (fun m' hm' => by cases hm'; exact isConn_not_push hm) hd rfl rfl rfl rfl rfl rfl rfl rfl rfl
  | connNew m r n h hm hs =>
    rw [List.append_nil]
    refine f.newB d (Or.inr (Or.inr (Or.inr ?_))) h (isConn_not_push hm) _ _ _ _ hd
    simp only [PC.path, hasConn_append]; rw [h]
    simp [inMsgs, hasConn, hm]
  | ackNew m r q h hm hs =>
    rw [List.append_nil]
    exact f.newB d (Or.inr (Or.inr (Or.inl ⟨q, hs⟩))) h (isAck_not_push hm) _ _ c.b.outq _ hd
  | ackOld m r h hm hs =>
    rw [List.append_nil]
    exact f.popB h (fun m' hm' => by cases hm'; exact isAck_not_push hm) hd rfl rfl rfl rfl rfl rfl rfl rfl rfl
  | pushAcc dd r h hcan => exact Fin.pushAccB d f h hcan hd rfl rfl rfl rfl rfl rfl rfl rfl
  | pushRej dd r s h hs => rw [List.append_nil]; exact f.pushRejB hex hc d h hs _ hd
  | grow n h =>
    rw [List.append_nil]
    exact f.monoB hd rfl (List.Sublist.refl _) rfl h id (fun _ => id) (fun _ => rfl) id
      (fun a1 a2 a3 => Or.inl ⟨a1, a2, a3⟩) id (fun _ => id)
  | clearInbox => rw [List.append_nil]; exact f.clearInboxB _ hd

theorem Fin.dlvB {c : PC} {S R W : List Bytes} {P : Nat} (f : Fin x j c S R W P) {m : Msg} {rest : List Msg}
    {I' : List WsIn} (h : c.ab = m :: rest) (ho : c.abOpen = true) (hI : inMsgs I' = inMsgs c.b.inbox ++ [m])
    (hd : (sm x c).dead → (sm x { c with ab := rest, b := { c.b with inbox := I' } }).dead) :
    Fin x j { c with ab := rest, b := { c.b with inbox := I' } } S R W P := by
  have hl : inMsgs I' ++ rest = inMsgs c.b.inbox ++ c.ab := by rw [hI, h]; simp
  have hf : ∀ {p : Prop}, c.abOpen = false → p := fun h0 => by rw [ho] at h0; cases h0
  exact f.monoB hd rfl (by show inMsgs I' ++ rest <+ _; rw [hl]; exact List.Sublist.refl _) rfl (Nat.le_refl _) id
    (fun h0 => hf h0) (fun h0 => hf h0)
    (Pot.mono (Nat.le_refl _) (Nat.le_refl _) (fun q hq => ⟨q, hq⟩) (by simp only [PC.path]; rw [hl]; exact id))
    (fun a1 a2 a3 => Or.inl ⟨a1, a2, a3⟩) id (fun _ => id)

/-- The wire to the right side ends (a delivered Close, or a cut): what was on it is lost. -/
theorem Fin.closeB {c : PC} {S R W : List Bytes} {P : Nat} (d : Dir x j c S R) (f : Fin x j c S R W P)
    {I' : List WsIn} {E T : List Msg} (hI : inMsgs I' = inMsgs c.b.inbox ++ E) (hE : c.ab = E ++ T)
    (hpE : pX x E = []) (hfE : hasFin x E = false)
    (hd : (sm x c).dead → (sm x { c with ab := [], abOpen := false, b := { c.b with inbox := I' } }).dead) :
    Fin x j { c with ab := [], abOpen := false, b := { c.b with inbox := I' } } S R W P := by
  have hpx : pX x (inMsgs I') = pX x (inMsgs c.b.inbox) := by rw [hI, pX_append, hpE, List.append_nil]
  have hfI : hasFin x (inMsgs I') = true → hasFin x (inMsgs c.b.inbox) = true := by
    intro h0; rw [hI, hasFin_append, hfE, Bool.or_false] at h0; exact h0
  have hpot := Pot.closeB (x := x) hI hE
  -- a `Finish x` in the inbox: the wire carried no `Push x`
  have hab : hasFin x (inMsgs c.b.inbox) = true → (sm x c).dead ∨ pX x c.ab = [] := by
    intro h0
    rcases f.f2 (by simp only [PC.path, hasFin_append, h0, Bool.true_or]) with h1 | ⟨_, _, h1⟩
    · exact Or.inl h1
    · refine Or.inr (pX_of_noPush x _ ?_)
      simp only [PC.path] at h1
      rw [List.append_assoc] at h1
      have := finLast_append_fin x _ _ h1 h0
      rw [hasPush_append, Bool.or_eq_false_iff] at this
      exact this.1
  have hsub : (inMsgs I' ++ []) <+ (inMsgs c.b.inbox ++ c.ab) := by
    rw [List.append_nil, hI, hE]
    exact (List.Sublist.refl _).append (List.sublist_append_left _ _)
  refine f.transB hd rfl hsub (Nat.le_refl _) (Nat.le_refl _) ?_ ?_ (fun a1 a2 a3 => Or.inl ⟨a1, a2, a3⟩)
    (fun _ => id) (fun h0 h1 => by omega) (fun i hi => Or.inl hi) (fun h0 h1 => by omega)
  · intro _ a2 a3
    have a2 : c.b.canJ = true := a2
    have a3 : hasFin x (inMsgs I') = true := a3
    show _ ∨ R ++ pX x (inMsgs I') = S
    rw [hpx]
    cases ho : c.abOpen with
    | true =>
      rcases hab (hfI a3) with h0 | h0
      · exact Or.inl (hd h0)
      · have := (d.d4 a2).1 ho
        rw [h0, List.append_nil] at this; exact Or.inr this
    | false =>
      rcases f.f4 ho a2 (hfI a3) with h0 | h0
      · exact Or.inl (hd h0)
      · exact Or.inr h0
  · intro _ a2 a3 a4
    have a2 : c.b.len ≤ j := a2
    have a4 : hasFin x (inMsgs I') = true := a4
    show _ ∨ pX x (inMsgs I') = S
    rw [hpx]
    cases ho : c.abOpen with
    | true =>
      rcases hab (hfI a4) with h0 | h0
      · exact Or.inl (hd h0)
      · have := (d.d2 a2 (hpot a3)).1 ho
        rw [h0, List.append_nil] at this; exact Or.inr this
    | false =>
      rcases f.f4p ho a2 (hpot a3) (hfI a4) with h0 | h0
      · exact Or.inl (hd h0)
      · exact Or.inr h0

theorem Fin.stepB (hex : ¬(ownA ∧ ownB)) {c c'' : PC} {S R W : List Bytes} {P : Nat} {ws : List Msg} {acc : List Bytes}
    {xl : List XL} (hc : CoreS ownA ownB (sm x c)) (hw : Wires c) (d : Dir x j c S R) (f : Fin x j c S R W P)
    (st : CStepL x j c.swap c'' ws acc xl) (hn : c''.a.rngNil = false) :
    Fin x j c''.swap S (R ++ acc) W (P + XL.fins xl) := by
  have hd : (sm x c).dead → (sm x c''.swap).dead := fun hd => dead_stepR hc hd st hn
  cases st with
  | act v ws acc xl h => exact Fin.actB hex hc d f h hn
  | dlv m rest h hm =>
    have h : c.ab = m :: rest := h
    obtain ⟨ho, hdf⟩ := hw.listening h
    rw [List.append_nil]
    refine f.dlvB (I' := if deaf c.b = true then c.b.inbox else c.b.inbox ++ [WsIn.msg m]) h ho ?_ hd
    rw [if_neg hdf, inMsgs_append]; rfl
  | dlvClose rest h =>
    have h : c.ab = .close :: rest := h
    obtain ⟨ho, hdf⟩ := hw.listening h
    rw [List.append_nil]
    refine Fin.closeB d f (I' := if deaf c.b = true then c.b.inbox else c.b.inbox ++ [WsIn.msg Msg.close, WsIn.eof])
      (E := [.close]) (T := rest) ?_ h rfl rfl hd
    rw [if_neg hdf, inMsgs_append]; rfl
  | cut w hw' =>
    rw [List.append_nil]
    refine Fin.closeB d f (I' := if deaf c.b = true then c.b.inbox else c.b.inbox ++ [w])
      (E := []) (T := c.ab) ?_ rfl rfl rfl hd
    split
    · rw [List.append_nil]
    · rw [inMsgs_append, inMsgs_end hw']

end Penguin.PairAll
