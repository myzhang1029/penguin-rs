/-
The inductive invariant `Inv` of the single-writer model `Model/Waker` (`step`: register, then re-check):
credit is conserved; the flag is set exactly when a closer has swapped; a frame is sent only for a unit
taken from a positive credit; a poll that started on a closed stream failed; and a writer that has
registered and not re-checked yet, or is parked, has its waker in the cell or woken — while it is in the
cell no close has completed and any credit is about to be announced by a `wake()`.  `Inv2` says whose
waker the cell and the wake log can hold.  The property theorems in `Props/C12.lean` are corollaries.

Preservation follows what an operation touches.  The writer either moves inside its poll (`Inv.move`:
only `pc` changes, and before `register` the clauses about the cell are vacuous), registers, takes a
unit, or returns from the poll (`Inv.finishPoll`); an actor changes the credit, the flag, the cell and
three counts of actors (`counts_…`), never the writer's own fields.

`Lemmas/WakerN.lean`, `WakerNInv.lean` prove the same for any number of writers, and are parallel to this file on
purpose: this one is the proof a reader of the single-writer property reads without the thread bookkeeping, and
nothing here is derived through `Lemmas/WakerNSim.lean`.  The two follow each other case by case — `Inv.move` /
`WInv.move`, `Inv.finishPoll` / `WInv.finishPoll` + `WOk.finishPoll`, `writer_inv` / `next_winv` + `next_wok`, the
actor lemmas here / in `WakerNInv.lean`.  A new step of the writer's program (a new `WPc`) needs a case in
`writer_inv` and `writer_inv2` here AND in `next_winv`, `next_wok` (`WakerN.lean`), `next_wid` (`WakerNId.lean`) and
`writer_sim` (`WakerNSim.lean`).
-/
import Penguin.Model.Waker

namespace Penguin.Lemmas.Waker
open Penguin.Waker

/-- closer between its `swap(true)` and its `wake()` -/
def pCloserMid (a : Actor) : Bool := a.isCloser && a.pc == .wake
/-- closer that has finished (`swap` and `wake` done) -/
def pCloserDone (a : Actor) : Bool := a.isCloser && a.pc == .done
/-- acknowledger between its `fetch_add` and its `wake()` -/
def pAckerMid (a : Actor) : Bool := !a.isCloser && a.pc == .wake

theorem countP_set_add {α : Type} (p : α → Bool) (l : List α) (i : Nat) (a b : α) (h : l[i]? = some a) :
    (l.set i b).countP p + (if p a then 1 else 0) = l.countP p + (if p b then 1 else 0) := by
  obtain ⟨hi, rfl⟩ := List.getElem?_eq_some_iff.mp h
  have hle : (if p l[i] then 1 else 0) ≤ l.countP p := by
    split
    · exact List.countP_pos_iff.mpr ⟨_, List.getElem_mem hi, ‹_›⟩
    · exact Nat.zero_le _
  rw [List.countP_set hi]
  omega

theorem countP_map_write (p : Actor → Bool) (hp : ∀ k, p ⟨k, .write⟩ = false) (ks : List ActorKind) :
    (ks.map (⟨·, .write⟩ : ActorKind → Actor)).countP p = 0 := by
  induction ks with
  | nil => rfl
  | cons k ks ih => simp [hp, ih]

theorem counts_ack_write {l : List Actor} {i n : Nat} (ha : l[i]? = some ⟨.ack n, .write⟩) :
    (l.set i ⟨.ack n, .wake⟩).countP pCloserMid = l.countP pCloserMid ∧
    (l.set i ⟨.ack n, .wake⟩).countP pCloserDone = l.countP pCloserDone ∧
    (l.set i ⟨.ack n, .wake⟩).countP pAckerMid = l.countP pAckerMid + 1 := by
  have hm := countP_set_add pCloserMid l i _ ⟨.ack n, .wake⟩ ha
  have hd := countP_set_add pCloserDone l i _ ⟨.ack n, .wake⟩ ha
  have hk := countP_set_add pAckerMid l i _ ⟨.ack n, .wake⟩ ha
  simp [pCloserMid, pCloserDone, pAckerMid, Actor.isCloser] at hm hd hk
  exact ⟨hm, hd, hk⟩

theorem counts_close_write {l : List Actor} {i : Nat} (ha : l[i]? = some ⟨.close, .write⟩) :
    (l.set i ⟨.close, .wake⟩).countP pCloserMid = l.countP pCloserMid + 1 ∧
    (l.set i ⟨.close, .wake⟩).countP pCloserDone = l.countP pCloserDone ∧
    (l.set i ⟨.close, .wake⟩).countP pAckerMid = l.countP pAckerMid := by
  have hm := countP_set_add pCloserMid l i _ ⟨.close, .wake⟩ ha
  have hd := countP_set_add pCloserDone l i _ ⟨.close, .wake⟩ ha
  have hk := countP_set_add pAckerMid l i _ ⟨.close, .wake⟩ ha
  simp [pCloserMid, pCloserDone, pAckerMid, Actor.isCloser] at hm hd hk
  exact ⟨hm, hd, hk⟩

/-- A `wake()`: a closer moves from one count to the other, an acknowledger is in neither. -/
theorem counts_wake {l : List Actor} {i : Nat} {k : ActorKind} (ha : l[i]? = some ⟨k, .wake⟩) :
    (l.set i ⟨k, .done⟩).countP pCloserMid + (l.set i ⟨k, .done⟩).countP pCloserDone =
      l.countP pCloserMid + l.countP pCloserDone := by
  have hm := countP_set_add pCloserMid l i _ ⟨k, .done⟩ ha
  have hd := countP_set_add pCloserDone l i _ ⟨k, .done⟩ ha
  cases k <;> simp [pCloserMid, pCloserDone, Actor.isCloser] at hm hd <;> omega

theorem closers_pos_iff (l : List Actor) :
    0 < l.countP pCloserMid + l.countP pCloserDone ↔ ∃ a ∈ l, a.isCloser = true ∧ a.pc ≠ .write := by
  constructor
  · intro h
    have : 0 < l.countP pCloserMid ∨ 0 < l.countP pCloserDone := by omega
    rcases this with h | h <;> obtain ⟨a, ha, hp⟩ := List.countP_pos_iff.mp h <;>
      simp only [pCloserMid, pCloserDone, Bool.and_eq_true, beq_iff_eq] at hp <;>
      exact ⟨a, ha, hp.1, by simp [hp.2]⟩
  · rintro ⟨a, ha, hc, hpc⟩
    cases hp : a.pc with
    | write => exact absurd hp hpc
    | wake =>
      have := List.countP_pos_iff.mpr ⟨a, ha, show pCloserMid a = true by simp [pCloserMid, hc, hp]⟩
      omega
    | done =>
      have := List.countP_pos_iff.mpr ⟨a, ha, show pCloserDone a = true by simp [pCloserDone, hc, hp]⟩
      omega

theorem any_wake_of_mid {l : List Actor} (h : 0 < l.countP pCloserMid + l.countP pAckerMid) :
    l.any (·.pc == .wake) = true := by
  have : 0 < l.countP pCloserMid ∨ 0 < l.countP pAckerMid := by omega
  rcases this with h | h <;> obtain ⟨a, ha, hp⟩ := List.countP_pos_iff.mp h <;>
    simp only [pCloserMid, pAckerMid, Bool.and_eq_true] at hp <;>
    exact List.any_eq_true.mpr ⟨a, ha, hp.2⟩

/-- What a writer whose waker still sits in the cell can count on: no close has completed and any credit belongs to
    an acknowledger still before its `wake()`; so either there is nothing for it to do (no credit, no closer has
    swapped) or some actor's next operation is a `wake()`. -/
theorem idle_or_wake_coming {l : List Actor} {credit : Nat} (hd : l.countP pCloserDone = 0)
    (hc : 0 < credit → 0 < l.countP pAckerMid) :
    (credit = 0 ∧ l.countP pCloserMid + l.countP pCloserDone = 0) ∨ l.any (·.pc == .wake) = true := by
  by_cases hm : 0 < l.countP pCloserMid + l.countP pAckerMid
  · exact .inr (any_wake_of_mid hm)
  · exact .inl ⟨by omega, by omega⟩

theorem no_wake_of_all_done {l : List Actor} (hd : l.all (·.pc == .done) = true)
    (hw : l.any (·.pc == .wake) = true) : False := by
  obtain ⟨a, ha, hwk⟩ := List.any_eq_true.mp hw
  have := List.all_eq_true.mp hd a ha
  rw [beq_iff_eq] at hwk this
  exact nomatch hwk.symm.trans this

/-- `results` lists the log oldest first (the log is newest first); counting does not see the order. -/
theorem count_some_results (l : List (Bool × PollResult)) :
    (l.map (·.2)).reverse.count .some = l.countP (fun p => p.2 == .some) := by
  rw [List.count_reverse]
  induction l with
  | nil => rfl
  | cons p l ih => simp only [List.map_cons, List.count_cons, List.countP_cons, ih]

theorem log_push_some {l : List (Bool × PollResult)} {c : Bool} {r : PollResult} {m n : Nat}
    (hl : l.countP (fun p => p.2 == .some) = m) (hr : m + (if r == .some then 1 else 0) = n) :
    ((c, r) :: l).countP (fun p => p.2 == .some) = n := by
  rw [List.countP_cons, hl]; exact hr

theorem log_push_closed {l : List (Bool × PollResult)} {c : Bool} {r : PollResult}
    (hl : ∀ p ∈ l, p.1 = true → p.2 = .none) (hc : c = true → r = .none) :
    ∀ p ∈ (c, r) :: l, p.1 = true → p.2 = .none := by
  intro p hp
  rcases List.mem_cons.mp hp with rfl | hp
  · exact hc
  · exact hl p hp

structure Inv (sc : Scenario) (s : State) : Prop where
  conservation : s.credit + s.takes.length = sc.credit + s.grants
  closed_iff : s.closed = true ↔ 0 < s.actors.countP pCloserMid + s.actors.countP pCloserDone
  takes_pos : ∀ v ∈ s.takes, 0 < v
  /-- the value a `compare_exchange` is about to be tried from was loaded as non-zero -/
  cas_pos : ∀ o, s.pc = .cas o → 0 < o
  /-- a unit taken is a frame sent, or the frame of the writer at `send` -/
  sent_takes : s.sent + (if s.pc = .send then 1 else 0) = s.takes.length
  log_some : s.log.countP (fun p => p.2 == .some) = s.sent
  log_closed : ∀ p ∈ s.log, p.1 = true → p.2 = .none
  /-- a poll that is past its first load found the flag clear (otherwise it has returned) -/
  mid_start : s.pc ≠ .loadFin → s.pc ≠ .finished → s.curStartClosed = false
  /-- after `register` the waker leaves the cell only by being woken -/
  reg_or_woken : (s.pc = .reloadFin ∨ s.pc = .reloadCredit ∨ parked s = true) →
    s.registered = some s.cur ∨ s.cur ∈ s.wakeLog
  /-- the re-check saw the flag clear and no `wake()` has run since `register`: no close has completed -/
  recheck_closers : s.pc = .reloadCredit → s.registered = some s.cur →
    s.actors.countP pCloserDone = 0
  /-- parked with the waker still in the cell: no close has completed, and credit that has arrived since the
      re-check belongs to an acknowledger whose `wake()` is still to come -/
  parked_ok : parked s = true → s.registered = some s.cur →
    s.actors.countP pCloserDone = 0 ∧ (0 < s.credit → 0 < s.actors.countP pAckerMid)

theorem init_inv (sc : Scenario) : Inv sc (init sc) := by
  have h1 := countP_map_write pCloserMid (by intro k; simp [pCloserMid]) sc.actors
  have h2 := countP_map_write pCloserDone (by intro k; simp [pCloserDone]) sc.actors
  constructor <;> simp [init, parked, h1, h2] <;> (try split) <;> simp_all

theorem finishPoll_cases (s : State) (r : PollResult) :
    (s.pollsLeft = 0 ∧ finishPoll s r = { s with log := (s.curStartClosed, r) :: s.log, pc := .finished }) ∨
    (∃ n, s.pollsLeft = n + 1 ∧ finishPoll s r =
      { s with log := (s.curStartClosed, r) :: s.log, pc := .loadFin, cur := s.cur + 1, pollsLeft := n, curRegistered := false }) := by
  unfold finishPoll
  cases h : s.pollsLeft with
  | zero => left; simp
  | succ n => right; exact ⟨n, rfl, by simp⟩

/-- An operation of the writer inside a poll that changes nothing but `pc` (and the ghost
    `curStartClosed`) and does not lead past `register`: the clauses that read `pc` are asked of the
    new `pc`, where those about a registered or parked writer are vacuous.  `c` is `false` written out
    (`loadFin`) or the old value, which is `false` inside a poll. -/
theorem Inv.move {sc : Scenario} {s : State} (h : Inv sc s) {pc : WPc} {c : Bool} (hs : s.pc ≠ .send)
    (h1 : pc ≠ .send) (h2 : pc ≠ .finished) (h3 : pc ≠ .reloadFin) (h4 : pc ≠ .reloadCredit)
    (hcas : ∀ o, pc = .cas o → 0 < o) (hc : c = false) :
    Inv sc { s with pc := pc, curStartClosed := c } :=
  { h with
    cas_pos := hcas
    sent_takes := by have := h.sent_takes; simp only [hs, h1, if_false] at this ⊢; exact this
    mid_start := fun _ _ => hc
    reg_or_woken := fun h' => by simp [parked, h2, h3, h4] at h'
    recheck_closers := fun h' => absurd h' h4
    parked_ok := fun h' => by simp [parked, h2] at h' }

/-- The current poll returns `r` (`c`, `n`: the ghost updates of the returning operation).  `Pending`
    is returned only from the re-check of the credit, which found none. -/
theorem Inv.finishPoll {sc : Scenario} {s : State} (h : Inv sc s) {c : Bool} {n : Nat} {r : PollResult}
    (hn : n = s.takes.length) (hr : s.sent + (if r == .some then 1 else 0) = n) (hc : c = true → r = .none)
    (hp : r = .pending → s.pc = .reloadCredit ∧ s.credit = 0) :
    Inv sc (finishPoll { s with curStartClosed := c, sent := n } r) := by
  have hlog := log_push_some (c := c) h.log_some hr
  have hcl := log_push_closed h.log_closed hc
  rcases finishPoll_cases { s with curStartClosed := c, sent := n } r with ⟨_, e⟩ | ⟨m, _, e⟩ <;> rw [e]
  · have hpk : parked { s with curStartClosed := c, sent := n, log := (c, r) :: s.log, pc := .finished } = true →
        s.pc = .reloadCredit ∧ s.credit = 0 := by
      intro h'; apply hp; cases r <;> simp [parked] at h' ⊢
    exact { h with
      cas_pos := nofun
      sent_takes := by simp [hn]
      log_some := hlog
      log_closed := hcl
      mid_start := fun _ h' => absurd rfl h'
      reg_or_woken := fun h' => h.reg_or_woken (.inr (.inl (hpk (by simpa using h')).1))
      recheck_closers := nofun
      parked_ok := fun h' hreg => ⟨h.recheck_closers (hpk h').1 hreg, fun hc => by
        have := (hpk h').2; have : 0 < s.credit := hc; omega⟩ }
  · exact { h with
      cas_pos := nofun
      sent_takes := by simp [hn]
      log_some := hlog
      log_closed := hcl
      mid_start := fun h' => absurd rfl h'
      reg_or_woken := fun h' => by simp [parked] at h'
      recheck_closers := nofun
      parked_ok := fun h' => by simp [parked] at h' }

theorem writer_inv {sc : Scenario} {s : State} (h : Inv sc s) : Inv sc (writerStep true s) := by
  have hst (e : s.pc ≠ .send) : s.sent = s.takes.length := by simpa [e] using h.sent_takes
  cases hpc : s.pc <;> simp only [writerStep, hpc]
  case loadFin =>
    split
    · exact h.finishPoll (hst (by simp [hpc])) (by simp) (fun _ => rfl) nofun
    · exact h.move (by simp [hpc]) nofun nofun nofun nofun nofun rfl
  case loadCredit =>
    have hc := h.mid_start (by simp [hpc]) (by simp [hpc])
    split
    · exact h.move (by simp [hpc]) nofun nofun nofun nofun nofun hc
    · next hcr => exact h.move (by simp [hpc]) nofun nofun nofun nofun (by simp; omega) hc
  case register =>
    exact { h with
      cas_pos := nofun
      sent_takes := by simpa [hpc] using h.sent_takes
      mid_start := fun _ _ => h.mid_start (by simp [hpc]) (by simp [hpc])
      reg_or_woken := fun _ => .inl rfl
      recheck_closers := nofun
      parked_ok := fun h' => by simp [parked] at h' }
  case reloadFin =>
    split
    · exact h.finishPoll (hst (by simp [hpc])) (by simp) (fun _ => rfl) nofun
    · next hcl =>
      have hd : s.actors.countP pCloserDone = 0 := by
        have := mt h.closed_iff.mpr hcl; omega
      exact { h with
        cas_pos := nofun
        sent_takes := by simpa [hpc] using h.sent_takes
        mid_start := fun _ _ => h.mid_start (by simp [hpc]) (by simp [hpc])
        reg_or_woken := fun _ => h.reg_or_woken (.inl hpc)
        recheck_closers := fun _ _ => hd
        parked_ok := fun h' => by simp [parked] at h' }
  case reloadCredit =>
    have hc := h.mid_start (by simp [hpc]) (by simp [hpc])
    split
    · next hcr => exact h.finishPoll (hst (by simp [hpc])) (by simp) (by simp [hc]) (fun _ => ⟨hpc, hcr⟩)
    · exact h.move (by simp [hpc]) nofun nofun nofun nofun (by simp; omega) hc
  case cas orig =>
    have hc := h.mid_start (by simp [hpc]) (by simp [hpc])
    have ho := h.cas_pos _ hpc
    split
    · next hcr =>
      exact { h with
        conservation := by have := h.conservation; simp only [List.length_cons]; omega
        takes_pos := fun v hv => (List.mem_cons.mp hv).elim (· ▸ ho) (h.takes_pos v)
        cas_pos := nofun
        sent_takes := by simpa [hpc] using h.sent_takes
        mid_start := fun _ _ => hc
        reg_or_woken := fun h' => by simp [parked] at h'
        recheck_closers := nofun
        parked_ok := fun h' => by simp [parked] at h' }
    · exact h.move (by simp [hpc]) nofun nofun nofun nofun nofun hc
  case send =>
    have hc := h.mid_start (by simp [hpc]) (by simp [hpc])
    exact h.finishPoll (by simpa [hpc] using h.sent_takes) (by simp) (by simp [hc]) nofun
  case finished => exact h

/-! ### The actors' steps

They leave the writer's own fields alone; of the shared cells the clauses read the credit, the flag,
the cell and three counts of actors. -/

theorem actor_ack_write {sc : Scenario} {s : State} (h : Inv sc s) (i n : Nat)
    (ha : s.actors[i]? = some ⟨.ack n, .write⟩) :
    Inv sc { s with credit := s.credit + n, grants := s.grants + n,
                    actors := s.actors.set i ⟨.ack n, .wake⟩ } := by
  obtain ⟨hm, hd, hk⟩ := counts_ack_write ha
  exact { h with
    conservation := by have := h.conservation; simp only; omega
    closed_iff := by simp only [hm, hd]; exact h.closed_iff
    recheck_closers := by simp only [hd]; exact h.recheck_closers
    parked_ok := fun hp hr => by simp only [hd, hk]; exact ⟨(h.parked_ok hp hr).1, fun _ => by omega⟩ }

theorem actor_close_write {sc : Scenario} {s : State} (h : Inv sc s) (i : Nat)
    (ha : s.actors[i]? = some ⟨.close, .write⟩) :
    Inv sc { s with closed := true, actors := s.actors.set i ⟨.close, .wake⟩ } := by
  obtain ⟨hm, hd, hk⟩ := counts_close_write ha
  exact { h with
    closed_iff := by simp only [hm]; exact ⟨fun _ => by omega, fun _ => trivial⟩
    recheck_closers := by simp only [hd]; exact h.recheck_closers
    parked_ok := by simp only [hd, hk]; exact h.parked_ok }

theorem doWake_cases (s : State) :
    (s.registered = none ∧ doWake s = s) ∨
    (∃ k, s.registered = some k ∧ doWake s = { s with registered := none, wakeLog := k :: s.wakeLog }) := by
  unfold doWake
  cases s.registered with
  | none => exact .inl ⟨rfl, rfl⟩
  | some k => exact .inr ⟨k, rfl, rfl⟩

/-- A `wake()` leaves the cell empty, so the clauses about a writer whose waker is in the cell become
    vacuous: that the actor is `done` from now on costs nothing. -/
theorem actor_wake {sc : Scenario} {s : State} (h : Inv sc s) (i : Nat) (k : ActorKind)
    (ha : s.actors[i]? = some ⟨k, .wake⟩) :
    Inv sc (doWake { s with actors := s.actors.set i ⟨k, .done⟩ }) := by
  have hcl : s.closed = true ↔ 0 < (s.actors.set i ⟨k, .done⟩).countP pCloserMid +
      (s.actors.set i ⟨k, .done⟩).countP pCloserDone := by
    rw [counts_wake ha]; exact h.closed_iff
  rcases doWake_cases { s with actors := s.actors.set i ⟨k, .done⟩ } with ⟨hr, e⟩ | ⟨r, hr, e⟩ <;>
    rw [e] <;> simp only at hr
  · exact { h with
      closed_iff := hcl
      recheck_closers := fun _ h' => by simp [hr] at h'
      parked_ok := fun _ h' => by simp [hr] at h' }
  · exact { h with
      closed_iff := hcl
      reg_or_woken := fun h' => .inr <| (h.reg_or_woken h').elim
        (fun e => by simp [Option.some.inj (hr.symm.trans e)]) (List.mem_cons_of_mem _)
      recheck_closers := nofun
      parked_ok := nofun }

theorem actor_inv {sc : Scenario} {s : State} (h : Inv sc s) (i : Nat) : Inv sc (actorStep s i) := by
  unfold actorStep
  split
  · exact h
  · next a ha =>
    obtain ⟨kind, pc⟩ := a
    cases pc with
    | write =>
      cases kind with
      | ack n => exact actor_ack_write h i n ha
      | close => exact actor_close_write h i ha
    | wake => exact actor_wake h i kind ha
    | done => exact h

theorem spurious_inv {sc : Scenario} {s : State} (h : Inv sc s) :
    Inv sc (match s.pc with | .cas _ => { s with pc := .loadCredit } | _ => s) := by
  split
  · next hpc =>
    exact h.move (by simp [hpc]) nofun nofun nofun nofun nofun (h.mid_start (by simp [hpc]) (by simp [hpc]))
  · exact h

theorem step_inv {sc : Scenario} {s : State} (h : Inv sc s) (l : Label) : Inv sc (step s l) := by
  cases l with
  | writer => exact writer_inv h
  | casSpurious => exact spurious_inv h
  | actor i => exact actor_inv h i

theorem foldl_keeps {σ ι : Type} {P : σ → Prop} {f : σ → ι → σ} (h : ∀ s l, P s → P (f s l)) :
    ∀ (ls : List ι) (s : σ), P s → P (ls.foldl f s) := by
  intro ls
  induction ls with
  | nil => exact fun _ h0 => h0
  | cons l ls ih => exact fun s h0 => ih _ (h s l h0)

theorem run_inv (sc : Scenario) (ls : List Label) : Inv sc (run sc ls) :=
  foldl_keeps (P := Inv sc) (fun _ l h => step_inv h l) ls _ (init_inv sc)

/-! ### Provenance of wake-ups: waker `k` belongs to poll `k`

Independent of `Inv`: the `AtomicWaker` only ever holds, and `wake()` only ever wakes, the waker of
the current or an earlier poll, and the current poll's waker only after that poll has executed
`register` (ghost `curRegistered`). -/

structure Inv2 (s : State) : Prop where
  reg_le : ∀ j, s.registered = some j → j ≤ s.cur
  reg_cur : s.registered = some s.cur → s.curRegistered = true
  woken_le : ∀ j ∈ s.wakeLog, j ≤ s.cur
  woken_cur : s.cur ∈ s.wakeLog → s.curRegistered = true

theorem init_inv2 (sc : Scenario) : Inv2 (init sc) := by
  constructor <;> simp [init]

theorem finishPoll_inv2 {s : State} (h : Inv2 s) (r : PollResult) : Inv2 (finishPoll s r) := by
  obtain ⟨h1, h2, h3, h4⟩ := h
  rcases finishPoll_cases s r with ⟨_, e⟩ | ⟨n, _, e⟩ <;> rw [e]
  · exact ⟨h1, h2, h3, h4⟩
  · exact ⟨fun j hj => Nat.le_succ_of_le (h1 j hj), fun hj => by have := h1 _ hj; simp only at this; omega,
      fun j hj => Nat.le_succ_of_le (h3 j hj), fun hj => by have := h3 _ hj; simp only at this; omega⟩

theorem writer_inv2 {s : State} (h : Inv2 s) : Inv2 (writerStep true s) := by
  cases hpc : s.pc <;> simp only [writerStep, hpc]
  case register => exact ⟨by simp, by simp, h.3, by simp⟩
  case finished => exact h
  case send => exact finishPoll_inv2 (by exact ⟨h.1, h.2, h.3, h.4⟩) _
  case loadCredit | cas => split <;> exact ⟨h.1, h.2, h.3, h.4⟩
  case loadFin | reloadFin | reloadCredit =>
    split
    · exact finishPoll_inv2 (by exact ⟨h.1, h.2, h.3, h.4⟩) _
    · exact ⟨h.1, h.2, h.3, h.4⟩

theorem doWake_inv2 {s : State} (h : Inv2 s) : Inv2 (doWake s) := by
  obtain ⟨h1, h2, h3, h4⟩ := h
  rcases doWake_cases s with ⟨_, e⟩ | ⟨k, hk, e⟩ <;> rw [e]
  · exact ⟨h1, h2, h3, h4⟩
  · exact ⟨nofun, nofun, fun j hj => (List.mem_cons.mp hj).elim (fun e => e ▸ h1 k hk) (h3 j),
      fun hj => (List.mem_cons.mp hj).elim (fun e => h2 (hk.trans (congrArg some e.symm))) h4⟩

theorem actor_inv2 {s : State} (h : Inv2 s) (i : Nat) : Inv2 (actorStep s i) := by
  unfold actorStep
  split
  · exact h
  · split
    · split <;> exact ⟨h.1, h.2, h.3, h.4⟩
    · exact doWake_inv2 ⟨h.1, h.2, h.3, h.4⟩
    · exact h

theorem step_inv2 {s : State} (h : Inv2 s) (l : Label) : Inv2 (step s l) := by
  cases l with
  | writer => exact writer_inv2 h
  | casSpurious =>
    show Inv2 (match s.pc with | .cas _ => { s with pc := .loadCredit } | _ => s)
    split
    · exact ⟨h.1, h.2, h.3, h.4⟩
    · exact h
  | actor i => exact actor_inv2 h i

theorem run_inv2 (sc : Scenario) (ls : List Label) : Inv2 (run sc ls) :=
  foldl_keeps (P := Inv2) (fun _ l h => step_inv2 h l) ls _ (init_inv2 sc)

end Penguin.Lemmas.Waker
