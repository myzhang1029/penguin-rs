/-
Every slot of the flow table is accounted for — for every history of one endpoint and ANY peer.

While an endpoint is in service (`Serving`: the `Multiplexor` is held, its task runs and has not begun
to wind down) every `Established` slot `x ↦ i` of the flow table is justified (`Just`) by something
that still exists:
 * stream `i` waits in the accept queue, or is the parked hand-over of the receive loop, or is the
   answer of an open request whose future has not run yet (`doneq`; empty between stimuli), or
 * a handle of stream `i` is held by the application and has not been dropped, or
 * a dropped-handle notification for id `x` is queued for the task (`droppedq`).
The other two slot kinds ARE the record of a request that the peer has not answered yet: a `Requested`
slot is an open request (its `Connect` is out, whether its caller still waits or has given up), a
`BindRequested` slot a bind request.  (Such a slot only enters the table together with its frame: a
call that finds the outbound queue closed takes the slot it had inserted out again and returns
`Closed` — `openRound` / `appBindReq`, `Lemmas/MuxEndedTable.lean` — so none of them is the left-over
of a request that was never sent.)

The model has no "dropped" flag on a handle (`rxOpen = false` is also what reading end-of-stream
leaves behind), so the handles a history has dropped are tracked beside the state (`dropsOf`).

`Accounted e D` is shown for the initial state and preserved by every function of the endpoint model
(`KeepsA`), hence by every stimulus and every history.  The justifications are injective (distinct
slots have distinct ids and distinct stream objects), which gives the number: `slot_bound` in
`Lemmas/MuxAccountCount.lean`.
Core Lean only.
-/
import Penguin.Lemmas.MuxLeakDrop
import Penguin.Lemmas.MuxSettle
import Penguin.Lemmas.MuxIdle

namespace Penguin.Mux

/-- The endpoint is in service: the `Multiplexor` is held, the task runs and has not begun to wind
    down (its outbound queue is open).  Once one of these fails the task is winding down or about to
    (the notification `0` is queued), and the wind-down ends by clearing the whole table — which then
    stays empty (`reachable_dead_table_empty`, `Lemmas/MuxEndedTable.lean`). -/
structure Serving (e : EP) : Prop where
  outOpen : e.outClosed = false
  mux : e.muxAlive = true
  alive : e.dead = false
  nodrain : e.draining = none
  noclose : e.closing = none

/-- Why the `Established` slot `fid ↦ i` is still in the table (`D`: the handles dropped so far). -/
def Just (e : EP) (D : List Nat) (fid i : Nat) : Prop :=
  i ∈ e.acceptq ∨ e.park = some (.accept i) ∨ i ∈ e.doneq.map (·.2) ∨ fid ∈ e.droppedq ∨
    ∃ h, e.handles[h]? = some i ∧ h ∉ D

structure Acc (e : EP) (D : List Nat) : Prop where
  dv : ∀ h, h ∈ D → h < e.handles.length
  keys : (e.flows.map (·.1)).Nodup
  just : ∀ fid i, lookup e.flows fid = some (.established i) → Just e D fid i

def Accounted (e : EP) (D : List Nat) : Prop := Serving e → Acc e D

def dropOf (e : EP) : Op → List Nat
  | .dropStream h => if (e.handleObj h).isSome then [h] else []
  | _ => []

/-- The stream handles a history drops (a `dropStream` on a handle that exists at that point). -/
def dropsOf (e : EP) : List Op → List Nat
  | [] => []
  | op :: rest =>
    (match op with
     | .dropStream h => if (e.handleObj h).isSome then [h] else []
     | _ => []) ++ dropsOf (applyOp e op).1 rest

theorem dropsOf_cons (e : EP) (op : Op) (rest : List Op) :
    dropsOf e (op :: rest) = dropOf e op ++ dropsOf (applyOp e op).1 rest := by
  cases op <;> rfl

def heldList (e : EP) (D : List Nat) : List Nat := (List.range e.handles.length).filter (fun h => !D.contains h)

/-- Number of stream handles the application holds and has not dropped. -/
def liveHandles (e : EP) (D : List Nat) : Nat := (heldList e D).length

/-- 1 when the receive loop is parked handing a new stream to a full accept queue. -/
def parkedCount (e : EP) : Nat :=
  match e.park with
  | some (.accept _) => 1
  | _ => 0

def Slot.isRequested : Slot → Bool
  | .requested _ => true
  | _ => false
def Slot.isBindRequested : Slot → Bool
  | .bindRequested _ => true
  | _ => false

def establishedCount (e : EP) : Nat := e.flows.countP (fun p => p.2.isEst)
/-- `Requested` slots: open requests whose `Connect` the peer has not answered yet, … -/
def awaitingOpen (e : EP) : Nat := e.flows.countP (fun p => p.2.isRequested)
/-- A `Requested` slot whose caller still waits (its request is in `opens`). -/
def Slot.pendingIn (opens : List OpenReq) : Slot → Bool
  | .requested req => opens.any (·.req == req)
  | _ => false
/-- A `Requested` slot whose caller has given up (`cancelOpen`: the future was dropped; the slot
    stays until the peer answers). -/
def Slot.abandonedIn (opens : List OpenReq) : Slot → Bool
  | .requested req => !opens.any (·.req == req)
  | _ => false
/-- … those of them whose caller still waits … -/
def pendingOpens (e : EP) : Nat := e.flows.countP (fun p => p.2.pendingIn e.opens)
/-- … and those whose caller has given up. -/
def cancelledAwaiting (e : EP) : Nat := e.flows.countP (fun p => p.2.abandonedIn e.opens)
/-- `BindRequested` slots: bind requests the peer has not answered yet. -/
def pendingBinds (e : EP) : Nat := e.flows.countP (fun p => p.2.isBindRequested)

def KeepsA (e e' : EP) : Prop := ∀ D, Accounted e D → Accounted e' D

theorem KeepsA.refl (e : EP) : KeepsA e e := fun _ h => h
theorem KeepsA.trans {a b c : EP} (s : KeepsA a b) (t : KeepsA b c) : KeepsA a c := fun D h => t D (s D h)

theorem KeepsA.off {e e' : EP} (h : ¬ Serving e') : KeepsA e e' := fun _ _ s => absurd s h

theorem KeepsA.ite {e : EP} {c : Prop} [Decidable c] {β : Type} {a b : EP × β}
    (h1 : c → KeepsA e a.1) (h2 : ¬ c → KeepsA e b.1) : KeepsA e (if c then a else b).1 :=
  if h : c then by rw [if_pos h]; exact h1 h else by rw [if_neg h]; exact h2 h

theorem Serving.of_ctl {e e' : EP} (c : Ctl e e') (s : Serving e') : Serving e :=
  ⟨by rw [← c.outClosed]; exact s.outOpen, by rw [← c.muxAlive]; exact s.mux, by rw [← c.dead]; exact s.alive,
   by rw [← c.draining]; exact s.nodrain, by rw [← c.closing]; exact s.noclose⟩

theorem Serving.of_eq {e e' : EP} (s : Serving e')
    (h : (e'.outClosed, e'.muxAlive, e'.dead, e'.draining, e'.closing) =
      (e.outClosed, e.muxAlive, e.dead, e.draining, e.closing) := by rfl) : Serving e := by
  simp only [Prod.mk.injEq] at h
  exact ⟨h.1 ▸ s.outOpen, h.2.1 ▸ s.mux, h.2.2.1 ▸ s.alive, h.2.2.2.1 ▸ s.nodrain, h.2.2.2.2 ▸ s.noclose⟩

theorem KeepsA.of {e e' : EP} (hsrv : Serving e' → Serving e) (hl : e.handles.length ≤ e'.handles.length)
    (hk : (e.flows.map (·.1)).Nodup → (e'.flows.map (·.1)).Nodup)
    (hj : ∀ D, Serving e' → Acc e D → ∀ fid i, lookup e'.flows fid = some (.established i) → Just e' D fid i) :
    KeepsA e e' := by
  intro D h s
  have a := h (hsrv s)
  exact ⟨fun (x : Nat) hx => Nat.lt_of_lt_of_le (a.dv x hx) hl, hk a.keys, hj D s a⟩

theorem Just.accept {e : EP} {D : List Nat} {fid i : Nat} (h : i ∈ e.acceptq) : Just e D fid i := .inl h
theorem Just.park {e : EP} {D : List Nat} {fid i : Nat} (h : e.park = some (.accept i)) : Just e D fid i := .inr (.inl h)
theorem Just.done {e : EP} {D : List Nat} {fid i : Nat} (h : i ∈ e.doneq.map (·.2)) : Just e D fid i := .inr (.inr (.inl h))
theorem Just.dropped {e : EP} {D : List Nat} {fid i : Nat} (h : fid ∈ e.droppedq) : Just e D fid i :=
  .inr (.inr (.inr (.inl h)))
theorem Just.handle {e : EP} {D : List Nat} {fid i k : Nat} (h : e.handles[k]? = some i) (hD : k ∉ D) : Just e D fid i :=
  .inr (.inr (.inr (.inr ⟨k, h, hD⟩)))

theorem Just.mono {e e' : EP} {D : List Nat} {fid i : Nat} (h : Just e D fid i)
    (ha : ∀ j, j ∈ e.acceptq → j ∈ e'.acceptq)
    (hp : e.park = some (.accept i) → e'.park = some (.accept i))
    (hd : ∀ j, j ∈ e.doneq.map (·.2) → j ∈ e'.doneq.map (·.2))
    (hq : ∀ x, x ∈ e.droppedq → x ∈ e'.droppedq)
    (hh : ∀ (k j : Nat), e.handles[k]? = some j → e'.handles[k]? = some j) : Just e' D fid i := by
  rcases h with h | h | h | h | ⟨k, hk, hD⟩
  · exact .accept (ha i h)
  · exact .park (hp h)
  · exact .done (hd i h)
  · exact .dropped (hq fid h)
  · exact .handle (hh k i hk) hD

theorem KeepsA.sub {e e' : EP} (hsrv : Serving e' → Serving e) (hh : e'.handles = e.handles)
    (hk : (e.flows.map (·.1)).Nodup → (e'.flows.map (·.1)).Nodup)
    (hs : ∀ fid i, lookup e'.flows fid = some (.established i) → lookup e.flows fid = some (.established i))
    (ha : e'.acceptq = e.acceptq) (hp : e'.park = e.park) (hd : e'.doneq = e.doneq)
    (hq : e'.droppedq = e.droppedq) : KeepsA e e' := by
  refine KeepsA.of hsrv (by rw [hh]; exact Nat.le_refl _) hk ?_
  intro D _ a fid i hl
  exact Just.mono (a.just fid i (hs fid i hl)) (by rw [ha]; exact fun _ h => h) (by rw [hp]; exact id)
    (by rw [hd]; exact fun _ h => h) (by rw [hq]; exact fun _ h => h) (by rw [hh]; exact fun _ _ h => h)

theorem KeepsA.same {e e' : EP} (hsrv : Serving e' → Serving e) (hf : e'.flows = e.flows) (hh : e'.handles = e.handles)
    (ha : e'.acceptq = e.acceptq) (hp : e'.park = e.park) (hd : e'.doneq = e.doneq)
    (hq : e'.droppedq = e.droppedq) : KeepsA e e' :=
  KeepsA.sub hsrv hh (by rw [hf]; exact id) (by rw [hf]; exact fun _ _ h => h) ha hp hd hq

/-- A record update of fields the accounting does not look at. -/
macro "ka" : tactic => `(tactic|
  exact KeepsA.same (·.of_eq) rfl rfl rfl rfl rfl rfl)

theorem KeepsA.enq (e : EP) (m : Msg) : KeepsA e (e.enq m) := by
  unfold EP.enq; split
  · exact KeepsA.refl e
  · ka
theorem KeepsA.enqFrame (e : EP) (f : Frame) : KeepsA e (e.enqFrame f) := KeepsA.enq e _

theorem KeepsA.modObj (e : EP) (i : Nat) (f : Obj → Obj) : KeepsA e (e.modObj i f) := by ka

theorem keys_nodup_erase {m : List (Nat × Slot)} (k : Nat) (h : (m.map (·.1)).Nodup) :
    ((erase m k).map (·.1)).Nodup := h.sublist (List.filter_sublist.map _)

theorem keys_nodup_insert {m : List (Nat × Slot)} (k : Nat) (v : Slot) (h : (m.map (·.1)).Nodup) :
    ((insert m k v).map (·.1)).Nodup := by
  simp only [insert, List.map_cons]
  refine List.nodup_cons.mpr ⟨?_, keys_nodup_erase k h⟩
  intro hm
  obtain ⟨p, hp, hpk⟩ := List.mem_map.mp hm
  simp only [erase, List.mem_filter, ne_eq, decide_eq_true_eq] at hp
  exact hp.2 hpk

theorem KeepsA.erase (e : EP) (fid : Nat) : KeepsA e { e with flows := erase e.flows fid } :=
  KeepsA.sub (·.of_eq) rfl (keys_nodup_erase fid)
    (fun _ _ h => lookup_erase_some h) rfl rfl rfl rfl

theorem KeepsA.insertPending (e : EP) (fid : Nat) (s : Slot) (hs : ∀ i, s ≠ .established i) :
    KeepsA e { e with flows := insert e.flows fid s } :=
  KeepsA.sub (·.of_eq) rfl (keys_nodup_insert fid s)
    (fun _ i => lookup_insert_other (hs i).symm) rfl rfl rfl rfl

theorem KeepsA.newEst {e e' : EP} (fid i : Nat) (hsrv : Serving e' → Serving e) (hh : e'.handles = e.handles)
    (hf : e'.flows = insert e.flows fid (.established i))
    (hnew : ∀ D, Just e' D fid i)
    (ha : ∀ j, j ∈ e.acceptq → j ∈ e'.acceptq)
    (hp : ∀ j, e.park = some (.accept j) → e'.park = some (.accept j))
    (hd : ∀ j, j ∈ e.doneq.map (·.2) → j ∈ e'.doneq.map (·.2))
    (hq : ∀ x, x ∈ e.droppedq → x ∈ e'.droppedq) : KeepsA e e' := by
  refine KeepsA.of hsrv (by rw [hh]; exact Nat.le_refl _) (by rw [hf]; exact keys_nodup_insert fid _) ?_
  intro D _ a y j hl
  rw [hf] at hl
  rcases lookup_insert_some hl with ⟨rfl, hj⟩ | ⟨_, hl⟩
  · cases hj; exact hnew D
  · exact Just.mono (a.just y j hl) ha (hp j) hd hq (by rw [hh]; exact fun _ _ h => h)

theorem KeepsA.grow {e e' : EP} (hsrv : Serving e' → Serving e) (hf : e'.flows = e.flows)
    (hl : e.handles.length ≤ e'.handles.length) (hh : ∀ (k j : Nat), e.handles[k]? = some j → e'.handles[k]? = some j)
    (ha : ∀ j, j ∈ e.acceptq → j ∈ e'.acceptq) (hp : e'.park = e.park)
    (hd : ∀ j, j ∈ e.doneq.map (·.2) → j ∈ e'.doneq.map (·.2)) (hq : ∀ x, x ∈ e.droppedq → x ∈ e'.droppedq) :
    KeepsA e e' := by
  refine KeepsA.of hsrv hl (by rw [hf]; exact id) ?_
  intro D _ a fid i hs
  rw [hf] at hs
  exact Just.mono (a.just fid i hs) ha (by rw [hp]; exact id) hd hq hh

theorem KeepsA.parkOther {e e' : EP} (hsrv : Serving e' → Serving e) (hf : e'.flows = e.flows) (hh : e'.handles = e.handles)
    (ha : e'.acceptq = e.acceptq) (hd : e'.doneq = e.doneq) (hq : e'.droppedq = e.droppedq)
    (hnp : ∀ j, e.park ≠ some (.accept j)) : KeepsA e e' := by
  refine KeepsA.of hsrv (by rw [hh]; exact Nat.le_refl _) (by rw [hf]; exact id) ?_
  intro D _ a fid j hl
  rw [hf] at hl
  exact Just.mono (a.just fid j hl) (by rw [ha]; exact fun _ h => h) (fun h => absurd h (hnp j)) (by rw [hd]; exact fun _ h => h)
    (by rw [hq]; exact fun _ h => h) (by rw [hh]; exact fun _ _ h => h)

theorem KeepsA.handle (e : EP) (i : Nat) : KeepsA e { e with handles := e.handles ++ [i] } :=
  .grow (·.of_eq) rfl (by simp) (fun _ _ => getElem?_append_keep i)
    (fun _ h => h) rfl (fun _ h => h) (fun _ h => h)

theorem KeepsA.onlyBinds {e e' : EP} (hsrv : Serving e' → Serving e) (hh : e'.handles = e.handles)
    (hl : List.Sublist e'.flows e.flows) (hb : ∀ p ∈ e'.flows, p.2.isBind = true) (ha : e'.acceptq = e.acceptq)
    (hp : e'.park = e.park) (hd : e'.doneq = e.doneq) (hq : e'.droppedq = e.droppedq) : KeepsA e e' :=
  .sub hsrv hh (fun h => h.sublist (hl.map _)) (fun _ _ h => (Bool.false_ne_true (hb _ (lookup_mem _ _ _ h))).elim) ha hp hd hq

theorem KeepsA.toHandle {e e' : EP} (i : Nat) (hsrv : Serving e' → Serving e) (hf : e'.flows = e.flows)
    (hh : e'.handles = e.handles ++ [i]) (ha : ∀ j, j ∈ e.acceptq → j ∈ e'.acceptq ∨ j = i) (hp : e'.park = e.park)
    (hd : ∀ j, j ∈ e.doneq.map (·.2) → j ∈ e'.doneq.map (·.2) ∨ j = i) (hq : e'.droppedq = e.droppedq) : KeepsA e e' := by
  refine KeepsA.of hsrv (by simp [hh]) (by rw [hf]; exact id) ?_
  intro D _ a fid j hs
  rw [hf] at hs
  have new : j = i → Just e' D fid j := fun hj =>
    .handle (k := e.handles.length) (by simp [hh, hj]) fun hin => Nat.lt_irrefl _ (a.dv _ hin)
  rcases a.just fid j hs with h | h | h | h | ⟨k, hk, hD⟩
  · exact (ha j h).elim .accept new
  · exact .park (hp ▸ h)
  · exact (hd j h).elim .done new
  · exact .dropped (hq ▸ h)
  · exact .handle (hh ▸ getElem?_append_keep i hk) hD

theorem KeepsA.handOver (e : EP) (req i : Nat) :
    KeepsA e { e with handles := e.handles ++ [i], doneq := e.doneq.erase (req, i) } := by
  refine .toHandle i (·.of_eq) rfl rfl (fun _ h => .inl h) rfl ?_ rfl
  intro j h
  obtain ⟨p, hp, rfl⟩ := List.mem_map.mp h
  by_cases hpe : p = (req, i)
  · exact .inr (by rw [hpe])
  · exact .inl (List.mem_map.mpr ⟨p, (List.mem_erase_of_ne hpe).mpr hp, rfl⟩)

/-- The kinds of step across which it fails taken alone: an `Established` slot appears (its justification is another
    step), a justification is taken away or the hand-over parked anew (`acceptPop`, `droppedPop`, `park`: the step before or
    after makes up for it), the application's queues go, the wind-down notes or forgets where it stands. -/
def KeepsA.bad : Kinds :=
  .of [.newStream, .acceptPop, .dropQueues, .droppedPop, .droppedClear, .park, .parkBind, .closing, .draining]

theorem KeepsA.of_upd {k : Kind} {e e' : EP} {x : List Ev} (hk : k ∉ KeepsA.bad) (u : Upd k e x e') : KeepsA e e' := by
  cases u with
  | newStream => exact absurd (by decide +kernel) hk
  | obj _ _ i f => exact KeepsA.modObj e i f
  | erase | acceptBind | refuseBind => exact KeepsA.erase e _
  | reqSlot _ fid req => exact KeepsA.insertPending e fid (.requested req) nofun
  | startBind _ fid req => exact KeepsA.insertPending e fid (.bindRequested req) nofun
  | rejectSlot _ fid => exact (KeepsA.erase e fid).trans (by ka)
  | dropSlots =>
    exact .onlyBinds (·.of_eq) rfl List.filter_sublist
      (fun p hp => (List.mem_filter.mp hp).2) rfl rfl rfl rfl
  | drainBind _ _ _ _ h hb =>
    exact .onlyBinds (·.of_eq) rfl (h ▸ List.sublist_cons_self ..) hb
      rfl rfl rfl rfl
  | closeOut => exact .off fun s => by have := s.outOpen; cases this
  | muxGone => exact .off fun s => by have := s.mux; cases this
  | die => exact .off fun s => by have := s.alive; cases this
  | enq _ _ m => exact KeepsA.enq e m
  | send => unfold Mux.sendSome; split <;> ka
  | queue q =>
    cases q with
    | acceptPop | dropQueues => exact absurd (by decide +kernel) hk
    | acceptPush _ i =>
      exact .grow (·.of_eq) rfl (Nat.le_refl _) (fun _ _ h => h)
        (fun _ h => List.mem_append_left _ h) rfl (fun _ h => h) (fun _ h => h)
    | _ => ka
  | ctl c =>
    cases c with
    | droppedPop | droppedClear | park | parkBind | closing | draining => exact absurd (by decide +kernel) hk
    | handle _ i => exact KeepsA.handle e i
    | droppedPush _ fid =>
      exact .grow (·.of_eq) rfl (Nat.le_refl _) (fun _ _ h => h)
        (fun _ h => h) rfl (fun _ h => h) (fun _ h => List.mem_append_left _ h)
    | _ => ka
  | req r =>
    cases r with
    | ackOpen _ req i =>
      exact .grow (·.of_eq) rfl (Nat.le_refl _) (fun _ _ h => h)
        (fun _ h => h) rfl (fun j h => by rw [List.map_append]; exact List.mem_append_left _ h) (fun _ h => h)
    | handOver _ req i => exact KeepsA.handOver e req i
    | handOut _ _ i => exact KeepsA.handle e i
    | _ => ka
  | _ => ka

theorem KeepsA.of_path {A : Kinds} {e e' : EP} {x : List Ev} (p : Path A e x e')
    (hA : A.disj KeepsA.bad = true := by decide +kernel) : KeepsA e e' :=
  p.rel0 KeepsA.refl KeepsA.trans fun hk u => .of_upd (Kinds.not_mem_of_disj hA hk) u

theorem KeepsA.openRound (e : EP) (r : OpenReq) : KeepsA e (openRound e r).1 := .of_path (.openRoundAny e r)

theorem KeepsA.closeFlow (e : EP) (fid : Nat) (inh : Bool) : KeepsA e (closeFlow e fid inh).1 := .of_path (.closeFlow e fid inh)

/-- The receive loop hands over (or parks) only when it is not parked already. -/
theorem KeepsA.offerBind (e : EP) (b : BindIn) (hp : e.park = none) : KeepsA e (offerBind e b) := by
  unfold Mux.offerBind
  split
  · ka
  · exact .parkOther (·.of_eq) rfl rfl rfl rfl rfl fun j h => by rw [hp] at h; cases h

/-- `Finish`, `Reset`, `Push`, `Datagram` take no step at which a justification moves; `Connect` and `Acknowledge` make a
    stream, which comes with its justification, `Bind` may park the hand-over. -/
theorem KeepsA.processFrame (e : EP) (f : Frame) (ig : Bool) (hp : e.park = none) :
    KeepsA e (processFrame e f ig).1 := by
  have p := Path.processFrameOf e f ig
  cases f with
  | connect fid rwnd port host =>
    rw [Mux.processFrame]
    -- a new stream while the endpoint is no longer in service
    refine .ite (fun _ => .enqFrame _ _) fun _ => .ite (fun hoc => .off fun s => ?_) fun hoc =>
      .ite (fun hm => .off fun s => ?_) fun _ => ?_
    · have := s.outOpen.symm.trans hoc; cases this
    · have h2 := s.mux
      simp only [EP.enqFrame, EP.modObj, enq_muxAlive] at h2 hm
      rw [h2] at hm; cases hm
    -- a new stream, justified by the accept queue or by the parked hand-over
    simp only [EP.enqFrame, EP.enq]
    rw [if_neg hoc]
    unfold Mux.offerAccept
    split
    · exact KeepsA.newEst _ e.objs.length (·.of_eq) rfl rfl
        (fun D => .accept (List.mem_append_right _ (List.mem_singleton_self _)))
        (fun j hj => List.mem_append_left _ hj) (fun j hj => hj) (fun j hj => hj) (fun x hx => hx)
    · exact KeepsA.newEst _ e.objs.length (·.of_eq) rfl rfl
        (fun D => .park rfl) (fun j hj => hj) (fun j hj => by rw [hp] at hj; cases hj) (fun j hj => hj)
        (fun x hx => hx)
  | acknowledge fid n =>
    rw [Mux.processFrame]
    cases lookup e.flows fid with
    | none => exact .enqFrame _ _
    | some s =>
      cases s with
      | established i => exact .modObj _ _ _
      | bindRequested r => exact .enqFrame _ _
      | requested r =>
        -- a new stream, justified by the answer of the open request (`doneq`), or by the notification of its dropped handle
        dsimp only
        cases e.opens.find? (·.req = r) with
        | some _ =>
          exact KeepsA.newEst _ e.objs.length (·.of_eq) rfl rfl
            (fun D => .done (List.mem_map.mpr ⟨(_, _), List.mem_append_right _ (List.mem_singleton_self _), rfl⟩))
            (fun j hj => hj) (fun j hj => hj)
            (fun j hj => by simp only [List.map_append, List.mem_append]; exact Or.inl hj) (fun x hx => hx)
        | none =>
          exact KeepsA.newEst _ e.objs.length (·.of_eq) rfl rfl
            (fun D => .dropped (List.mem_append_right _ (List.mem_singleton_self _))) (fun j hj => hj)
            (fun j hj => hj) (fun j hj => hj) (fun x hx => by simp only [List.mem_append]; exact Or.inl hx)
  | bind fid bt port host =>
    rw [Mux.processFrame]
    exact .ite (fun _ => .enqFrame _ _) fun _ => .ite (fun _ => .refl e) fun _ =>
      .ite (fun _ => .enqFrame _ _) fun _ => .offerBind _ _ hp
  | _ => exact .of_path p (by dsimp only [K.processFrameOf]; decide +kernel)

theorem KeepsA.processIn (e : EP) (w : WsIn) (ig : Bool) (hp : e.park = none) : KeepsA e (processIn e w ig).1 := by
  cases w with
  | msg m => cases m <;> first | exact KeepsA.processFrame _ _ ig hp | exact KeepsA.refl e
  | bad b => exact KeepsA.refl e
  | err => exact KeepsA.refl e
  | eof => exact KeepsA.refl e

theorem windDownFinish_off (e : EP) (res : ExitRes) : ¬ Serving (windDownFinish e res).1 := by
  intro s
  have h := (windDownFinish_resolves e res).1
  rw [s.alive] at h; cases h

theorem windDownTail_off (e1 : EP) (flushed : List Ev) (srcEnded : Bool) (res : ExitRes) :
    ¬ Serving (windDownTail e1 flushed srcEnded res).1 := by
  intro s
  rcases windDownTail_dead_or_closing e1 flushed srcEnded res with h | h
  · rw [s.alive] at h; cases h
  · rw [s.noclose] at h; cases h

theorem windDown_off (e : EP) (drain : Bool) (res : ExitRes) : ¬ Serving (windDown e drain res).1 := by
  simp only [Mux.windDown]
  split
  · split
    · exact windDownTail_off _ _ _ _
    · intro s; have h := s.nodrain; cases h
  · exact windDownTail_off _ _ _ _

theorem drainStep_off (e : EP) (res : ExitRes) (hd : e.draining = some res) : ¬ Serving (drainStep e res).1 := by
  simp only [Mux.drainStep]
  split
  · exact windDownTail_off _ _ _ _
  · intro s; have h := s.nodrain; rw [show (sendSome e).1.draining = e.draining from (Path.sendSome e).frame .draining, hd] at h; cases h

theorem closingStep_off (e : EP) (res : ExitRes) (hc : e.closing = some res) : ¬ Serving (closingStep e res).1 := by
  simp only [Mux.closingStep]
  split
  · exact windDownFinish_off _ res
  · intro s
    have h := s.noclose
    have h2 : (windDownInbox e e.inbox).1.closing = none := h
    rw [show (windDownInbox e e.inbox).1.closing = e.closing from (Path.windDownInbox e e.inbox).frame .closing, hc] at h2; cases h2

theorem KeepsA.unpark (e : EP) : KeepsA e (unpark e) := by
  unfold Mux.unpark
  split
  · exact KeepsA.refl e
  · rename_i i hp
    split
    · rename_i hm
      refine KeepsA.off (fun s => ?_)
      have h2 := s.mux
      split at h2 <;> simp_all [EP.modObj]
    · split
      · -- the hand-over completes: the stream moves from the parked hand-over to the accept queue
        refine KeepsA.of (·.of_eq) (Nat.le_refl _) id ?_
        intro D _ a fid j hl
        rcases a.just fid j hl with h | h | h | h | h
        · exact .accept (List.mem_append_left _ h)
        · rw [hp] at h; simp only [Option.some.injEq, Park.accept.injEq] at h
          subst h; exact .accept (by simp)
        · exact .done h
        · exact .dropped h
        · exact .inr (.inr (.inr (.inr h)))
      · exact KeepsA.refl e
  · rename_i b hp
    have hnp : ∀ j, e.park ≠ some (.accept j) := by intro j h; rw [hp] at h; cases h
    split
    · exact (KeepsA.parkOther (e := e) (e' := { e with park := none }) (·.of_eq) rfl rfl rfl rfl rfl hnp).trans (KeepsA.enqFrame _ _)
    · split
      · exact .parkOther (·.of_eq) rfl rfl rfl rfl rfl hnp
      · exact KeepsA.refl e

theorem KeepsA.recvOne (e : EP) (w : WsIn) (rest : List WsIn) (hp : e.park = none) : KeepsA e (recvOne e w rest).1 := by
  simp only [Mux.recvOne]
  refine KeepsA.trans ?_ (KeepsA.processIn _ _ _ (by split <;> exact hp))
  split <;> ka

/-- The task takes a dropped-handle notification off the queue and closes that flow: the slot under
    that id goes, every other slot keeps its justification. -/
theorem KeepsA.notif (e : EP) (fid : Nat) (rest : List Nat) (hq : e.droppedq = fid :: rest) :
    KeepsA e (Mux.closeFlow { e with droppedq := rest } fid false).1 := by
  have p := Path.closeFlow { e with droppedq := rest } fid false
  have hf := closeFlow_flows { e with droppedq := rest } fid false
  have c := Ctl.closeFlow { e with droppedq := rest } fid false
  generalize Mux.closeFlow { e with droppedq := rest } fid false = r at p hf c
  -- the flow is closed: besides the flow table only the stream object, the outbound queue and `retryq` change
  have hh : r.1.handles = e.handles := p.frame .handles
  refine KeepsA.of (fun s => (s.of_ctl c).of_eq) (by rw [hh]; exact Nat.le_refl _) ?_ ?_
  · rcases hf with ⟨h1, _⟩ | h1 <;> rw [h1]
    · exact id
    · exact keys_nodup_erase fid
  · intro D _ a y i hl
    have old : y ≠ fid ∧ lookup e.flows y = some (.established i) := by
      rcases hf with ⟨h1, h2⟩ | h1 <;> rw [h1] at hl
      · exact ⟨fun hy => (by subst hy; rw [show lookup e.flows y = none from h2] at hl; cases hl), hl⟩
      · exact ⟨fun hy => (by subst hy; rw [show lookup (Mux.erase e.flows y) y = none from lookup_erase_self ..] at hl; cases hl),
          lookup_erase_some hl⟩
    rcases a.just y i old.2 with h | h | h | h | ⟨k, hk, hD⟩
    · exact .accept (by rw [show r.1.acceptq = e.acceptq from p.frame .acceptq]; exact h)
    · exact .park (by rw [show r.1.park = e.park from p.frame .park]; exact h)
    · exact .done (by rw [show r.1.doneq = e.doneq from p.frame .doneq]; exact h)
    · rw [hq] at h
      rcases List.mem_cons.mp h with h | h
      · exact absurd h old.1
      · exact .dropped (by rw [show r.1.droppedq = rest from p.frame .droppedq]; exact h)
    · exact .handle (by rw [hh]; exact hk) hD

/-- Walks the loop itself: where the loop calls `recvOne` it has just tested `park = none`, which `KeepsA.recvOne` needs
    and the field `Walk.recv` does not carry. -/
theorem KeepsA.settleLoop (fuel : Nat) (e : EP) (acc : List Ev) : KeepsA e (settleLoop fuel e acc).1 := by
  induction fuel generalizing e acc with
  | zero => exact KeepsA.refl e
  | succ n ih =>
    unfold Mux.settleLoop
    split
    · exact KeepsA.refl e
    · split
      · rename_i res hdr
        exact KeepsA.off (drainStep_off e res hdr)
      · split
        · rename_i res hcl
          exact KeepsA.off (closingStep_off e res hcl)
        · have gu := KeepsA.unpark e
          split
          · rename_i w rest hpk _
            have gp := gu.trans (KeepsA.recvOne (Mux.unpark e) w rest hpk)
            split
            · exact gp.trans (KeepsA.off (windDown_off _ _ _))
            · exact gp.trans (ih _ _)
          · split
            · exact KeepsA.off (windDown_off _ _ _)
            · rename_i fid rest _ hq
              exact (gu.trans (KeepsA.notif (Mux.unpark e) fid rest hq)).trans (ih _ _)
            · exact gu

theorem KeepsA.runRetries (e : EP) (l : List Nat) : KeepsA e (runRetries e l).1 := .of_path (.runRetries e l)

theorem runDone_fst (e : EP) (l : List (Nat × Nat)) :
    (runDone e l).1 = { e with handles := e.handles ++ l.map (·.2) } := by
  induction l generalizing e with
  | nil => simp [Mux.runDone]
  | cons x rest ih =>
    obtain ⟨req, i⟩ := x
    simp only [Mux.runDone, ih, List.map_cons, List.append_assoc, List.singleton_append]

theorem runDoneq_doneq (e : EP) : (runDoneq e).1.doneq = [] := by unfold runDoneq; rw [runDone_fst]

theorem KeepsA.settle (e : EP) : KeepsA e (settle e).1 :=
  settle_rel KeepsA.trans KeepsA.trans (KeepsA.settleLoop _ e []) (fun a => .of_path (.holdSend a))
    (fun a => .of_path (.runDoneq a)) (fun a => .of_path (.runRetryq a))

theorem KeepsA.appWrite (e : EP) (h : Nat) (d : Bytes) : KeepsA e (appWrite e h d).1 := .of_path (.appWrite e h d)
theorem KeepsA.fillBuf (fuel : Nat) (e : EP) (i : Nat) : KeepsA e (fillBuf fuel e i).1 := .of_path (.fillBuf fuel e i)
theorem KeepsA.appRead (e : EP) (h n : Nat) : KeepsA e (appRead e h n).1 := .of_path (.appRead e h n)
theorem KeepsA.appShutdown (e : EP) (h : Nat) : KeepsA e (appShutdown e h).1 := .of_path (.appShutdown e h)
theorem KeepsA.appBindReq (e : EP) (req : Nat) (bt : BindType) (host : Bytes) (port : Nat) :
    KeepsA e (appBindReq e req bt host port).1 := .of_path (.appBindReq e req bt host port)
theorem KeepsA.appBindNext (e : EP) : KeepsA e (appBindNext e).1 := .of_path (.appBindNext e)
theorem KeepsA.appBindReply (e : EP) (k : Nat) (a : Bool) : KeepsA e (appBindReply e k a).1 := .of_path (.appBindReply e k a)
theorem KeepsA.appBindDrop (e : EP) (k : Nat) : KeepsA e (appBindDrop e k).1 := .of_path (.appBindDrop e k)

/-- Accepting a stream: it leaves the accept queue and becomes a (new, not dropped) handle. -/
theorem KeepsA.appAccept (e : EP) : KeepsA e (appAccept e).1 := by
  fun_cases Mux.appAccept e
  case case1 i rest hq _ _ =>
    exact .toHandle i (·.of_eq) rfl rfl
      (fun j h => by rw [hq] at h; exact (List.mem_cons.mp h).symm) rfl (fun _ h => .inl h) rfl
  all_goals exact KeepsA.refl e

theorem KeepsA.appDropMux (e : EP) : KeepsA e (appDropMux e).1 := by
  refine KeepsA.off (fun s => ?_)
  have h : (Mux.appDropMux e).1.muxAlive = false :=
    (Path.foldEnq e.bindq { e with muxAlive := false, droppedq := if e.dead then e.droppedq else e.droppedq ++ [0] }).frame .muxAlive
  rw [s.mux] at h; cases h

/-- Every operation except dropping a stream handle (which changes the set of dropped handles). -/
theorem KeepsA.opStep (e : EP) (op : Op) (hop : ∀ h, op ≠ .dropStream h) : KeepsA e (opStep e op).1 := by
  cases op with
  | accept => exact KeepsA.appAccept e
  | dropStream h => exact absurd rfl (hop h)
  | dropMux => exact KeepsA.appDropMux e
  | _ => exact KeepsA.of_path (Path.opStep e _) (by dsimp only [K.opStep]; decide +kernel)

/-- Dropping a stream handle: the handle joins the dropped ones, and the notification that is queued
    for the task takes over as the justification of that stream's slot (which is under the id the
    notification carries, `SlotFidE`). -/
theorem dropStream_accounted (e : EP) (D : List Nat) (h i : Nat) (o : Obj) (hs : SlotFidE e)
    (hh : e.handleObj h = some (i, o)) (ha : Accounted e D) :
    Accounted (appDropStream e h).1 (D ++ [h]) := by
  have ho : e.objs[i]? = some o := handleObj_some hh
  have hhi : e.handles[h]? = some i := handleObj_handle hh
  unfold Mux.appDropStream
  rw [hh]
  simp only
  split
  · rename_i hd
    intro s; have h2 := s.alive
    rw [h2] at hd; cases hd
  · intro s
    have a := ha s.of_eq
    refine ⟨?_, a.keys, ?_⟩
    · intro x hx
      rcases List.mem_append.mp hx with hx | hx
      · exact a.dv x hx
      · simp only [List.mem_singleton] at hx; subst hx
        exact (List.getElem?_eq_some_iff.mp hhi).1
    · intro fid j hl
      rcases a.just fid j hl with h1 | h1 | h1 | h1 | ⟨k, hk, hD⟩
      · exact .accept h1
      · exact .park h1
      · exact .done h1
      · exact .dropped (List.mem_append_left _ h1)
      · by_cases hkh : k = h
        · subst hkh
          rw [hhi] at hk; cases hk
          have hfid : o.fid = fid := hs fid i o hl ho
          exact .dropped (by rw [hfid]; simp)
        · refine .handle hk fun hin => ?_
          rcases List.mem_append.mp hin with hin | hin
          · exact hD hin
          · simp only [List.mem_singleton] at hin; exact hkh hin

theorem applyOp_accounted (e : EP) (op : Op) (D : List Nat) (hs : SlotFidE e) (ha : Accounted e D) :
    Accounted (applyOp e op).1 (D ++ dropOf e op) := by
  have h1 : Accounted (Mux.opStep e op).1 (D ++ dropOf e op) := by
    by_cases hop : ∃ h, op = .dropStream h
    · obtain ⟨h, rfl⟩ := hop
      cases hh : e.handleObj h with
      | none =>
        have : (Mux.opStep e (.dropStream h)).1 = e := by simp [Mux.opStep, Mux.appDropStream, hh]
        rw [this]; simpa [dropOf, hh] using ha
      | some p =>
        obtain ⟨i, o⟩ := p
        have := dropStream_accounted e D h i o hs hh ha
        simpa [dropOf, hh, Mux.opStep] using this
    · have hne : ∀ h, op ≠ .dropStream h := fun h hc => hop ⟨h, hc⟩
      have hd : dropOf e op = [] := by
        cases op <;> first | rfl | exact absurd rfl (hne _)
      rw [hd, List.append_nil]
      exact KeepsA.opStep e op hne D ha
  rw [applyOp_fst]
  exact KeepsA.settle _ _ h1

theorem runOps_accounted (e : EP) (ops : List Op) (D : List Nat) (hi : WF e) (hs : SlotFidE e)
    (ha : Accounted e D) : Accounted (runOps e ops) (D ++ dropsOf e ops) := by
  induction ops generalizing e D with
  | nil => simpa [runOps, dropsOf] using ha
  | cons op rest ih =>
    rw [dropsOf_cons, ← List.append_assoc, runOps_cons]
    exact ih (applyOp e op).1 (D ++ dropOf e op) (.of_path (.applyOp e op) hi) (applyOp_slotFid e op hi hs)
      (applyOp_accounted e op D hs ha)

theorem init_accounted (o : Opts) : Accounted { opts := o } [] :=
  fun _ => ⟨fun _ h => (by cases h), List.nodup_nil, fun fid i h => (by simp at h)⟩

/-- In every state an endpoint reaches — any sequence of application calls and deliveries, any peer —
    every `Established` slot is accounted for (while the endpoint is in service). -/
theorem reachable_accounted (o : Opts) (ops : List Op) :
    Accounted (runOps { opts := o } ops) (dropsOf { opts := o } ops) := by
  have := runOps_accounted { opts := o } ops [] (WF_init o) (init_slotFid o) (init_accounted o)
  simpa using this

end Penguin.Mux
