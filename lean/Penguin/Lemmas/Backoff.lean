import Penguin.Model.Backoff

namespace Penguin.Lemmas.Backoff
open Penguin Penguin.Backoff

theorem min_mul_min (a m c : Nat) : Nat.min (Nat.min a m * c) m = Nat.min (a * c) m := by
  simp only [Nat.min_def]
  by_cases h : a ≤ m
  · simp [h]
  · simp only [h, if_false]
    have hlt : m < a := Nat.lt_of_not_le h
    cases c with
    | zero => simp
    | succ c =>
      have h1 : m ≤ m * (c + 1) := Nat.le_mul_of_pos_right m (Nat.succ_pos c)
      have h2 : a ≤ a * (c + 1) := Nat.le_mul_of_pos_right a (Nat.succ_pos c)
      have h3 : ¬ a * (c + 1) ≤ m := by omega
      simp only [h3, if_false]
      split <;> omega

/-- The state of a generator that handed out `k` delays since creation / the last reset:
    the parameters are those of `new i m c n`, `count = k`, and the clamped current value is the
    clamped `i·c^k`. -/
def Inv (i m c n k : Nat) (b : Backoff) : Prop :=
  b.initial = i ∧ b.max = m ∧ b.mult = c ∧ b.maxCount = n ∧ b.count = k ∧
  Nat.min b.current b.max = Nat.min (i * c ^ k) m

theorem inv_new (i m c n : Nat) : Inv i m c n 0 (Backoff.new i m c n) := by
  simp [Inv, Backoff.new]

theorem inv_reset {i m c n k : Nat} {b : Backoff} (h : Inv i m c n k b) : Inv i m c n 0 b.reset := by
  obtain ⟨h1, h2, h3, h4, _, _⟩ := h
  simp [Inv, Backoff.reset, h1, h2, h3, h4]

theorem advance_some {i m c n k : Nat} {b : Backoff} (h : Inv i m c n k b) (hk : n = 0 ∨ k < n) :
    b.advance.2 = some (Nat.min (i * c ^ k) m) ∧ Inv i m c n (k + 1) b.advance.1 := by
  obtain ⟨h1, h2, h3, h4, h5, h6⟩ := h
  have hc : ¬ (b.maxCount ≠ 0 ∧ b.count ≥ b.maxCount) := by omega
  simp only [Backoff.advance, hc, if_false]
  refine ⟨by rw [h6], h1, h2, h3, h4, by simp [h5], ?_⟩
  show Nat.min (Nat.min b.current b.max * b.mult) b.max = Nat.min (i * c ^ (k + 1)) m
  rw [h6, h2, h3, min_mul_min, Nat.pow_succ, Nat.mul_assoc]

theorem advance_none {i m c n k : Nat} {b : Backoff} (h : Inv i m c n k b) (hn : n ≠ 0) (hk : n ≤ k) :
    b.advance = (b, none) := by
  obtain ⟨_, _, _, h4, h5, _⟩ := h
  have hc : b.maxCount ≠ 0 ∧ b.count ≥ b.maxCount := by omega
  simp [Backoff.advance, hc]

end Penguin.Lemmas.Backoff
