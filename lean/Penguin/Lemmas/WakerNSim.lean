/-
Lemmas/WakerNSim — `Model/WakerN` with ONE writer thread is `Model/Waker` (repaired code).

`proj1` forgets the thread component of the waker names and the ghosts `lastReg` / `regMark`; every
step of the one-writer instance of `Model/WakerN` is, under `proj1`, the step of `Model/Waker` with the
same label (`step_sim`, `foldl_sim`), so every run of one is a run of the other:
`one_writer_is_single_writer_model` in `Props/C12.lean`.  (The single-writer model
has no foreign `do_shutdown()`: the instance is the one with `shutdowns = 0`.)
-/
import Penguin.Model.WakerN
import Penguin.Lemmas.WakerN

namespace Penguin.Lemmas.WakerN
open Penguin.Waker (PollResult ActorKind APc Actor WPc)
open Penguin.WakerN

/-- The single-writer state seen in a state of `Model/WakerN` whose only writer is `w`. -/
def proj1 (s : State) (w : Writer) : Waker.State where
  credit := s.credit
  closed := s.closed
  registered := s.registered.map (·.2)
  wakeLog := s.wakeLog.map (·.2)
  actors := s.actors
  pc := w.pc
  cur := w.cur
  pollsLeft := w.pollsLeft
  curStartClosed := w.curStartClosed
  curRegistered := w.curRegistered
  log := w.log
  grants := s.grants
  takes := w.takes
  sent := w.sent

def lift1 : Waker.Label → Label
  | .writer => .writer 0
  | .casSpurious => .casSpurious 0
  | .actor i => .actor i

theorem proj1_finishPoll (s : State) (w : Writer) (r : PollResult) :
    proj1 s (w.finishPoll r) = Waker.finishPoll (proj1 s w) r := by
  have e : (proj1 s w).pollsLeft = w.pollsLeft := rfl
  unfold Writer.finishPoll Waker.finishPoll
  rw [e]
  cases w.pollsLeft <;> rfl

theorem writer_sim {s : State} {w : Writer} (hw : s.writers = [w]) :
    ∃ w', (writerStep s 0).writers = [w'] ∧ proj1 (writerStep s 0) w' = Waker.writerStep true (proj1 s w) := by
  have h0 : s.writers[0]? = some w := by simp [hw]
  rw [writerStep_some h0]
  refine ⟨w.next s.closed s.credit s.wakeLog.length, by simp [hw], ?_⟩
  have e1 : (proj1 s w).pc = w.pc := rfl
  have e2 : (proj1 s w).closed = s.closed := rfl
  have e3 : (proj1 s w).credit = s.credit := rfl
  cases hpc : w.pc <;> simp only [Writer.next, Waker.writerStep, e1, e2, e3, hpc, reduceCtorEq, ↓reduceIte]
  case loadFin | reloadFin | reloadCredit => split <;> first | rfl | exact proj1_finishPoll _ _ _
  case loadCredit => split <;> rfl
  case register | finished => rfl
  case cas orig =>
    by_cases e : s.credit = orig
    · subst e; simp only [↓reduceIte]; rfl
    · have : ¬ WPc.cas orig = WPc.cas s.credit := fun e' => e (WPc.cas.inj e').symm
      simp only [e, this, ↓reduceIte]; rfl
  case send => exact proj1_finishPoll _ _ _

theorem spurious_sim {s : State} {w : Writer} (hw : s.writers = [w]) :
    ∃ w', (spuriousStep s 0).writers = [w'] ∧
      proj1 (spuriousStep s 0) w' = Waker.step (proj1 s w) .casSpurious := by
  have h0 : s.writers[0]? = some w := by simp [hw]
  have e : (proj1 s w).pc = w.pc := rfl
  simp only [spuriousStep, h0, Waker.step, Waker.stepGen, e]
  cases w.pc <;> simp only
  case cas => exact ⟨_, by rw [hw]; rfl, rfl⟩
  all_goals exact ⟨w, hw, rfl⟩

theorem actor_sim {s : State} {w : Writer} (hw : s.writers = [w]) (i : Nat) :
    (actorStep s i).writers = [w] ∧ proj1 (actorStep s i) w = Waker.actorStep (proj1 s w) i := by
  unfold actorStep Waker.actorStep
  simp only [proj1]
  cases ha : s.actors[i]? with
  | none => simp [hw]
  | some a =>
    obtain ⟨kind, pc⟩ := a
    cases pc with
    | write => cases kind <;> simp [hw]
    | wake =>
      simp only [doWake, Waker.doWake]
      cases hr : s.registered <;> simp [hw]
    | done => simp [hw]

theorem step_sim {s : State} {w : Writer} (hw : s.writers = [w]) (l : Waker.Label) :
    ∃ w', (step s (lift1 l)).writers = [w'] ∧ proj1 (step s (lift1 l)) w' = Waker.step (proj1 s w) l := by
  cases l with
  | writer => exact writer_sim hw
  | casSpurious => exact spurious_sim hw
  | actor i => exact ⟨w, actor_sim hw i⟩

theorem foldl_sim (ls : List Waker.Label) :
    ∀ (s : State) (w : Writer), s.writers = [w] →
      ∃ w', ((ls.map lift1).foldl step s).writers = [w'] ∧
        proj1 ((ls.map lift1).foldl step s) w' = ls.foldl Waker.step (proj1 s w) := by
  induction ls with
  | nil => intro s w hw; exact ⟨w, hw, rfl⟩
  | cons l ls ih =>
    intro s w hw
    obtain ⟨w1, h1, h2⟩ := step_sim hw l
    obtain ⟨w2, h3, h4⟩ := ih _ w1 h1
    refine ⟨w2, h3, ?_⟩
    simp only [List.map_cons, List.foldl_cons]
    rw [h4, h2]

end Penguin.Lemmas.WakerN
