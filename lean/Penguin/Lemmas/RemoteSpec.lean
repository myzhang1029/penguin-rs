/-
The pieces `Remote::from_str` is made of, each characterised by what it accepts rather than by how it runs:
`split_once` / `rsplit_once` (the text around the first / last delimiter), `u16::from_str` (digits with an optional `+`,
value at most 65535; its fast path is not observable), the tokenizer (sound and complete with respect to "join the
tokens with `:`", the same for every bound of its unrolled loop from five on), `ErrIn` for the errors, and the arm
`match tokens[..]` takes.  The files `RemoteSpecParse`, `RemoteSpecRound`, `RemoteSpecForms`, `RemoteSpecErrors`,
`RemoteSpecKind` put the pieces together, each importing the one before it.
-/
import Penguin.Model.RemoteSpec

namespace Penguin.RemoteSpec
open Penguin.Constants

/-! ### `split_once`, `rsplit_once` -/

theorem splitOnce_none {d : Char} {s : Str} : splitOnce d s = none ↔ d ∉ s := by
  induction s with
  | nil => simp [splitOnce]
  | cons c cs ih =>
    unfold splitOnce
    by_cases h : c = d
    · simp [h]
    · have h' : ¬ d = c := fun e => h e.symm
      cases hs : splitOnce d cs with
      | none => simp [h, h', ih.mp hs]
      | some p =>
        have : ¬ d ∉ cs := fun hn => by rw [ih.mpr hn] at hs; cases hs
        simp [h, h']; simpa using this

theorem splitOnce_append {d : Char} {a b : Str} (h : d ∉ a) : splitOnce d (a ++ d :: b) = some (a, b) := by
  induction a with
  | nil => simp [splitOnce]
  | cons c cs ih =>
    have hc : ¬ c = d := fun e => h (by simp [e])
    have hcs : d ∉ cs := fun e => h (by simp [e])
    simp [splitOnce, hc, ih hcs]

theorem splitOnce_some {d : Char} {s a b : Str} : splitOnce d s = some (a, b) ↔ s = a ++ d :: b ∧ d ∉ a := by
  constructor
  · intro h
    induction s generalizing a with
    | nil => simp [splitOnce] at h
    | cons c cs ih =>
      unfold splitOnce at h
      by_cases hc : c = d
      · simp [hc] at h; obtain ⟨rfl, rfl⟩ := h; simp [hc]
      · simp only [hc, if_false] at h
        cases hs : splitOnce d cs with
        | none => simp [hs] at h
        | some p =>
          obtain ⟨a', b'⟩ := p
          simp [hs] at h
          obtain ⟨rfl, rfl⟩ := h
          obtain ⟨e, hn⟩ := ih hs
          refine ⟨by simp [e], ?_⟩
          intro hm
          rcases List.mem_cons.mp hm with e' | e'
          · exact hc e'.symm
          · exact hn e'
  · rintro ⟨rfl, h⟩
    exact splitOnce_append h

/-- The `none` half of `rsplit_once`, for the reader; the proofs go through `rsplitOnce_some`. -/
theorem rsplitOnce_none {d : Char} {s : Str} : rsplitOnce d s = none ↔ d ∉ s := by
  unfold rsplitOnce
  cases h : splitOnce d s.reverse with
  | none => simpa using splitOnce_none.mp h
  | some p =>
    have : ¬ d ∉ s.reverse := fun hn => by rw [splitOnce_none.mpr hn] at h; cases h
    simp; simpa using this

theorem rsplitOnce_some {d : Char} {s a b : Str} : rsplitOnce d s = some (a, b) ↔ s = a ++ d :: b ∧ d ∉ b := by
  unfold rsplitOnce
  constructor
  · intro h
    cases hs : splitOnce d s.reverse with
    | none => simp [hs] at h
    | some p =>
      obtain ⟨x, y⟩ := p
      simp [hs] at h
      obtain ⟨rfl, rfl⟩ := h
      obtain ⟨e, hn⟩ := splitOnce_some.mp hs
      have : s = (x ++ d :: y).reverse := by rw [← e]; simp
      refine ⟨by simp [this], by simpa using hn⟩
  · rintro ⟨rfl, h⟩
    have : (a ++ d :: b).reverse = b.reverse ++ d :: a.reverse := by simp
    rw [this, splitOnce_append (by simpa using h)]
    simp

theorem rsplitOnce_append {d : Char} {a b : Str} (h : d ∉ b) : rsplitOnce d (a ++ d :: b) = some (a, b) :=
  rsplitOnce_some.mpr ⟨rfl, h⟩

/-! ### `u16::from_str` -/

theorem toDigit10_some {c : Char} {x : Nat} (h : toDigit10 c = some x) :
    c.isDigit = true ∧ x = c.toNat - '0'.toNat ∧ x ≤ 9 := by
  unfold toDigit10 at h
  by_cases hd : c.isDigit
  · simp only [hd, if_true, Option.some.injEq] at h
    refine ⟨hd, h.symm, ?_⟩
    subst h
    simp only [Char.isDigit, Bool.and_eq_true, decide_eq_true_eq] at hd
    have h2 : c.val.toNat ≤ 57 := UInt32.le_iff_toNat_le.mp hd.2
    show c.val.toNat - 48 ≤ 9
    omega
  · simp [hd] at h

/-- … and nothing else has a value: with `toDigit10_some`, all of `to_digit(10)`. -/
theorem toDigit10_none {c : Char} : toDigit10 c = none ↔ c.isDigit = false := by
  unfold toDigit10; by_cases hd : c.isDigit <;> simp [hd]

theorem toDigit10_of_isDigit {c : Char} (h : c.isDigit = true) : toDigit10 c = some (c.toNat - '0'.toNat) := by
  simp [toDigit10, h]

theorem length_le_utf8Len (s : Str) : s.length ≤ utf8Len s := by
  induction s with
  | nil => simp [utf8Len]
  | cons c cs ih => have := Char.utf8Size_pos c; simp [utf8Len]; omega

/-- While `(acc + 1) * 10 ^ ds.length` stays within `u16`, no prefix of `ds` can overflow, so the overflow
    tests of the checked loop all pass. -/
theorem uncheckedLoop_eq_checkedLoop_of_room (acc : Nat) (ds : Str) (h : (acc + 1) * 10 ^ ds.length ≤ u16Max + 1) :
    uncheckedLoop acc ds = checkedLoop acc ds := by
  induction ds generalizing acc with
  | nil => rfl
  | cons c cs ih =>
    simp only [uncheckedLoop, checkedLoop]
    cases hc : toDigit10 c with
    | none => rfl
    | some x =>
      have hx := (toDigit10_some hc).2.2
      have h1 : (acc * 10 + x + 1) * 10 ^ cs.length ≤ u16Max + 1 := by
        rw [List.length_cons, Nat.pow_succ, Nat.mul_comm (10 ^ _), ← Nat.mul_assoc] at h
        exact Nat.le_trans (Nat.mul_le_mul_right _ (by omega)) h
      have h2 := Nat.le_trans (Nat.le_mul_of_pos_right _ (Nat.pow_pos (by decide))) h1
      dsimp only
      rw [if_pos (by omega), if_pos (by omega)]
      exact ih _ h1

/-- On at most four characters the fast path and the checked path of `from_ascii_radix` agree: the
    choice between them (a byte count) is not observable. -/
theorem uncheckedLoop_eq_checkedLoop (ds : Str) (h : ds.length ≤ 4) : uncheckedLoop 0 ds = checkedLoop 0 ds :=
  uncheckedLoop_eq_checkedLoop_of_room 0 ds <|
    Nat.le_trans (Nat.mul_le_mul_left 1 (Nat.pow_le_pow_right (by decide) h)) (by decide)

/-- The digits after the optional sign: what `parseU16` hands to its loops, named so that `parseU16_eq` can say it. -/
def signStripped (src : Str) : Str :=
  match src with
  | c :: rest => if c = '+' then rest else src
  | [] => src

/-- `parse::<u16>()` is the checked loop on the sign-stripped text, whatever its length. -/
theorem parseU16_eq (src : Str) :
    parseU16 src =
      if src = [] then .error .empty
      else if src = ['+'] ∨ src = ['-'] then .error .invalidDigit
      else checkedLoop 0 (signStripped src) := by
  unfold parseU16
  split
  · rfl
  · split
    · rfl
    · show (if utf8Len (signStripped src) ≤ 4 then uncheckedLoop 0 (signStripped src) else checkedLoop 0 (signStripped src)) = _
      split
      · next h =>
        exact uncheckedLoop_eq_checkedLoop _ (Nat.le_trans (length_le_utf8Len _) h)
      · rfl

/-- Every character is an ASCII digit: the texts `checkedLoop` accepts, and the form of `showPort`'s output. -/
def AllDigits (ds : Str) : Prop := ∀ c ∈ ds, c.isDigit = true

theorem le_ofDigitChars (ds : Str) (acc : Nat) : acc ≤ Nat.ofDigitChars 10 ds acc := by
  induction ds generalizing acc with
  | nil => simp
  | cons c cs ih =>
    rw [Nat.ofDigitChars_cons]
    exact Nat.le_trans (by omega) (ih _)

theorem checkedLoop_ok_of_digits {ds : Str} {acc : Nat} (hd : AllDigits ds)
    (hv : Nat.ofDigitChars 10 ds acc ≤ u16Max) : checkedLoop acc ds = .ok (Nat.ofDigitChars 10 ds acc) := by
  induction ds generalizing acc with
  | nil => simp [checkedLoop]
  | cons c cs ih =>
    have hc : c.isDigit = true := hd c (by simp)
    have hcs : AllDigits cs := fun x hx => hd x (by simp [hx])
    rw [Nat.ofDigitChars_cons] at hv ⊢
    have hle := le_ofDigitChars cs (10 * acc + (c.toNat - '0'.toNat))
    have h10 : acc * 10 = 10 * acc := Nat.mul_comm _ _
    simp only [checkedLoop, toDigit10_of_isDigit hc, h10]
    have h1 : 10 * acc ≤ u16Max := by omega
    have h2 : 10 * acc + (c.toNat - '0'.toNat) ≤ u16Max := by omega
    simp only [h1, h2, if_true]
    exact ih hcs hv

theorem checkedLoop_ok {ds : Str} {acc n : Nat} (h : checkedLoop acc ds = .ok n) (ha : acc ≤ u16Max) :
    AllDigits ds ∧ n = Nat.ofDigitChars 10 ds acc ∧ n ≤ u16Max := by
  induction ds generalizing acc with
  | nil => simp [checkedLoop] at h; subst h; exact ⟨fun _ hm => (nomatch hm), rfl, ha⟩
  | cons c cs ih =>
    simp only [checkedLoop] at h
    cases hc : toDigit10 c with
    | none => simp [hc] at h
    | some x =>
      obtain ⟨hd, hx, _⟩ := toDigit10_some hc
      simp only [hc] at h
      split at h
      · split at h
        · next _ h2 =>
          obtain ⟨r1, r2, r3⟩ := ih h h2
          refine ⟨?_, ?_, r3⟩
          · intro y hy
            rcases List.mem_cons.mp hy with e | e
            · exact e ▸ hd
            · exact r1 y e
          · rw [Nat.ofDigitChars_cons, r2, ← hx, Nat.mul_comm]
        · cases h
      · cases h

theorem checkedLoop_error {ds : Str} {acc : Nat} {k : IntErrKind} (h : checkedLoop acc ds = .error k) :
    k = .invalidDigit ∨ k = .posOverflow := by
  induction ds generalizing acc with
  | nil => simp [checkedLoop] at h
  | cons c cs ih =>
    simp only [checkedLoop] at h
    cases hc : toDigit10 c with
    | none => simp [hc] at h; exact Or.inl h.symm
    | some x =>
      simp only [hc] at h
      split at h
      · split at h
        · exact ih h
        · simp at h; exact Or.inr h.symm
      · simp at h; exact Or.inr h.symm

/-- The complete description of the port texts `u16::from_str` accepts: an optional single `+`,
    then one or more ASCII digits (leading zeros allowed) whose value fits 16 bits. -/
theorem parseU16_ok_iff (s : Str) (n : Nat) :
    parseU16 s = .ok n ↔
      ∃ ds, (s = ds ∨ s = '+' :: ds) ∧ ds ≠ [] ∧ AllDigits ds ∧ Nat.ofDigitChars 10 ds 0 = n ∧ n ≤ u16Max := by
  rw [parseU16_eq]
  constructor
  · intro h
    split at h
    · cases h
    · next hne =>
      split at h
      · cases h
      · next hs =>
        obtain ⟨hd, hv, hle⟩ := checkedLoop_ok h (by simp [u16Max])
        refine ⟨signStripped s, ?_, ?_, hd, hv.symm, hle⟩
        · match s, hne with
          | c :: rest, _ =>
            by_cases hc : c = '+'
            · right; simp [signStripped, hc]
            · left; simp [signStripped, hc]
        · match s, hne, hs with
          | c :: rest, _, hs =>
            by_cases hc : c = '+'
            · simp [signStripped, hc]; intro hr; apply hs; left; simp [hc, hr]
            · simp [signStripped, hc]
  · rintro ⟨ds, hs, hne, hd, hv, hle⟩
    obtain ⟨c, cs, rfl⟩ := List.exists_cons_of_ne_nil hne
    have hcd : c.isDigit = true := hd c (by simp)
    have hcp : c ≠ '+' := by intro e; subst e; simp [Char.isDigit] at hcd
    have hcm : c ≠ '-' := by intro e; subst e; simp [Char.isDigit] at hcd
    rcases hs with rfl | rfl
    · simp [hcp, hcm, signStripped]
      rw [checkedLoop_ok_of_digits hd (by rw [hv]; exact hle), hv]
    · simp [signStripped]
      rw [checkedLoop_ok_of_digits hd (by rw [hv]; exact hle), hv]

/-- Only three of the five `IntErrorKind`s can come out. -/
theorem parseU16_error_kinds {s : Str} {k : IntErrKind} (h : parseU16 s = .error k) :
    (k = .empty ∧ s = []) ∨ ((k = .invalidDigit ∨ k = .posOverflow) ∧ s ≠ []) := by
  rw [parseU16_eq] at h
  split at h
  · next he => simp at h; exact Or.inl ⟨h.symm, he⟩
  · next he =>
    right
    split at h
    · simp at h; exact ⟨Or.inl h.symm, he⟩
    · exact ⟨checkedLoop_error h, he⟩

theorem showPort_allDigits (n : Nat) : AllDigits (showPort n) :=
  fun _ hc => Nat.isDigit_of_mem_toDigits (by decide) (by decide) hc

theorem showPort_ne_nil (n : Nat) : showPort n ≠ [] := Nat.toDigits_ne_nil

/-- `Display` of a `u16` is read back by `u16::from_str`. -/
theorem parseU16_showPort {n : Nat} (h : n ≤ u16Max) : parseU16 (showPort n) = .ok n :=
  (parseU16_ok_iff _ _).mpr ⟨showPort n, Or.inl rfl, showPort_ne_nil n, showPort_allDigits n,
    Nat.ofDigitChars_ten_toDigits, h⟩

/-! ### The tokenizer -/

/-- A token as it is written in the text. -/
def Tok.render (t : Tok) : Str := if t.bracketed then '[' :: t.text ++ [']'] else t.text

def joinToks : List Tok → Str
  | [] => []
  | [t] => t.render
  | t :: rest => t.render ++ ':' :: joinToks rest

/-- What a token can be: not empty; written in brackets it contains no `]`; written without
    brackets it contains no `:` and does not start with `[`. -/
def Tok.WF (t : Tok) : Prop :=
  t.text ≠ [] ∧ (if t.bracketed then ']' ∉ t.text else ':' ∉ t.text ∧ t.text.head? ≠ some '[')

theorem joinToks_cons_cons (t u : Tok) (rest : List Tok) :
    joinToks (t :: u :: rest) = t.render ++ ':' :: joinToks (u :: rest) := rfl

theorem maxSegments_eq : remoteMaxSegments = 4 := rfl

theorem checkAndPush_ok {tokens out : List Tok} {t : Tok} (h : checkAndPush tokens t = .ok out) :
    out = tokens ++ [t] ∧ tokens.length < 4 ∧ t.text ≠ [] := by
  unfold checkAndPush at h
  rw [maxSegments_eq] at h
  split at h
  · cases h
  · split at h
    · cases h
    · next h1 h2 => simp at h; exact ⟨h.symm, by omega, h2⟩

theorem checkAndPush_of {tokens : List Tok} {t : Tok} (h1 : tokens.length < 4) (h2 : t.text ≠ []) :
    checkAndPush tokens t = .ok (tokens ++ [t]) := by
  unfold checkAndPush
  rw [maxSegments_eq]
  simp [h2]; omega

theorem checkAndPush_full {tokens : List Tok} {t : Tok} (h1 : 4 ≤ tokens.length) :
    checkAndPush tokens t = .error (.err .tooManySegments) := by
  unfold checkAndPush
  rw [maxSegments_eq]
  simp; omega

theorem checkAndPush_empty {tokens : List Tok} {b : Bool} (h1 : tokens.length < 4) :
    checkAndPush tokens ⟨[], b⟩ = .error (.err .emptySegment) := by
  unfold checkAndPush
  rw [maxSegments_eq]
  simp; omega

/-! ### Which errors: `ErrIn` -/

/-- Every way `x` can fail satisfies `E`.  Closed under `>>=`, so a fact about the errors of the parser is shown once
    per primitive (`portOrBail`, `domainOrBail`, …) and carried through the arms and the pipeline by one walk. -/
def ErrIn {α : Type} (E : Fail → Prop) (x : Except Fail α) : Prop := ∀ e, x = .error e → E e

theorem ErrIn.ok {α : Type} {E : Fail → Prop} (a : α) : ErrIn E (.ok a : Except Fail α) := fun _ h => nomatch h

theorem ErrIn.error {α : Type} {E : Fail → Prop} {e : Fail} (h : E e) : ErrIn E (.error e : Except Fail α) :=
  fun _ h' => by cases h'; exact h

theorem ErrIn.bind {α β : Type} {E : Fail → Prop} {x : Except Fail α} {f : α → Except Fail β} (hx : ErrIn E x)
    (hf : ∀ a, ErrIn E (f a)) : ErrIn E (x >>= f) := by
  cases x with
  | error e =>
    intro e' h
    have h' : (Except.error e : Except Fail β) = .error e' := h
    cases h'
    exact hx e rfl
  | ok a => exact hf a

theorem checkAndPush_errIn {E : Fail → Prop} (h1 : E (.err .tooManySegments)) (h2 : E (.err .emptySegment))
    (tokens : List Tok) (t : Tok) : ErrIn E (checkAndPush tokens t) := by
  unfold checkAndPush
  split
  · exact .error h1
  · split
    · exact .error h2
    · exact .ok _

theorem checkAndPush_no_panic {tokens : List Tok} {t : Tok} {p : PanicSite} :
    checkAndPush tokens t ≠ .error (.panic p) :=
  fun h => checkAndPush_errIn (E := fun e => ∀ p, e ≠ .panic p) nofun nofun tokens t _ h p rfl

theorem tokLoop_errIn {E : Fail → Prop} (h0 : E (.panic .loopBound)) (h1 : E (.err .tooManySegments))
    (h2 : E (.err .emptySegment)) (h3 : E (.err .bracketMismatch)) (h4 : ∀ ch, E (.err (.garbageAfterAddress ch)))
    (fuel : Nat) : ∀ acc stuff, ErrIn E (tokLoop fuel acc stuff) := by
  have hcp := checkAndPush_errIn h1 h2
  induction fuel with
  | zero => exact fun _ _ => .error h0
  | succ f ih =>
    intro acc stuff
    unfold tokLoop
    split
    · split
      · split
        · exact .error h3
        · split
          · next e he => exact .error (hcp _ _ e he)
          · split
            · exact .ok _
            · split
              · exact ih _ _
              · exact .error (h4 _)
      · split
        · split
          · next e he => exact .error (hcp _ _ e he)
          · exact ih _ _
        · exact hcp _ _
    · exact hcp _ _

/-! ### The tokenizer is sound and complete -/

/-- Soundness: whatever the loop returns are the old tokens followed by at least one new token,
    all of them possible tokens, and the new ones joined with `:` are the text that was consumed. -/
theorem tokLoop_sound {fuel : Nat} {acc out : List Tok} {stuff : Str}
    (h : tokLoop fuel acc stuff = .ok out) :
    ∃ new, out = acc ++ new ∧ new ≠ [] ∧ (∀ t ∈ new, t.WF) ∧ joinToks new = stuff ∧ out.length ≤ 4 := by
  induction fuel generalizing acc stuff with
  | zero => simp [tokLoop] at h
  | succ fuel ih =>
    unfold tokLoop at h
    split at h
    · next c body =>
      split at h
      · next hc =>
        subst hc
        split at h
        · cases h
        · next tok after hs =>
          obtain ⟨hb, hn⟩ := splitOnce_some.mp hs
          split at h
          · cases h
          · next tokens' hp =>
            obtain ⟨rfl, hlen, hne⟩ := checkAndPush_ok hp
            have hwf : Tok.WF ⟨tok, true⟩ := ⟨hne, by simpa using hn⟩
            split at h
            · simp at h
              subst h
              refine ⟨[⟨tok, true⟩], rfl, by simp, ?_, ?_, by simp; omega⟩
              · intro t ht; simp at ht; subst ht; exact hwf
              · simp [joinToks, Tok.render, hb]
            · next ch rest =>
              split at h
              · next hch =>
                subst hch
                obtain ⟨new, rfl, hnn, hw, hj, hl⟩ := ih h
                refine ⟨⟨tok, true⟩ :: new, by simp, by simp, ?_, ?_, hl⟩
                · intro t ht
                  rcases List.mem_cons.mp ht with e | e
                  · exact e ▸ hwf
                  · exact hw t e
                · obtain ⟨u, us, rfl⟩ := List.exists_cons_of_ne_nil hnn
                  rw [joinToks_cons_cons, hj]
                  simp [Tok.render, hb]
              · cases h
      · next hc =>
        split at h
        · next tok rest hs =>
          obtain ⟨hb, hn⟩ := splitOnce_some.mp hs
          split at h
          · cases h
          · next tokens' hp =>
            obtain ⟨rfl, hlen, hne⟩ := checkAndPush_ok hp
            have hhead : tok.head? ≠ some '[' := by
              cases tok with
              | nil => exact absurd rfl hne
              | cons x xs =>
                simp at hb
                simp; intro e; exact hc (hb.1.trans e)
            have hwf : Tok.WF ⟨tok, false⟩ := ⟨hne, by simpa using ⟨hn, hhead⟩⟩
            obtain ⟨new, rfl, hnn, hw, hj, hl⟩ := ih h
            refine ⟨⟨tok, false⟩ :: new, by simp, by simp, ?_, ?_, hl⟩
            · intro t ht
              rcases List.mem_cons.mp ht with e | e
              · exact e ▸ hwf
              · exact hw t e
            · obtain ⟨u, us, rfl⟩ := List.exists_cons_of_ne_nil hnn
              rw [joinToks_cons_cons, hj]
              simp [Tok.render, hb]
        · next hs =>
          obtain ⟨rfl, hlen, hne⟩ := checkAndPush_ok h
          have hn := splitOnce_none.mp hs
          refine ⟨[⟨c :: body, false⟩], rfl, by simp, ?_, by simp [joinToks, Tok.render], by simp; omega⟩
          intro t ht; simp at ht; subst ht
          refine ⟨hne, ?_⟩
          simp only [Bool.false_eq_true, if_false]
          exact ⟨hn, by simpa using hc⟩
    · obtain ⟨_, _, hne⟩ := checkAndPush_ok h
      exact absurd rfl hne

/-! #### One iteration on a well-formed token -/

theorem tokLoop_bracketed {fuel : Nat} {acc : List Tok} {txt after : Str} (hacc : acc.length < 4)
    (hne : txt ≠ []) (hb : ']' ∉ txt) :
    tokLoop (fuel + 1) acc ('[' :: txt ++ ']' :: after) =
      match after with
      | [] => .ok (acc ++ [⟨txt, true⟩])
      | ch :: rest =>
        if ch = ':' then tokLoop fuel (acc ++ [⟨txt, true⟩]) rest else .error (.err (.garbageAfterAddress ch)) := by
  conv => lhs; unfold tokLoop
  simp only [List.cons_append, if_true]
  rw [splitOnce_append hb]
  simp only []
  rw [checkAndPush_of (t := ⟨txt, true⟩) hacc hne]
  rfl

theorem tokLoop_step {fuel : Nat} {acc : List Tok} {t : Tok} {after : Str} (hacc : acc.length < 4) (ht : t.WF) :
    tokLoop (fuel + 1) acc (t.render ++ ':' :: after) = tokLoop fuel (acc ++ [t]) after := by
  obtain ⟨txt, br⟩ := t
  obtain ⟨hne, hcond⟩ := ht
  cases br with
  | true =>
    have := tokLoop_bracketed (fuel := fuel) (after := ':' :: after) hacc hne (by simpa using hcond)
    simpa [Tok.render] using this
  | false =>
    have hcond : ':' ∉ txt ∧ txt.head? ≠ some '[' := by simpa using hcond
    obtain ⟨x, xs, rfl⟩ := List.exists_cons_of_ne_nil hne
    have hx : ¬ x = '[' := by simpa using hcond.2
    conv => lhs; unfold tokLoop
    simp only [Tok.render, Bool.false_eq_true, List.cons_append, hx, if_false]
    rw [← List.cons_append, splitOnce_append hcond.1]
    simp only []
    rw [checkAndPush_of (t := ⟨x :: xs, false⟩) hacc hne]

theorem tokLoop_last {fuel : Nat} {acc : List Tok} {t : Tok} (hacc : acc.length < 4) (ht : t.WF) :
    tokLoop (fuel + 1) acc t.render = .ok (acc ++ [t]) := by
  obtain ⟨txt, br⟩ := t
  obtain ⟨hne, hcond⟩ := ht
  cases br with
  | true =>
    have := tokLoop_bracketed (fuel := fuel) (after := []) hacc hne (by simpa using hcond)
    simpa [Tok.render] using this
  | false =>
    have hcond : ':' ∉ txt ∧ txt.head? ≠ some '[' := by simpa using hcond
    obtain ⟨x, xs, rfl⟩ := List.exists_cons_of_ne_nil hne
    have hx : ¬ x = '[' := by simpa using hcond.2
    conv => lhs; unfold tokLoop
    simp only [Tok.render, Bool.false_eq_true, hx, if_false]
    rw [splitOnce_none.mpr hcond.1]
    exact checkAndPush_of (t := ⟨x :: xs, false⟩) hacc hne

/-- The text `t1:t2:…:tk:` followed by `tail`. -/
def prefixText (pre : List Tok) (tail : Str) : Str := pre.foldr (fun t s => t.render ++ ':' :: s) tail

theorem tokLoop_prefix {fuel : Nat} {acc pre : List Tok} {tail : Str} (hw : ∀ t ∈ pre, t.WF)
    (hlen : acc.length + pre.length ≤ 4) :
    tokLoop (pre.length + fuel) acc (prefixText pre tail) = tokLoop fuel (acc ++ pre) tail := by
  induction pre generalizing acc with
  | nil => simp [prefixText]
  | cons t rest ih =>
    have hacc : acc.length < 4 := by simp at hlen; omega
    rw [show (t :: rest).length + fuel = (rest.length + fuel) + 1 by simp; omega]
    show tokLoop _ acc (t.render ++ ':' :: prefixText rest tail) = _
    rw [tokLoop_step hacc (hw t (by simp)), ih (fun u hu => hw u (by simp [hu])) (by simp at hlen ⊢; omega)]
    simp

theorem joinToks_snoc (pre : List Tok) (t : Tok) : joinToks (pre ++ [t]) = prefixText pre t.render := by
  induction pre with
  | nil => simp [joinToks, prefixText]
  | cons u rest ih =>
    obtain ⟨v, vs, e⟩ := List.exists_cons_of_ne_nil (l := rest ++ [t]) (by simp)
    rw [List.cons_append, e, joinToks_cons_cons, ← e, ih]; rfl

/-- Completeness: a text that is one to four possible tokens joined with `:` is split into exactly
    these tokens: all but the last one per iteration, then the last. -/
theorem tokLoop_complete {fuel : Nat} {acc new : List Tok} (hw : ∀ t ∈ new, t.WF) (hne : new ≠ [])
    (hlen : acc.length + new.length ≤ 4) (hf : new.length ≤ fuel) :
    tokLoop fuel acc (joinToks new) = .ok (acc ++ new) := by
  obtain ⟨pre, t, rfl⟩ : ∃ pre t, new = pre ++ [t] :=
    ⟨new.dropLast, new.getLast hne, (List.dropLast_concat_getLast hne).symm⟩
  simp only [List.length_append, List.length_cons, List.length_nil] at hlen hf
  obtain ⟨f, rfl⟩ : ∃ f, fuel = pre.length + (f + 1) := ⟨fuel - pre.length - 1, by omega⟩
  rw [joinToks_snoc, tokLoop_prefix (fun u hu => hw u (by simp [hu])) (by omega),
    tokLoop_last (by simp; omega) (hw t (by simp)), List.append_assoc]

/-- The unrolled loop never runs out of iterations, and a larger fuel changes nothing: every
    iteration that goes on has pushed a token, and the fifth push is refused. -/
theorem tokLoop_fuel_irrelevant {f1 f2 : Nat} {acc : List Tok} {stuff : Str}
    (ha : acc.length ≤ 4) (h1 : 5 ≤ acc.length + f1) (h2 : 5 ≤ acc.length + f2) :
    tokLoop f1 acc stuff = tokLoop f2 acc stuff ∧ ∀ p, tokLoop f1 acc stuff ≠ .error (.panic p) := by
  induction f1 generalizing f2 acc stuff with
  | zero => omega
  | succ f1 ih =>
    obtain ⟨f2, rfl⟩ : ∃ f, f2 = f + 1 := ⟨f2 - 1, by omega⟩
    have step : ∀ {t : Tok} {tokens' : List Tok} {rest : Str}, checkAndPush acc t = .ok tokens' →
        tokLoop f1 tokens' rest = tokLoop f2 tokens' rest ∧ ∀ p, tokLoop f1 tokens' rest ≠ .error (.panic p) := by
      intro t tokens' rest hp
      obtain ⟨rfl, hl, _⟩ := checkAndPush_ok hp
      exact ih (by simp; omega) (by simp; omega) (by simp; omega)
    unfold tokLoop
    split
    · next c body =>
      split
      · split
        · simp
        · next tok after hs =>
          cases hp : checkAndPush acc ⟨tok, true⟩ with
          | error e =>
            refine ⟨rfl, ?_⟩
            intro p hpe
            simp at hpe
            subst hpe
            exact checkAndPush_no_panic hp
          | ok tokens' =>
            simp only
            split
            · simp
            · next ch rest =>
              split
              · exact step hp
              · simp
      · split
        · next tok rest hs =>
          cases hp : checkAndPush acc ⟨tok, false⟩ with
          | error e =>
            refine ⟨rfl, ?_⟩
            intro p hpe
            simp at hpe
            subst hpe
            exact checkAndPush_no_panic hp
          | ok tokens' => exact step hp
        · exact ⟨rfl, fun p => checkAndPush_no_panic⟩
    · exact ⟨rfl, fun p => checkAndPush_no_panic⟩

theorem tokenize_no_panic (s : Str) (p : PanicSite) : tokenize s ≠ .error (.panic p) :=
  (tokLoop_fuel_irrelevant (f2 := 5) (by simp) (by simp [maxSegments_eq]) (by simp)).2 p

theorem tokenize_any_fuel (s : Str) (fuel : Nat) (h : 5 ≤ fuel) : tokLoop fuel [] s = tokenize s :=
  (tokLoop_fuel_irrelevant (by simp) (by simpa using h) (by simp [maxSegments_eq])).1

theorem tokenize_ok {s : Str} {toks : List Tok} (h : tokenize s = .ok toks) :
    toks ≠ [] ∧ toks.length ≤ 4 ∧ (∀ t ∈ toks, t.WF) ∧ joinToks toks = s := by
  obtain ⟨new, e, hn, hw, hj, hl⟩ := tokLoop_sound h
  simp at e; subst e
  exact ⟨hn, hl, hw, hj⟩

theorem tokenize_join {toks : List Tok} (hw : ∀ t ∈ toks, t.WF) (hne : toks ≠ []) (hl : toks.length ≤ 4) :
    tokenize (joinToks toks) = .ok toks := by
  have := @tokLoop_complete (remoteMaxSegments + 1) [] toks hw hne (by simpa using hl)
    (by rw [maxSegments_eq]; omega)
  simpa [tokenize] using this

/-- The tokenizer inverts "join with `:`", and nothing else is accepted. -/
theorem tokenize_ok_iff (s : Str) (toks : List Tok) :
    tokenize s = .ok toks ↔ toks ≠ [] ∧ toks.length ≤ 4 ∧ (∀ t ∈ toks, t.WF) ∧ joinToks toks = s :=
  ⟨tokenize_ok, fun ⟨hne, hl, hw, hj⟩ => hj ▸ tokenize_join hw hne hl⟩

/-! ### The arm taken

`fun_cases selectArm` makes Lean generate the case principle of `selectArm` in the module that first asks for it; two
modules that each did so could not be imported together.  It is asked for here first, upstream of every other use. -/

/-- The sub-slices an arm binds. -/
def Matched.pieces : Matched → List Str
  | .socks1 | .http1 | .tproxy1 | .stdioTproxy2 | .wildcard => []
  | .port1 p => [p]
  | .stdioSpecial2 s => [s]
  | .stdioPort2 p => [p]
  | .unixSpecial2 u s => [u, s]
  | .portSpecial2 p s => [p, s]
  | .unixPort2 u p => [u, p]
  | .hostPort2 h p => [h, p]
  | .stdio3 h p => [h, p]
  | .special3 h p s => [h, p, s]
  | .unix3 u h p => [u, h, p]
  | .port3 l h p => [l, h, p]
  | .full4 a b c d => [a, b, c, d]

theorem selectArm_pieces (ts : List Str) : ∀ t ∈ (selectArm ts).pieces, t ∈ ts := by
  fun_cases selectArm ts <;> simp [Matched.pieces]

end Penguin.RemoteSpec
