/-
The pair of VIEWS (`View`, `Lemmas/PairAllSteps.lean`) of two endpoints with respect to one flow id `x`, joined by
the two wires, and its small steps: one `AStep` of either side (what it sends goes onto its wire), a
delivery, a delivered Close, a cut.  Everything here is about plain lists and records; the endpoint model
does not occur.  `Lemmas/PairAllCore.lean`, `PairAllDir*.lean`, `PairAllFin*.lean` prove the invariant on these small steps.
Core Lean only.
-/
import Penguin.Lemmas.PairAllSteps

namespace Penguin.PairAll
open Penguin.Mux

def hasConn (x : Nat) (l : List Msg) : Bool := l.any (isConn x)
def hasAck (x : Nat) (l : List Msg) : Bool := l.any (isAck x)
def hasPush (x : Nat) (l : List Msg) : Bool := l.any (isPush x)
def connCount (x : Nat) (l : List Msg) : Nat := l.countP (isConn x)

def clean (x : Nat) (l : List Msg) : Bool := l.all (fun m => !isConn x m && !isAck x m && !isPush x m)

def noAP (x : Nat) (l : List Msg) : Bool := l.all (fun m => !isAck x m && !isPush x m)

/-- The first `Acknowledge x` / `Push x` of the list, if any, is an `Acknowledge`. -/
def guarded (x : Nat) : List Msg → Bool
  | [] => true
  | m :: r => if isAck x m then true else if isPush x m then false else guarded x r

theorem guarded_append (x : Nat) (l r : List Msg) :
    guarded x (l ++ r) = if hasAck x l || hasPush x l then guarded x l else guarded x r := by
  induction l with
  | nil => simp [hasAck, hasPush]
  | cons m l ih =>
    simp only [List.cons_append, guarded, hasAck, hasPush, List.any_cons] at ih ⊢
    by_cases h1 : isAck x m = true
    · simp [h1]
    · by_cases h2 : isPush x m = true
      · simp [h1, h2]
      · simp only [h1, h2, Bool.false_or, if_false, Bool.false_eq_true]
        exact ih

theorem pX_cons_other (x : Nat) (m : Msg) (r : List Msg) (h : isPush x m = false) : pX x (m :: r) = pX x r := by
  cases m with
  | frame f =>
    cases f <;> try rfl
    rename_i fid d
    simp only [isPush, beq_eq_false_iff_ne, ne_eq] at h
    simp [pX, h]
  | ping => rfl
  | pong => rfl
  | close => rfl

theorem pX_cons_push (x : Nat) (d : Bytes) (r : List Msg) : pX x (.frame (.push x d) :: r) = d :: pX x r := by
  simp [pX]

theorem pX_single_other (x : Nat) (m : Msg) (h : isPush x m = false) : pX x [m] = [] := pX_cons_other x m [] h

theorem pX_of_noPush (x : Nat) (l : List Msg) (h : hasPush x l = false) : pX x l = [] := by
  induction l with
  | nil => rfl
  | cons m r ih =>
    simp only [hasPush, List.any_cons, Bool.or_eq_false_iff] at h
    rw [pX_cons_other x m r h.1]
    exact ih (by simpa [hasPush] using h.2)

theorem isPush_push (x : Nat) (d : Bytes) : isPush x (.frame (.push x d)) = true := by simp [isPush]
theorem isAck_push (x y : Nat) (d : Bytes) : isAck x (.frame (.push y d)) = false := rfl
theorem isConn_push (x y : Nat) (d : Bytes) : isConn x (.frame (.push y d)) = false := rfl
theorem isAck_ack (x n : Nat) : isAck x (.frame (.acknowledge x n)) = true := by simp [isAck]
theorem isPush_ack (x y n : Nat) : isPush x (.frame (.acknowledge y n)) = false := rfl
theorem isConn_ack (x y n : Nat) : isConn x (.frame (.acknowledge y n)) = false := rfl

theorem isConn_not_ack {x : Nat} {m : Msg} (h : isConn x m = true) : isAck x m = false := by
  cases m with
  | frame f => cases f <;> first | rfl | (simp [isConn] at h)
  | _ => rfl
theorem isConn_not_push {x : Nat} {m : Msg} (h : isConn x m = true) : isPush x m = false := by
  cases m with
  | frame f => cases f <;> first | rfl | (simp [isConn] at h)
  | _ => rfl
theorem isAck_not_push {x : Nat} {m : Msg} (h : isAck x m = true) : isPush x m = false := by
  cases m with
  | frame f => cases f <;> first | rfl | (simp [isAck] at h)
  | _ => rfl
theorem isAck_not_conn {x : Nat} {m : Msg} (h : isAck x m = true) : isConn x m = false := by
  cases m with
  | frame f => cases f <;> first | rfl | (simp [isAck] at h)
  | _ => rfl

theorem isFin_fin (x : Nat) : isFin x (.frame (.finish x)) = true := by simp [isFin]
theorem isPush_fin (x y : Nat) : isPush x (.frame (.finish y)) = false := rfl
theorem isFin_push (x y : Nat) (d : Bytes) : isFin x (.frame (.push y d)) = false := rfl
theorem isFin_ack (x y n : Nat) : isFin x (.frame (.acknowledge y n)) = false := rfl

theorem isFin_not_push {x : Nat} {m : Msg} (h : isFin x m = true) : isPush x m = false := by
  cases m with
  | frame f => cases f <;> first | rfl | (simp [isFin] at h)
  | _ => rfl
theorem isConn_not_fin {x : Nat} {m : Msg} (h : isConn x m = true) : isFin x m = false := by
  cases m with
  | frame f => cases f <;> first | rfl | (simp [isConn] at h)
  | _ => rfl
theorem isBind_not_fin {x : Nat} {m : Msg} (h : isBind x m = true) : isFin x m = false := by
  cases m with
  | frame f => cases f <;> first | rfl | (simp [isBind] at h)
  | _ => rfl
theorem isBind_not_push {x : Nat} {m : Msg} (h : isBind x m = true) : isPush x m = false := by
  cases m with
  | frame f => cases f <;> first | rfl | (simp [isBind] at h)
  | _ => rfl
theorem isBind_not_ack {x : Nat} {m : Msg} (h : isBind x m = true) : isAck x m = false := by
  cases m with
  | frame f => cases f <;> first | rfl | (simp [isBind] at h)
  | _ => rfl

/-- `Acknowledge x` or `Push x`: the numeric summary (`Lemmas/PairAllCore.lean`) counts them together. -/
def isAP (x : Nat) (m : Msg) : Bool := isAck x m || isPush x m

theorem isFin_kinds {x : Nat} {m : Msg} (h : isFin x m = true) : isConn x m = false ∧ isAP x m = false ∧ isBind x m = false := by
  cases m with
  | frame f => cases f <;> first | (simp [isFin] at h; done) | simp [isConn, isAP, isAck, isPush, isBind]
  | _ => simp [isFin] at h
theorem isBind_kinds {x : Nat} {m : Msg} (h : isBind x m = true) : isConn x m = false ∧ isAP x m = false := by
  cases m with
  | frame f => cases f <;> first | (simp [isBind] at h; done) | simp [isConn, isAP, isAck, isPush]
  | _ => simp [isBind] at h
theorem isConn_kinds {x : Nat} {m : Msg} (h : isConn x m = true) : isAP x m = false ∧ isBind x m = false := by
  cases m with
  | frame f => cases f <;> first | (simp [isConn] at h; done) | simp [isBind, isAP, isAck, isPush]
  | _ => simp [isConn] at h
theorem isAck_kinds {x : Nat} {m : Msg} (h : isAck x m = true) : isConn x m = false ∧ isAP x m = true ∧ isBind x m = false := by
  cases m with
  | frame f => cases f <;> first | (simp [isAck] at h; done) | simp_all [isBind, isAP, isAck, isConn]
  | _ => simp [isAck] at h

theorem inMsgs_end {w : WsIn} (hw : isEnd w = true) : inMsgs [w] = [] := by
  cases w <;> first | rfl | (simp [isEnd] at hw)

theorem slot_of_kept {s s0 : Option Slot} {t : Slot} (hs : s = s0 ∨ s = none) (h : s = some t) : s0 = some t := by
  rcases hs with h1 | h1
  · rw [← h1, h]
  · rw [h1] at h; cases h

/-- `AStep.draw` in a step after which the script is not exhausted: `x` left the script. -/
theorem draw_lt {c cnt : Nat} {n : Bool} (hd : c < cnt ∨ n = true) (hn : n = false) : c < cnt :=
  hd.elim id fun h => by rw [h] at hn; cases hn

/-- The source has ended or failed, or will as soon as the inbox is read: later deliveries are ignored. -/
def deaf (v : View) : Bool := v.srcEnded || v.inbox.any isEnd

structure PC where
  a : View
  b : View
  ab : List Msg
  ba : List Msg
  abOpen : Bool
  baOpen : Bool

def PC.swap (c : PC) : PC :=
  { a := c.b, b := c.a, ab := c.ba, ba := c.ab, abOpen := c.baOpen, baOpen := c.abOpen }

@[simp] theorem PC.swap_swap (c : PC) : c.swap.swap = c := rfl

/-- A small step in which the LEFT view acts or receives: labelled with what it sends and what is accepted
    into its object `j`. -/
inductive CStepL (x j : Nat) : PC → PC → List Msg → List Bytes → List XL → Prop
  | act (c : PC) (v : View) (ws : List Msg) (acc : List Bytes) (xl : List XL) (h : AStep x j c.a v ws acc xl) :
      CStepL x j c { c with a := v, ab := if c.abOpen then c.ab ++ ws else c.ab } ws acc xl
  | dlv (c : PC) (m : Msg) (rest : List Msg) (h : c.ba = m :: rest) (hm : m ≠ .close) :
      CStepL x j c { c with ba := rest,
                            a := { c.a with inbox := if deaf c.a then c.a.inbox else c.a.inbox ++ [.msg m] } } [] [] []
  | dlvClose (c : PC) (rest : List Msg) (h : c.ba = .close :: rest) :
      CStepL x j c { c with ba := [], baOpen := false,
                            a := { c.a with inbox := if deaf c.a then c.a.inbox else c.a.inbox ++ [.msg .close, .eof] } } [] [] []
  | cut (c : PC) (w : WsIn) (hw : isEnd w = true) :
      CStepL x j c { c with ba := [], baOpen := false,
                            a := { c.a with inbox := if deaf c.a then c.a.inbox else c.a.inbox ++ [w] } } [] [] []

/-- The messages on their way from the left to the right endpoint, oldest first: delivered and not yet
    processed, on the wire, queued at the sender. -/
def PC.path (c : PC) : List Msg := inMsgs c.b.inbox ++ c.ab ++ c.a.outq

/-- … those that can still arrive. -/
def PC.live (c : PC) : List Msg := inMsgs c.b.inbox ++ c.ab ++ (if c.abOpen then c.a.outq else [])

end Penguin.PairAll
