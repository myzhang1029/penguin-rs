/-
What the connection task does while it runs to quiescence, as a list.

Three ghost records follow the task's run: the frames accepted into stream objects (`settleLog`,
`Lemmas/MuxIntegrity`), the datagrams noted (`settleLogD φ`, `Lemmas/MuxDgram`), the receiving halves closed
(`settleEnds`, `Lemmas/MuxEof`).  Each is written at the same three places and nowhere else: where a frame is
processed (`processFrame`), where the flow of a dropped stream handle is closed (`closeFlow` in the task's loop),
where the wind-down finishes (`windDownFinish`).  `settleLeaves e` lists these places in order, each with the state it
is reached in (`Leaf`); a ghost record is `(settleLeaves e).flatMap c` for what `c` notes at one leaf.  Define a NEW record
that way.  The three above are given by mirror functions of their own (`settleLoopLog`, …) because the theorems about
histories (`stepG`, `stepD`, `endsOf`; Props C02, C11, C05) are stated with those; each file proves its mirrors equal to
the `flatMap` (`settleLoopLog_eq`, …).

`Walk R`: what has to be shown of a relation `R e e' evs L` (state, later state, events emitted, leaves in between) so
that it holds across the loops and case distinctions of the task (`windDownTail`, `windDown`, `drainStep`, `closingStep`,
`settleLoop`, `settle`) with the model's events and the leaves of the function of the same name: reflexive, transitive,
and across the functions the task is made of.  This is the one place where the task's control structure is walked
for a relation between a state and the state the task leaves it in; `Lemmas/MuxDgramErase` compares the runs from two
states and goes through the loop itself.
`Walk.ofLog` is the usual way to get one for a relation on a ghost record alone (`Walk.ofFrame` is what it rests on:
the relation does not read the inbox or the notifications); a relation with events gives the fields itself
(`Path.walkLoop` in `Lemmas/MuxTrace.lean`), and so does one that reads the inbox (`consumed` in
`Lemmas/MuxIntegritySrc.lean`: the frames processed, then what is left in the inbox, are a subsequence of the inbox before).
Core Lean only.
-/
import Penguin.Lemmas.MuxBasic
import Penguin.Lemmas.MuxSettle

namespace Penguin.Mux

/-- A place in the task's run where a ghost record is written, with the state BEFORE the step. -/
inductive Leaf where
  /-- `processFrame e f _` -/
  | frame (e : EP) (f : Frame)
  /-- `closeFlow e fid false` for the notification of a dropped stream handle -/
  | dropped (e : EP) (fid : Nat)
  /-- `windDownFinish e res` -/
  | finish (e : EP) (res : ExitRes)

/-- The case distinction of the task's loop: the receive loop can take an item (it is not parked and
    the inbox is not empty), or not. -/
def recvCase {α : Type} (p : Option Park) (inb : List WsIn) (A : WsIn → List WsIn → α) (B : α) : α :=
  match p, inb with
  | none, w :: rest => A w rest
  | _, _ => B

theorem recvCase_pos {α : Type} {p : Option Park} {inb : List WsIn} {w : WsIn} {rest : List WsIn}
    (A : WsIn → List WsIn → α) (B : α) (hp : p = none) (hi : inb = w :: rest) : recvCase p inb A B = A w rest := by
  subst hp hi; rfl

theorem recvCase_neg {α : Type} {p : Option Park} {inb : List WsIn} (A : WsIn → List WsIn → α) (B : α)
    (h : ∀ w rest, p = none → inb = w :: rest → False) : recvCase p inb A B = B := by
  unfold recvCase
  split
  · exact absurd rfl (fun hh => h _ _ rfl hh)
  · rfl

theorem recvCase_map {α β : Type} (g : α → β) (p : Option Park) (inb : List WsIn) (A : WsIn → List WsIn → α) (B : α) :
    g (recvCase p inb A B) = recvCase p inb (fun w rest => g (A w rest)) (g B) := by
  unfold recvCase; split <;> rfl

/-! ### The leaves of the task's functions (they mirror the model's functions and return only the leaves) -/

def processInLeaves (e : EP) : WsIn → List Leaf
  | .msg (.frame f) => [.frame e f]
  | _ => []

def windDownInboxLeaves (e : EP) : List WsIn → List Leaf
  | [] => []
  | .err :: _ => []
  | .eof :: _ => []
  | w :: rest => processInLeaves e w ++ windDownInboxLeaves { (processIn e w true).1 with park := none } rest

def windDownTailLeaves (e1 : EP) (srcEnded : Bool) (res : ExitRes) : List Leaf :=
  windDownInboxLeaves e1 e1.inbox ++
    if (windDownInbox e1 e1.inbox).2.2 || srcEnded || res != .ok then
      [.finish { (windDownInbox e1 e1.inbox).1 with inbox := [] } res]
    else []

def windDownLeaves (e : EP) (drain : Bool) (res : ExitRes) : List Leaf :=
  if drain then
    if (sendSome (dropPrep e)).1.outq.isEmpty then windDownTailLeaves (sendSome (dropPrep e)).1 e.srcEnded res else []
  else windDownTailLeaves (windDownPrep e) e.srcEnded res

def drainStepLeaves (e : EP) (res : ExitRes) : List Leaf :=
  if (sendSome e).1.outq.isEmpty then windDownTailLeaves { (sendSome e).1 with draining := none } e.srcEnded res else []

def closingStepLeaves (e : EP) (res : ExitRes) : List Leaf :=
  windDownInboxLeaves e e.inbox ++
    if (windDownInbox e e.inbox).2.2 then [.finish { (windDownInbox e e.inbox).1 with inbox := [] } res] else []

def recvOneLeaves (e : EP) (w : WsIn) (rest : List WsIn) : List Leaf :=
  processInLeaves { (if w = .eof ∨ w = .err then { e with srcEnded := true } else e) with inbox := rest } w

def settleLoopLeaves : Nat → EP → List Leaf
  | 0, _ => []
  | fuel + 1, e =>
    if e.dead then [] else
    match e.draining with
    | some res => drainStepLeaves e res
    | none =>
    match e.closing with
    | some res => closingStepLeaves e res
    | none =>
    recvCase (unpark e).park (unpark e).inbox
      (fun w rest =>
        recvOneLeaves (unpark e) w rest ++
          match (recvOne (unpark e) w rest).2.2 with
          | some r => windDownLeaves (recvOne (unpark e) w rest).1 false r
          | none => settleLoopLeaves fuel (recvOne (unpark e) w rest).1)
      (match (unpark e).droppedq with
       | 0 :: rest => windDownLeaves { unpark e with droppedq := rest } true .ok
       | fid :: rest =>
         .dropped { unpark e with droppedq := rest } fid ::
           settleLoopLeaves fuel (closeFlow { unpark e with droppedq := rest } fid false).1
       | [] => [])

/-- What the task does while it runs to quiescence after a stimulus (what follows the task's loop in `settle`
    has no leaves). -/
def settleLeaves (e : EP) : List Leaf := settleLoopLeaves (2 * e.inbox.length + e.droppedq.length + 2) e

end Penguin.Mux

namespace Penguin.PairAll
open Penguin.Mux

/-- What `windDownInbox` leaves unread: the items from the first one that ends the source on (none if the source does
    not end).  (In this namespace because it belongs to the vocabulary of the statements of `Lemmas/PairAllSimTask.lean`.) -/
def endRest : List WsIn → List WsIn
  | [] => []
  | .err :: r => .err :: r
  | .eof :: r => .eof :: r
  | _ :: r => endRest r

theorem windDownInbox_not_ended (e : EP) (l : List WsIn) (h : (windDownInbox e l).2.2 = false) : endRest l = [] := by
  induction l generalizing e with
  | nil => rfl
  | cons w l ih =>
    cases w with
    | err => simp [Mux.windDownInbox] at h
    | eof => simp [Mux.windDownInbox] at h
    | msg m => simp only [Mux.windDownInbox] at h; simp only [endRest]; exact ih _ h
    | bad b => simp only [Mux.windDownInbox] at h; simp only [endRest]; exact ih _ h

end Penguin.PairAll

namespace Penguin.Mux
open PairAll (endRest windDownInbox_not_ended)

theorem mem_of_mem_endRest {w : WsIn} {l : List WsIn} (h : w ∈ endRest l) : w ∈ l := by
  induction l with
  | nil => cases h
  | cons x l ih =>
    cases x with
    | err => exact h
    | eof => exact h
    | msg m => exact List.mem_cons_of_mem _ (ih h)
    | bad b => exact List.mem_cons_of_mem _ (ih h)

/-! ### The spine: a relation that holds across the task's functions holds across its run

`R e e' evs L`: from `e` to `e'`, emitting `evs`, with the leaves `L`.  The fields are the steps the loops and case
distinctions of the task are made of; each is stated so that a simulation which reads the inbox from the state can prove
it: `recv` knows that the item taken is the head of the inbox; `pass` leaves in the inbox what `windDownInbox` has not
read, and `finish` drops it together with everything else (no step in between throws unread items away); `dropped`
starts in the state that still holds the notification.  Only the END state and the events of a composition are the
model's: the states in between need not be. -/

/-- The task's loops alone. -/
structure WalkLoop (R : EP → EP → List Ev → List Leaf → Prop) : Prop where
  refl : ∀ e, R e e [] []
  trans : ∀ {a b c x y L1 L2}, R a b x L1 → R b c y L2 → R a c (x ++ y) (L1 ++ L2)
  /-- The wind-down notes where it stands. -/
  ctl : ∀ e c d, R e { e with closing := c, draining := d } [] []
  recv : ∀ e w rest, e.inbox = w :: rest → R e (recvOne e w rest).1 (recvOne e w rest).2.1 (recvOneLeaves e w rest)
  pass : ∀ e, R e { (windDownInbox e e.inbox).1 with inbox := endRest e.inbox } (windDownInbox e e.inbox).2.1
    (windDownInboxLeaves e e.inbox)
  finish : ∀ e res, R e (windDownFinish { e with inbox := [] } res).1 (windDownFinish { e with inbox := [] } res).2
    [.finish { e with inbox := [] } res]
  dropMux : ∀ e rest, e.droppedq = 0 :: rest → R e { e with droppedq := rest } [] []
  dropped : ∀ e fid rest, e.droppedq = fid :: rest → fid ≠ 0 →
    R e (closeFlow { e with droppedq := rest } fid false).1 (closeFlow { e with droppedq := rest } fid false).2
      [.dropped { e with droppedq := rest } fid]
  unpark : ∀ e, R e (unpark e) [] []
  send : ∀ e, R e (sendSome e).1 (sendSome e).2 []
  wireClose : ∀ e, R e e [.wireClose] []
  dropPrep : ∀ e, R e (dropPrep e) [] []
  windDownPrep : ∀ e, R e (windDownPrep e) [] []

/-- With the open futures, which run after the task (`settle`). -/
structure Walk (R : EP → EP → List Ev → List Leaf → Prop) : Prop extends WalkLoop R where
  done : ∀ e, R e (runDoneq e).1 (runDoneq e).2 []
  retry : ∀ e, R e (runRetryq e).1 (runRetryq e).2 []

theorem then0_of_trans {R : EP → EP → List Ev → List Leaf → Prop}
    (trans : ∀ {a b c x y L1 L2}, R a b x L1 → R b c y L2 → R a c (x ++ y) (L1 ++ L2))
    {a b c : EP} {x : List Ev} {L : List Leaf} (s : R a b x L) (t : R b c [] []) : R a c x L := by
  have := trans s t; rwa [List.append_nil, List.append_nil] at this

namespace Walk

/-- For a relation that does not read the inbox or the notifications: across `processFrame`, `closeFlow`, `windDownFinish`
    as they are, the loops' own fields changing silently. -/
theorem ofFrame {R : EP → EP → List Ev → List Leaf → Prop} (refl : ∀ e, R e e [] [])
    (trans : ∀ {a b c x y L1 L2}, R a b x L1 → R b c y L2 → R a c (x ++ y) (L1 ++ L2))
    (ctl : ∀ e p l s c d q,
      R e { e with park := p, inbox := l, srcEnded := s, closing := c, draining := d, droppedq := q } [] [])
    (frame : ∀ e f ig, R e (processFrame e f ig).1 (processFrame e f ig).2.1 [.frame e f])
    (dropped : ∀ e fid, R e (closeFlow e fid false).1 (closeFlow e fid false).2 [.dropped e fid])
    (finish : ∀ e res, R e (windDownFinish e res).1 (windDownFinish e res).2 [.finish e res])
    (unpark : ∀ e, R e (Mux.unpark e) [] []) (send : ∀ e, R e (sendSome e).1 (sendSome e).2 [])
    (wireClose : ∀ e, R e e [.wireClose] []) (dropPrep : ∀ e, R e (Mux.dropPrep e) [] [])
    (windDownPrep : ∀ e, R e (Mux.windDownPrep e) [] []) (done : ∀ e, R e (runDoneq e).1 (runDoneq e).2 [])
    (retry : ∀ e, R e (runRetryq e).1 (runRetryq e).2 []) : Walk R := by
  have then0 : ∀ {a b c x L}, R a b x L → R b c [] [] → R a c x L := then0_of_trans trans
  have pin : ∀ e w ig, R e (processIn e w ig).1 (processIn e w ig).2.1 (processInLeaves e w) := by
    intro e w ig
    cases w with
    | msg m => cases m <;> first | exact frame _ _ ig | exact refl e
    | _ => exact refl e
  have inb : ∀ l e, R e (windDownInbox e l).1 (windDownInbox e l).2.1 (windDownInboxLeaves e l) := by
    intro l
    induction l with
    | nil => exact refl
    | cons w l ih =>
      intro e
      cases w with
      | err => exact refl e
      | eof => exact refl e
      | msg m =>
        simp only [Mux.windDownInbox, windDownInboxLeaves]
        exact trans (then0 (pin e _ true) (ctl _ none _ _ _ _ _)) (ih _)
      | bad b =>
        simp only [Mux.windDownInbox, windDownInboxLeaves]
        exact trans (then0 (pin e _ true) (ctl _ none _ _ _ _ _)) (ih _)
  refine ⟨⟨refl, trans, fun e c d => ctl e _ _ _ c d _, fun e w rest _ => ?_,
    fun e => then0 (inb _ e) (ctl _ _ (endRest e.inbox) _ _ _ _),
    fun e res => trans (x := []) (L1 := []) (ctl e _ [] _ _ _ _) (finish _ res), fun e rest _ => ctl e _ _ _ _ _ rest,
    fun e fid rest _ _ => trans (x := []) (L1 := []) (ctl e _ _ _ _ _ rest) (dropped _ fid),
    unpark, send, wireClose, dropPrep, windDownPrep⟩, done, retry⟩
  simp only [Mux.recvOne, recvOneLeaves]
  refine trans (x := []) (L1 := []) ?_ (pin _ w false)
  split
  · exact ctl e _ rest true _ _ _
  · exact ctl e _ rest _ _ _ _

/-- The same for a relation on a ghost record alone, to which every leaf contributes `c`. -/
theorem ofLog {γ : Type} {c : Leaf → List γ} {R : EP → EP → List γ → Prop} (refl : ∀ e, R e e [])
    (trans : ∀ {a b d L1 L2}, R a b L1 → R b d L2 → R a d (L1 ++ L2))
    (ctl : ∀ e p l s cl d q,
      R e { e with park := p, inbox := l, srcEnded := s, closing := cl, draining := d, droppedq := q } [])
    (frame : ∀ e f ig, R e (processFrame e f ig).1 (c (.frame e f)))
    (dropped : ∀ e fid, R e (closeFlow e fid false).1 (c (.dropped e fid)))
    (finish : ∀ e res, R e (windDownFinish e res).1 (c (.finish e res)))
    (unpark : ∀ e, R e (Mux.unpark e) []) (send : ∀ e, R e (sendSome e).1 []) (dropPrep : ∀ e, R e (Mux.dropPrep e) [])
    (windDownPrep : ∀ e, R e (Mux.windDownPrep e) []) (done : ∀ e, R e (runDoneq e).1 [])
    (retry : ∀ e, R e (runRetryq e).1 []) : Walk (fun e e' _ L => R e e' (L.flatMap c)) :=
  ofFrame refl (fun s t => by rw [List.flatMap_append]; exact trans s t) ctl
    (fun e f ig => by rw [List.flatMap_singleton]; exact frame e f ig)
    (fun e fid => by rw [List.flatMap_singleton]; exact dropped e fid)
    (fun e res => by rw [List.flatMap_singleton]; exact finish e res)
    unpark send refl dropPrep windDownPrep done retry

end Walk

namespace WalkLoop

variable {R : EP → EP → List Ev → List Leaf → Prop} (W : WalkLoop R)
include W

theorem after0 {a b c : EP} {x : List Ev} {L : List Leaf} (t : R b c x L) (s : R a b [] []) : R a c x L := W.trans s t

theorem then0 {a b c : EP} {x : List Ev} {L : List Leaf} (s : R a b x L) (t : R b c [] []) : R a c x L :=
  then0_of_trans W.trans s t

theorem thenL {a b c : EP} {x y : List Ev} {L : List Leaf} (s : R a b x []) (t : R b c y L) : R a c (x ++ y) L :=
  W.trans s t

theorem thenE {a b c : EP} {x y : List Ev} {L : List Leaf} (s : R a b x L) (t : R b c y []) : R a c (x ++ y) L := by
  have := W.trans s t; rwa [List.append_nil] at this

/-- The source is read on, then the wind-down finishes or waits for the peer. -/
theorem passOn (e : EP) (fin : Bool) (res : ExitRes) :
    R e (if (windDownInbox e e.inbox).2.2 || fin then
            (windDownFinish { (windDownInbox e e.inbox).1 with inbox := [] } res).1
          else { (windDownInbox e e.inbox).1 with inbox := [] })
      ((windDownInbox e e.inbox).2.1 ++ if (windDownInbox e e.inbox).2.2 || fin then
          (windDownFinish { (windDownInbox e e.inbox).1 with inbox := [] } res).2 else [])
      (windDownInboxLeaves e e.inbox ++ if (windDownInbox e e.inbox).2.2 || fin then
          [.finish { (windDownInbox e e.inbox).1 with inbox := [] } res] else []) := by
  have g := W.pass e
  split
  · exact W.trans g (W.finish _ res)
  · rename_i h
    rw [windDownInbox_not_ended e e.inbox (by simpa using (Bool.or_eq_false_iff.mp (by simpa using h)).1)] at g
    rw [List.append_nil, List.append_nil]; exact g

theorem windDownTail (e1 : EP) (flushed : List Ev) (srcEnded : Bool) (res : ExitRes) :
    ∃ evs, (windDownTail e1 flushed srcEnded res).2 = flushed ++ evs ∧
      R e1 (windDownTail e1 flushed srcEnded res).1 evs (windDownTailLeaves e1 srcEnded res) := by
  have g := W.thenL (W.wireClose e1) (W.passOn e1 (srcEnded || res != .ok) res)
  simp only [Mux.windDownTail, windDownTailLeaves]
  simp only [← Bool.or_assoc] at g
  split
  · rename_i h
    simp only [h, if_true] at g
    exact ⟨_, by simp only [List.append_assoc], g⟩
  · rename_i h
    simp only [h, if_false, Bool.false_eq_true, List.append_nil] at g
    rw [List.append_nil]
    refine ⟨_, ?_, W.then0 g (W.ctl _ (some res) _)⟩
    simp only [List.append_assoc]

theorem windDown (e : EP) (drain : Bool) (res : ExitRes) :
    R e (windDown e drain res).1 (windDown e drain res).2 (windDownLeaves e drain res) := by
  simp only [Mux.windDown, windDownLeaves]
  split
  · have g := W.after0 (W.send _) (W.dropPrep e)
    split
    · obtain ⟨evs, h1, h2⟩ :=
        W.windDownTail (Mux.sendSome (Mux.dropPrep e)).1 (Mux.sendSome (Mux.dropPrep e)).2 e.srcEnded res
      rw [h1]; exact W.thenL g h2
    · exact W.then0 g (W.ctl _ _ (some res))
  · obtain ⟨evs, h1, h2⟩ := W.windDownTail (Mux.windDownPrep e) [] e.srcEnded res
    rw [h1]; exact W.after0 h2 (W.windDownPrep e)

theorem drainStep (e : EP) (res : ExitRes) : R e (drainStep e res).1 (drainStep e res).2 (drainStepLeaves e res) := by
  simp only [Mux.drainStep, drainStepLeaves]
  split
  · obtain ⟨evs, h1, h2⟩ :=
      W.windDownTail { (Mux.sendSome e).1 with draining := none } (Mux.sendSome e).2 e.srcEnded res
    rw [h1]; exact W.thenL (W.then0 (W.send e) (W.ctl _ _ none)) h2
  · exact W.send e

theorem closingStep (e : EP) (res : ExitRes) :
    R e (closingStep e res).1 (closingStep e res).2 (closingStepLeaves e res) := by
  have g := W.passOn e false res
  simp only [Bool.or_false] at g
  simp only [Mux.closingStep, closingStepLeaves]
  split
  · rename_i h; simp only [h, if_true] at g; exact g
  · rename_i h; simp only [h, if_false, Bool.false_eq_true, List.append_nil] at g ⊢; exact g

theorem settleLoop (fuel : Nat) (e : EP) (acc : List Ev) :
    ∃ evs, (settleLoop fuel e acc).2 = acc ++ evs ∧ R e (settleLoop fuel e acc).1 evs (settleLoopLeaves fuel e) := by
  fun_induction Mux.settleLoop fuel e acc
  case case1 => exact ⟨[], by simp, W.refl _⟩
  case case2 hd => simp only [settleLoopLeaves, hd, if_true]; exact ⟨[], by simp, W.refl _⟩
  case case3 hd res hdr => simp only [settleLoopLeaves, hd, hdr]; exact ⟨_, rfl, W.drainStep _ _⟩
  case case4 hd hdr res hcl => simp only [settleLoopLeaves, hd, hdr, hcl]; exact ⟨_, rfl, W.closingStep _ _⟩
  case case5 hd hdr hcl w rest hi hp r hr =>
    simp only [settleLoopLeaves, hd, hdr, hcl]
    rw [recvCase_pos _ _ hp hi]; simp only [hr]
    exact ⟨_, by rw [List.append_assoc], W.trans (W.after0 (W.recv _ w rest hi) (W.unpark _)) (W.windDown _ _ _)⟩
  case case6 hd hdr hcl w rest hi hp hr ih =>
    simp only [settleLoopLeaves, hd, hdr, hcl]
    rw [recvCase_pos _ _ hp hi]; simp only [hr]
    obtain ⟨evs, h1, h2⟩ := ih
    exact ⟨_ ++ evs, by rw [h1, List.append_assoc], W.trans (W.after0 (W.recv _ w rest hi) (W.unpark _)) h2⟩
  case case7 hd hdr hcl rest hq hneg =>
    simp only [settleLoopLeaves, hd, hdr, hcl]
    rw [recvCase_neg _ _ hneg]; simp only [hq]
    exact ⟨_, rfl, W.after0 (W.windDown _ _ _) (W.then0 (W.unpark _) (W.dropMux _ rest hq))⟩
  case case8 hd hdr hcl fid rest h0 hq hneg ih =>
    simp only [settleLoopLeaves, hd, hdr, hcl]
    rw [recvCase_neg _ _ hneg]; simp only [hq]
    obtain ⟨evs, h1, h2⟩ := ih
    exact ⟨_ ++ evs, by rw [h1, List.append_assoc],
      W.trans (W.after0 (W.dropped _ fid rest hq (fun h => h0 (h ▸ rfl))) (W.unpark _)) h2⟩
  case case9 hd hdr hcl hq hneg =>
    simp only [settleLoopLeaves, hd, hdr, hcl]
    rw [recvCase_neg _ _ hneg]; simp only [hq]
    exact ⟨[], by simp, W.unpark _⟩

theorem holdSend (e : EP) : R e (holdSend e).1 (holdSend e).2 [] := by
  unfold Mux.holdSend
  split
  · exact W.refl e
  · exact W.send e

end WalkLoop

namespace Walk

variable {R : EP → EP → List Ev → List Leaf → Prop} (W : Walk R)
include W

theorem settle (e : EP) : R e (settle e).1 (settle e).2 (settleLeaves e) := by
  obtain ⟨evs, h1, h2⟩ := W.settleLoop (2 * e.inbox.length + e.droppedq.length + 2) e []
  rw [List.nil_append] at h1
  exact settle_chain (P := fun a b x => R a b x (settleLeaves e)) (Q := fun a b x => R a b x []) W.thenE W.thenE
    (h1 ▸ h2) W.holdSend W.done W.retry

end Walk

end Penguin.Mux
