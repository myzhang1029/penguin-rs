/-
Facts about plain lists for the stream and the bind development of `Model/PairAll.lean`: what `List.modify`
leaves alone, a member that is counted, counts along a suffix, `any` along a sublist.
Core Lean only.
-/

namespace Penguin

theorem map_modify_of_eq {α β : Type} (g : α → β) (f : α → α) (h : ∀ a, g (f a) = g a) (l : List α) (i : Nat) :
    (l.modify i f).map g = l.map g := by
  induction l generalizing i with
  | nil => simp
  | cons a r ih => cases i <;> simp [List.modify_cons, h, ih]

theorem countP_modify_of_eq {α : Type} (p : α → Bool) (f : α → α) (h : ∀ a, p (f a) = p a) (l : List α) (i : Nat) :
    (l.modify i f).countP p = l.countP p := by
  have := congrArg (List.countP id) (map_modify_of_eq p f h l i)
  simpa only [List.countP_map, Function.id_comp] using this

theorem any_modify_of_eq {α : Type} (p : α → Bool) (f : α → α) (h : ∀ a, p (f a) = p a) (l : List α) (i : Nat) :
    (l.modify i f).any p = l.any p := by
  have := congrArg (List.any · id) (map_modify_of_eq p f h l i)
  simpa only [List.any_map, Function.id_comp] using this

theorem countP_pos_of_mem {α : Type} {p : α → Bool} {l : List α} {a : α} (ha : a ∈ l) (hp : p a = true) : 0 < l.countP p :=
  List.countP_pos_iff.mpr ⟨a, ha, hp⟩

theorem countP_pos_of_get {α : Type} {p : α → Bool} {l : List α} {i : Nat} {a : α} (h : l[i]? = some a) (hp : p a = true) :
    0 < l.countP p :=
  countP_pos_of_mem (List.mem_of_getElem? h) hp

theorem countP_pos_of_any {α : Type} {p q : α → Bool} {l : List α} (h : l.any p = true) (hq : ∀ a, p a = true → q a = true) :
    0 < l.countP q :=
  let ⟨a, ha, hp⟩ := List.any_eq_true.mp h
  countP_pos_of_mem ha (hq a hp)

theorem any_of_sublist {α : Type} {p : α → Bool} {l' l : List α} (h : l'.Sublist l) (hf : l'.any p = true) :
    l.any p = true := by
  obtain ⟨a, ha, hp⟩ := List.any_eq_true.mp hf
  exact List.any_eq_true.mpr ⟨a, h.subset ha, hp⟩

theorem any_false_of_sublist {α : Type} {p : α → Bool} {l' l : List α} (h : l'.Sublist l) (hf : l.any p = false) :
    l'.any p = false := by
  cases hp : l'.any p with
  | false => rfl
  | true => rw [any_of_sublist h hp] at hf; cases hf

theorem flatMap_sublist {α β : Type} {c c' : α → List β} (h : ∀ x, (c x).Sublist (c' x)) (L : List α) :
    (L.flatMap c).Sublist (L.flatMap c') := by
  induction L with
  | nil => exact List.Sublist.refl _
  | cons x L ih => rw [List.flatMap_cons, List.flatMap_cons]; exact List.Sublist.append (h x) ih

end Penguin

namespace Penguin.BindAll

/-! Counts along a suffix of an id script (namespace `BindAll`; `PairAllSimBase` uses them too). -/

theorem count_le_of_suffix {r' r : List Nat} (h : r' <:+ r) (x : Nat) : r'.count x ≤ r.count x :=
  h.sublist.count_le x

theorem count_lt_of_cons_suffix {r' r : List Nat} {x : Nat} (h : (x :: r') <:+ r) : r'.count x < r.count x := by
  have := h.sublist.count_le x
  simp only [List.count_cons_self] at this
  omega

end Penguin.BindAll
