/-
What reaches the transport's sink around a failure of the sink.

`txOf evs`: the events of a step that are transmissions — a message handed to the sink (`wire`) or the sink being
closed (`wireClose`, the WebSocket Close).  `closesOf evs`: the `wireClose` ones.  Only the step `send` emits `wire`,
only `wireClose` the Close, so a function whose path (Lemmas/MuxTrace.lean) avoids both is silent.  The poll with a
failed sink never emits the Close, in any state (what its receive loop emitted before it ended the connection itself
is filtered; while it did not end the connection there was none).  A finished task transmits nothing, hence nothing is
transmitted after a poll that finished the task, nor by any later stimulus.  On a running endpoint whose receive loop
has nothing to do the poll itself transmits nothing at all (the queued messages are discarded).
Core Lean only.
-/
import Penguin.Model.MuxStart
import Penguin.Lemmas.MuxStartEnd

namespace Penguin.Mux

def txOf : List Ev → List Ev
  | [] => []
  | .wire m :: rest => .wire m :: txOf rest
  | .wireClose :: rest => .wireClose :: txOf rest
  | _ :: rest => txOf rest

def closesOf : List Ev → List Ev
  | [] => []
  | .wireClose :: rest => .wireClose :: closesOf rest
  | _ :: rest => closesOf rest

@[simp] theorem txOf_nil : txOf [] = [] := rfl
@[simp] theorem closesOf_nil : closesOf [] = [] := rfl

theorem txOf_append (a b : List Ev) : txOf (a ++ b) = txOf a ++ txOf b := by
  induction a with
  | nil => rfl
  | cons x xs ih => cases x <;> simp [txOf, ih]

theorem closesOf_append (a b : List Ev) : closesOf (a ++ b) = closesOf a ++ closesOf b := by
  induction a with
  | nil => rfl
  | cons x xs ih => cases x <;> simp [closesOf, ih]

theorem closesOf_of_txOf {evs : List Ev} (h : txOf evs = []) : closesOf evs = [] := by
  induction evs with
  | nil => rfl
  | cons x xs ih => cases x <;> simp_all [txOf, closesOf]

theorem closesOf_dropWireClose (evs : List Ev) : closesOf (dropWireClose evs) = [] := by
  unfold dropWireClose
  induction evs with
  | nil => rfl
  | cons ev rest ih => cases ev <;> simp [closesOf, ih]

theorem txOf_dropWireClose {evs : List Ev} (h : txOf evs = [.wireClose] ∨ txOf evs = []) :
    txOf (dropWireClose evs) = [] := by
  unfold dropWireClose
  induction evs with
  | nil => rfl
  | cons ev rest ih =>
    cases ev with
    | wire m => rcases h with h | h <;> simp [txOf] at h
    | wireClose =>
      have hr : txOf rest = [] := by
        rcases h with h | h
        · simpa [txOf] using h
        · simp [txOf] at h
      simpa [txOf] using ih (Or.inr hr)
    | openDone req r => simpa [txOf] using ih (by simpa [txOf] using h)
    | bindDone req r => simpa [txOf] using ih (by simpa [txOf] using h)
    | exit r => simpa [txOf] using ih (by simpa [txOf] using h)

theorem mem_closesOf {evs : List Ev} (h : Ev.wireClose ∈ evs) : closesOf evs ≠ [] := by
  induction evs with
  | nil => cases h
  | cons x xs ih =>
    cases x with
    | wireClose => simp [closesOf]
    | wire m => rcases List.mem_cons.mp h with h1 | h1; cases h1; simpa [closesOf] using ih h1
    | openDone req r => rcases List.mem_cons.mp h with h1 | h1; cases h1; simpa [closesOf] using ih h1
    | bindDone req r => rcases List.mem_cons.mp h with h1 | h1; cases h1; simpa [closesOf] using ih h1
    | exit r => rcases List.mem_cons.mp h with h1 | h1; cases h1; simpa [closesOf] using ih h1

theorem not_mem_of_closesOf {evs : List Ev} (h : closesOf evs = []) : Ev.wireClose ∉ evs :=
  fun hm => mem_closesOf hm h

/-! ### The silent functions: every step but `send` and `wireClose` -/

theorem txOf_eq_nil {evs : List Ev} (h1 : ∀ ev ∈ evs, ev.sort ≠ .wire) (h2 : ∀ ev ∈ evs, ev.sort ≠ .wireClose) :
    txOf evs = [] := by
  induction evs with
  | nil => rfl
  | cons x xs ih =>
    have hx := ih (fun ev h => h1 ev (List.mem_cons_of_mem _ h)) (fun ev h => h2 ev (List.mem_cons_of_mem _ h))
    cases x with
    | wire m => exact absurd rfl (h1 _ List.mem_cons_self)
    | wireClose => exact absurd rfl (h2 _ List.mem_cons_self)
    | _ => exact hx

theorem closesOf_eq_nil {evs : List Ev} (h : ∀ ev ∈ evs, ev.sort ≠ .wireClose) : closesOf evs = [] := by
  induction evs with
  | nil => rfl
  | cons x xs ih =>
    have hx := ih fun ev hm => h ev (List.mem_cons_of_mem _ hm)
    cases x with
    | wireClose => exact absurd rfl (h _ List.mem_cons_self)
    | _ => exact hx

theorem Path.tx {A : Kinds} {e e' : EP} {evs : List Ev} (p : Path A e evs e')
    (h : A.disj (.of [.send, .wireClose]) = true := by decide +kernel) : txOf evs = [] :=
  txOf_eq_nil (p.emits .wire (Kinds.disj_mono h (by decide +kernel)))
    (p.emits .wireClose (Kinds.disj_mono h (by decide +kernel)))

theorem Path.closes {A : Kinds} {e e' : EP} {evs : List Ev} (p : Path A e evs e')
    (h : A.disj (.of [.wireClose]) = true := by decide +kernel) : closesOf evs = [] :=
  closesOf_eq_nil (p.emits .wireClose h)

/-- An application call by itself transmits nothing (it queues; the task transmits). -/
theorem opStep_tx (e : EP) (op : Op) : txOf (opStep e op).2.2 = [] := (Path.opStepAny e op).tx

/-! ### The Close reaches the sink only through the tail of the wind-down -/

theorem windDownTail_tx (e1 : EP) (flushed : List Ev) (srcEnded : Bool) (res : ExitRes) :
    txOf (windDownTail e1 flushed srcEnded res).2 = txOf flushed ++ [.wireClose] := by
  rcases windDownTail_cases e1 flushed srcEnded res with ⟨-, h⟩ | ⟨-, -, h⟩ <;> rw [h, txOf_append, txOf]
  · rw [txOf_append, (Path.windDownInbox _ _).tx, (Path.windDownFinish _ _).tx]; rfl
  · rw [(Path.windDownInbox _ _).tx]

theorem windDown_closes (e : EP) (drain : Bool) (res : ExitRes) :
    closesOf (windDown e drain res).2 ≠ [] →
    (windDown e drain res).1.dead = true ∨ (windDown e drain res).1.closing.isSome = true := by
  simp only [Mux.windDown]
  split
  · split
    · intro _
      rcases windDownTail_dead_or_closing (sendSome (dropPrep e)).1 (sendSome (dropPrep e)).2 e.srcEnded res with h1 | h1
      · exact Or.inl h1
      · exact Or.inr (by rw [h1]; rfl)
    · intro h
      exact absurd (Path.sendSome _).closes h
  · intro _
    rcases windDownTail_dead_or_closing (windDownPrep e) [] e.srcEnded res with h1 | h1
    · exact Or.inl h1
    · exact Or.inr (by rw [h1]; rfl)

theorem drainStep_closes (e : EP) (res : ExitRes) :
    closesOf (drainStep e res).2 ≠ [] →
    (drainStep e res).1.dead = true ∨ (drainStep e res).1.closing.isSome = true := by
  simp only [Mux.drainStep]
  split
  · intro _
    rcases windDownTail_dead_or_closing { (sendSome e).1 with draining := none } (sendSome e).2 e.srcEnded res with h1 | h1
    · exact Or.inl h1
    · exact Or.inr (by rw [h1]; rfl)
  · intro h
    exact absurd (Path.sendSome _).closes h

/-- If the task's loop has closed the sink, it has finished or waits for the peer's end. -/
theorem settleLoop_closes (fuel : Nat) (e : EP) (acc : List Ev) (hacc : closesOf acc = []) :
    closesOf (settleLoop fuel e acc).2 ≠ [] →
    (settleLoop fuel e acc).1.dead = true ∨ (settleLoop fuel e acc).1.closing.isSome = true := by
  revert hacc
  fun_induction Mux.settleLoop fuel e acc
  case case1 | case2 | case9 => exact fun hacc h => absurd hacc h
  case case3 =>
    intro hacc h
    rw [closesOf_append, hacc, List.nil_append] at h
    exact drainStep_closes _ _ h
  case case4 =>
    intro hacc h
    rw [closesOf_append, hacc, List.nil_append, (Path.closingStep _ _).closes] at h
    exact absurd rfl h
  case case5 =>
    intro hacc h
    rw [closesOf_append, closesOf_append, hacc, (Path.recvOne _ _ _).closes] at h
    exact windDown_closes _ _ _ h
  case case6 ih =>
    exact fun hacc => ih (by rw [closesOf_append, hacc, (Path.recvOne _ _ _).closes]; rfl)
  case case7 =>
    intro hacc h
    rw [closesOf_append, hacc, List.nil_append] at h
    exact windDown_closes _ _ _ h
  case case8 ih =>
    exact fun hacc => ih (by rw [closesOf_append, hacc, (Path.closeFlow _ _ _).closes]; rfl)

/-! ### The poll with a failed sink -/

theorem taskPollSinkFailed_no_close (e : EP) : closesOf (taskPollSinkFailed e).2 = [] := by
  rcases taskPollSinkFailed_cases e with ⟨-, q⟩ | ⟨_, -, q⟩ | ⟨-, -, q⟩ | ⟨-, ⟨hd, hc⟩, q⟩ <;> rw [q]
  · rfl
  · exact closesOf_dropWireClose _
  · exact closesOf_dropWireClose _
  · rw [closesOf_append, closesOf_dropWireClose, List.append_nil]
    cases hcl : closesOf (settleLoop (2 * e.inbox.length + 2) { e with droppedq := [] } []).2 with
    | nil => rfl
    | cons x xs =>
      have := settleLoop_closes (2 * e.inbox.length + 2) { e with droppedq := [] } [] rfl (by rw [hcl]; simp)
      simp [hd, hc] at this

theorem taskPollSinkFailed_no_close_mem (e : EP) : Ev.wireClose ∉ (taskPollSinkFailed e).2 :=
  not_mem_of_closesOf (taskPollSinkFailed_no_close e)

theorem taskPollSinkFailed_quiet_tx (e : EP) (hd : e.dead = false) (hc : e.closing = none) (hdr : e.draining = none)
    (hi : e.inbox = []) (hp : e.park = none) : txOf (taskPollSinkFailed e).2 = [] := by
  rw [taskPollSinkFailed_quiet e hd hc hdr hi hp]
  exact txOf_dropWireClose (Or.inl (by rw [windDownTail_tx]; rfl))

/-! ### A finished task transmits nothing -/

/-- On a finished endpoint `settle` only lets the open futures run: the answered ones return, the rejected ones have
    their next round. -/
theorem settle_dead (e : EP) (hd : e.dead = true) :
    settle e = ((runRetryq (runDoneq e).1).1, (runDoneq e).2 ++ (runRetryq (runDoneq e).1).2) := by
  have hold : ∀ a : EP, a.dead = true → holdSend a = (a, []) := fun a ha => by simp [holdSend, ha]
  have hd4 : (runRetryq (runDoneq e).1).1.dead = true :=
    ((Path.runRetryq _).frame .dead).trans (((Path.runDoneq e).frame .dead).trans hd)
  rw [Mux.settle_eq, settleLoop_dead _ _ _ hd]
  simp only [thenRun, hold e hd, hold _ hd4, List.nil_append, List.append_nil]

theorem settle_dead_tx (e : EP) (hd : e.dead = true) : txOf (settle e).2 = [] := by
  rw [settle_dead e hd, txOf_append]
  unfold runDoneq runRetryq
  rw [(Path.runDone _ _).tx, (Path.runRetries _ _).tx]; rfl

/-- After a poll that finished the task nothing is transmitted: the events of `applySinkFail` are
    those of the poll followed by events that are no transmissions. -/
theorem applySinkFail_after_poll_tx (e : EP) (hd : (taskPollSinkFailed e).1.dead = true) :
    ∃ later, (applySinkFail e).2.2 = (taskPollSinkFailed e).2 ++ later ∧ txOf later = [] :=
  ⟨_, applySinkFail_evs e, settle_dead_tx _ hd⟩

theorem applySinkFail_quiet_tx (e : EP) (hd : e.dead = false) (hc : e.closing = none) (hdr : e.draining = none)
    (hi : e.inbox = []) (hp : e.park = none) : txOf (applySinkFail e).2.2 = [] := by
  rw [applySinkFail_evs, txOf_append, taskPollSinkFailed_quiet_tx e hd hc hdr hi hp,
    settle_dead_tx _ (taskPollSinkFailed_quiet_dead e hd hc hdr hi hp)]; rfl

theorem dead_applyOp_tx (e : EP) (op : Op) (hd : e.dead = true) : txOf (applyOp e op).2.2 = [] := by
  have hd1 : (opStep e op).1.dead = true := by rw [(Still.opStep e op).dead]; exact hd
  rw [applyOp_evs, txOf_append, opStep_tx e op, settle_dead_tx _ hd1]; rfl

theorem dead_applySinkFail_tx (e : EP) (hd : e.dead = true) : txOf (applySinkFail e).2.2 = [] := by
  rw [applySinkFail_evs, taskPollSinkFailed_idle e (Or.inl hd), List.nil_append]
  exact settle_dead_tx e hd

theorem dead_applyStart_tx (e : EP) (sf : Bool) (hd : e.dead = true) : txOf (applyStart e sf).2.2 = [] := by
  unfold applyStart
  split
  · exact dead_applySinkFail_tx e hd
  · exact settle_dead_tx e hd

end Penguin.Mux
