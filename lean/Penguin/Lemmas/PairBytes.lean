/-
The byte-wire pair (`Penguin.PairBytes`) and the frame-wire pair (`Penguin.Pair`) move in lock step:
from the encoding of a frame-level state whose queues and wires hold well-formed messages only
(`PWf`, preserved by every step — `Lemmas/MuxWfFrames.lean`), every action of the byte system is the
encoding of the same action of the frame system.  Hence every run of the byte system is the encoding
of the run of the frame system, and no `recv` ever meets a message that does not decode.
-/
import Penguin.Model.PairBytes
import Penguin.Lemmas.PairRun
import Penguin.Lemmas.Frame
import Penguin.Lemmas.MuxWfFrames

namespace Penguin.PairBytes
open Penguin.Mux Penguin.Pair

/-! ### Well-formedness of the whole pair -/

structure PWf (p : PS) : Prop where
  a : Good p.a
  b : Good p.b
  ab : ∀ m ∈ p.ab, m.wf
  ba : ∀ m ∈ p.ba, m.wf

theorem PWf.swap {p : PS} (h : PWf p) : PWf p.swap := ⟨h.b, h.a, h.ba, h.ab⟩

theorem PWf_init (oa ob : Opts) (ra rb : List Nat) (hoa : oa.rwnd < 4294967296) (hob : ob.rwnd < 4294967296)
    (hr : ∀ k ∈ ra ++ rb, k < 4294967296) : PWf (Pair.init oa ob ra rb) :=
  ⟨Good_init oa ra hoa (fun k hk => hr k (List.mem_append_left _ hk)),
   Good_init ob rb hob (fun k hk => hr k (List.mem_append_right _ hk)), by simp [Pair.init], by simp [Pair.init]⟩

theorem stepL_wf {p p' : PS} (a : Act) (ha : a.inRange) (h : PWf p) (hs : stepL p a = some p') : PWf p' := by
  cases stepL_shape hs with
  | «open» req host port => exact { h with a := h.a.appOpen req host port ha }
  | cancelOpen => exact { h with a := { h.a with opens := opens_filter h.a.opens _ } }
  | accept => exact { h with a := h.a.appAccept }
  | write hd d => exact { h with a := h.a.appWrite hd d }
  | read hd n => exact { h with a := h.a.appRead hd n }
  | shutdown hd => exact { h with a := h.a.appShutdown hd }
  | dropStream hd => exact { h with a := h.a.appDropStream hd }
  | sendDgram d => exact { h with a := h.a.appSendDgram d ha.1 ha.2 }
  | recvDgram => exact { h with a := h.a.appRecvDgram }
  | xmit m _ hq =>
    have hm : m.wf := h.a.out m (by rw [hq]; simp)
    refine { h with a := { h.a with out := ?_ }, ab := ?_ }
    · intro x hx; exact h.a.out x (by rw [hq]; exact List.mem_cons_of_mem _ hx)
    · intro x hx
      rcases List.mem_append.mp hx with hx | hx
      · exact h.ab x hx
      · simp only [List.mem_singleton] at hx; subst hx; exact hm
  | recv f rest e evs _ hba hpf =>
    have hf : f.wf := h.ba (.frame f) (by rw [hba]; simp)
    have hg := h.a.processFrame f hf false
    rw [hpf] at hg
    exact { h with a := hg, ba := fun x hx => h.ba x (by rw [hba]; exact List.mem_cons_of_mem _ hx) }
  | notif fid rest => exact { h with a := Good.closeFlow (e := { p.a with droppedq := rest }) { h.a with } fid false }
  | unpark => exact { h with a := h.a.unpark }
  | runDone => exact { h with a := Good.runDone (e := { p.a with doneq := [] }) { h.a with } _ }
  | runRetries => exact { h with a := Good.runRetries (e := { p.a with retryq := [] }) { h.a with } _ }
  | bindReq req bt host port => exact { h with a := h.a.appBindReq req bt host port ha }
  | bindNext => exact { h with a := h.a.appBindNext }
  | bindReply k acc => exact { h with a := h.a.appBindReply k acc }
  | bindDrop k => exact { h with a := h.a.appBindDrop k }

theorem step_wf {p p' : PS} (s : Side) (a : Act) (ha : a.inRange) (h : PWf p) (hs : step p s a = some p') : PWf p' :=
  step_keeps (P := PWf) (fun _ => PWf.swap) (fun _ _ h hs => stepL_wf a ha h hs) s h hs

theorem run_wf (p : PS) (as : List (Side × Act)) (ha : ∀ sa ∈ as, sa.2.inRange) (h : PWf p) : PWf (run p as) :=
  run_keeps (P := PWf) (fun _ => PWf.swap) p as (fun sa hsa _ _ h hs => stepL_wf sa.2 (ha sa hsa) h hs) h

/-! ### Encoding a frame-level state -/

def enc (p : PS) : PSb :=
  { a := p.a, b := p.b, ab := p.ab.map encMsg, ba := p.ba.map encMsg, ga := p.ga, gb := p.gb, linked := p.linked }

theorem enc_swap (p : PS) : enc p.swap = (enc p).swap := rfl

theorem enc_init (oa ob : Opts) (ra rb : List Nat) : enc (Pair.init oa ob ra rb) = initb oa ob ra rb := rfl

/-- The receiver's source yields exactly the message the sender's sink was handed (C09's round trip). -/
theorem decMsg_encMsg (m : Msg) (h : m.wf) : decMsg (encMsg m) = .msg m := by
  cases m with
  | frame f =>
    have := Lemmas.Frame.decode_encode f h
    simp only [encMsg, decMsg, this]
  | ping => rfl
  | pong => rfl
  | close => rfl

theorem decWire_enc (l : List Msg) (h : ∀ m ∈ l, m.wf) : decWire (l.map encMsg) = l := by
  induction l with
  | nil => rfl
  | cons m rest ih =>
    simp only [List.map_cons, decWire, decMsg_encMsg m (h m (by simp))]
    rw [ih (fun x hx => h x (List.mem_cons_of_mem _ hx))]

theorem view_enc (p : PS) (h : PWf p) : (enc p).view = p := by
  cases p
  simp only [enc, PSb.view] at *
  congr
  · exact decWire_enc _ h.ab
  · exact decWire_enc _ h.ba

theorem stepL_local {p q : PS} (a : Act) (hx : a ≠ .xmit) (hr : a ≠ .recv) (hs : stepL p a = some q) :
    q = { p with a := q.a, ga := q.ga } := by
  cases stepL_shape hs <;> first | rfl | contradiction

theorem stepLb_local (p : PSb) (a : Act) (hx : a ≠ .xmit) (hr : a ≠ .recv) :
    stepLb p a = (stepL p.view a).map fun q => { p with a := q.a, ga := q.ga } := by
  cases a <;> first | contradiction | rfl

/-- Lock step, left endpoint: from an encoded well-formed state, each action of the byte system is
    the encoding of the same action of the frame system (enabled in one iff enabled in the other). -/
theorem stepLb_enc (p : PS) (h : PWf p) (a : Act) : stepLb (enc p) a = (stepL p a).map enc := by
  by_cases hx : a = .xmit
  · subst hx
    simp only [stepLb, stepL]
    show (match p.a.outq with | [] => none | m :: rest => _) = _
    cases p.a.outq with
    | nil => rfl
    | cons m rest => simp [enc]
  · by_cases hr : a = .recv
    · subst hr
      simp only [stepLb, stepL, view_enc p h]
      show (if p.a.park.isSome then none else match p.ba.map encMsg with | [] => none | w :: rest => _) = _
      split
      · rfl
      · cases hba : p.ba with
        | nil => rfl
        | cons m rest =>
          have hm : m.wf := h.ba m (by rw [hba]; simp)
          simp only [List.map_cons, decMsg_encMsg m hm]
          cases m with
          | frame f =>
            cases f <;> simp only [] <;> first
              | rfl
              | (simp only [show (enc p).a = p.a from rfl]
                 split
                 · rename_i heq; rw [heq]; rfl
                 · rename_i hno
                   split
                   · rename_i heq; exact (hno _ _ heq).elim
                   · rfl)
          | ping => rfl
          | pong => rfl
          | close => rfl
    · rw [stepLb_local _ a hx hr, view_enc p h]
      cases hs : stepL p a with
      | none => rfl
      | some q =>
        simp only [Option.map_some, Option.some.injEq]
        have := stepL_local a hx hr hs
        rw [this]
        rfl

theorem stepb_enc (p : PS) (h : PWf p) (s : Side) (a : Act) : stepb (enc p) s a = (step p s a).map enc := by
  cases s with
  | A => exact stepLb_enc p h a
  | B =>
    simp only [stepb, step, ← enc_swap, stepLb_enc p.swap h.swap a, Option.map_map]
    cases stepL p.swap a <;> rfl

theorem runb_enc (p : PS) (as : List (Side × Act)) (ha : ∀ sa ∈ as, sa.2.inRange) (h : PWf p) :
    runb (enc p) as = enc (run p as) := by
  induction as generalizing p with
  | nil => rfl
  | cons sa rest ih =>
    obtain ⟨s, a⟩ := sa
    have ha' : ∀ sa ∈ rest, sa.2.inRange := fun x hx => ha x (List.mem_cons_of_mem _ hx)
    unfold runb run
    rw [stepb_enc p h s a]
    cases hs : step p s a with
    | none => exact ih p ha' h
    | some p' => exact ih p' ha' (step_wf s a (ha (s, a) (by simp)) h hs)

/-- In an encoded well-formed state the next `recv` of either endpoint meets a message that decodes. -/
theorem never_undecodable (p : PS) (h : PWf p) : ¬ undecodableHead (enc p) ∧ ¬ undecodableHead (enc p).swap := by
  have one : ∀ q : PS, PWf q → ¬ undecodableHead (enc q) := fun q hq => by
    unfold undecodableHead
    show ¬ (match q.ba.map encMsg with | w :: _ => ∃ e, decMsg w = .bad e | [] => False)
    cases hba : q.ba with
    | nil => simp
    | cons m rest =>
      simp only [List.map_cons, decMsg_encMsg m (hq.ba m (by rw [hba]; simp))]
      rintro ⟨e, he⟩; cases he
  exact ⟨one p h, one p.swap h.swap⟩

theorem map_decMsg_enc (l : List Msg) (h : ∀ m ∈ l, m.wf) : (l.map encMsg).map decMsg = l.map .msg := by
  induction l with
  | nil => rfl
  | cons m rest ih =>
    simp only [List.map_cons, decMsg_encMsg m (h m (by simp))]
    rw [ih (fun x hx => h x (List.mem_cons_of_mem _ hx))]

/-- The ranges the Rust types give the configuration: `u32` windows, `next_u32` flow ids. -/
structure WireCfg (oa ob : Opts) (ra rb : List Nat) : Prop where
  wa : oa.rwnd < 4294967296
  wb : ob.rwnd < 4294967296
  ids : ∀ k ∈ ra ++ rb, k < 4294967296

theorem reach_wf {oa ob : Opts} {ra rb : List Nat} (c : WireCfg oa ob ra rb) (as : List (Side × Act))
    (has : ∀ sa ∈ as, sa.2.inRange) : PWf (run (Pair.init oa ob ra rb) as) :=
  run_wf _ as has (PWf_init oa ob ra rb c.wa c.wb c.ids)

theorem reach_enc {oa ob : Opts} {ra rb : List Nat} (c : WireCfg oa ob ra rb) (as : List (Side × Act))
    (has : ∀ sa ∈ as, sa.2.inRange) : runb (initb oa ob ra rb) as = enc (run (Pair.init oa ob ra rb) as) := by
  rw [← enc_init]
  exact runb_enc _ as has (PWf_init oa ob ra rb c.wa c.wb c.ids)

end Penguin.PairBytes
