/-
The converse sanity lemma for bind requests: a `Finish` delivered to a RUNNING endpoint that holds a pending
bind request under that flow id resolves the request `accepted`.
Core Lean only.
-/
import Penguin.Lemmas.BindAllSimTask
import Penguin.Lemmas.MuxSettle
import Penguin.Lemmas.BindAllMain

namespace Penguin.BindAll
open Penguin.Mux

theorem settle_evs_prefix (e : EP) :
    ∃ r, (Mux.settle e).2 = (Mux.settleLoop (2 * e.inbox.length + e.droppedq.length + 2) e []).2 ++ r := by
  rw [Mux.settle_eq]
  simp only [thenRun, List.append_assoc]
  exact ⟨_, rfl⟩

theorem finish_resolves_true (e : EP) (x req : Nat) (hs : lookup e.flows x = some (.bindRequested req))
    (hd : e.dead = false) (hdr : e.draining = none) (hc : e.closing = none) (hp : e.park = none) (hi : e.inbox = [])
    (hse : e.srcEnded = false) :
    Ev.bindDone req .accepted ∈ (applyOp e (.deliver (.msg (.frame (.finish x))))).2.2 := by
  have h1 : opStep e (.deliver (.msg (.frame (.finish x)))) =
      ({ e with inbox := [.msg (.frame (.finish x))] }, .unit, []) := by
    simp [Mux.opStep, hse, hi]
  have h2 : (applyOp e (.deliver (.msg (.frame (.finish x))))).2.2 =
      (Mux.settle { e with inbox := [.msg (.frame (.finish x))] }).2 := by
    simp only [Mux.applyOp, h1, List.nil_append]
  rw [h2]
  obtain ⟨r, hr⟩ := settle_evs_prefix { e with inbox := [.msg (.frame (.finish x))] }
  rw [hr]
  refine List.mem_append_left _ ?_
  have hro : Mux.recvOne { e with inbox := [.msg (.frame (.finish x))] } (.msg (.frame (.finish x))) [] =
      ({ e with inbox := [], flows := Mux.erase e.flows x }, [.bindDone req .accepted], none) := by
    simp [Mux.recvOne, Mux.processIn, Mux.processFrame, hs]
  have hstep := settleLoop_recv_one (2 * 1 + e.droppedq.length + 1) { e with inbox := [.msg (.frame (.finish x))] }
    (.msg (.frame (.finish x))) [] [] hd hdr hc hp rfl (by rw [hro])
  have hlen : 2 * ({ e with inbox := [.msg (.frame (.finish x))] } : EP).inbox.length +
      ({ e with inbox := [.msg (.frame (.finish x))] } : EP).droppedq.length + 2 = (2 * 1 + e.droppedq.length + 1) + 1 := by
    simp
  rw [hlen, hstep, hro]
  obtain ⟨evs, h3, _⟩ := BSim.settleLoop (2 * 1 + e.droppedq.length + 1)
    ({ e with inbox := [], flows := Mux.erase e.flows x } : EP) ([] ++ [Ev.bindDone req .accepted])
  rw [h3]
  simp

theorem mem_doneEvs {evs : List Ev} {r : Nat} {a : BindRes} (h : Ev.bindDone r a ∈ evs) : BEv.done r a ∈ doneEvs evs := by
  induction evs with
  | nil => cases h
  | cons ev rest ih =>
    rcases List.mem_cons.mp h with h1 | h1
    · subst h1; simp [doneEvs]
    · cases ev <;> simp only [doneEvs] <;> first | exact ih h1 | exact List.mem_cons_of_mem _ (ih h1)

open Penguin.PairAll (stepL) in
/-- At the level of the pair: the `Finish x` is the oldest message in transit to a running, idle side `a`
    that holds a pending bind request `req` under `x`; the delivery (if enabled) records `done req accepted`. -/
theorem delivered_finish_recorded (q : PB) (x req : Nat) (rest : List Msg) (hba : q.p.ba = .frame (.finish x) :: rest)
    (hs : lookup q.p.a.flows x = some (.bindRequested req))
    (hd : q.p.a.dead = false) (hdr : q.p.a.draining = none) (hc : q.p.a.closing = none) (hp : q.p.a.park = none)
    (hi : q.p.a.inbox = []) (hse : q.p.a.srcEnded = false) (hen : (stepL q.p .deliver).isSome = true) :
    BEv.done req .accepted ∈ (stepB q .A .deliver).ha := by
  simp only [stepB]
  cases hst : stepL q.p .deliver with
  | none => rw [hst] at hen; cases hen
  | some p' =>
    simp only [bgStep, stimOp, hba]
    exact List.mem_append_right _ (List.mem_append_right _ (mem_doneEvs (finish_resolves_true q.p.a x req hs hd hdr hc hp hi hse)))

end Penguin.BindAll
