/-
Every bind request is answered at most once — for every history of one endpoint and any peer.

Same development as `Lemmas/MuxOnce.lean`, for `request_bind`: `pendB e` are the requests that hold a
`BindRequested` slot of the flow table, `doneB evs` the requests answered (`bindDone`) by a list of
events; `OnceB new e e' evs` says requests only leave `pendB` (apart from the new ones), every answer
is for a request that was pending (or new) and is not pending afterwards, and no request gets two.
Established for every event-emitting function of the endpoint model — the peer's `Finish` (accepted)
and `Reset` (refused), the wind-down (refused for what is still pending), the call itself (closed) —
and lifted to stimuli and histories.
Core Lean only.
-/
import Penguin.Lemmas.MuxOnce

namespace Penguin.Mux

def bindOf : Nat × Slot → Option Nat
  | (_, .bindRequested r) => some r
  | _ => none

def pb (m : List (Nat × Slot)) : List Nat := m.filterMap bindOf

def pendB (e : EP) : List Nat := pb e.flows

/-- The bind requests answered by a list of events. -/
def doneB : List Ev → List Nat
  | [] => []
  | .bindDone req _ :: rest => req :: doneB rest
  | _ :: rest => doneB rest

@[simp] theorem doneB_nil : doneB [] = [] := rfl

theorem doneB_append (a b : List Ev) : doneB (a ++ b) = doneB a ++ doneB b := by
  induction a with
  | nil => rfl
  | cons x rest ih => cases x <;> simp [doneB, ih]

structure OnceB (new : List Nat) (e e' : EP) (evs : List Ev) : Prop where
  sub : ∀ r, r ∈ pendB e' → r ∈ pendB e ∨ r ∈ new
  nd : (pendB e ++ new).Nodup → (pendB e').Nodup
  done : (pendB e ++ new).Nodup → ∀ r, r ∈ doneB evs → (r ∈ pendB e ∨ r ∈ new) ∧ r ∉ pendB e'
  dnd : (pendB e ++ new).Nodup → (doneB evs).Nodup

theorem OnceB.to1 {new : List Nat} {e e' : EP} {evs : List Ev} (s : OnceB new e e' evs) :
    Once1 new (pendB e) (pendB e') (doneB evs) := ⟨s.sub, s.nd, s.done, s.dnd⟩

theorem OnceB.of1 {new : List Nat} {e e' : EP} {evs : List Ev} (s : Once1 new (pendB e) (pendB e') (doneB evs)) :
    OnceB new e e' evs := ⟨s.sub, s.nd, s.done, s.dnd⟩

theorem pendB_eq {e e' : EP} (hf : e'.flows = e.flows) : pendB e' = pendB e := by
  unfold pendB; rw [hf]

theorem OnceB.silent {e e' : EP} {evs : List Ev} (hf : e'.flows = e.flows)
    (hev : doneB evs = []) : OnceB [] e e' evs :=
  .of1 (by rw [pendB_eq hf, hev]; exact .ignore _ _)

theorem OnceB.refl (e : EP) : OnceB [] e e [] := OnceB.silent rfl rfl

theorem OnceB.trans {new : List Nat} {a b c : EP} {ev1 ev2 : List Ev} (s : OnceB new a b ev1) (t : OnceB [] b c ev2) :
    OnceB new a c (ev1 ++ ev2) := .of1 (by rw [doneB_append]; exact s.to1.trans t.to1)

theorem OnceB.after {new : List Nat} {a b c : EP} {ev1 ev2 : List Ev} (t : OnceB [] b c ev2) (s : OnceB new a b ev1) :
    OnceB new a c (ev1 ++ ev2) := s.trans t

theorem OnceB.ignore (new : List Nat) (e : EP) : OnceB new e e [] := .of1 (.ignore _ _)

theorem OnceB.weaken {e e' : EP} {evs : List Ev} (s : OnceB [] e e' evs) (new : List Nat) : OnceB new e e' evs :=
  .of1 (s.to1.weaken new)

theorem OnceB.congr {new : List Nat} {e e' a a' : EP} {evs : List Ev} (s : OnceB new e e' evs)
    (h1 : pendB a = pendB e) (h2 : pendB a' = pendB e') : OnceB new a a' evs :=
  ⟨by rw [h1, h2]; exact s.sub, by rw [h1, h2]; exact s.nd, by rw [h1, h2]; exact s.done, by rw [h1]; exact s.dnd⟩

/-! ### The flow table as a list -/

theorem pb_erase_sub (m : List (Nat × Slot)) (k : Nat) : List.Sublist (pb (erase m k)) (pb m) :=
  (List.filter_sublist (l := m)).filterMap bindOf

theorem mem_pb_of_lookup {m : List (Nat × Slot)} {k r : Nat} (h : lookup m k = some (.bindRequested r)) : r ∈ pb m :=
  List.mem_filterMap.mpr ⟨(k, .bindRequested r), lookup_mem _ _ _ h, rfl⟩

theorem pb_insert (m : List (Nat × Slot)) (k : Nat) (s : Slot) :
    pb (insert m k s) = (bindOf (k, s)).toList ++ pb (erase m k) := by
  unfold insert pb
  rw [List.filterMap_cons]
  cases bindOf (k, s) <;> rfl

theorem not_mem_pb_erase (m : List (Nat × Slot)) (k r : Nat) (h : lookup m k = some (.bindRequested r))
    (hn : (pb m).Nodup) : r ∉ pb (erase m k) := by
  induction m with
  | nil => simp [lookup] at h
  | cons x rest ih =>
    obtain ⟨k', v⟩ := x
    unfold lookup at h
    by_cases hk : k' = k
    · subst hk
      simp only [if_true, Option.some.injEq] at h
      subst h
      have he : erase ((k', Slot.bindRequested r) :: rest) k' = erase rest k' := by
        simp [erase]
      rw [he]
      have hn' : (r :: pb rest).Nodup := by simpa [pb, List.filterMap_cons, bindOf] using hn
      exact fun hc => (List.nodup_cons.mp hn').1 ((pb_erase_sub rest k').subset hc)
    · simp only [hk, if_false] at h
      have he : erase ((k', v) :: rest) k = (k', v) :: erase rest k := by
        simp [erase, hk]
      rw [he]
      have hrest : r ∈ pb rest := mem_pb_of_lookup h
      intro hc
      unfold pb at hc hn
      rw [List.filterMap_cons] at hc hn
      cases hb : bindOf (k', v) with
      | none =>
        rw [hb] at hc hn
        exact ih h hn hc
      | some r' =>
        rw [hb] at hc hn
        simp only [List.mem_cons] at hc
        rcases hc with rfl | hc
        · exact (List.nodup_cons.mp hn).1 hrest
        · exact ih h (List.nodup_cons.mp hn).2 hc

/-! ### Primitives -/

/-- A slot is erased without an answer (it was not a pending bind, or the request is simply forgotten). -/
theorem OnceB.forgetErase (e : EP) (fid : Nat) (evs : List Ev) (hev : doneB evs = []) :
    OnceB [] e { e with flows := erase e.flows fid } evs :=
  ⟨fun x h => Or.inl ((pb_erase_sub e.flows fid).subset h),
   fun hn => (List.nodup_append.mp hn).1.sublist (pb_erase_sub e.flows fid),
   fun _ x hx => (by rw [hev] at hx; cases hx), fun _ => by rw [hev]; exact List.nodup_nil⟩

theorem OnceB.answerErase (e : EP) (fid req : Nat) (r : BindRes) (h : lookup e.flows fid = some (.bindRequested req)) :
    OnceB [] e { e with flows := erase e.flows fid } [.bindDone req r] := by
  refine ⟨(OnceB.forgetErase e fid [] rfl).sub, (OnceB.forgetErase e fid [] rfl).nd, ?_, fun _ => by simp [doneB]⟩
  intro hn x hx
  simp only [doneB, List.mem_singleton] at hx
  subst hx
  exact ⟨Or.inl (mem_pb_of_lookup h), not_mem_pb_erase e.flows fid x h (by simpa [pendB] using (List.nodup_append.mp hn).1)⟩

theorem OnceB.insertOther (e : EP) (fid : Nat) (s : Slot) (hs : bindOf (fid, s) = none) :
    OnceB [] e { e with flows := insert e.flows fid s } [] := by
  have hp : pendB ({ e with flows := insert e.flows fid s } : EP) = pb (erase e.flows fid) := by
    unfold pendB; rw [pb_insert, hs]; rfl
  exact ⟨fun x h => Or.inl ((pb_erase_sub e.flows fid).subset (hp ▸ h)),
   fun hn => hp ▸ (List.nodup_append.mp hn).1.sublist (pb_erase_sub e.flows fid),
   fun _ x hx => (by cases hx), fun _ => List.nodup_nil⟩

theorem OnceB.insertBind (e : EP) (fid req : Nat) :
    OnceB [req] e { e with flows := insert e.flows fid (.bindRequested req) } [] := by
  have hp : pendB ({ e with flows := insert e.flows fid (.bindRequested req) } : EP) = req :: pb (erase e.flows fid) := by
    unfold pendB; rw [pb_insert]; rfl
  refine ⟨?_, ?_, fun _ x hx => (by cases hx), fun _ => List.nodup_nil⟩
  · intro x hx
    rw [hp] at hx
    rcases List.mem_cons.mp hx with rfl | h
    · exact Or.inr (by simp)
    · exact Or.inl ((pb_erase_sub e.flows fid).subset h)
  · intro hn
    rw [hp]
    refine List.nodup_cons.mpr ⟨?_, (List.nodup_append.mp hn).1.sublist (pb_erase_sub e.flows fid)⟩
    intro hc
    exact (List.nodup_append.mp hn).2.2 req ((pb_erase_sub e.flows fid).subset hc) req (by simp) rfl

/-- A new request is answered at once (no id left, or the outbound queue is closed). -/
theorem OnceB.answerNew (e : EP) (req : Nat) (r : BindRes) : OnceB [req] e e [.bindDone req r] := by
  refine ⟨fun x h => Or.inl h, fun hn => (List.nodup_append.mp hn).1, ?_, fun _ => by simp [doneB]⟩
  intro hn x hx
  simp only [doneB, List.mem_singleton] at hx
  subst hx
  exact ⟨Or.inr (by simp), fun hc => (List.nodup_append.mp hn).2.2 x hc x (by simp) rfl⟩

/-- The final drain lets go of every slot that is no bind request: the pending bind requests are the same. -/
theorem pb_filter_binds (m : List (Nat × Slot)) : pb (m.filter (·.2.isBind)) = pb m := by
  induction m with
  | nil => rfl
  | cons p m ih =>
    obtain ⟨fid, s⟩ := p
    cases s <;> simp [pb, Slot.isBind, bindOf] <;> exact ih

/-- The final drain refuses the first bind request of the table. -/
theorem OnceB.popBind (e : EP) (fid req : Nat) (rest : List (Nat × Slot)) (h : e.flows = (fid, .bindRequested req) :: rest) :
    OnceB [] e { e with flows := rest } [.bindDone req .refused] := by
  have hp : pendB e = req :: pb rest := by unfold pendB; rw [h]; rfl
  refine ⟨fun x hx => Or.inl (hp ▸ List.mem_cons_of_mem _ hx), fun hn => ?_, fun hn x hx => ?_, fun _ => by simp [doneB]⟩
  · rw [hp] at hn; exact (List.nodup_cons.mp (List.nodup_append.mp hn).1).2
  · simp only [doneB, List.mem_singleton] at hx
    subst hx
    rw [hp] at hn ⊢
    exact ⟨Or.inl (List.mem_cons_self ..), (List.nodup_cons.mp (List.nodup_append.mp hn).1).1⟩

theorem doneB_openDones (l : List OpenReq) (c : OpenRes) : doneB (l.map (fun r => Ev.openDone r.req c)) = [] := by
  induction l with
  | nil => rfl
  | cons x xs ih => simpa [doneB] using ih

theorem doneB_sendSome (e : EP) : doneB (sendSome e).2 = [] := by
  obtain ⟨sent, hs, -⟩ := sendSome_split e
  rw [hs]
  clear hs
  induction sent with
  | nil => rfl
  | cons m r ih => exact ih

theorem OnceB.evsD {new : List Nat} {e e' : EP} {evs evs' : List Ev} (s : OnceB new e e' evs)
    (h : doneB evs' = doneB evs) : OnceB new e e' evs' :=
  ⟨s.sub, s.nd, by rw [h]; exact s.done, by rw [h]; exact s.dnd⟩

/-- The kinds of step across which it fails: a new bind request, taking a slot or answered `closed` at once. -/
def OnceB.bad : Kinds := .of [.startBind, .failBind]

theorem OnceB.of_upd {k : Kind} {e e' : EP} {x : List Ev} (hk : k ∉ OnceB.bad) (u : Upd k e x e') : OnceB [] e e' x := by
  cases u with
  | startBind | failBind => exact absurd (by decide +kernel) hk
  | erase _ fid => exact OnceB.forgetErase e fid [] rfl
  | rejectSlot _ fid => exact (OnceB.forgetErase e fid [] rfl).congr rfl rfl
  | reqSlot _ fid req => exact OnceB.insertOther e fid _ rfl
  | newStream _ fid => exact (OnceB.insertOther e fid (.established e.objs.length) rfl).congr rfl rfl
  | acceptBind _ fid req h => exact OnceB.answerErase e fid req _ h
  | refuseBind _ fid req h => exact OnceB.answerErase e fid req _ h
  | dropSlots => exact (OnceB.refl e).congr rfl (pb_filter_binds e.flows)
  | drainBind _ fid req rest h => exact OnceB.popBind e fid req rest h
  | enq _ _ m => exact OnceB.silent (enq_flows e m) rfl
  | send =>
    exact OnceB.silent ((Upd.send e).frame .flows) (doneB_sendSome e)
  | queue q => exact OnceB.silent (q.frame .flows) rfl
  | ctl c => exact OnceB.silent (c.frame .flows) rfl
  | req r =>
    cases r with
    | answerRest => exact OnceB.silent rfl (doneB_openDones _ _)
    | _ => exact OnceB.silent rfl rfl
  | _ => exact OnceB.silent rfl rfl

theorem OnceB.of_path {A : Kinds} {e e' : EP} {x : List Ev} (p : Path A e x e')
    (hA : A.disj OnceB.bad = true := by decide +kernel) : OnceB [] e e' x :=
  p.rel (R := fun e x e' => OnceB [] e e' x) OnceB.refl OnceB.trans fun hk u => .of_upd (Kinds.not_mem_of_disj hA hk) u

theorem OnceB.openRound (e : EP) (r : OpenReq) : OnceB [] e (openRound e r).1 (openRound e r).2 := .of_path (.openRoundAny e r)

theorem openRejected_pendB (e : EP) (req : Nat) (final : Bool) : pendB (openRejected e req final).1 = pendB e :=
  pendB_eq (openRejected_flows e req final)

theorem closeLocal_doneB (e : EP) (s : Slot) (fid : Nat) (inh final : Bool) :
    doneB (closeLocal e s fid inh final).2 = (bindOf (fid, s)).toList := by
  unfold Mux.closeLocal Mux.openRejected
  repeat' split
  all_goals simp [doneB, bindOf]

theorem drainFlows_doneB (e : EP) (l : List (Nat × Slot)) : doneB (drainFlows e l).2 = pb l := by
  induction l generalizing e with
  | nil => rfl
  | cons p l ih =>
    obtain ⟨fid, s⟩ := p
    simp only [Mux.drainFlows, doneB_append, closeLocal_doneB, ih]
    unfold pb
    rw [List.filterMap_cons]
    cases bindOf (fid, s) <;> rfl

/-- `close_flow`: the slot is erased; if it was a pending bind request, that request is answered. -/
theorem OnceB.closeFlow (e : EP) (fid : Nat) (inh : Bool) :
    OnceB [] e (closeFlow e fid inh).1 (closeFlow e fid inh).2 := .of_path (.closeFlow e fid inh)

theorem OnceB.processFrame (e : EP) (f : Frame) (ig : Bool) :
    OnceB [] e (processFrame e f ig).1 (processFrame e f ig).2.1 := .of_path (.processFrame e f ig)

theorem OnceB.windDownTail (e1 : EP) (flushed : List Ev) (srcEnded : Bool) (res : ExitRes)
    (hf : doneB flushed = []) :
    OnceB [] e1 (windDownTail e1 flushed srcEnded res).1 (windDownTail e1 flushed srcEnded res).2 := by
  obtain ⟨evs, h, p⟩ := Path.windDownTail e1 flushed srcEnded res
  exact (OnceB.of_path p).evsD (by rw [h, doneB_append, hf]; rfl)

theorem OnceB.windDown (e : EP) (drain : Bool) (res : ExitRes) :
    OnceB [] e (windDown e drain res).1 (windDown e drain res).2 := .of_path (.windDown e drain res)

theorem OnceB.settleLoop (fuel : Nat) (e : EP) (acc : List Ev) :
    ∃ evs, (settleLoop fuel e acc).2 = acc ++ evs ∧ OnceB [] e (settleLoop fuel e acc).1 evs :=
  let ⟨evs, h, p⟩ := Path.settleLoop fuel e acc; ⟨evs, h, .of_path p⟩

theorem OnceB.runRetries (e : EP) (l : List Nat) : OnceB [] e (runRetries e l).1 (runRetries e l).2 :=
  .of_path (.runRetries e l)

theorem OnceB.settle (e : EP) : OnceB [] e (settle e).1 (settle e).2 := .of_path (.settle e)

theorem disallowAll_pendB (e : EP) (l : List (Nat × Slot)) : pendB (disallowAll e l) = pendB e :=
  pendB_eq ((Path.disallowAll e l).frame .flows)

/-! ### Application calls -/

theorem OnceB.appBindReq (e : EP) (req : Nat) (bt : BindType) (host : Bytes) (port : Nat) :
    OnceB [req] e (appBindReq e req bt host port).1 (appBindReq e req bt host port).2 := by
  unfold Mux.appBindReq
  split
  · exact OnceB.answerNew e req .closed
  · rename_i fid rng' fb' hd
    split
    · exact (OnceB.answerNew e req .closed).congr rfl (pendB_eq rfl)
    · exact (OnceB.insertBind e fid req).congr rfl (pendB_eq (by simp))

def newOfB : Op → List Nat
  | .bindReq req _ _ _ => [req]
  | _ => []

/-- Only `bindReq` starts a bind request; the path of every other call avoids the two kinds across which `OnceB []` fails. -/
theorem OnceB.opStep (e : EP) (op : Op) : OnceB (newOfB op) e (opStep e op).1 (opStep e op).2.2 := by
  cases op
  case bindReq req bt host port => exact OnceB.appBindReq e req bt host port
  all_goals exact (OnceB.of_path (.opStep e _) (by dsimp only [K.opStep]; decide +kernel)).weaken _

theorem OnceB.applyOp (e : EP) (op : Op) : OnceB (newOfB op) e (applyOp e op).1 (applyOp e op).2.2 := by
  rw [applyOp_fst, applyOp_evs]
  exact (OnceB.opStep e op).trans (OnceB.settle _)

/-! ### Histories -/

def bindsOf : List Op → List Nat
  | [] => []
  | op :: rest => newOfB op ++ bindsOf rest

abbrev HistB (opened done : List Nat) (e : EP) : Prop := Hist1 opened done (pendB e)

theorem HistB.sub {opened done : List Nat} {e : EP} (self : HistB opened done e) : ∀ r, r ∈ pendB e → r ∈ opened := Hist1.sub self
theorem HistB.nd {opened done : List Nat} {e : EP} (self : HistB opened done e) : (pendB e).Nodup := Hist1.nd self
theorem HistB.dnd {opened done : List Nat} {e : EP} (self : HistB opened done e) : done.Nodup := Hist1.dnd self
theorem HistB.dsub {opened done : List Nat} {e : EP} (self : HistB opened done e) :
    ∀ r, r ∈ done → r ∈ opened ∧ r ∉ pendB e := Hist1.dsub self

theorem newOfB_nodup (op : Op) : (newOfB op).Nodup := by
  cases op <;> simp [newOfB]

/-- Every bind request is answered at most once — accepted, refused or closed — and only requests
    that were made are answered: for every history of stimuli (request numbers used once), any peer. -/
theorem binds_answered_at_most_once (o : Opts) (ops : List Op) (h : (bindsOf ops).Nodup) :
    (doneB (runOpsEv { opts := o } ops).2).Nodup ∧
    ∀ r, r ∈ doneB (runOpsEv { opts := o } ops).2 → r ∈ bindsOf ops := by
  exact Hist1.run (p := pendB) (s := fun e op => (applyOp e op).1) (n := newOfB)
    (d := fun e op => doneB (applyOp e op).2.2) (N := bindsOf) (D := fun e ops => doneB (runOpsEv e ops).2)
    rfl (fun _ _ => rfl) (fun _ => rfl) (fun _ _ _ => doneB_append _ _) (fun e op => (OnceB.applyOp e op).to1)
    newOfB_nodup ops _ rfl h

end Penguin.Mux
