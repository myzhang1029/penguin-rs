/-
The BIND view of one endpoint as a type of its own, and the small steps by which it changes (for
`Model/PairAll.lean`: two endpoints, every history).  The endpoint model does not occur here beyond the types of
`Model/Mux.lean`; the abstract invariant (`Lemmas/BindAllAbs.lean` … `BindAllOrdStep.lean`) stands on this file,
`Lemmas/BindAllView.lean` says which view an endpoint state has.

A `BV` keeps what matters for bind requests — for ALL flow ids at once.  `BStep` lists the ways the view changes in
one atomic action, labelled with the messages handed to the transport and with the bind EVENTS an observer records
(`BEv`); `BStar` is its reflexive-transitive closure.
Core Lean only.
-/
import Penguin.Lemmas.PairAllSteps

namespace Penguin.BindAll
open Penguin.Mux
open Penguin.PairAll (inMsgs)

inductive BEv where
  /-- `request_bind` number `req` drew flow id `fid` and queued its `Bind` frame -/
  | asked (req fid : Nat) (bt : BindType) (host : Bytes) (port : Nat)
  /-- request `req` resolved (`Ev.bindDone`) -/
  | done (req : Nat) (r : BindRes)
  /-- `next_bind_request` returned `BindRequest` number `k` -/
  | shown (k fid : Nat) (bt : BindType) (host : Bytes) (port : Nat)
  /-- `reply(acc)` on `BindRequest` number `k` returned `Ok` -/
  | replied (k : Nat) (acc : Bool)
  /-- `BindRequest` number `k` was dropped -/
  | dropped (k : Nat)
  /-- the `Multiplexor` was dropped -/
  | muxDropped
deriving DecidableEq, Repr

structure BV where
  flows : List (Nat × Slot)
  fids : List Nat           -- the flow ids of the stream objects, by index
  rng : List Nat
  inbox : List WsIn
  outq : List Msg
  outClosed : Bool
  bindq : List BindIn
  park : Option BindIn      -- a parked hand-over to the bind queue
  held : List BindIn
  dq : List Nat             -- dropped-handle notifications
  bindCap : Nat
  muxAlive : Bool
  dead : Bool
  srcEnded : Bool           -- the source has yielded `None` or an error

def streamFrame : Frame → Nat → Bool
  | .connect f _ _ _, y => f == y
  | .acknowledge f _, y => f == y
  | .finish f, y => f == y
  | .push f _, y => f == y
  | _, _ => false

/-- Why a `Reset y` may be queued outside of `reply` / drop of a `BindRequest` / drop of the `Multiplexor`:
    `y` has an `Established` slot; or it answers the stream frame of `y` at the head of the inbox; or it
    answers the `Bind y` at the head of the inbox at an endpoint that takes no binds or whose `Multiplexor` is
    gone; or the parked hand-over of `y` fails because the `Multiplexor` is gone. -/
def RstOk (v : BV) (y : Nat) : Prop :=
  (∃ i, (y, Slot.established i) ∈ v.flows) ∨
  (∃ f r, v.inbox = .msg (.frame f) :: r ∧ streamFrame f y = true) ∨
  (∃ bt p h r, v.inbox = .msg (.frame (.bind y bt p h)) :: r ∧ (v.bindCap = 0 ∨ v.muxAlive = false)) ∨
  (∃ b, v.park = some b ∧ b.fid = y ∧ v.muxAlive = false)

/-- What `enq` may queue: never a `Connect` or `Bind` (those come with a drawn id), a `Finish` /
    `Acknowledge` / `Push` only for an id carried by a stream object, a `Reset` only for a reason. -/
def OkEnq (v : BV) : Msg → Prop
  | .frame (.connect _ _ _ _) => False
  | .frame (.bind _ _ _ _) => False
  | .frame (.finish y) => y ∈ v.fids
  | .frame (.acknowledge y _) => y ∈ v.fids
  | .frame (.push y _) => y ∈ v.fids
  | .frame (.reset y) => RstOk v y
  | _ => True

/-- An ANSWER frame for flow `x`: `Finish x` (`some true`) or `Reset x` (`some false`). -/
def ansOf (x : Nat) : Msg → Option Bool
  | .frame (.finish f) => if f = x then some true else none
  | .frame (.reset f) => if f = x then some false else none
  | _ => none

def ans (x : Nat) (l : List Msg) : List Bool := l.filterMap (ansOf x)

theorem ans_append (x : Nat) (a b : List Msg) : ans x (a ++ b) = ans x a ++ ans x b := by simp [ans]

/-- The source has ended or failed, or will as soon as the inbox is read: later deliveries are ignored. -/
def deafV (v : BV) : Bool := v.srcEnded || v.inbox.any (fun x => x == .eof || x == .err)

/-- Nothing grows: slots are released, script values consumed, inbox items dropped, the outbound queue is
    kept or dropped (and may be closed), queued / parked binds dropped, the task may finish; the
    notifications change to ids that were there or are carried by a stream object (or the `0` of a dropped
    `Multiplexor`). -/
structure Shrinks (v v' : BV) : Prop where
  flows : v'.flows.Sublist v.flows
  fids : v'.fids = v.fids
  rng : v'.rng <:+ v.rng
  inbox : v'.inbox <:+ v.inbox
  outq : v'.outq = v.outq ∨ (v'.outq = [] ∧ v'.outClosed = true)
  outClosed : v.outClosed = true → v'.outClosed = true
  bindq : v'.bindq.Sublist v.bindq
  park : v'.park = v.park ∨ v'.park = none
  held : v'.held = v.held
  dq : ∀ y ∈ v'.dq, y = 0 ∨ y ∈ v.dq ∨ y ∈ v.fids
  bindCap : v'.bindCap = v.bindCap
  muxAlive : v'.muxAlive = v.muxAlive
  dead : v.dead = true → v'.dead = true
  /-- the source is marked as ended only when an item that ends it was in the inbox -/
  srcEnded : v'.srcEnded = true → v.srcEnded = true ∨ ∃ w ∈ v.inbox, (w == .eof || w == .err) = true
  /-- no answer frame of a flow whose slot is a pending bind request is dropped from the inbox -/
  pops : ∀ y r, lookup v.flows y = some (.bindRequested r) → ans y (inMsgs v'.inbox) = ans y (inMsgs v.inbox)

theorem Shrinks.refl (v : BV) : Shrinks v v :=
  ⟨List.Sublist.refl _, rfl, List.suffix_refl _, List.suffix_refl _, Or.inl rfl, id, List.Sublist.refl _, Or.inl rfl,
   rfl, fun _ h => Or.inr (Or.inl h), rfl, rfl, id, fun h => Or.inl h, fun _ _ _ => rfl⟩

inductive BStep : BV → BV → List Msg → List BEv → Prop
  /-- the send loop hands the oldest queued message to the transport -/
  | emit (v : BV) (m : Msg) (r : List Msg) (h : v.outq = m :: r) : BStep v { v with outq := r } [m] []
  /-- the sink is closed (a WebSocket Close goes out) -/
  | sendClose (v : BV) : BStep v v [.close] []
  /-- nothing grows -/
  | shrink (v v' : BV) (h : Shrinks v v') : BStep v v' [] []
  /-- a message is queued -/
  | enq (v : BV) (m : Msg) (hc : v.outClosed = false) (ok : OkEnq v m) : BStep v { v with outq := v.outq ++ [m] } [] []
  /-- `y` is drawn for a stream request: it comes from the script (or the script is exhausted), it had no
      slot, the `Connect` is queued -/
  | drawOpen (v : BV) (y q : Nat) (r' : List Nat) (w p : Nat) (h : Bytes) (hs : (y :: r') <:+ v.rng ∨ r' = [])
      (hf : ∀ s, (y, s) ∉ v.flows) (ho : v.outClosed = false) :
      BStep v { v with rng := r', flows := Mux.insert v.flows y (.requested q),
                       outq := v.outq ++ [.frame (.connect y w p h)] } [] []
  /-- `y` is drawn for a bind request -/
  | drawBind (v : BV) (y req : Nat) (bt : BindType) (host : Bytes) (port : Nat) (r' : List Nat)
      (hs : (y :: r') <:+ v.rng ∨ r' = []) (hf : ∀ s, (y, s) ∉ v.flows) (ho : v.outClosed = false) :
      BStep v { v with rng := r', flows := Mux.insert v.flows y (.bindRequested req),
                       outq := v.outq ++ [.frame (.bind y bt port host)] } [] [.asked req y bt host port]
  /-- a `Connect y` creates a stream object -/
  | connNew (v : BV) (y w p : Nat) (h : Bytes) (r : List WsIn) (hi : v.inbox = .msg (.frame (.connect y w p h)) :: r)
      (hf : ∀ s, (y, s) ∉ v.flows) :
      BStep v { v with inbox := r, fids := v.fids ++ [y], flows := Mux.insert v.flows y (.established v.fids.length) } [] []
  /-- an `Acknowledge y` answers this endpoint's stream request: a stream object is created -/
  | ackNew (v : BV) (y n q : Nat) (r : List WsIn) (hi : v.inbox = .msg (.frame (.acknowledge y n)) :: r)
      (hs : (y, Slot.requested q) ∈ v.flows) :
      BStep v { v with inbox := r, fids := v.fids ++ [y], flows := Mux.insert v.flows y (.established v.fids.length) } [] []
  /-- the `Finish y` at the head of the inbox resolves the bind request holding `y`'s slot: accepted -/
  | finBind (v : BV) (y req : Nat) (r : List WsIn) (hi : v.inbox = .msg (.frame (.finish y)) :: r)
      (hs : (y, Slot.bindRequested req) ∈ v.flows) : BStep v v [] [.done req .accepted]
  /-- the bind request holding `y`'s slot is refused: by the `Reset y` at the head of the inbox, by a
      dropped-handle notification for `y` -/
  | refuse (v : BV) (y req : Nat) (hs : (y, Slot.bindRequested req) ∈ v.flows)
      (why : (∃ r, v.inbox = .msg (.frame (.reset y)) :: r) ∨ (y ≠ 0 ∧ y ∈ v.dq)) :
      BStep v v [] [.done req .refused]
  /-- the task finishes: every slot is released, every pending bind request is refused (in table order) -/
  | finishAll (v : BV) :
      BStep v { v with flows := [], dead := true } []
        (v.flows.filterMap (fun p => match p.2 with | .bindRequested r => some (BEv.done r .refused) | _ => none))
  /-- `request_bind` fails at once: Closed -/
  | doneClosed (v : BV) (req : Nat) : BStep v v [] [.done req .closed]
  /-- the `Bind` at the head of the inbox is queued for `next_bind_request` -/
  | offerQ (v : BV) (b : BindIn) (r : List WsIn) (hi : v.inbox = .msg (.frame (.bind b.fid b.bt b.port b.host)) :: r) :
      BStep v { v with inbox := r, bindq := v.bindq ++ [b] } [] []
  /-- … or parked, the queue being full -/
  | offerPark (v : BV) (b : BindIn) (r : List WsIn) (hi : v.inbox = .msg (.frame (.bind b.fid b.bt b.port b.host)) :: r) :
      BStep v { v with inbox := r, park := some b } [] []
  /-- the parked hand-over completes -/
  | unparkQ (v : BV) (b : BindIn) (hp : v.park = some b) : BStep v { v with bindq := v.bindq ++ [b], park := none } [] []
  /-- `next_bind_request` hands out the oldest queued request as `BindRequest` number `held.length` -/
  | bindNext (v : BV) (b : BindIn) (r : List BindIn) (hq : v.bindq = b :: r) :
      BStep v { v with bindq := r, held := v.held ++ [b] } [] [.shown v.held.length b.fid b.bt b.host b.port]
  /-- `reply(acc)` on `BindRequest` number `k` (which has not been dropped) -/
  | reply (v : BV) (k : Nat) (b : BindIn) (acc : Bool) (hk : v.held[k]? = some b) (ha : b.alive = true) (ho : v.outClosed = false) :
      BStep v { v with held := v.held.modify k (fun b => { b with replied := true }),
                       outq := v.outq ++ [.frame (if acc then .finish b.fid else .reset b.fid)] } [] [.replied k acc]
  /-- `BindRequest` number `k` is dropped: it rejects itself unless answered -/
  | dropReq (v : BV) (k : Nat) (b : BindIn) (hk : v.held[k]? = some b) :
      BStep v { v with held := v.held.modify k (fun b => { b with alive := false }),
                       outq := if b.replied || v.outClosed then v.outq else v.outq ++ [.frame (.reset b.fid)] } [] [.dropped k]
  /-- the `Multiplexor` is dropped: queued bind requests reject themselves -/
  | dropMux (v : BV) :
      BStep v { v with muxAlive := false, bindq := [],
                       outq := if v.outClosed then v.outq else v.outq ++ v.bindq.map (fun b => Msg.frame (.reset b.fid)) }
        [] [.muxDropped]

theorem mem_refusals {g : BEv} {fl : List (Nat × Slot)}
    (h : g ∈ fl.filterMap (fun p => match p.2 with | .bindRequested r => some (BEv.done r .refused) | _ => none)) :
    ∃ r, g = .done r .refused := by
  obtain ⟨q, _, hq⟩ := List.mem_filterMap.mp h
  split at hq <;> cases hq
  exact ⟨_, rfl⟩

inductive BStar : BV → BV → List Msg → List BEv → Prop
  | refl (v : BV) : BStar v v [] []
  | step {v v1 v2 : BV} {w1 w2 : List Msg} {g1 g2 : List BEv} :
      BStep v v1 w1 g1 → BStar v1 v2 w2 g2 → BStar v v2 (w1 ++ w2) (g1 ++ g2)

theorem BStar.cast {v v' u' : BV} {w w' : List Msg} {g g' : List BEv} (s : BStar v v' w g)
    (hv : u' = v') (hw : w' = w) (hg : g' = g) : BStar v u' w' g' := by
  subst hv hw hg; exact s

theorem BStar.single {v v' : BV} {w : List Msg} {g : List BEv} (s : BStep v v' w g) : BStar v v' w g :=
  (BStar.step s (BStar.refl v')).cast rfl (by simp) (by simp)

theorem BStar.trans {v v1 v2 : BV} {w1 w2 : List Msg} {g1 g2 : List BEv}
    (s : BStar v v1 w1 g1) (t : BStar v1 v2 w2 g2) : BStar v v2 (w1 ++ w2) (g1 ++ g2) := by
  induction s with
  | refl v => exact t
  | step st _ ih => exact (BStar.step st (ih t)).cast rfl (by simp) (by simp)

end Penguin.BindAll
