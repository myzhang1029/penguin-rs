/-
For section (c) of `Props/C01.lean`: the vocabulary of its statements and `do_proxy_request` in two closed forms, an
equation for a request that names a target (`proxy_named`) and a decision table over every request (`proxy_table`,
whose last row is that equation).
-/
import Penguin.Model.HttpProxy

namespace Penguin.HttpProxy
open Penguin Penguin.Constants

theorem stripSuffix_concat (c : UInt8) (l : Bytes) : stripSuffix c (l ++ [c]) = some l := by
  simp [stripSuffix]

theorem stripSuffix_eq_some {c : UInt8} {t inner : Bytes} (h : stripSuffix c t = some inner) :
    t = inner ++ [c] := by
  unfold stripSuffix at h
  split at h
  · rename_i hl
    obtain ⟨ys, rfl⟩ := List.getLast?_eq_some_iff.mp hl
    simp only [Option.some.injEq, List.dropLast_concat] at h
    rw [h]
  · cases h

theorem stripSuffix_eq_none {c : UInt8} {t : Bytes} (h : stripSuffix c t = none) :
    ¬ ∃ inner, t = inner ++ [c] := by
  rintro ⟨inner, rfl⟩
  rw [stripSuffix_concat] at h
  cases h

/-- The port a request with authority port `p` and scheme flag `https` names: the one written, else
    443 for `https` and 80 otherwise. -/
def httpNamedPort (p : PortIn) (https : Bool) : Nat :=
  match p with
  | .num n => n
  | _ => if https then 443 else 80

def httpNamesTarget (r : Req) : Prop := ∃ a, r.authority = some a ∧ a.port ≠ .invalid

theorem targetPort_of_valid {p : PortIn} (hp : p ≠ .invalid) (https : Bool) :
    targetPort p https = some (httpNamedPort p https) := by
  cases p <;> first | rfl | exact absurd rfl hp

/-- Everything `do_proxy_request` does after the port check, as one equation. -/
theorem proxy_named (m : Method) (h : Bytes) (p : PortIn) (https : Bool) (env : Env) (hp : p ≠ .invalid) :
    proxy { method := m, authority := some ⟨h, p⟩, schemeHttps := https } env =
      let t := (stripBrackets h, httpNamedPort p https)
      if env.reserveOk = false then refuse 503 httpBodyShuttingDown []
      else if env.channelOk = false then refuse 500 httpBodyNoChannel [t]
      else match m with
        | .connect => ⟨.fixed 200 [], [t], true, false⟩
        | .other =>
          if env.handshakeOk = false then refuse 502 httpBodyHandshakeFailed [t]
          else ⟨if env.sendOk = false then .fixed 502 httpBodySendFailed else .upstream, [t], false, true⟩ := by
  have ht : targetHost h = stripBrackets h := rfl
  simp only [proxy, targetPort_of_valid hp, ht]
  rcases env with ⟨a, b, c, d⟩
  cases a <;> cases b <;> cases m <;> cases c <;> cases d <;> rfl

/-- `do_proxy_request` as a decision table: the conditions of the rows exclude one another and
    together cover every request and environment; each row gives the whole outcome. -/
theorem proxy_table (r : Req) (env : Env) :
    (env.reserveOk = false ∧ proxy r env = refuse 503 httpBodyShuttingDown []) ∨
    (env.reserveOk = true ∧ r.authority = none ∧ proxy r env = refuse 400 httpBodyNoAuthority []) ∨
    (env.reserveOk = true ∧ ∃ a, r.authority = some a ∧ a.port = .invalid ∧
      proxy r env = refuse 400 httpBodyInvalidPort []) ∨
    (env.reserveOk = true ∧ ∃ a, r.authority = some a ∧ a.port ≠ .invalid ∧
      let t := (stripBrackets a.host, httpNamedPort a.port r.schemeHttps)
      (env.channelOk = false ∧ proxy r env = refuse 500 httpBodyNoChannel [t]) ∨
      (env.channelOk = true ∧ r.method = .connect ∧ proxy r env = ⟨.fixed 200 [], [t], true, false⟩) ∨
      (env.channelOk = true ∧ r.method = .other ∧ env.handshakeOk = false ∧
        proxy r env = refuse 502 httpBodyHandshakeFailed [t]) ∨
      (env.channelOk = true ∧ r.method = .other ∧ env.handshakeOk = true ∧ env.sendOk = false ∧
        proxy r env = ⟨.fixed 502 httpBodySendFailed, [t], false, true⟩) ∨
      (env.channelOk = true ∧ r.method = .other ∧ env.handshakeOk = true ∧ env.sendOk = true ∧
        proxy r env = ⟨.upstream, [t], false, true⟩)) := by
  obtain ⟨m, au, https⟩ := r
  obtain ⟨a, b, c, d⟩ := env
  cases a
  · exact .inl ⟨rfl, rfl⟩
  cases au with
  | none => exact .inr (.inl ⟨rfl, rfl, rfl⟩)
  | some au =>
    obtain ⟨h, p⟩ := au
    by_cases hp : p = .invalid
    · subst hp
      exact .inr (.inr (.inl ⟨rfl, _, rfl, rfl, rfl⟩))
    refine .inr (.inr (.inr ⟨rfl, _, rfl, hp, ?_⟩))
    rw [proxy_named _ _ _ _ _ hp]
    cases b
    · exact .inl ⟨rfl, rfl⟩
    cases m
    · exact .inr (.inl ⟨rfl, rfl, rfl⟩)
    cases c
    · exact .inr (.inr (.inl ⟨rfl, rfl, rfl, rfl⟩))
    cases d
    · exact .inr (.inr (.inr (.inl ⟨rfl, rfl, rfl, rfl, rfl⟩)))
    · exact .inr (.inr (.inr (.inr ⟨rfl, rfl, rfl, rfl, rfl⟩)))

end Penguin.HttpProxy
