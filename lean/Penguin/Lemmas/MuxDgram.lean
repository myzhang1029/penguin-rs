/-
The datagram service on the RECEIVING side, for every history of one endpoint and ANY peer — part 1:
the connection task.

The application's datagram queue is `dgramq`.  This file defines, by looking at the state BEFORE a frame
is processed, which frames `process_frame` puts into that queue (`queuedDg`: a `Datagram` frame, while
the `Multiplexor` handle exists and the bounded queue has room — `process_frame`'s own test), follows
the task's run to quiescence with "log" functions that mirror `settleLoop`, `windDown`, … (one stimulus
may process several inbox items; why mirrors and not a `flatMap` over the leaves of the run, which is what they
compute: head of `Lemmas/MuxLeaves.lean`) and proves for every function of the task that `dgramq` grows by
exactly the logged datagrams, at the back, in the order they were processed, and by nothing else
(`DqT`): no stream frame, no wind-down step, no retry of an open request ever adds, removes, reorders
or alters a queued datagram.  The mirrors are generic in the observation (`DgObs`), so that the same
mirrors also list every `Datagram` frame the task processed, queued or not (`seenDg`).
Core Lean only.
-/
import Penguin.Lemmas.MuxIntegrity

namespace Penguin.Mux

/-- What an observer notes about one frame, given the state before the frame is processed. -/
abbrev DgObs := EP → Frame → List Dgram

def dgOfFrame : Frame → Option Dgram
  | .datagram fid port host d => some { fid := fid, host := host, port := port, data := d }
  | _ => none

/-- The test `process_frame` makes for a `Datagram` frame (task.rs `Datagram` arm: `try_send` on the
    bounded datagram channel answers `Ok`), read off the state BEFORE the frame is processed: the
    receiver (the `Multiplexor` handle) exists and the queue holds fewer than `datagram_buffer_size`
    datagrams.  Every other frame, and a `Datagram` that fails the test, queues nothing. -/
def queuedDg : DgObs := fun e f =>
  match f with
  | .datagram fid port host d =>
    if e.muxAlive && decide (e.dgramq.length < e.opts.dgramCap)
    then [{ fid := fid, host := host, port := port, data := d }] else []
  | _ => []

/-- Processing a `Datagram` frame, in any state: nothing changes but `dgramq`, which grows by what the test queues;
    no event is emitted and the receive loop goes on. -/
theorem processFrame_datagram (e : EP) (fid port : Nat) (host d : Bytes) (ig : Bool) :
    processFrame e (.datagram fid port host d) ig =
      ({ e with dgramq := e.dgramq ++ queuedDg e (.datagram fid port host d) }, [], none) := by
  cases e with
  | mk o fl ob hn oq oc inb aq dq bq he dr op rn fb pk cl se rq dn sr dg ma de =>
    simp only [processFrame, queuedDg]
    cases ma with
    | false => simp
    | true =>
      by_cases hroom : dq.length < o.dgramCap
      · simp [hroom]
      · simp [hroom]

/-- Every `Datagram` frame the task processes, whatever the state. -/
def seenDg : DgObs := fun _ f => (dgOfFrame f).toList

def processInLogD (φ : DgObs) (e : EP) (w : WsIn) : List Dgram :=
  match w with
  | .msg (.frame f) => φ e f
  | _ => []

/-! ### The log of the task's run (mirrors of the model's functions; they return only the log) -/

def windDownInboxLogD (φ : DgObs) (e : EP) : List WsIn → List Dgram
  | [] => []
  | .err :: _ => []
  | .eof :: _ => []
  | w :: rest => processInLogD φ e w ++ windDownInboxLogD φ { (processIn e w true).1 with park := none } rest

def windDownTailLogD (φ : DgObs) (e1 : EP) : List Dgram := windDownInboxLogD φ e1 e1.inbox

def windDownLogD (φ : DgObs) (e : EP) (drain : Bool) : List Dgram :=
  if drain then
    if (sendSome (dropPrep e)).1.outq.isEmpty then windDownTailLogD φ (sendSome (dropPrep e)).1 else []
  else windDownTailLogD φ (windDownPrep e)

def drainStepLogD (φ : DgObs) (e : EP) : List Dgram :=
  if (sendSome e).1.outq.isEmpty then windDownTailLogD φ { (sendSome e).1 with draining := none } else []

def closingStepLogD (φ : DgObs) (e : EP) : List Dgram := windDownInboxLogD φ e e.inbox

def recvOneLogD (φ : DgObs) (e : EP) (w : WsIn) (rest : List WsIn) : List Dgram :=
  processInLogD φ { (if w = .eof ∨ w = .err then { e with srcEnded := true } else e) with inbox := rest } w

def settleLoopLogD (φ : DgObs) : Nat → EP → List Dgram
  | 0, _ => []
  | fuel + 1, e =>
    if e.dead then [] else
    match e.draining with
    | some _ => drainStepLogD φ e
    | none =>
    match e.closing with
    | some _ => closingStepLogD φ e
    | none =>
    recvCase (unpark e).park (unpark e).inbox
      (fun w rest =>
        match (recvOne (unpark e) w rest).2.2 with
        | some _ => recvOneLogD φ (unpark e) w rest ++ windDownLogD φ (recvOne (unpark e) w rest).1 false
        | none => recvOneLogD φ (unpark e) w rest ++ settleLoopLogD φ fuel (recvOne (unpark e) w rest).1)
      (match (unpark e).droppedq with
        | 0 :: rest => windDownLogD φ { unpark e with droppedq := rest } true
        | fid :: rest => settleLoopLogD φ fuel (closeFlow { unpark e with droppedq := rest } fid false).1
        | [] => [])

/-- What the observer notes while the task runs to quiescence after a stimulus, in the order the frames
    were processed (several inbox items can be processed in one run: the receive loop may have been
    parked; the wind-down reads on). -/
def settleLogD (φ : DgObs) (e : EP) : List Dgram := settleLoopLogD φ (2 * e.inbox.length + e.droppedq.length + 2) e

/-! ### The log is what the observer notes at the leaves of the task's run (`Lemmas/MuxLeaves.lean`) -/

def Leaf.dg (φ : DgObs) : Leaf → List Dgram
  | .frame e f => φ e f
  | _ => []

theorem processInLogD_eq (φ : DgObs) (e : EP) (w : WsIn) :
    processInLogD φ e w = (processInLeaves e w).flatMap (Leaf.dg φ) := by
  cases w with
  | msg m => cases m <;> simp [processInLogD, processInLeaves, Leaf.dg]
  | _ => rfl

theorem windDownInboxLogD_eq (φ : DgObs) (e : EP) (l : List WsIn) :
    windDownInboxLogD φ e l = (windDownInboxLeaves e l).flatMap (Leaf.dg φ) := by
  induction l generalizing e with
  | nil => rfl
  | cons w l ih =>
    cases w <;> first | rfl | simp only [windDownInboxLogD, windDownInboxLeaves, List.flatMap_append, processInLogD_eq, ih]

theorem windDownTailLogD_eq (φ : DgObs) (e1 : EP) (s : Bool) (res : ExitRes) :
    windDownTailLogD φ e1 = (windDownTailLeaves e1 s res).flatMap (Leaf.dg φ) := by
  simp only [windDownTailLogD, windDownTailLeaves, List.flatMap_append, windDownInboxLogD_eq]
  split <;> simp [Leaf.dg]

theorem windDownLogD_eq (φ : DgObs) (e : EP) (drain : Bool) (res : ExitRes) :
    windDownLogD φ e drain = (windDownLeaves e drain res).flatMap (Leaf.dg φ) := by
  simp only [windDownLogD, windDownLeaves]
  repeat' split
  all_goals first | rfl | exact windDownTailLogD_eq φ _ _ _

theorem recvOneLogD_eq (φ : DgObs) (e : EP) (w : WsIn) (rest : List WsIn) :
    recvOneLogD φ e w rest = (recvOneLeaves e w rest).flatMap (Leaf.dg φ) := processInLogD_eq φ _ w

theorem settleLoopLogD_eq (φ : DgObs) (fuel : Nat) (e : EP) :
    settleLoopLogD φ fuel e = (settleLoopLeaves fuel e).flatMap (Leaf.dg φ) := by
  induction fuel generalizing e with
  | zero => rfl
  | succ n ih =>
    unfold settleLoopLogD settleLoopLeaves
    cases e.dead with
    | true => rfl
    | false =>
      simp only [Bool.false_eq_true, if_false]
      cases e.draining with
      | some res =>
        simp only [drainStepLogD, drainStepLeaves]
        split
        · exact windDownTailLogD_eq φ _ _ _
        · rfl
      | none =>
        cases e.closing with
        | some res =>
          simp only [closingStepLogD, closingStepLeaves, List.flatMap_append, windDownInboxLogD_eq]
          split <;> simp [Leaf.dg]
        | none =>
          simp only [recvCase_map (List.flatMap (Leaf.dg φ))]
          congr 1
          · funext w rest
            rw [List.flatMap_append, ← recvOneLogD_eq]
            split
            · rename_i hr; simp only [hr]; rw [windDownLogD_eq φ _ _ _]
            · rename_i hr; simp only [hr]; rw [ih]
          · split
            · rename_i hq; simp only [hq]; exact windDownLogD_eq φ _ _ _
            · rename_i hq; simp only [hq]; rw [ih]; rfl
            · rename_i hq; simp only [hq]; rfl

theorem settleLogD_eq (φ : DgObs) (e : EP) : settleLogD φ e = (settleLeaves e).flatMap (Leaf.dg φ) :=
  settleLoopLogD_eq φ _ e

/-! ### The relation every function of the task satisfies -/

/-- From `e` to `e'` the datagram queue grew by exactly `L` at the back; the `Multiplexor` handle and
    the options are as they were; nothing is queued once the handle is gone. -/
structure DqT (e e' : EP) (L : List Dgram) : Prop where
  q : e'.dgramq = e.dgramq ++ L
  alive : e'.muxAlive = e.muxAlive
  opts : e'.opts = e.opts
  gone : e.muxAlive = false → L = []

theorem DqT.same {e e' : EP} (hq : e'.dgramq = e.dgramq) (ha : e'.muxAlive = e.muxAlive) (ho : e'.opts = e.opts) :
    DqT e e' [] := ⟨by simp [hq], ha, ho, fun _ => rfl⟩

theorem DqT.refl (e : EP) : DqT e e [] := DqT.same rfl rfl rfl

theorem DqT.trans {a b c : EP} {L1 L2 : List Dgram} (s : DqT a b L1) (t : DqT b c L2) : DqT a c (L1 ++ L2) :=
  ⟨by rw [t.q, s.q, List.append_assoc], t.alive.trans s.alive, t.opts.trans s.opts,
   fun h => by rw [s.gone h, t.gone (s.alive.trans h)]; rfl⟩

theorem DqT.log {e e' : EP} {L L' : List Dgram} (s : DqT e e' L) (h : L' = L) : DqT e e' L' := h ▸ s

theorem DqT.trans0 {a b c : EP} {L : List Dgram} (s : DqT a b []) (t : DqT b c L) : DqT a c L := (s.trans t).log rfl

theorem DqT.modObj (e : EP) (i : Nat) (f : Obj → Obj) : DqT e (e.modObj i f) [] := DqT.same rfl rfl rfl

theorem DqT.enqFrame (e : EP) (f : Frame) : DqT e (e.enqFrame f) [] :=
  DqT.same (enq_frame e _ .dgramq) (enq_frame e _ .muxAlive) (enq_frame e _ .opts)
theorem DqT.enqFrame' {e e' : EP} (f : Frame) (hq : e'.dgramq = e.dgramq) (ha : e'.muxAlive = e.muxAlive)
    (ho : e'.opts = e.opts) : DqT e (e'.enqFrame f) [] :=
  (DqT.same hq ha ho).trans0 (DqT.enqFrame e' f)

/-! ### Kind by kind: the steps that write none of the three fields (`Lemmas/MuxTrace.lean`) -/

/-- The kinds of step that write the datagram queue or the `Multiplexor`'s flag (nothing writes the options). -/
def DqT.bad : Kinds := .of [.dgramPush, .dgramPop, .dropQueues, .muxGone]

theorem DqT.of_upd {k : Kind} {e e' : EP} {x : List Ev} (hk : k ∉ DqT.bad) (u : Upd k e x e') : DqT e e' [] :=
  .same (u.frame .dgramq fun h => hk (Kinds.mem_of_sub (by decide +kernel) h))
    (u.frame .muxAlive fun h => hk (Kinds.mem_of_sub (by decide +kernel) h))
    (u.frame .opts fun h => hk (Kinds.mem_of_sub (by decide +kernel) h))

theorem DqT.of_path {A : Kinds} {e e' : EP} {x : List Ev} (p : Path A e x e')
    (hA : A.disj DqT.bad = true := by decide +kernel) : DqT e e' [] :=
  p.rel0 (R := fun e e' => DqT e e' []) DqT.refl DqT.trans0 fun hk u => .of_upd (Kinds.not_mem_of_disj hA hk) u

theorem DqT.openRound (e : EP) (r : OpenReq) : DqT e (openRound e r).1 [] := .of_path (.openRoundAny e r)

theorem DqT.closeFlow (e : EP) (fid : Nat) (inh : Bool) : DqT e (closeFlow e fid inh).1 [] := .of_path (.closeFlow e fid inh)

theorem queuedDg_not_datagram (e : EP) (f : Frame) (h : dgOfFrame f = none) : queuedDg e f = [] := by
  cases f <;> first | rfl | (simp [dgOfFrame] at h)

/-- The one place where a datagram enters the queue. -/
theorem DqT.processFrame (e : EP) (f : Frame) (ig : Bool) : DqT e (processFrame e f ig).1 (queuedDg e f) := by
  -- a frame that is no `Datagram` takes no step that writes the queue, and nothing is noted of it
  have p := Path.processFrameOf e f ig
  cases f with
  | datagram fid port host d =>
    simp only [Mux.processFrame, queuedDg]
    cases ha : e.muxAlive with
    | false => exact DqT.refl e
    | true =>
      by_cases hr : e.dgramq.length < e.opts.dgramCap
      · simp only [hr, Bool.not_true, Bool.false_eq_true, if_false, if_true, Bool.true_and, decide_true]
        exact ⟨rfl, ha.symm, rfl, fun h => by rw [ha] at h; cases h⟩
      · simp only [hr, Bool.not_true, Bool.false_eq_true, if_false, Bool.true_and, decide_false]
        exact DqT.refl e
  | _ => exact .of_path p (by dsimp only [K.processFrameOf]; decide +kernel)

theorem DqT.unpark (e : EP) : DqT e (unpark e) [] := .of_path (.unpark e)

theorem DqT.runRetries (e : EP) (l : List Nat) : DqT e (runRetries e l).1 [] := .of_path (.runRetries e l)

theorem DqT.runDone (e : EP) (l : List (Nat × Nat)) : DqT e (runDone e l).1 [] := .of_path (.runDone e l)

/-! ### The task's run: `DqT` holds across the functions the task is made of, hence across its loops -/

theorem DqT.walk : Walk (fun e e' _ L => DqT e e' (L.flatMap (Leaf.dg queuedDg))) :=
  .ofLog DqT.refl DqT.trans (fun _ _ _ _ _ _ _ => DqT.same rfl rfl rfl) DqT.processFrame
    (fun e fid => DqT.closeFlow e fid false) (fun e res => .of_path (.windDownFinish e res)) DqT.unpark
    (fun e => .of_path (.sendSome e)) (fun e => .of_path (.dropPrep e)) (fun e => .of_path (.windDownPrep e))
    (fun e => .of_path (.runDoneq e)) (fun e => .of_path (.runRetryq e))

theorem DqT.windDown (e : EP) (drain : Bool) (res : ExitRes) :
    DqT e (windDown e drain res).1 (windDownLogD queuedDg e drain) :=
  windDownLogD_eq queuedDg e drain res ▸ DqT.walk.windDown e drain res

theorem DqT.settleLoop (fuel : Nat) (e : EP) (acc : List Ev) :
    DqT e (settleLoop fuel e acc).1 (settleLoopLogD queuedDg fuel e) :=
  let ⟨_, _, h⟩ := DqT.walk.settleLoop fuel e acc; settleLoopLogD_eq queuedDg fuel e ▸ h

/-- The task's run to quiescence: the datagram queue grows by exactly the datagrams `process_frame`
    queued, in the order the frames were processed. -/
theorem DqT.settle (e : EP) : DqT e (settle e).1 (settleLogD queuedDg e) :=
  settleLogD_eq queuedDg e ▸ DqT.walk.settle e

end Penguin.Mux
