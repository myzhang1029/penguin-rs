/-
WHICH answers a failing sink gives, on a running endpoint whose receive loop has nothing to do (the
state between two stimuli of a healthy connection): every bind request is answered `refused`, every
open request `closed` — or `rejected` when it had been rejected by the peer and has no retry left —
and a stream is handed out (`ok`) only for a request that had been acknowledged before and whose
future had not run yet (`doneq`; empty after every `settle`).
Core Lean only.
-/
import Penguin.Model.MuxStart
import Penguin.Lemmas.MuxStartTx

namespace Penguin.Mux

/-- An answer the end of the connection may give; `dq`: the requests acknowledged before. -/
def EndAns (dq : List Nat) (ev : Ev) : Prop :=
  match ev with
  | .bindDone _ r => r = .refused
  | .openDone q r => r = .closed ∨ r = .rejected ∨ ((∃ h, r = .ok h) ∧ q ∈ dq)
  | _ => True

def AllEnd (dq : List Nat) (evs : List Ev) : Prop := ∀ ev ∈ evs, EndAns dq ev

theorem AllEnd.nil (dq : List Nat) : AllEnd dq [] := fun _ h => by cases h

theorem AllEnd.append {dq : List Nat} {a b : List Ev} (ha : AllEnd dq a) (hb : AllEnd dq b) : AllEnd dq (a ++ b) := by
  intro ev h
  rcases List.mem_append.mp h with h | h
  · exact ha ev h
  · exact hb ev h

theorem AllEnd.single {dq : List Nat} {ev : Ev} (h : EndAns dq ev) : AllEnd dq [ev] := by
  intro x hx
  rw [List.mem_singleton] at hx
  rw [hx]; exact h

theorem AllEnd.mono {dq dq' : List Nat} {evs : List Ev} (h : AllEnd dq evs) (hp : ∀ q, q ∈ dq → q ∈ dq') : AllEnd dq' evs := by
  intro ev hev
  have := h ev hev
  cases ev with
  | openDone q r =>
    rcases this with h1 | h1 | ⟨h1, h2⟩
    · exact Or.inl h1
    · exact Or.inr (Or.inl h1)
    · exact Or.inr (Or.inr ⟨h1, hp q h2⟩)
  | bindDone q r => exact this
  | wire m => trivial
  | wireClose => trivial
  | exit r => trivial

theorem AllEnd.dropWireClose {dq : List Nat} {evs : List Ev} (h : AllEnd dq evs) : AllEnd dq (dropWireClose evs) := by
  intro ev hev
  unfold Mux.dropWireClose at hev
  exact h ev (List.mem_filter.mp hev).1

theorem openRejected_final_ans (dq : List Nat) (e : EP) (req : Nat) : AllEnd dq (openRejected e req true).2 := by
  unfold Mux.openRejected
  split
  · exact AllEnd.nil dq
  · simp only [if_true]
    exact AllEnd.single (Or.inl rfl)

theorem closeLocal_final_ans (dq : List Nat) (e : EP) (s : Slot) (fid : Nat) (inh : Bool) :
    AllEnd dq (closeLocal e s fid inh true).2 := by
  fun_cases Mux.closeLocal e s fid inh true
  case case3 => exact openRejected_final_ans dq e _
  case case4 => exact AllEnd.single (by simp [EndAns])
  all_goals exact AllEnd.nil dq

theorem drainFlows_ans (dq : List Nat) (e : EP) (l : List (Nat × Slot)) : AllEnd dq (drainFlows e l).2 := by
  induction l generalizing e with
  | nil => exact AllEnd.nil dq
  | cons p l ih =>
    obtain ⟨fid, s⟩ := p
    simp only [Mux.drainFlows]
    exact (closeLocal_final_ans dq e s fid true).append (ih _)

theorem windDownFinish_ans (dq : List Nat) (e : EP) (res : ExitRes) : AllEnd dq (windDownFinish e res).2 := by
  simp only [Mux.windDownFinish]
  refine ((drainFlows_ans dq _ _).append ?_).append (AllEnd.single (by simp [EndAns]))
  intro ev hev
  obtain ⟨r, _, hr⟩ := List.mem_map.mp hev
  rw [← hr]
  exact Or.inl rfl

theorem windDownTail_quiet_ans (dq : List Nat) (e1 : EP) (srcEnded : Bool) (res : ExitRes) (hi : e1.inbox = []) :
    AllEnd dq (windDownTail e1 [] srcEnded res).2 := by
  have hc : AllEnd dq [.wireClose] := .single (by simp [EndAns])
  rcases windDownTail_cases e1 [] srcEnded res with ⟨-, h⟩ | ⟨-, -, h⟩ <;> rw [h, hi]
  · exact hc.append (windDownFinish_ans dq _ res)
  · exact hc

theorem runDone_ans (e : EP) (l : List (Nat × Nat)) : AllEnd (l.map (·.1)) (runDone e l).2 := by
  induction l generalizing e with
  | nil => exact AllEnd.nil _
  | cons x rest ih =>
    obtain ⟨req, i⟩ := x
    rw [Mux.runDone]
    have h0 : EndAns (List.map (·.1) ((req, i) :: rest)) (.openDone req (.ok e.handles.length)) :=
      Or.inr (Or.inr ⟨⟨_, rfl⟩, by simp⟩)
    exact (AllEnd.single h0).append ((ih _).mono fun q h => List.mem_cons_of_mem _ h)

theorem openRound_ans (dq : List Nat) (e : EP) (r : OpenReq) (hoc : e.outClosed = true) : AllEnd dq (openRound e r).2 := by
  unfold Mux.openRound
  split
  · exact AllEnd.single (Or.inr (Or.inl rfl))
  · split
    · exact AllEnd.single (Or.inr (Or.inl rfl))
    · exact AllEnd.single (Or.inl rfl)

theorem runRetries_ans (dq : List Nat) (e : EP) (l : List Nat) (hoc : e.outClosed = true) : AllEnd dq (runRetries e l).2 := by
  induction l generalizing e with
  | nil => exact AllEnd.nil dq
  | cons req rest ih =>
    rw [Mux.runRetries]
    split
    · exact ih e hoc
    · exact (openRound_ans dq e _ hoc).append (ih _ (((Path.openRoundAny e _).frame .outClosed).trans hoc))

/-- `settle` on a finished endpoint whose outbound queue is closed: only the open futures run. -/
theorem settle_dead_ans (e : EP) (hd : e.dead = true) (hoc : e.outClosed = true) :
    AllEnd (e.doneq.map (·.1)) (settle e).2 := by
  rw [settle_dead e hd]
  refine AllEnd.append ?_ ?_
  · unfold runDoneq
    refine (runDone_ans _ _).mono ?_
    intro q hq
    exact ((sortDone_perm e.doneq).map (·.1)).mem_iff.mp hq
  · unfold runRetryq
    refine runRetries_ans _ _ _ ?_
    show (runDoneq e).1.outClosed = true
    unfold runDoneq
    exact ((Path.runDone _ _).frame .outClosed).trans hoc

/-- A failing sink on a running endpoint whose receive loop has nothing to do: the answers are
    `refused` for binds, `closed` / `rejected` for opens, `ok` only for requests acknowledged before. -/
theorem applySinkFail_quiet_ans (e : EP) (hd : e.dead = false) (hc : e.closing = none) (hdr : e.draining = none)
    (hi : e.inbox = []) (hp : e.park = none) : AllEnd (e.doneq.map (·.1)) (applySinkFail e).2.2 := by
  have hq := taskPollSinkFailed_quiet e hd hc hdr hi hp
  have hin : (windDownPrep { e with droppedq := [] }).inbox = [] := ((Path.windDownPrep _).frame .inbox).trans hi
  have hfin := taskPollSinkFailed_quiet_dead e hd hc hdr hi hp
  have hoc : (taskPollSinkFailed e).1.outClosed = true :=
    (taskPollSinkFailed_ended e (Ended.of_running hd hc hdr)).closed (Or.inl hfin)
  have hdq : (taskPollSinkFailed e).1.doneq = e.doneq := by
    rw [hq]
    rcases windDownTail_cases (windDownPrep { e with droppedq := [] }) [] e.srcEnded .wsError with
      ⟨h1, -⟩ | ⟨⟨-, -, h⟩, -⟩
    · rw [h1]
      refine ((Path.windDownFinish _ _).frame .doneq).trans ?_
      rw [hin]
      exact (Path.windDownPrep { e with droppedq := [] }).frame .doneq
    · cases h
  rw [applySinkFail_evs]
  refine AllEnd.append ?_ ?_
  · rw [hq]
    exact (windDownTail_quiet_ans _ _ _ _ hin).dropWireClose
  · have := settle_dead_ans _ hfin hoc
    rw [hdq] at this
    exact this

end Penguin.Mux
