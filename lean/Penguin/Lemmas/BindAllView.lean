/-
The BIND view an endpoint state has, and the relation every endpoint function satisfies (`BV`, `BStep`, `BStar`,
the observer's events `BEv`: `Lemmas/BindAllSteps.lean`).

`bview e l` keeps of an endpoint state (with `l` for its inbox) the fields of `BV`.  `BSim l e l' e' evs gs` says
that the endpoint function that led from `e` to `e'`, emitting `evs`, is a sequence of small steps whose
event labels are `gs`.  `Lemmas/BindAllSim*.lean` prove `BSim` for every function of the endpoint model;
the invariant of the pair is proved on small steps only (`Lemmas/BindAllInv*.lean`).
Core Lean only.
-/
import Penguin.Lemmas.BindAllSteps
import Penguin.Lemmas.PairAllView

namespace Penguin.BindAll
open Penguin.Mux
open Penguin.PairAll (wireMsgs inMsgs wireMsgs_append wireMsgs_wires wireMsgs_map_openDone inMsgs_append)

def doneEvs : List Ev → List BEv
  | [] => []
  | .bindDone req r :: rest => .done req r :: doneEvs rest
  | _ :: rest => doneEvs rest

theorem doneEvs_append (a b : List Ev) : doneEvs (a ++ b) = doneEvs a ++ doneEvs b := by
  induction a with
  | nil => rfl
  | cons ev r ih => cases ev <;> simp [doneEvs, ih]

theorem doneEvs_wires (l : List Msg) : doneEvs (l.map Ev.wire) = [] := by
  induction l with
  | nil => rfl
  | cons m r ih => simpa [doneEvs] using ih

theorem doneEvs_map_openDone (l : List OpenReq) (c : OpenRes) :
    doneEvs (l.map (fun r => Ev.openDone r.req c)) = [] := by
  induction l with
  | nil => rfl
  | cons r rest ih => simpa [doneEvs] using ih

/-- What the observer records at an application call, from the call and its result (for `request_bind`:
    the flow id the call draws, if it gets as far as queueing the `Bind` frame). -/
def callEvs (e : EP) (op : Mux.Op) (res : Mux.Res) : List BEv :=
  match op, res with
  | .bindReq req bt host port, _ =>
    match drawId e.flows e.rng e.fallback 64 with
    | some (fid, _, _) => if e.outClosed then [] else [.asked req fid bt host port]
    | none => []
  | .bindNext, .bindReq k fid bt host port => [.shown k fid bt host port]
  | .bindReply k acc, .unit => [.replied k acc]
  | .bindDrop k, .unit => [.dropped k]
  | .dropMux, _ => [.muxDropped]
  | _, _ => []

def bindPark : Option Park → Option BindIn
  | some (.bind b) => some b
  | _ => none

def bview (e : EP) (l : List WsIn) : BV :=
  { flows := e.flows, fids := e.objs.map (·.fid), rng := e.rng, inbox := l, outq := e.outq,
    outClosed := e.outClosed, bindq := e.bindq, park := bindPark e.park, held := e.held, dq := e.droppedq,
    bindCap := e.opts.bindCap, muxAlive := e.muxAlive, dead := e.dead, srcEnded := e.srcEnded }

def BSim (l : List WsIn) (e : EP) (l' : List WsIn) (e' : EP) (evs : List Ev) (gs : List BEv) : Prop :=
  BStar (bview e l) (bview e' l') (wireMsgs evs) gs

theorem BSim.refl (l : List WsIn) (e : EP) : BSim l e l e [] [] := BStar.refl _

theorem BSim.trans {la lb lc : List WsIn} {a b c : EP} {ev1 ev2 : List Ev} {g1 g2 : List BEv}
    (s : BSim la a lb b ev1 g1) (t : BSim lb b lc c ev2 g2) : BSim la a lc c (ev1 ++ ev2) (g1 ++ g2) :=
  (BStar.trans s t).cast rfl (wireMsgs_append _ _) rfl

theorem BSim.lbl {l l' : List WsIn} {e e' : EP} {evs evs' : List Ev} {gs gs' : List BEv} (s : BSim l e l' e' evs gs)
    (hw : wireMsgs evs' = wireMsgs evs) (hg : gs' = gs) : BSim l e l' e' evs' gs' :=
  BStar.cast s rfl hw hg

theorem BSim.evs {l l' : List WsIn} {e e' : EP} {evs evs' : List Ev} {gs : List BEv} (s : BSim l e l' e' evs gs)
    (h : evs' = evs) : BSim l e l' e' evs' gs := h ▸ s

theorem BSim.gs {l l' : List WsIn} {e e' : EP} {evs : List Ev} {gs gs' : List BEv} (s : BSim l e l' e' evs gs)
    (h : gs' = gs) : BSim l e l' e' evs gs' := h ▸ s

theorem BSim.inb {l l' l1 l1' : List WsIn} {e e' : EP} {evs : List Ev} {gs : List BEv} (s : BSim l e l' e' evs gs)
    (h1 : l1 = l) (h2 : l1' = l') : BSim l1 e l1' e' evs gs := by
  subst h1 h2; exact s

theorem BSim.tr0 {la lb lc : List WsIn} {a b c : EP} {ev2 : List Ev} {g2 : List BEv} (s : BSim la a lb b [] [])
    (t : BSim lb b lc c ev2 g2) : BSim la a lc c ev2 g2 :=
  ((s.trans t).evs (List.nil_append _).symm).gs (List.nil_append _).symm

theorem BSim.tr1 {la lb lc : List WsIn} {a b c : EP} {ev1 : List Ev} {g1 : List BEv} (s : BSim la a lb b ev1 g1)
    (t : BSim lb b lc c [] []) : BSim la a lc c ev1 g1 :=
  ((s.trans t).evs (List.append_nil _).symm).gs (List.append_nil _).symm

theorem BSim.congr {l l' : List WsIn} {e e' a a' : EP} {evs : List Ev} {gs : List BEv} (s : BSim l e l' e' evs gs)
    (h1 : bview a l = bview e l) (h2 : bview a' l' = bview e' l') : BSim l a l' a' evs gs := by
  unfold BSim at *; rw [h1, h2]; exact s

theorem BSim.same {l : List WsIn} {e e' : EP} {evs : List Ev} (hv : bview e' l = bview e l)
    (hw : wireMsgs evs = []) : BSim l e l e' evs [] := by
  unfold BSim; rw [hv, hw]; exact BStar.refl _

theorem BSim.one {l l' : List WsIn} {e e' : EP} {evs : List Ev} {v' : BV} {w : List Msg} {g : List BEv}
    (s : BStep (bview e l) v' w g) (hv : bview e' l' = v') (hw : wireMsgs evs = w) : BSim l e l' e' evs g :=
  (BStar.single s).cast hv hw rfl

theorem BSim.shrink {l l' : List WsIn} {e e' : EP} {evs : List Ev} (h : Shrinks (bview e l) (bview e' l'))
    (hw : wireMsgs evs = []) : BSim l e l' e' evs [] :=
  BSim.one (BStep.shrink _ _ h) rfl hw

end Penguin.BindAll

