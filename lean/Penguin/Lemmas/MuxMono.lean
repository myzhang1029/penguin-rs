/-
The life-cycle flags only move one way, for every history of one endpoint and any peer: once the
connection task has finished (`dead`) it stays finished, once the outbound queue is closed
(`outClosed`) it stays closed, once the `Multiplexor` handle is gone (`muxAlive = false`) it stays
gone.  `Mono` holds across every primitive step (`Lemmas/MuxTrace.lean`), hence across every function
of the endpoint model, every stimulus and every history; with C08's per-call theorems
(`calls_after_end`, `closed_stream_*`) this gives "every LATER operation completes", at every later
point of every history.
Core Lean only.
-/
import Penguin.Lemmas.MuxTrace

namespace Penguin.Mux

structure Mono (e e' : EP) : Prop where
  dead : e.dead = true → e'.dead = true
  outClosed : e.outClosed = true → e'.outClosed = true
  muxGone : e.muxAlive = false → e'.muxAlive = false

theorem Mono.refl (e : EP) : Mono e e := ⟨id, id, id⟩
theorem Mono.trans {a b c : EP} (s : Mono a b) (t : Mono b c) : Mono a c :=
  ⟨fun h => t.dead (s.dead h), fun h => t.outClosed (s.outClosed h), fun h => t.muxGone (s.muxGone h)⟩

theorem Mono.same {e e' : EP} (hd : e'.dead = e.dead) (ho : e'.outClosed = e.outClosed) (hm : e'.muxAlive = e.muxAlive) :
    Mono e e' := ⟨fun h => hd.trans h, fun h => ho.trans h, fun h => hm.trans h⟩

/-- Only three kinds of step write a flag, each in its one direction. -/
theorem Mono.of_upd {k : Kind} {e e' : EP} {x : List Ev} (u : Upd k e x e') : Mono e e' := by
  cases u with
  | closeOut => exact ⟨id, fun _ => rfl, id⟩
  | muxGone => exact ⟨id, id, fun _ => rfl⟩
  | die => exact ⟨fun _ => rfl, id, id⟩
  | enq _ _ m => exact .same (enq_dead e m) (enq_outClosed e m) (enq_muxAlive e m)
  | send => exact .same ((Upd.send e).frame .dead) ((Upd.send e).frame .outClosed) ((Upd.send e).frame .muxAlive)
  | queue q => exact .same (q.frame .dead) (q.frame .outClosed) (q.frame .muxAlive)
  | ctl c => exact .same (c.frame .dead) (c.frame .outClosed) (c.frame .muxAlive)
  | req r => exact .same (r.frame .dead) (r.frame .outClosed) (r.frame .muxAlive)
  | _ => exact ⟨id, id, id⟩

theorem Mono.of_path {A : Kinds} {e e' : EP} {x : List Ev} (p : Path A e x e') : Mono e e' :=
  p.rel0 Mono.refl Mono.trans fun _ u => .of_upd u

theorem Mono.openRound (e : EP) (r : OpenReq) : Mono e (openRound e r).1 := .of_path (.openRoundAny e r)
theorem Mono.closeFlow (e : EP) (fid : Nat) (inh : Bool) : Mono e (closeFlow e fid inh).1 := .of_path (.closeFlow e fid inh)
theorem Mono.processFrame (e : EP) (f : Frame) (ig : Bool) : Mono e (processFrame e f ig).1 :=
  .of_path (.processFrame e f ig)

theorem Mono.disallowAll (e : EP) (l : List (Nat × Slot)) : Mono e (disallowAll e l) := .of_path (.disallowAll e l)
theorem Mono.windDownInbox (e : EP) (l : List WsIn) : Mono e (windDownInbox e l).1 := .of_path (.windDownInbox e l)
theorem Mono.windDownFinish (e : EP) (res : ExitRes) : Mono e (windDownFinish e res).1 := .of_path (.windDownFinish e res)
theorem Mono.windDownTail (e1 : EP) (flushed : List Ev) (srcEnded : Bool) (res : ExitRes) :
    Mono e1 (windDownTail e1 flushed srcEnded res).1 :=
  let ⟨_, _, p⟩ := Path.windDownTail e1 flushed srcEnded res; .of_path p
theorem Mono.sendSome (e : EP) : Mono e (sendSome e).1 := .of_path (.sendSome e)
theorem Mono.windDown (e : EP) (drain : Bool) (res : ExitRes) : Mono e (windDown e drain res).1 :=
  .of_path (.windDown e drain res)
theorem Mono.unpark (e : EP) : Mono e (unpark e) := .of_path (.unpark e)
theorem Mono.drainStep (e : EP) (res : ExitRes) : Mono e (drainStep e res).1 := .of_path (.drainStep e res)
theorem Mono.closingStep (e : EP) (res : ExitRes) : Mono e (closingStep e res).1 := .of_path (.closingStep e res)
theorem Mono.recvOne (e : EP) (w : WsIn) (rest : List WsIn) : Mono e (recvOne e w rest).1 := .of_path (.recvOne e w rest)
theorem Mono.settleLoop (fuel : Nat) (e : EP) (acc : List Ev) : Mono e (settleLoop fuel e acc).1 :=
  let ⟨_, _, p⟩ := Path.settleLoop fuel e acc; .of_path p
theorem Mono.runRetries (e : EP) (l : List Nat) : Mono e (runRetries e l).1 := .of_path (.runRetries e l)
theorem Mono.runDone (e : EP) (l : List (Nat × Nat)) : Mono e (runDone e l).1 := .of_path (.runDone e l)
theorem Mono.hold (e : EP) (c : Bool) : Mono e (if c then (e, ([] : List Ev)) else Mux.sendSome e).1 := .of_path (.hold e c)

theorem Mono.settle (e : EP) : Mono e (settle e).1 := .of_path (.settle e)
theorem Mono.appWrite (e : EP) (h : Nat) (d : Bytes) : Mono e (appWrite e h d).1 := .of_path (.appWrite e h d)
theorem Mono.fillBuf (fuel : Nat) (e : EP) (i : Nat) : Mono e (fillBuf fuel e i).1 := .of_path (.fillBuf fuel e i)
theorem Mono.appRead (e : EP) (h n : Nat) : Mono e (appRead e h n).1 := .of_path (.appRead e h n)
theorem Mono.appShutdown (e : EP) (h : Nat) : Mono e (appShutdown e h).1 := .of_path (.appShutdown e h)
theorem Mono.appDropStream (e : EP) (h : Nat) : Mono e (appDropStream e h).1 := .of_path (.appDropStream e h)
theorem Mono.appBindReq (e : EP) (req : Nat) (bt : BindType) (host : Bytes) (port : Nat) :
    Mono e (appBindReq e req bt host port).1 := .of_path (.appBindReq e req bt host port)
theorem Mono.appBindNext (e : EP) : Mono e (appBindNext e).1 := .of_path (.appBindNext e)
theorem Mono.appBindReply (e : EP) (k : Nat) (a : Bool) : Mono e (appBindReply e k a).1 := .of_path (.appBindReply e k a)
theorem Mono.appBindDrop (e : EP) (k : Nat) : Mono e (appBindDrop e k).1 := .of_path (.appBindDrop e k)
theorem Mono.opStep (e : EP) (op : Op) : Mono e (opStep e op).1 := .of_path (.opStep e op)
theorem Mono.applyOp (e : EP) (op : Op) : Mono e (applyOp e op).1 := .of_path (.applyOp e op)
theorem Mono.runOps (e : EP) (ops : List Op) : Mono e (runOps e ops) := let ⟨_, p⟩ := Path.runOps e ops; .of_path p

/-- Once finished, always finished (and the queue stays closed, the handle stays gone). -/
theorem stays_finished (e : EP) (ops : List Op) : Mono e (runOps e ops) := Mono.runOps e ops

end Penguin.Mux
