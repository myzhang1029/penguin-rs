/-
The end of the connection, for the stimuli of `Model/MuxStart.lean`.

`Tidy e`: once the task has finished, the only open requests still listed are those that had been told "rejected"
and whose future has not run its next round yet; every way the task finishes goes through `windDownFinish`, so the
task's loop and `taskPollSinkFailed` keep it.  With the outbound queue closed, the part of `settle` after the task's
loop answers every such request, so a finished endpoint has no pending open request (`Done`) after any stimulus.
A poll with a failed sink on a running endpoint finishes the task, unless the receive loop itself ended the
connection in that very poll and waits for the peer's end (`closing`); it does finish it when the receive loop has
nothing to do, and when the source has already ended or failed.
Core Lean only.
-/
import Penguin.Model.MuxStart
import Penguin.Lemmas.MuxStartRel
import Penguin.Lemmas.MuxAccountReq
import Penguin.Lemmas.MuxOnce

namespace Penguin.Mux

theorem runRetries_closed_clears (e : EP) (l : List Nat) (hoc : e.outClosed = true)
    (h : ∀ q ∈ e.opens, q.req ∈ l) : (runRetries e l).1.opens = [] := by
  induction l generalizing e with
  | nil =>
    cases ho : e.opens with
    | nil => exact ho
    | cons q qs =>
      have := h q (by rw [ho]; exact List.mem_cons_self)
      cases this
  | cons req rest ih =>
    unfold Mux.runRetries
    split
    · rename_i hnone
      refine ih e hoc ?_
      intro q hq
      have hne : q.req ≠ req := by
        intro hc
        have := List.find?_eq_none.mp hnone q hq
        simp [hc] at this
      rcases List.mem_cons.mp (h q hq) with h1 | h1
      · exact absurd h1 hne
      · exact h1
    · rename_i r hr
      have hreq : r.req = req := by simpa using List.find?_some hr
      refine ih _ (((Path.openRoundAny e r).frame .outClosed).trans hoc) ?_
      intro q hq
      rw [openRound_closed_opens e r hoc] at hq
      obtain ⟨hq1, hq2⟩ := List.mem_filter.mp hq
      have hne : q.req ≠ req := by rw [← hreq]; simpa using hq2
      rcases List.mem_cons.mp (h q hq1) with h1 | h1
      · exact absurd h1 hne
      · exact h1

/-! ### `Tidy` -/

/-- Once finished, the open requests still listed are those told "rejected" whose future has not run. -/
def Tidy (e : EP) : Prop := e.dead = true → ∀ q ∈ e.opens, q.req ∈ e.retryq

theorem Tidy.of_alive {e : EP} (hd : e.dead = false) : Tidy e := by
  intro h; rw [hd] at h; cases h

theorem Tidy.of_aof {e' : EP} (h : AliveOrFinished e') : Tidy e' := by
  rcases h with h | ⟨e0, res, rfl⟩
  · exact Tidy.of_alive h
  · exact fun _ => (windDownFinish_resolves e0 res).2.2.1

theorem settleLoop_tidy (fuel : Nat) (e : EP) (acc : List Ev) (h : Tidy e) : Tidy (settleLoop fuel e acc).1 := by
  cases hd : e.dead with
  | true => rw [settleLoop_dead _ _ _ hd]; exact h
  | false => exact .of_aof (settleLoop_aof fuel e acc hd)

theorem taskPollSinkFailed_tidy (e : EP) (h : Tidy e) : Tidy (taskPollSinkFailed e).1 := by
  rcases taskPollSinkFailed_cases e with ⟨-, q⟩ | ⟨res, ⟨hd, -, -⟩, q⟩ | ⟨⟨hd, -, -⟩, -, q⟩ | ⟨⟨hd, -, -⟩, ⟨hd2, -⟩, q⟩ <;>
    rw [q]
  · exact h
  · exact .of_aof (windDownTail_aof { e with draining := none, outq := [] } [] e.srcEnded _ hd)
  · exact settleLoop_tidy _ _ _ (Tidy.of_alive hd)
  · exact .of_aof (windDownTail_aof _ [] _ _ (((Path.windDownPrep _).frame .dead).trans hd2))

/-! ### What `settle` does after the task's loop -/

open Penguin.Pair (settleTail settle_eq)

theorem settleTail_dead (e1 : EP) (evs1 : List Ev) : (settleTail e1 evs1).1.dead = e1.dead := by
  have hs : ∀ a : EP, (holdSend a).1.dead = a.dead := fun a => (Path.holdSend a).frame .dead
  have hr : ∀ a : EP, (runRetryq a).1.dead = a.dead := fun a => (Path.runRetryq a).frame .dead
  have hq : ∀ a : EP, (runDoneq a).1.dead = a.dead := fun a => (Path.runDoneq a).frame .dead
  -- (`show` of the unfolded form instead makes the unifier compute through `thenRun`)
  unfold Penguin.Pair.settleTail thenRun
  dsimp only
  rw [hs, hr, hq, hs]

/-- With the outbound queue closed and only "rejected" requests listed, the later stages of `settle`
    answer everything: no open request is pending afterwards. -/
theorem settleTail_pend_nil (e1 : EP) (evs1 : List Ev) (hoc : e1.outClosed = true)
    (h : ∀ q ∈ e1.opens, q.req ∈ e1.retryq) : pend (settleTail e1 evs1).1 = [] := by
  unfold Penguin.Pair.settleTail thenRun
  dsimp only
  -- stage 2: the send loop
  have a1 : (holdSend e1).1.opens = e1.opens := (Path.holdSend e1).frame .opens
  have a3 : (holdSend e1).1.retryq = e1.retryq := (Path.holdSend e1).frame .retryq
  have a4 : (holdSend e1).1.outClosed = e1.outClosed := (Path.holdSend e1).frame .outClosed
  generalize (holdSend e1).1 = e2 at a1 a3 a4 ⊢
  -- stage 3: the answered futures return
  have b1 : (runDoneq e2).1.opens = e2.opens := (Path.runDoneq e2).frame .opens
  have b2 : (runDoneq e2).1.doneq = [] := runDoneq_doneq e2
  have b3 : (runDoneq e2).1.retryq = e2.retryq := (Path.runDoneq e2).frame .retryq
  have b4 : (runDoneq e2).1.outClosed = e2.outClosed := (Path.runDoneq e2).frame .outClosed
  generalize (runDoneq e2).1 = e3 at b1 b2 b3 b4 ⊢
  -- stage 4: the rejected futures run their next round
  have c1 : (runRetryq e3).1.opens = [] := by
    unfold runRetryq
    refine runRetries_closed_clears _ _ (b4.trans (a4.trans hoc)) ?_
    intro q hq
    have := h q (a1 ▸ b1 ▸ hq)
    rw [← a3, ← b3] at this
    exact (sortNat_perm e3.retryq).mem_iff.mpr this
  have c2 : (runRetryq e3).1.doneq = [] := ((Path.runRetryq e3).frame .doneq).trans b2
  generalize (runRetryq e3).1 = e4 at c1 c2 ⊢
  have d1 : (holdSend e4).1.opens = e4.opens := (Path.holdSend e4).frame .opens
  have d2 : (holdSend e4).1.doneq = e4.doneq := (Path.holdSend e4).frame .doneq
  unfold pend
  rw [d1, d2, c1, c2]; rfl

/-- A finished endpoint has no pending open request. -/
def Done (e : EP) : Prop := e.dead = true → pend e = []

theorem Done.tidy {e : EP} (h : Done e) : Tidy e := by
  intro hd q hq
  have := h hd
  unfold pend at this
  have ho : e.opens = [] := by
    cases ho : e.opens with
    | nil => rfl
    | cons x xs => rw [ho] at this; simp at this
  rw [ho] at hq; cases hq

theorem settle_done (e : EP) (he : Ended e) (ht : Tidy e) : Done (settle e).1 := by
  intro hd
  rw [settle_eq] at hd ⊢
  rw [settleTail_dead] at hd
  have he1 := settleLoop_ended (2 * e.inbox.length + e.droppedq.length + 2) e [] he
  have ht1 := settleLoop_tidy (2 * e.inbox.length + e.droppedq.length + 2) e [] ht
  exact settleTail_pend_nil _ _ (he1.closed (Or.inl hd)) (ht1 hd)

theorem applySinkFail_done (e : EP) (he : Ended e) (ht : Tidy e) : Done (applySinkFail e).1 := by
  rw [applySinkFail_fst]
  exact settle_done _ (taskPollSinkFailed_ended e he) (taskPollSinkFailed_tidy e ht)

/-- The futures' rounds after the poll do not revive a finished task. -/
theorem applySinkFail_dead (e : EP) (h : (taskPollSinkFailed e).1.dead = true) : (applySinkFail e).1.dead = true := by
  rw [applySinkFail_fst]; exact (Mono.settle _).dead h

theorem applyStart_done (e : EP) (sf : Bool) (he : Ended e) (ht : Tidy e) : Done (applyStart e sf).1 := by
  cases sf with
  | true => rw [applyStart_failed]; exact applySinkFail_done e he ht
  | false => simp only [applyStart_working]; exact settle_done e he ht

/-- An application call on a finished endpoint (outbound queue closed) leaves no request pending:
    a new `open` is answered at once. -/
theorem opStep_done (e : EP) (op : Op) (he : Ended e) (h : Done e) : Done (opStep e op).1 := by
  intro hd
  have hd0 : e.dead = true := by rw [← (Still.opStep e op).dead]; exact hd
  have hp := h hd0
  have hoc := he.closed (Or.inl hd0)
  cases hpp : pend (opStep e op).1 with
  | nil => rfl
  | cons x xs =>
    exfalso
    have hx : x ∈ pend (opStep e op).1 := by rw [hpp]; exact List.mem_cons_self
    rcases (Once.opStep e op).sub x hx with h1 | h1
    · rw [hp] at h1; cases h1
    · cases op with
      | «open» req host port =>
        have hnil : pend (opStep e (.open req host port)).1 = [] := by
          simp only [Mux.opStep]
          split
          · exact hp
          · unfold pend at hp ⊢
            have ho : e.opens = [] := by
              cases ho : e.opens with
              | nil => rfl
              | cons y ys => rw [ho] at hp; simp at hp
            have hq : e.doneq = [] := by
              cases hq : e.doneq with
              | nil => rfl
              | cons y ys => rw [hq] at hp; simp at hp
            show List.map (·.req) (appOpen e req host port).1.opens ++ List.map (·.1) (appOpen e req host port).1.doneq = []
            unfold Mux.appOpen
            rw [openRound_closed_opens _ _ hoc, openRound_doneq, ho, hq]; rfl
        rw [hnil] at hx; cases hx
      | _ => exact absurd h1 (by simp [newOf])

/-! ### A poll with a failed sink ends the connection -/

/-- On an endpoint whose task has not finished and is not waiting for the peer's end, a poll with a
    failed sink finishes the task, or leaves it waiting for the peer's end (the receive loop ended
    the connection itself in this poll, or the drain after a local drop was under way). -/
theorem taskPollSinkFailed_ends (e : EP) (hd : e.dead = false) (hc : e.closing = none) :
    (taskPollSinkFailed e).1.dead = true ∨ (taskPollSinkFailed e).1.closing.isSome = true := by
  rcases taskPollSinkFailed_cases e with ⟨h0, -⟩ | ⟨res, -, q⟩ | ⟨-, hl, q⟩ | ⟨-, -, q⟩ <;> try rw [q]
  · exact absurd h0 (by simp [hd, hc])
  · exact (windDownTail_dead_or_closing _ [] e.srcEnded res).imp_right fun h => by rw [h]; rfl
  · exact hl
  · exact Or.inl (windDownTail_resolves _ [] _ .wsError (Or.inr (by intro h; cases h))).1

theorem settleLoop_quiet (fuel : Nat) (e : EP) (acc : List Ev) (hd : e.dead = false) (hdr : e.draining = none)
    (hc : e.closing = none) (hi : e.inbox = []) (hp : e.park = none) (hq : e.droppedq = []) :
    settleLoop (fuel + 1) e acc = (e, acc) := by
  rw [settleLoop_notif fuel e acc hd hdr hc hi, notifBranch, unpark_of_none e hp, hq]

/-- The running endpoint whose receive loop has nothing to do: the poll is the wind-down after a
    transport error, without the Close. -/
theorem taskPollSinkFailed_quiet (e : EP) (hd : e.dead = false) (hc : e.closing = none) (hdr : e.draining = none)
    (hi : e.inbox = []) (hp : e.park = none) :
    taskPollSinkFailed e =
      ((windDownTail (windDownPrep { e with droppedq := [] }) [] e.srcEnded .wsError).1,
       dropWireClose (windDownTail (windDownPrep { e with droppedq := [] }) [] e.srcEnded .wsError).2) := by
  have hl : settleLoop (2 * e.inbox.length + 2) { e with droppedq := [] } [] = ({ e with droppedq := [] }, []) :=
    settleLoop_quiet (2 * e.inbox.length + 1) { e with droppedq := [] } [] hd hdr hc hi hp rfl
  rcases taskPollSinkFailed_cases e with ⟨h0, -⟩ | ⟨res, ⟨-, -, h1⟩, -⟩ | ⟨-, h2, -⟩ | ⟨-, -, q⟩
  · exact absurd h0 (by simp [hd, hc])
  · rw [hdr] at h1; cases h1
  · rw [hl] at h2; exact absurd h2 (by simp [hd, hc])
  · rw [q, hl]; rfl

theorem taskPollSinkFailed_quiet_dead (e : EP) (hd : e.dead = false) (hc : e.closing = none) (hdr : e.draining = none)
    (hi : e.inbox = []) (hp : e.park = none) : (taskPollSinkFailed e).1.dead = true := by
  rw [taskPollSinkFailed_quiet e hd hc hdr hi hp]
  exact (windDownTail_resolves _ [] _ .wsError (Or.inr (by intro h; cases h))).1

def hasEnd (l : List WsIn) : Bool := l.any (fun x => x == .eof || x == .err)

theorem windDownInbox_hasEnd (e : EP) (l : List WsIn) (h : hasEnd l = true) : (windDownInbox e l).2.2 = true := by
  induction l generalizing e with
  | nil => simp [hasEnd] at h
  | cons w l ih =>
    cases w with
    | err => rfl
    | eof => rfl
    | msg m =>
      simp only [Mux.windDownInbox]
      exact ih _ (by simpa [hasEnd] using h)
    | bad b =>
      simp only [Mux.windDownInbox]
      exact ih _ (by simpa [hasEnd] using h)

theorem windDownTail_hasEnd (e1 : EP) (flushed : List Ev) (srcEnded : Bool) (res : ExitRes)
    (h : hasEnd e1.inbox = true ∨ srcEnded = true) : (windDownTail e1 flushed srcEnded res).1.dead = true := by
  rcases windDownTail_cases e1 flushed srcEnded res with ⟨h1, -⟩ | ⟨⟨hi, hs, -⟩, -⟩
  · rw [h1]; exact (windDownFinish_resolves _ res).1
  · rcases h with h | h
    · rw [windDownInbox_hasEnd e1 e1.inbox h] at hi; cases hi
    · rw [hs] at h; cases h

theorem windDown_hasEnd (e : EP) (drain : Bool) (res : ExitRes) (hc : e.closing = none)
    (h : hasEnd e.inbox = true ∨ e.srcEnded = true) :
    (windDown e drain res).1.dead = true ∨ (windDown e drain res).1.closing = none := by
  simp only [Mux.windDown]
  split
  · have p := (Path.dropPrep e).trans (Path.sendSome _)
    split
    · left
      refine windDownTail_hasEnd _ _ _ _ (h.imp_left fun h => ?_)
      have : (sendSome (dropPrep e)).1.inbox = e.inbox := p.frame .inbox
      rw [this]; exact h
    · right
      have : (sendSome (dropPrep e)).1.closing = e.closing := p.frame .closing
      exact this.trans hc
  · left
    refine windDownTail_hasEnd _ _ _ _ (h.imp_left fun h => ?_)
    have : (windDownPrep e).inbox = e.inbox := (Path.windDownPrep e).frame .inbox
    rw [this]; exact h

theorem recvOne_fields (e : EP) (w : WsIn) (rest : List WsIn) :
    (recvOne e w rest).1.inbox = rest ∧
    (hasEnd (w :: rest) = true ∨ e.srcEnded = true → hasEnd rest = true ∨ (recvOne e w rest).1.srcEnded = true) ∧
    (recvOne e w rest).1.draining = e.draining ∧ (recvOne e w rest).1.closing = e.closing := by
  have c := Path.processIn { (if w = .eof ∨ w = .err then { e with srcEnded := true } else e) with inbox := rest } w false
  refine ⟨c.frame .inbox, ?_, (Path.recvOne e w rest).frame .draining, (Path.recvOne e w rest).frame .closing⟩
  intro h
  have hs : (recvOne e w rest).1.srcEnded = (if w = .eof ∨ w = .err then { e with srcEnded := true } else e).srcEnded :=
    c.frame .srcEnded
  rw [hs]
  by_cases hw : w = .eof ∨ w = .err
  · right; simp [hw]
  · rcases h with h | h
    · left
      have hne : (w == WsIn.eof || w == WsIn.err) = false := by
        cases w with
        | eof => exact absurd (Or.inl rfl) hw
        | err => exact absurd (Or.inr rfl) hw
        | msg m => rfl
        | bad b => rfl
      simpa [hasEnd, hne] using h
    · right; simp [hw, h]

/-- While the source is known to have ended (the end marker is among the delivered items, or was
    consumed already), the task's loop never stops in the state "waiting for the peer's end". -/
theorem settleLoop_hasEnd (fuel : Nat) (e : EP) (acc : List Ev) (hd : e.dead = false) (hdr : e.draining = none)
    (hc : e.closing = none) (h : hasEnd e.inbox = true ∨ e.srcEnded = true) :
    (settleLoop fuel e acc).1.dead = true ∨ (settleLoop fuel e acc).1.closing = none := by
  induction fuel generalizing e acc with
  | zero => exact Or.inr hc
  | succ n ih =>
    unfold Mux.settleLoop
    simp only [hd, Bool.false_eq_true, if_false, hdr, hc]
    have cu := Path.unpark e
    have u1 : (unpark e).closing = e.closing := cu.frame .closing
    have u2 : (unpark e).draining = e.draining := cu.frame .draining
    have u3 : (unpark e).dead = e.dead := cu.frame .dead
    have hu : hasEnd (unpark e).inbox = true ∨ (unpark e).srcEnded = true := by
      rw [show (unpark e).inbox = e.inbox from cu.frame .inbox, show (unpark e).srcEnded = e.srcEnded from cu.frame .srcEnded]
      exact h
    split
    · rename_i w rest _ hin
      obtain ⟨f1, f2, f3, f4⟩ := recvOne_fields (unpark e) w rest
      have h2 := f2 (by rw [← hin]; exact hu)
      have hd2 : (recvOne (unpark e) w rest).1.dead = false :=
        ((Path.recvOne _ w rest).frame .dead).trans (u3.trans hd)
      have hc2 : (recvOne (unpark e) w rest).1.closing = none := f4.trans (u1.trans hc)
      have hdr2 : (recvOne (unpark e) w rest).1.draining = none := f3.trans (u2.trans hdr)
      split
      · exact windDown_hasEnd _ false _ hc2 (by rw [f1]; exact h2)
      · exact ih _ _ hd2 hdr2 hc2 (by rw [f1]; exact h2)
    · split
      · exact windDown_hasEnd _ true .ok (u1.trans hc) hu
      · rename_i fid rest _ hq
        have c2 := Path.closeFlow { unpark e with droppedq := rest } fid false
        refine ih _ _ ((c2.frame .dead).trans (u3.trans hd)) ((c2.frame .draining).trans (u2.trans hdr))
          ((c2.frame .closing).trans (u1.trans hc)) ?_
        rw [show (closeFlow { unpark e with droppedq := rest } fid false).1.inbox = (unpark e).inbox from c2.frame .inbox,
          show (closeFlow { unpark e with droppedq := rest } fid false).1.srcEnded = (unpark e).srcEnded from c2.frame .srcEnded]
        exact hu
      · exact Or.inr (u1.trans hc)

theorem taskPollSinkFailed_hasEnd (e : EP) (hd : e.dead = false) (hc : e.closing = none) (hdr : e.draining = none)
    (h : hasEnd e.inbox = true ∨ e.srcEnded = true) : (taskPollSinkFailed e).1.dead = true := by
  have hl := settleLoop_hasEnd (2 * e.inbox.length + 2) { e with droppedq := [] } [] hd hdr hc h
  rcases taskPollSinkFailed_cases e with ⟨h0, -⟩ | ⟨res, ⟨-, -, h1⟩, -⟩ | ⟨-, h2, q⟩ | ⟨-, -, q⟩
  · exact absurd h0 (by simp [hd, hc])
  · rw [hdr] at h1; cases h1
  · rw [q]
    rcases hl with hl | hl
    · exact hl
    · simpa [hl] using h2
  · rw [q]; exact (windDownTail_resolves _ [] _ .wsError (Or.inr (by intro h; cases h))).1

/-- Draining after a local drop: the poll ends the drain; the task finishes unless it has to wait for
    the peer's end (a clean result, the source still open and nothing that ends it delivered). -/
theorem taskPollSinkFailed_draining (e : EP) (res : ExitRes) (hd : e.dead = false) (hc : e.closing = none)
    (hdr : e.draining = some res) :
    ((taskPollSinkFailed e).1.dead = true ∨ (taskPollSinkFailed e).1.closing = some res) ∧
    (hasEnd e.inbox = true ∨ e.srcEnded = true ∨ res ≠ .ok → (taskPollSinkFailed e).1.dead = true) := by
  rcases taskPollSinkFailed_cases e with ⟨h0, -⟩ | ⟨res', ⟨-, -, h1⟩, q⟩ | ⟨⟨-, -, h1⟩, -⟩ | ⟨⟨-, -, h1⟩, -⟩
  · exact absurd h0 (by simp [hd, hc])
  · rw [hdr] at h1; cases h1
    rw [q]
    refine ⟨windDownTail_dead_or_closing _ _ _ _, ?_⟩
    rintro (h | h | h)
    · exact windDownTail_hasEnd _ _ _ _ (Or.inl h)
    · exact windDownTail_hasEnd _ _ _ _ (Or.inr h)
    · exact (windDownTail_resolves _ [] _ res (Or.inr h)).1
  · rw [hdr] at h1; cases h1
  · rw [hdr] at h1; cases h1

theorem taskPollSinkFailed_idle (e : EP) (h : e.dead = true ∨ e.closing.isSome = true) :
    taskPollSinkFailed e = (e, []) := by
  rcases taskPollSinkFailed_cases e with ⟨-, q⟩ | ⟨_, ⟨hd, hc, -⟩, -⟩ | ⟨⟨hd, hc, -⟩, -⟩ | ⟨⟨hd, hc, -⟩, -⟩
  · exact q
  all_goals exact absurd h (by simp [hd, hc])

end Penguin.Mux
