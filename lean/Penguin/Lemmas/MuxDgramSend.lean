/-
The datagram service on the SENDING side, for every history of one endpoint and ANY peer.

The only thing that ever puts a `Datagram` frame into the outbound queue is a `send_datagram` call that
returns `Ok` (`unit`), and it puts exactly one, carrying the four fields of the call.  The queue is FIFO
towards the transport; the wind-down after an error or a Close throws away what is still queued (the
connection is gone), the wind-down after the `Multiplexor` was dropped sends it first.
`DsT e e' evs W`: from `e` to `e'`, emitting `evs`, with `W` the datagrams accepted in between — the
`Datagram` frames handed to the transport followed by those still queued are a prefix of (queued before
++ W), and ARE (queued before ++ W) as long as the outbound queue is open; nothing is accepted once it
is closed.  Every function of the model satisfies it (same shape as `SnT` for `Push` frames).
Core Lean only.
-/
import Penguin.Lemmas.MuxIntegritySendApp

namespace Penguin.Mux

/-- The datagrams (all four fields) of the `Datagram` frames in a list of messages, in order. -/
def dgramsQ : List Msg → List Dgram
  | [] => []
  | .frame (.datagram fid port host d) :: r => { fid := fid, host := host, port := port, data := d } :: dgramsQ r
  | _ :: r => dgramsQ r

/-- The datagrams of the `Datagram` frames handed to the transport among a list of events, in order. -/
def dgramsEv : List Ev → List Dgram
  | [] => []
  | .wire (.frame (.datagram fid port host d)) :: r => { fid := fid, host := host, port := port, data := d } :: dgramsEv r
  | _ :: r => dgramsEv r

/-! ### The relation: `QT` for the `Datagram` frames -/

def dgSel : Msg → Option Dgram
  | .frame (.datagram fid port host d) => some { fid := fid, host := host, port := port, data := d }
  | _ => none

theorem dgSel_quiet : Quiet dgSel := by
  intro m h
  cases m with
  | frame f => cases f <;> first | rfl | cases h
  | _ => rfl

theorem dgramsQ_eq (l : List Msg) : dgramsQ l = selQ dgSel l := by
  induction l with
  | nil => rfl
  | cons m r ih =>
    cases m with
    | frame f => cases f <;> (simp only [dgramsQ, ih]; rfl)
    | _ => simp only [dgramsQ, ih]; rfl

theorem dgramsEv_eq (l : List Ev) : dgramsEv l = selEv dgSel l := by
  induction l with
  | nil => rfl
  | cons ev r ih =>
    cases ev with
    | wire m =>
      cases m with
      | frame f => cases f <;> (simp only [dgramsEv, ih]; rfl)
      | _ => simp only [dgramsEv, ih]; rfl
    | _ => simp only [dgramsEv, ih]; rfl

/-- `QT dgSel` written out with `dgramsQ` and `dgramsEv`, as `SnO` is for `pushSel` (`Lemmas/MuxIntegritySend`): the
    theorems about histories are stated with these (`dgram_sender_inv`, Props C11). -/
structure DsO (q : List Msg) (c : Bool) (q' : List Msg) (c' : Bool) (evs : List Ev) (W : List Dgram) : Prop where
  closed : c = true → c' = true
  pre : dgramsEv evs ++ dgramsQ q' <+: dgramsQ q ++ W
  eq : c' = false → dgramsEv evs ++ dgramsQ q' = dgramsQ q ++ W
  noW : c = true → W = []

def DsT (e e' : EP) (evs : List Ev) (W : List Dgram) : Prop :=
  DsO e.outq e.outClosed e'.outq e'.outClosed evs W

theorem DsT.iff {e e' : EP} {evs : List Ev} {W : List Dgram} : DsT e e' evs W ↔ QT dgSel e e' evs W := by
  constructor
  · intro h
    have h' := h
    unfold DsT at h'
    obtain ⟨h1, h2, h3, h4⟩ := h'
    simp only [dgramsQ_eq, dgramsEv_eq] at h2 h3
    exact ⟨h1, h2, h3, h4⟩
  · intro h
    obtain ⟨h1, h2, h3, h4⟩ := h
    simp only [← dgramsQ_eq, ← dgramsEv_eq] at h2 h3
    exact ⟨h1, h2, h3, h4⟩

theorem DsT.silent {e e' : EP} {evs : List Ev} (hq : e'.outq = e.outq) (hc : e'.outClosed = e.outClosed)
    (hev : dgramsEv evs = []) : DsT e e' evs [] :=
  DsT.iff.mpr (QT.silent hq hc (dgramsEv_eq evs ▸ hev))

theorem DsT.refl (e : EP) : DsT e e [] [] := DsT.iff.mpr (QT.refl e)

theorem DsT.trans {a b c : EP} {ev1 ev2 : List Ev} {W1 W2 : List Dgram}
    (s : DsT a b ev1 W1) (t : DsT b c ev2 W2) : DsT a c (ev1 ++ ev2) (W1 ++ W2) :=
  DsT.iff.mpr ((DsT.iff.mp s).trans (DsT.iff.mp t))

theorem DsT.after {a b c : EP} {ev1 ev2 : List Ev} {W1 W2 : List Dgram}
    (t : DsT b c ev2 W2) (s : DsT a b ev1 W1) : DsT a c (ev1 ++ ev2) (W1 ++ W2) := s.trans t

theorem DsT.of_path {A : Kinds} {e e' : EP} {x : List Ev} (p : Path A e x e')
    (hA : A.disj QT.bad = true := by decide +kernel) : DsT e e' x [] :=
  DsT.iff.mpr (.of_path dgSel_quiet p hA)

theorem DsT.openRound (e : EP) (r : OpenReq) : DsT e (openRound e r).1 (openRound e r).2 [] :=
  .of_path (.openRoundAny e r)

theorem DsT.closeFlow (e : EP) (fid : Nat) (inh : Bool) : DsT e (closeFlow e fid inh).1 (closeFlow e fid inh).2 [] :=
  .of_path (.closeFlow e fid inh)

theorem DsT.processFrame (e : EP) (f : Frame) (ig : Bool) :
    DsT e (processFrame e f ig).1 (processFrame e f ig).2.1 [] :=
  .of_path (.processFrame e f ig)

theorem DsT.windDown (e : EP) (drain : Bool) (res : ExitRes) :
    DsT e (windDown e drain res).1 (windDown e drain res).2 [] :=
  .of_path (.windDown e drain res)

theorem DsT.unpark (e : EP) : DsT e (unpark e) [] [] := .of_path (.unpark e)

theorem DsT.settleLoop (fuel : Nat) (e : EP) (acc : List Ev) :
    ∃ evs, (settleLoop fuel e acc).2 = acc ++ evs ∧ DsT e (settleLoop fuel e acc).1 evs [] := by
  obtain ⟨evs, h1, h2⟩ := Path.settleLoop fuel e acc
  exact ⟨evs, h1, .of_path h2⟩

theorem DsT.runRetries (e : EP) (l : List Nat) : DsT e (runRetries e l).1 (runRetries e l).2 [] :=
  .of_path (.runRetries e l)

theorem DsT.runDone (e : EP) (l : List (Nat × Nat)) : DsT e (runDone e l).1 (runDone e l).2 [] :=
  .of_path (.runDone e l)

theorem DsT.settle (e : EP) : DsT e (settle e).1 (settle e).2 [] := .of_path (.settle e)

/-! ### Application calls -/

/-- The datagram a stimulus hands to the endpoint for sending: the argument of a `send_datagram` call
    that answered `Ok` (`unit`).  Every other call, and a refused `send_datagram`, sends none. -/
def sentDg (op : Op) (r : Res) : List Dgram :=
  match op, r with
  | .sendDgram d, .unit => [d]
  | _, _ => []

theorem callSel_dg (e : EP) (op : Op) (r : Res) : callSel dgSel e op r = sentDg op r := by
  cases op <;> try rfl
  all_goals cases r <;> try rfl
  rename_i h d n
  simp only [callSel, sentDg]
  split
  · rfl
  · cases e.handleObj h <;> rfl

theorem DsT.appWrite (e : EP) (h : Nat) (d : Bytes) : DsT e (appWrite e h d).1 [] [] :=
  DsT.iff.mpr ((QT.appWrite e h d).cast rfl (callSel_dg e (.write h d) _).symm)

theorem DsT.fillBuf (fuel : Nat) (e : EP) (i : Nat) : DsT e (fillBuf fuel e i).1 [] [] :=
  .of_path (.fillBuf fuel e i)

theorem DsT.appRead (e : EP) (h n : Nat) : DsT e (appRead e h n).1 [] [] := .of_path (.appRead e h n)

theorem DsT.appShutdown (e : EP) (h : Nat) : DsT e (appShutdown e h).1 [] [] :=
  .of_path (.appShutdown e h)

theorem DsT.appDropStream (e : EP) (h : Nat) : DsT e (appDropStream e h).1 [] [] := .of_path (.appDropStream e h)

theorem DsT.appBindReq (e : EP) (req : Nat) (bt : BindType) (host : Bytes) (port : Nat) :
    DsT e (appBindReq e req bt host port).1 (appBindReq e req bt host port).2 [] :=
  .of_path (.appBindReq e req bt host port)

theorem DsT.appBindNext (e : EP) : DsT e (appBindNext e).1 [] [] := .of_path (.appBindNext e)

theorem DsT.appBindReply (e : EP) (k : Nat) (a : Bool) : DsT e (appBindReply e k a).1 [] [] :=
  .of_path (.appBindReply e k a)

theorem DsT.appBindDrop (e : EP) (k : Nat) : DsT e (appBindDrop e k).1 [] [] :=
  .of_path (.appBindDrop e k)

theorem sentDg_not_send (op : Op) (r : Res) (h : ∀ d, op ≠ .sendDgram d) : sentDg op r = [] := by
  cases op <;> first | rfl | exact absurd rfl (h _)

theorem DsT.opStep (e : EP) (op : Op) :
    DsT e (opStep e op).1 (opStep e op).2.2 (sentDg op (opStep e op).2.1) :=
  DsT.iff.mpr (callSel_dg e _ _ ▸ QT.opStep dgSel_quiet e op)

theorem DsT.applyOp (e : EP) (op : Op) :
    DsT e (applyOp e op).1 (applyOp e op).2.2 (sentDg op (applyOp e op).2.1) :=
  DsT.iff.mpr (callSel_dg e _ _ ▸ QT.applyOp dgSel_quiet e op)

end Penguin.Mux
