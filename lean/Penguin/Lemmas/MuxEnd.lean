/-
The end of the connection is acted on within the stimulus that delivers it: a running endpoint whose
receive loop is not parked finishes its task in the very step in which the transport yields the peer's
Close, its end, an error or an undecodable message — it does not wait for anything the application
might do.  (What the harness's `end-not-acted-on` monitor samples on the real code.)
Core Lean only.
-/
import Penguin.Lemmas.MuxMono
import Penguin.Lemmas.MuxStep

namespace Penguin.Mux

theorem Mono.settle_tail (e : EP) :
    Mono (Mux.settleLoop (2 * e.inbox.length + e.droppedq.length + 2) e []).1 (Mux.settle e).1 :=
  let ⟨_, _, p⟩ := Path.settle_tail e; .of_path p

/-- One iteration of the task's loop on a running, unparked endpoint whose transport has just yielded
    a terminating item: the task finishes.  A Close is always followed by the end of the source: `opStep (.deliver
    (.msg .close))` queues `[.msg .close, .eof]` (the peer closes the connection after its Close), hence `rest = [.eof]`. -/
theorem settleLoop_end (fuel : Nat) (e : EP) (acc : List Ev) (w : WsIn) (rest : List WsIn)
    (hd : e.dead = false) (hdr : e.draining = none) (hc : e.closing = none) (hp : e.park = none)
    (hi : e.inbox = w :: rest)
    (hw : (w = .msg .close ∧ rest = [.eof]) ∨ w = .eof ∨ w = .err ∨ ∃ b, w = .bad b) :
    (settleLoop (fuel + 1) e acc).1.dead = true := by
  have hu := unpark_of_none e hp
  rw [settleLoop_recv fuel e acc w rest hd hdr hc (by rw [hu]; exact hp) (by rw [hu]; exact hi), hu, recvBranch]
  rcases hw with ⟨rfl, rfl⟩ | rfl | rfl | ⟨b, rfl⟩
  · -- the peer's Close, then the end of the source
    simp only [Mux.recvOne, Mux.processIn]
    have hne : ¬ ((WsIn.msg Msg.close = WsIn.eof) ∨ (WsIn.msg Msg.close = WsIn.err)) := by
      intro h; rcases h with h | h <;> cases h
    simp only [hne, if_false]
    rw [windDown_nodrain]
    have hb : ((Mux.windDownInbox (Mux.windDownPrep { e with inbox := [WsIn.eof] }) (Mux.windDownPrep { e with inbox := [WsIn.eof] }).inbox).2.2) = true := by
      have : (Mux.windDownPrep { e with inbox := [WsIn.eof] }).inbox = [WsIn.eof] := (Path.windDownPrep _).frame .inbox
      rw [this]; rfl
    simp only [Mux.windDownTail, hb, Bool.true_or, if_true]
    exact (windDownFinish_resolves _ _).1
  · simp only [Mux.recvOne, Mux.processIn, true_or, if_true]
    exact (windDown_resolves _ .ok (.inl rfl)).1
  · simp only [Mux.recvOne, Mux.processIn, or_true, if_true]
    exact (windDown_resolves _ .wsError (.inr nofun)).1
  · simp only [Mux.recvOne, Mux.processIn]
    exact (windDown_resolves _ (.invalidFrame b) (.inr nofun)).1

theorem end_acted_on_at_once (e : EP) (w : WsIn)
    (hd : e.dead = false) (hdr : e.draining = none) (hc : e.closing = none) (hp : e.park = none)
    (hi : e.inbox = []) (hs : e.srcEnded = false)
    (hw : w = .msg .close ∨ w = .eof ∨ w = .err ∨ ∃ b, w = .bad b) :
    (applyOp e (.deliver w)).1.dead = true := by
  -- the state the task starts from
  obtain ⟨e1, he1, hin, hd1, hdr1, hc1, hp1⟩ : ∃ e1 : EP, Mux.opStep e (.deliver w) = (e1, .unit, []) ∧
      ((w = .msg .close ∧ e1.inbox = [.msg .close, .eof]) ∨ (w ≠ .msg .close ∧ e1.inbox = [w])) ∧
      e1.dead = false ∧ e1.draining = none ∧ e1.closing = none ∧ e1.park = none := by
    refine ⟨{ e with inbox := e.inbox ++ (if w = .msg .close then [.msg .close, .eof] else [w]) },
      by rw [opStep_deliver, if_neg (by simp [hs, hi])], ?_, hd, hdr, hc, hp⟩
    by_cases hcl : w = .msg .close
    · exact .inl ⟨hcl, by simp [hi, hcl]⟩
    · exact .inr ⟨hcl, by simp [hi, hcl]⟩
  have hloop : (settleLoop (2 * e1.inbox.length + e1.droppedq.length + 2) e1 []).1.dead = true := by
    rcases hin with ⟨hw1, hi1⟩ | ⟨hw1, hi1⟩
    · have : 2 * e1.inbox.length + e1.droppedq.length + 2 = (2 * e1.inbox.length + e1.droppedq.length + 1) + 1 := rfl
      rw [this]
      exact settleLoop_end _ e1 [] (.msg .close) [.eof] hd1 hdr1 hc1 hp1 hi1 (Or.inl ⟨rfl, rfl⟩)
    · have : 2 * e1.inbox.length + e1.droppedq.length + 2 = (2 * e1.inbox.length + e1.droppedq.length + 1) + 1 := rfl
      rw [this]
      refine settleLoop_end _ e1 [] w [] hd1 hdr1 hc1 hp1 hi1 ?_
      rcases hw with h | h | h | h
      · exact absurd h hw1
      · exact Or.inr (Or.inl h)
      · exact Or.inr (Or.inr (Or.inl h))
      · exact Or.inr (Or.inr (Or.inr h))
  rw [applyOp_fst, he1]
  dsimp only
  exact (Mono.settle_tail e1).dead hloop

end Penguin.Mux
