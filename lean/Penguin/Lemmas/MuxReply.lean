/-
At most one reply per frame: whatever state the endpoint is in and whatever frame arrives,
`processFrame` appends at most ONE message to the outbound queue.  (A rejected open request is retried
by its own future later, not by the receive loop.)  Core Lean only.
-/
import Penguin.Lemmas.MuxStep

namespace Penguin.Mux

def AtMost1 (e e' : EP) : Prop := ∃ extra, e'.outq = e.outq ++ extra ∧ extra.length ≤ 1

theorem AtMost1.same {e e' : EP} (h : e'.outq = e.outq) : AtMost1 e e' := ⟨[], by simp [h], by simp⟩

theorem AtMost1.enqFrame (e : EP) (f : Frame) : AtMost1 e (e.enqFrame f) := by
  unfold EP.enqFrame EP.enq
  split
  · exact ⟨[], by simp, by simp⟩
  · exact ⟨[.frame f], rfl, by simp⟩

theorem AtMost1.enq_on {e e0 e' : EP} (f : Frame) (h : e'.outq = (e0.enqFrame f).outq) (h0 : e0.outq = e.outq) :
    AtMost1 e e' := by
  obtain ⟨x, hx, hl⟩ := AtMost1.enqFrame e0 f
  exact ⟨x, by rw [h, hx, h0], hl⟩

theorem closeLocal_atMost1 (e : EP) (s : Slot) (fid : Nat) (inh final : Bool) :
    AtMost1 e (closeLocal e s fid inh final).1 := by
  fun_cases Mux.closeLocal e s fid inh final
  case case2 =>
    simp +zetaDelta only
    split
    · exact AtMost1.enq_on (.reset fid) rfl (modObj_outq e _ _)
    · exact AtMost1.same rfl
  case case3 => exact AtMost1.same (openRejected_outq e _ final)
  all_goals exact AtMost1.same rfl

theorem closeFlow_atMost1 (e : EP) (fid : Nat) (inh : Bool) : AtMost1 e (closeFlow e fid inh).1 := by
  unfold Mux.closeFlow
  split
  · exact AtMost1.same rfl
  · exact closeLocal_atMost1 { e with flows := erase e.flows fid } _ fid inh false

theorem processFrame_atMost1 (e : EP) (f : Frame) (ig : Bool) : AtMost1 e (processFrame e f ig).1 := by
  fun_cases Mux.processFrame e f ig
  -- a frame that is refused, answered with one `Reset`: `Connect` under a used id (1), `Acknowledge` without a request
  -- (8, 9), `Finish` without a slot (10), `Push` to a stream whose sender is gone (16) or to an id without a stream
  -- (20), `Bind` with no queue for it (21) or after the `Multiplexor` is gone (23)
  case case1 | case8 | case9 | case10 | case16 | case20 | case21 | case23 => exact AtMost1.enqFrame _ _
  -- `Connect` that creates a stream: nobody accepts (3), offered (4); one `Acknowledge`
  case case3 => exact AtMost1.enq_on (.acknowledge _ e.opts.rwnd) rfl rfl
  case case4 => exact AtMost1.enq_on (.acknowledge _ e.opts.rwnd) (offerAccept_outq _ _) rfl
  -- `Finish` for a pending open request: one `Reset`
  case case12 => exact AtMost1.enq_on (.reset _) rfl rfl
  -- the two branches that end in `closeFlow`: `Reset` (14), a `Push` that overruns the receive queue (19)
  case case14 hx | case19 hx => exact (congrArg (fun r => AtMost1 e r.1) hx).mp (closeFlow_atMost1 e _ _)
  -- `Bind` offered to the application
  case case24 => exact AtMost1.same ((Path.offerBind _ _).frame .outq)
  all_goals exact AtMost1.same rfl

end Penguin.Mux
