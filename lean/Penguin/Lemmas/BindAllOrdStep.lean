/-
The ORDER layer (`Lemmas/BindAllOrd.lean`) is preserved by every small step of the pair of bind views: acting
and receiving steps, the global clause `Glob4`, and the whole layer `Inv4`.
Core Lean only.
-/
import Penguin.Lemmas.BindAllOrd

namespace Penguin.BindAll
open Penguin.Mux
open Penguin.PairAll (inMsgs inMsgs_append)

variable {c : BC} {v : BV} {ws : List Msg} {gs : List BEv}

theorem deafV_append_msg (a : BV) (m : Msg) : deafV { a with inbox := a.inbox ++ [.msg m] } = deafV a := by
  have h1 : (WsIn.msg m == WsIn.eof) = false := by rw [beq_eq_false_iff_ne]; intro h; cases h
  have h2 : (WsIn.msg m == WsIn.err) = false := by rw [beq_eq_false_iff_ne]; intro h; cases h
  simp [deafV, h1, h2]

theorem Wires.stepL (h : Wires c) {c' : BC} (st : CStepL c c') : Wires c' := by
  cases st with
  | act v ws gs hs =>
    refine ⟨h.ba, ?_, fun hd => h.deafA (hs.deaf_back hd), h.deafB⟩
    intro ho
    simp only at ho ⊢
    have ho' : c.abOpen = false := ho
    simp [ho', h.ab ho']
  | dlv m rest deaf hb hd =>
    obtain ⟨hopen, hnd⟩ := h.listening hb
    refine ⟨fun ho => ?_, h.ab, fun hdf => ?_, h.deafB⟩
    · exact absurd (show c.baOpen = false from ho) (by simp [hopen])
    · refine absurd ?_ hnd
      cases deaf with
      | true => exact hd.symm
      | false => simp only [Bool.false_eq_true, if_false] at hdf; rw [deafV_append_msg] at hdf; exact hdf
  | lose extra deaf hx => exact ⟨fun _ => rfl, h.ab, fun _ => rfl, h.deafB⟩

/-! ### The left side acts as the ASKING side -/

theorem fresh_no_shown {x k : Nat} {bt : BindType} {host : Bytes} {port : Nat} (h : Inv3 c) (st : BStep c.a v ws gs)
    (hn : v.rng ≠ []) {req : Nat} {bt' : BindType} {host' : Bytes} {port' : Nat}
    (ha : BEv.asked req x bt' host' port' ∈ gs) (hs : BEv.shown k x bt host port ∈ c.gb) : False := by
  have hc := st.asked_count hn ha
  have hz := (h.base.num x).fresh_shB (by simp only [sm]; omega)
  have := one_le_shown hs
  simp only [sm] at hz; omega

theorem Ord.actAsker (h : Inv3 c) (hO : Ord c) (st : BStep c.a v ws gs) (hn : v.rng ≠ []) : Ord (c.actL v ws gs) := by
  intro x k bt host port hasked hshown hfirst hpend hcap hmux
  have hshown' : BEv.shown k x bt host port ∈ c.gb := hshown
  obtain ⟨req, bt', host', port', ha⟩ := hasked
  have ha : BEv.asked req x bt' host' port' ∈ c.ga := by
    rcases List.mem_append.mp ha with ha | ha
    · exact ha
    · exact (fresh_no_shown h st hn ha hshown').elim
  obtain ⟨r, hp⟩ := hpend
  have hp0 : (x, Slot.bindRequested r) ∈ c.a.flows := by
    rcases st.pending_back x r hp with h1 | ⟨b1, b2, b3, h1⟩
    · exact h1
    · exact (fresh_no_shown h st hn h1 hshown').elim
  have hok := hO x k bt host port ⟨req, bt', host', port', ha⟩ hshown' hfirst ⟨r, hp0⟩ hcap hmux
  have hb := (h.base.num x).l
  obtain ⟨r', hl⟩ := lookup_br_of_mem hp0 (hb.binda_rqa (one_le_asked ha)) (hb.binda_esa (one_le_asked ha))
  have hlive : ans x (c.actL v ws gs).live = ans x c.live := by
    simp only [BC.live, BC.actL, ans_append, st.pop_guard x r' hl]
    rfl
  simp only [OrdOK, hlive]
  exact hok

/-! ### The left side acts as the ANSWERING side -/

theorem live_swap_actL (c : BC) (v : BV) (ws : List Msg) (gs : List BEv) :
    (c.actL v ws gs).swap.live = inMsgs c.b.inbox ++ (if c.abOpen then c.ab ++ (ws ++ v.outq) else []) := by
  cases c with
  | mk a b ab ba abo bao ga gb => cases abo <;> simp [BC.live, BC.swap, BC.actL]

theorem live_swap (c : BC) : c.swap.live = inMsgs c.b.inbox ++ (if c.abOpen then c.ab ++ c.a.outq else []) := rfl

theorem Ord.actAnswerer (h : Inv3 c) (hsh : ShownHeld c.a c.ga) (hO : Ord c.swap) (st : BStep c.a v ws gs) :
    Ord (c.actL v ws gs).swap := by
  intro x k bt host port hasked hshown hfirst hpend hcap hmux
  have hasked' : ∃ req bt' host' port', BEv.asked req x bt' host' port' ∈ c.gb := hasked
  have hshown' : BEv.shown k x bt host port ∈ c.ga ++ gs := hshown
  have hfirst' : FirstAcc k (c.ga ++ gs) := hfirst
  have hpend' : ∃ r, (x, Slot.bindRequested r) ∈ c.b.flows := hpend
  have hcap' : c.a.bindCap ≠ 0 := by
    have : v.bindCap ≠ 0 := hcap
    rwa [st.bindCap_eq] at this
  have hmux' : BEv.muxDropped ∉ c.ga := fun hm => hmux (List.mem_append_left _ hm)
  show (ans x (c.actL v ws gs).swap.live).head? = some true ∨ (ans x (c.actL v ws gs).swap.live = [] ∧
    ((c.actL v ws gs).swap.baOpen = false ∨ (c.actL v ws gs).swap.b.outClosed = true))
  rw [live_swap_actL]
  have hfro : (c.actL v ws gs).swap.baOpen = c.abOpen := rfl
  have hocl : (c.actL v ws gs).swap.b.outClosed = v.outClosed := rfl
  rw [hfro, hocl]
  rcases hfirst'.of_append with hfa | ⟨hnone, hnew⟩
  · -- the first answer was recorded before
    have hsh0 : BEv.shown k x bt host port ∈ c.ga := by
      rcases List.mem_append.mp hshown' with h1 | h1
      · exact h1
      · exfalso
        have hk := (st.shown_k k x bt host port h1).1
        have := h.locA.kb k (Or.inl ⟨true, hfa.mem⟩)
        omega
    have hok : OrdOK x c.swap := hO x k bt host port hasked' hsh0 hfa hpend' hcap' hmux'
    simp only [OrdOK, frozen, live_swap] at hok
    have hok' : (ans x (inMsgs c.b.inbox ++ (if c.abOpen then c.ab ++ c.a.outq else []))).head? = some true ∨
        (ans x (inMsgs c.b.inbox ++ (if c.abOpen then c.ab ++ c.a.outq else [])) = [] ∧
          (c.abOpen = false ∨ c.a.outClosed = true)) := hok
    cases hab : c.abOpen with
    | false =>
      simp only [hab, Bool.false_eq_true, if_false] at hok' ⊢
      rcases hok' with h1 | ⟨h1, _⟩
      · exact Or.inl h1
      · exact Or.inr ⟨h1, Or.inl trivial⟩
    | true =>
      simp only [hab, if_true] at hok' ⊢
      rcases st.out_seq with ⟨pre, new, hseq, hpre, hcl⟩ | ⟨hws, hq, hcl⟩
      · rw [hseq]
        have hA : ans x (inMsgs c.b.inbox ++ (c.ab ++ (pre ++ c.a.outq ++ new))) =
            ans x (inMsgs c.b.inbox ++ (c.ab ++ c.a.outq)) ++ ans x new := by
          simp only [ans_append, ans_closes hpre, List.nil_append, List.append_assoc]
        rw [hA]
        rcases hok' with h1 | ⟨h1, h2⟩
        · exact Or.inl (head_append_of_head _ h1)
        · rcases h2 with h2 | h2
          · cases h2
          · rw [hcl h2, h1]
            exact Or.inr ⟨rfl, Or.inr (st.outClosed_mono h2)⟩
      · rw [hws, hq]
        refine ordCond_prefix (A := ans x (inMsgs c.b.inbox ++ (c.ab ++ c.a.outq)))
          (rest := ans x c.a.outq) ?_ _ _ (Or.inr hcl) hok'
        simp only [ans_append, List.append_nil, List.append_assoc]
  · -- the first answer is recorded now: the step is `reply(true)` on `k`
    obtain ⟨b, hk, hal, hoc, hws, hq⟩ := st.reply_out k true hnew
    have hsh0 : BEv.shown k x bt host port ∈ c.ga := by
      rcases List.mem_append.mp hshown' with h1 | h1
      · exact h1
      · exact absurd hnew ((st.shown_k k x bt host port h1).2 k true)
    have hbx : b.fid = x := by
      obtain ⟨b', hb', hf⟩ := hsh k x bt host port hsh0
      rw [hk] at hb'; cases hb'; exact hf
    obtain ⟨req, bt', host', port', ha⟩ := hasked'
    have hnum := (h.base.num x).r.binda (one_le_asked ha)
    simp only [sm, Sm.swap] at hnum
    have hshle : c.ga.countP (isShown x) ≤ 1 := by omega
    -- no answer for `x` is on its way yet
    have hnil : ans x c.swap.live = [] := by
      refine ans_eq_nil_of (fun m hm => ?_)
      cases ho : ansOf x m with
      | none => rfl
      | some bb =>
        exfalso
        have hmp : m ∈ c.path := mem_live_path (c := c.swap) hm
        rcases ansOf_some ho with ⟨_, rfl⟩ | ⟨_, rfl⟩
        · obtain ⟨k', b1, b2, b3, hs', hr'⟩ := h.base.r.backing x hmp ⟨req, bt', host', port', ha⟩
          have : k' = k := shown_unique hshle hs' hsh0
          subst this
          exact hnone true hr'
        · rcases h.r.rback x hmp ⟨req, bt', host', port', ha⟩ with h1 | h1 | ⟨k', b1, b2, b3, hs', h1⟩
          · exact hcap' h1
          · exact hmux' h1
          · have : k' = k := shown_unique hshle hs' hsh0
            subst this
            rcases h1 with h1 | h1
            · exact hnone false h1
            · have := h.locA.dropd k' b hk h1.1
              rw [this] at hal; cases hal
    rw [live_swap] at hnil
    rw [hws, hq]
    cases hab : c.abOpen with
    | false =>
      simp only [hab, Bool.false_eq_true, if_false] at hnil ⊢
      exact Or.inr ⟨hnil, Or.inl trivial⟩
    | true =>
      simp only [hab, if_true] at hnil ⊢
      left
      have hA : ans x (inMsgs c.b.inbox ++ (c.ab ++ ([] ++ (c.a.outq ++ [Msg.frame (Frame.finish b.fid)])))) =
          ans x (inMsgs c.b.inbox ++ (c.ab ++ c.a.outq)) ++ [true] := by
        simp only [ans_append, List.nil_append, List.append_assoc]
        simp [ans, ansOf, hbx]
      rw [hA, hnil]; rfl

theorem Ord.recvAsker (hO : Ord c) (ib : List WsIn) (ba : List Msg) (bo : Bool)
    (hrel : ∀ x, OrdOK x c → OrdOK x { c with ba := ba, baOpen := bo, a := { c.a with inbox := ib } }) :
    Ord { c with ba := ba, baOpen := bo, a := { c.a with inbox := ib } } :=
  fun x k bt host port h1 h2 h3 h4 h5 h6 => hrel x (hO x k bt host port h1 h2 h3 h4 h5 h6)

theorem Ord.recvAnswerer (hO : Ord c.swap) (ib : List WsIn) (ba : List Msg) (bo : Bool) :
    Ord ({ c with ba := ba, baOpen := bo, a := { c.a with inbox := ib } } : BC).swap :=
  fun x k bt host port h1 h2 h3 h4 h5 h6 => hO x k bt host port h1 h2 h3 h4 h5 h6

theorem ordOK_dlv (hw : Wires c) (m : Msg) (rest : List Msg) (deaf : Bool) (hb : c.ba = m :: rest) (hd : deaf = deafV c.a)
    (x : Nat) (h : OrdOK x c) :
    OrdOK x { c with ba := rest, baOpen := c.baOpen,
                     a := { c.a with inbox := if deaf then c.a.inbox else c.a.inbox ++ [.msg m] } } := by
  obtain ⟨hopen, hl⟩ := hw.listening hb
  have hnd : deaf = false := by
    cases hdf : deaf with
    | false => rfl
    | true => rw [hdf] at hd; exact absurd hd.symm hl
  subst hnd
  have hl : ({ c with ba := rest, baOpen := c.baOpen, a := { c.a with inbox := c.a.inbox ++ [.msg m] } } : BC).live = c.live := by
    simp only [BC.live, hopen, if_true, hb, inMsgs_append, inMsgs, List.append_assoc, List.cons_append, List.nil_append]
  simp only [OrdOK, frozen, Bool.false_eq_true, if_false] at h ⊢
  rw [hl]; exact h

theorem ordOK_lose (extra : List WsIn) (deaf : Bool) (hx : inMsgs extra = [] ∨ inMsgs extra = [.close]) (x : Nat)
    (h : OrdOK x c) :
    OrdOK x { c with ba := [], baOpen := false,
                     a := { c.a with inbox := if deaf then c.a.inbox else c.a.inbox ++ extra } } := by
  have hA : ans x ({ c with ba := [], baOpen := false,
                            a := { c.a with inbox := if deaf then c.a.inbox else c.a.inbox ++ extra } } : BC).live =
      ans x (inMsgs c.a.inbox) := by
    cases deaf <;> simp [BC.live, inMsgs_append, ans_append, ans_inMsgs_extra hx]
  simp only [OrdOK, hA]
  exact ordCond_prefix (A := ans x c.live) (rest := ans x (if c.baOpen then c.ba ++ c.b.outq else []))
    (by simp [BC.live, ans_append]) _ _ (Or.inl rfl) h

theorem BackedF.answererStep {x : Nat} (hb : BackedF c.swap x) (hl : Loc c.a c.ga) (st : BStep c.a v ws gs) :
    BackedF (c.actL v ws gs).swap x :=
  Backed.answererStep (W := FirstRej) (fun _ _ gs h => h.append gs) hb hl st

theorem Glob4.actAnswerer (h : Inv3 c) (hg : Glob4 c.swap) (st : BStep c.a v ws gs) : Glob4 (c.actL v ws gs).swap := by
  intro req hd
  obtain ⟨x, bt, host, port, h1, h2⟩ := hg req hd
  refine ⟨x, bt, host, port, h1, ?_⟩
  rcases h2 with h2 | h2
  · exact Or.inl h2
  · exact Or.inr (h2.answererStep h.locA st)

theorem Glob4.actAsker (h : Inv3 c) (hO : Ord c) (hg : Glob4 c) (st : BStep c.a v ws gs) : Glob4 (c.actL v ws gs) := by
  intro req hd
  rcases List.mem_append.mp hd with hd | hd
  · obtain ⟨x, bt, host, port, h1, h2⟩ := hg req hd
    refine ⟨x, bt, host, port, List.mem_append_left _ h1, ?_⟩
    rcases h2 with h2 | h2
    · exact Or.inl (st.dead_mono h2)
    · exact Or.inr h2
  · obtain ⟨y, hs, why⟩ := st.refused_why req hd
    obtain ⟨bt, host, port, ha⟩ := h.base.saA y req hs
    refine ⟨y, bt, host, port, List.mem_append_left _ ha, ?_⟩
    rcases why with ⟨r, hi⟩ | ⟨hy0, hdq⟩ | hdead
    · right
      show BackedF c y
      rcases h.l.rback y (head_mem_swap_path hi) ⟨req, bt, host, port, ha⟩ with h1 | h1 | ⟨k, b1, b2, b3, hsh, h1⟩
      · exact Or.inl h1
      · exact Or.inr (Or.inl h1)
      · rcases h1 with h1 | h1
        · rcases firstRej_or_firstAcc h1 with h2 | h2
          · exact Or.inr (Or.inr ⟨k, b1, b2, b3, hsh, Or.inl h2⟩)
          · by_cases hcap : c.b.bindCap = 0
            · exact Or.inl hcap
            · by_cases hmux : BEv.muxDropped ∈ c.gb
              · exact Or.inr (Or.inl hmux)
              · exfalso
                have hok := hO y k b1 b2 b3 ⟨req, bt, host, port, ha⟩ hsh h2 ⟨req, hs⟩ hcap hmux
                have hl : ans y c.live = false :: ans y (inMsgs r ++ (if c.baOpen then c.ba ++ c.b.outq else [])) := by
                  simp [BC.live, hi, inMsgs, ans, ansOf]
                simp only [OrdOK, hl] at hok
                rcases hok with h3 | ⟨h3, _⟩
                · simp at h3
                · cases h3
        · exact Or.inr (Or.inr ⟨k, b1, b2, b3, hsh, Or.inr h1⟩)
    · exact (h.no_note_of_asked ha hy0 hdq).elim
    · exact Or.inl hdead

theorem Inv4.act (h : Inv4 c) (st : BStep c.a v ws gs) (hn : v.rng ≠ []) : Inv4 (c.actL v ws gs) :=
  ⟨h.base.act st hn, h.wires.stepL (CStepL.act c v ws gs st), h.shA.step st, h.shB,
   Ord.actAsker h.base h.ordL st hn, Ord.actAnswerer h.base h.shA h.ordR st,
   Glob4.actAsker h.base h.ordL h.g4L st, Glob4.actAnswerer h.base h.g4R st⟩

theorem Inv4.stepL (h : Inv4 c) {c' : BC} (st : CStepL c c') (hn : c'.a.rng ≠ []) : Inv4 c' := by
  have hb := h.base.stepL st hn
  have hw := h.wires.stepL st
  cases st with
  | act v ws gs hs => exact h.act hs hn
  | dlv m rest deaf hba hd =>
    exact ⟨hb, hw, h.shA, h.shB,
      h.ordL.recvAsker _ rest c.baOpen (fun x hx => ordOK_dlv h.wires m rest deaf hba hd x hx),
      h.ordR.recvAnswerer _ rest c.baOpen, h.g4L, h.g4R⟩
  | lose extra deaf hx =>
    exact ⟨hb, hw, h.shA, h.shB,
      h.ordL.recvAsker _ [] false (fun x hx' => ordOK_lose extra deaf hx x hx'),
      h.ordR.recvAnswerer _ [] false, h.g4L, h.g4R⟩

end Penguin.BindAll
