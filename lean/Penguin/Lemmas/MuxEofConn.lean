/-
The cause `connEnded` of the end-of-stream ghost (`Lemmas/MuxEof`) is recorded only when the task
finishes: in every history, a stream whose receiving half was closed "because the connection ended"
belongs to an endpoint whose task is dead (and stays dead).  `CE e e' D`: the life-cycle flags only
move one way from `e` to `e'` (`Mono`, `Lemmas/MuxMono`) and, if `D` records a `connEnded`, the task
is finished in `e'`.  Shown for the functions of the model that record events, then for every
stimulus and every history.
Core Lean only.
-/
import Penguin.Lemmas.MuxEof
import Penguin.Lemmas.MuxMono

namespace Penguin.Mux

def NoConn (D : List EndEv) : Prop := ∀ (i : Nat) (r : ExitRes), (i, EndCause.connEnded r) ∉ D

theorem NoConn.nil : NoConn [] := fun _ _ h => by cases h

structure CE (e e' : EP) (D : List EndEv) : Prop where
  mono : Mono e e'
  conn : ∀ (i : Nat) (r : ExitRes), (i, EndCause.connEnded r) ∈ D → e'.dead = true

theorem CE.of_noConn {e e' : EP} {D : List EndEv} (m : Mono e e') (h : NoConn D) : CE e e' D :=
  ⟨m, fun i r hm => absurd hm (h i r)⟩

theorem CE.nil {e e' : EP} (m : Mono e e') : CE e e' [] := CE.of_noConn m NoConn.nil

theorem CE.trans {a b d : EP} {D1 D2 : List EndEv} (s : CE a b D1) (t : CE b d D2) : CE a d (D1 ++ D2) := by
  refine ⟨s.mono.trans t.mono, ?_⟩
  intro i r hm
  rcases List.mem_append.mp hm with h | h
  · exact t.mono.dead (s.conn i r h)
  · exact t.conn i r h

theorem NoConn.append {D1 D2 : List EndEv} (h1 : NoConn D1) (h2 : NoConn D2) : NoConn (D1 ++ D2) := by
  intro i r hm
  rcases List.mem_append.mp hm with h | h
  · exact h1 i r h
  · exact h2 i r h

theorem slotEnds_cause {e : EP} {s : Slot} {c c' : EndCause} {i : Nat} (h : (i, c') ∈ slotEnds e s c) :
    s = .established i ∧ c' = c := by
  unfold slotEnds at h
  split at h
  · split at h
    · simp only [List.mem_singleton, Prod.mk.injEq] at h; exact ⟨by rw [h.1], h.2⟩
    · cases h
  · cases h

theorem closeFlowEnds_cause {e : EP} {fid : Nat} {c c' : EndCause} {i : Nat} (h : (i, c') ∈ closeFlowEnds e fid c) :
    lookup e.flows fid = some (.established i) ∧ c' = c := by
  unfold closeFlowEnds at h
  split at h
  · next s hl => exact ⟨by rw [hl, (slotEnds_cause h).1], (slotEnds_cause h).2⟩
  · cases h

theorem NoConn.closeFlowEnds (e : EP) (fid : Nat) (c : EndCause) (hc : ∀ r, c ≠ .connEnded r := by nofun) :
    NoConn (closeFlowEnds e fid c) := by
  intro i r hm
  exact hc r (closeFlowEnds_cause hm).2.symm

theorem NoConn.processFrameEnds (e : EP) (f : Frame) : NoConn (processFrameEnds e f) := by
  cases f with
  | finish fid => exact NoConn.closeFlowEnds e fid _
  | reset fid => exact NoConn.closeFlowEnds e fid _
  | push fid d =>
    simp only [Mux.processFrameEnds]
    split
    · exact NoConn.closeFlowEnds e fid _
    · exact NoConn.nil
  | connect fid rwnd port host => exact NoConn.nil
  | acknowledge fid k => exact NoConn.nil
  | bind fid bt port host => exact NoConn.nil
  | datagram fid port host d => exact NoConn.nil

theorem CE.windDownFinish (e : EP) (res : ExitRes) : CE e (windDownFinish e res).1 (windDownFinishEnds e res) :=
  ⟨Mono.windDownFinish e res, fun _ _ _ => (windDownFinish_resolves e res).1⟩

theorem CE.of_path {A : Kinds} {e e' : EP} {x : List Ev} (p : Path A e x e') : CE e e' [] := CE.nil (.of_path p)

theorem CE.walk : Walk (fun e e' _ L => CE e e' (L.flatMap Leaf.ends)) :=
  .ofLog (fun e => CE.nil (.refl e)) CE.trans (fun _ _ _ _ _ _ _ => CE.nil ⟨id, id, id⟩)
    (fun e f ig => CE.of_noConn (Mono.processFrame e f ig) (NoConn.processFrameEnds e f))
    (fun e fid => CE.of_noConn (Mono.closeFlow e fid false) (NoConn.closeFlowEnds e fid _))
    CE.windDownFinish (fun e => CE.of_path (.unpark e)) (fun e => CE.of_path (.sendSome e))
    (fun e => CE.of_path (.dropPrep e)) (fun e => CE.of_path (.windDownPrep e))
    (fun a => CE.of_path (.runDoneq a)) (fun a => CE.of_path (.runRetryq a))

theorem CE.windDown (e : EP) (drain : Bool) (res : ExitRes) :
    CE e (windDown e drain res).1 (windDownEnds e drain res) :=
  windDownEnds_eq e drain res ▸ CE.walk.windDown e drain res

theorem CE.settleLoop (fuel : Nat) (e : EP) (acc : List Ev) :
    CE e (settleLoop fuel e acc).1 (settleLoopEnds fuel e) :=
  let ⟨_, _, h⟩ := CE.walk.settleLoop fuel e acc; settleLoopEnds_eq fuel e ▸ h

theorem CE.settle (e : EP) : CE e (settle e).1 (settleEnds e) := settleEnds_eq e ▸ CE.walk.settle e

theorem CE.applyOp (e : EP) (op : Op) : CE e (applyOp e op).1 (applyOpEnds e op) := by
  refine ⟨Mono.applyOp e op, ?_⟩
  intro i r hm
  rw [applyOp_fst]
  exact (CE.settle (opStep e op).1).conn i r hm

theorem CE.runOps (e : EP) (ops : List Op) : CE e (runOps e ops) (endsOf e ops) := by
  induction ops generalizing e with
  | nil => exact CE.nil (Mono.refl e)
  | cons op rest ih => rw [runOps_cons]; exact (CE.applyOp e op).trans (ih _)

end Penguin.Mux
