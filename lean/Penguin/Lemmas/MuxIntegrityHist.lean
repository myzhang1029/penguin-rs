/-
Stream integrity for EVERY history of one endpoint with ANY peer: the ghost record of a history
(`runOpsG`) and the two invariants that tie it to the state.

* Receiver (`RInv`): for every stream object, (bytes returned by reads through its handle) ++ `buf` ++
  `rxq.flatten` ++ (what was queued when the handle was dropped) = the payloads of exactly the `Push`
  frames `process_frame` accepted into that object, in order.
* Sender (`SnT` from the fresh state): the `Push` frames handed to the transport, followed by those
  still queued, are a prefix of the (flow id, payload) of the writes that returned `wrote`, in order —
  and all of them while the outbound queue is open.

The record is made of observables only (results of calls, emitted events, and `process_frame`'s own
acceptance test evaluated on the state before each frame); nothing in it is chosen to fit.
Core Lean only.
-/
import Penguin.Lemmas.MuxIntegrityApp
import Penguin.Lemmas.MuxIntegritySendApp
import Penguin.Lemmas.MuxDest
import Penguin.Lemmas.MuxOnce

namespace Penguin.Mux

/-- What an observer of one endpoint records along a history. -/
structure Ghost where
  /-- `(i, d)`: a `Push` with payload `d` was accepted into stream object `i` (`acceptedInto`). -/
  accepted : Log := []
  /-- `(i, bs)`: a read through a handle of object `i` returned `bs`. -/
  returned : Log := []
  /-- `(i, bs)`: the handle of object `i` was dropped while `bs` was queued unread. -/
  discarded : Log := []
  /-- `(i, x, d)`: a write of `d ≠ []` through a handle of object `i` (flow id `x`) returned `wrote`. -/
  wrote : List (Nat × Nat × Bytes) := []
  evs : List Ev := []
deriving Repr

def stepG (e : EP) (g : Ghost) (op : Op) : EP × Ghost :=
  ((applyOp e op).1,
   { accepted := g.accepted ++ settleLog (opStep e op).1,
     returned := g.returned ++ returnedBy e op (applyOp e op).2.1,
     discarded := g.discarded ++ discardedBy e op,
     wrote := g.wrote ++ wroteBy e op (applyOp e op).2.1,
     evs := g.evs ++ (applyOp e op).2.2 })

def runOpsG (e : EP) (g : Ghost) : List Op → EP × Ghost
  | [] => (e, g)
  | op :: rest => runOpsG (stepG e g op).1 (stepG e g op).2 rest

/-- Induction over a history with its record: an invariant of the record is shown for `stepG` and carried here
    (`RInv.run`, `SnT.run`, `wrote_ids`). -/
theorem runOpsG_ind {P : EP → Ghost → Prop} (step : ∀ e g op, P e g → P (stepG e g op).1 (stepG e g op).2)
    {e : EP} {g : Ghost} (h : P e g) (ops : List Op) : P (runOpsG e g ops).1 (runOpsG e g ops).2 := by
  induction ops generalizing e g with
  | nil => exact h
  | cons op rest ih => rw [runOpsG]; exact ih (step e g op h)

theorem runOpsG_fst (e : EP) (g : Ghost) (ops : List Op) : (runOpsG e g ops).1 = runOps e ops := by
  induction ops generalizing e g with
  | nil => rfl
  | cons op rest ih => rw [runOpsG, ih]; dsimp only [stepG]; rfl

theorem runOpsG_evs (e : EP) (g : Ghost) (ops : List Op) : (runOpsG e g ops).2.evs = g.evs ++ (runOpsEv e ops).2 := by
  induction ops generalizing e g with
  | nil => simp [runOpsG, runOpsEv]
  | cons op rest ih =>
    simp only [runOpsG, runOpsEv]
    rw [ih]; simp [stepG, List.append_assoc]

/-! ### Receiver -/

/-- For every object: returned ++ readable ++ discarded = accepted; and an object whose handle drop
    threw something away has a closed, empty receiver. -/
structure RInv (e : EP) (acc ret dis : Log) : Prop where
  eq : ∀ i, chunks ret i ++ str e i ++ chunks dis i = chunks acc i
  disc : ∀ i, chunks dis i ≠ [] → rxShut e i

/-- Once something of object `i` was discarded, its receiver is shut: whatever a shut receiver excludes is empty. -/
theorem RInv.dis_or {e : EP} {acc ret dis : Log} (h : RInv e acc ret dis) (i : Nat) {t : Bytes}
    (hs : rxShut e i → t = []) : chunks dis i = [] ∨ t = [] := by
  by_cases hd : chunks dis i = []
  · exact .inl hd
  · exact .inr (hs (h.disc i hd))

theorem RInv.task {e e' : EP} {acc ret dis L : Log} (h : RInv e acc ret dis) (s : RxT e e' L) :
    RInv e' (acc ++ L) ret dis := by
  refine ⟨fun i => ?_, fun i hd => (s.shut i (h.disc i hd)).1⟩
  have hs : str e' i = str e i ++ chunks L i := s.str i
  rw [chunks_append, ← h.eq i, hs]
  rcases h.dis_or i (fun hx => (s.shut i hx).2) with hd | hd <;> simp [hd]

theorem RInv.app {e e' : EP} {acc ret dis R D : Log} (h : RInv e acc ret dis) (s : RxA e e' R D) :
    RInv e' acc (ret ++ R) (dis ++ D) := by
  refine ⟨fun i => ?_, fun i hd => ?_⟩
  · rw [chunks_append, chunks_append, ← h.eq i, s.str i]
    rcases h.dis_or i (fun hx => (s.shut i hx).2) with hd | hd <;> simp [hd]
  · rw [chunks_append] at hd
    by_cases h1 : chunks dis i = []
    · rw [h1, List.nil_append] at hd
      exact s.drop i hd
    · exact (s.shut i (h.disc i h1)).1

theorem RInv.step {e : EP} {g : Ghost} (h : RInv e g.accepted g.returned g.discarded) (op : Op) :
    RInv (stepG e g op).1 (stepG e g op).2.accepted (stepG e g op).2.returned (stepG e g op).2.discarded := by
  have h1 := (h.app (RxA.opStep e op)).task (RxT.settle (opStep e op).1)
  rw [← applyOp_fst, ← applyOp_res] at h1
  dsimp only [stepG]
  exact h1

theorem RInv.run {e : EP} {g : Ghost} (h : RInv e g.accepted g.returned g.discarded) (ops : List Op) :
    RInv (runOpsG e g ops).1 (runOpsG e g ops).2.accepted (runOpsG e g ops).2.returned (runOpsG e g ops).2.discarded :=
  runOpsG_ind (P := fun e g => RInv e g.accepted g.returned g.discarded) (fun _ _ op h => h.step op) h ops

theorem RInv.init (o : Opts) : RInv { opts := o } [] [] [] :=
  ⟨fun i => by simp [str, strO], fun i h => absurd rfl h⟩

/-- Receiver integrity, every history, any peer. -/
theorem receiver_inv (o : Opts) (ops : List Op) :
    RInv (runOpsG { opts := o } {} ops).1 (runOpsG { opts := o } {} ops).2.accepted
      (runOpsG { opts := o } {} ops).2.returned (runOpsG { opts := o } {} ops).2.discarded :=
  RInv.run (g := {}) (RInv.init o) ops

/-! ### Which stimulus can make a log grow -/

theorem returnedBy_spec (e : EP) (op : Op) (r : Res) (i : Nat) (bs : Bytes) (h : (i, bs) ∈ returnedBy e op r) :
    ∃ hd n, op = .read hd n ∧ r = .data bs ∧ e.handles[hd]? = some i := by
  cases op <;> try (simp [returnedBy] at h; done)
  rename_i hd n
  cases r <;> try (simp [returnedBy] at h; done)
  rename_i b
  simp only [returnedBy] at h
  cases hh : e.handleObj hd with
  | none => rw [hh] at h; simp at h
  | some p =>
    obtain ⟨j, o⟩ := p
    rw [hh] at h
    simp only [List.mem_cons, Prod.mk.injEq, List.not_mem_nil, or_false] at h
    obtain ⟨rfl, rfl⟩ := h
    exact ⟨hd, n, rfl, rfl, handleObj_handle hh⟩

theorem discardedBy_spec (e : EP) (op : Op) (i : Nat) (bs : Bytes) (h : (i, bs) ∈ discardedBy e op) :
    ∃ hd, op = .dropStream hd ∧ e.handles[hd]? = some i := by
  cases op <;> try (simp [discardedBy] at h; done)
  rename_i hd
  simp only [discardedBy] at h
  cases hh : e.handleObj hd with
  | none => rw [hh] at h; simp at h
  | some p =>
    obtain ⟨j, o⟩ := p
    rw [hh] at h
    simp only [List.mem_cons, Prod.mk.injEq, List.not_mem_nil, or_false] at h
    obtain ⟨rfl, rfl⟩ := h
    exact ⟨hd, rfl, handleObj_handle hh⟩

theorem acceptedInto_spec (e : EP) (f : Frame) (i : Nat) (d : Bytes) (h : (i, d) ∈ acceptedInto e f) :
    ∃ fid, f = .push fid d ∧ lookup e.flows fid = some (.established i) ∧ acceptedInto e f = [(i, d)] := by
  cases f <;> try (simp [acceptedInto] at h; done)
  rename_i fid d'
  simp only [acceptedInto] at h ⊢
  cases hl : lookup e.flows fid with
  | none => rw [hl] at h; simp at h
  | some s =>
    rw [hl] at h
    cases s with
    | requested r => simp at h
    | bindRequested r => simp at h
    | established j =>
      simp only at h ⊢
      cases ho : e.obj? j with
      | none => rw [ho] at h; simp at h
      | some ob =>
        rw [ho] at h
        simp only at h ⊢
        split at h
        · rename_i hc
          simp only [List.mem_cons, Prod.mk.injEq, List.not_mem_nil, or_false] at h
          obtain ⟨rfl, rfl⟩ := h
          exact ⟨fid, rfl, hl, by simp [hc]⟩
        · simp at h

/-- No cross-talk: a frame accepted into object `i` leaves the readable bytes of every other object as
    they were. -/
theorem accepted_frame_touches_one_object (e : EP) (f : Frame) (ig : Bool) (i j : Nat) (d : Bytes)
    (h : (i, d) ∈ acceptedInto e f) (hj : j ≠ i) : str (processFrame e f ig).1 j = str e j := by
  obtain ⟨fid, _, _, hl⟩ := acceptedInto_spec e f i d h
  have := (RxT.processFrame e f ig).str j
  rw [hl, chunks_single_ne _ _ _ (Ne.symm hj), List.append_nil] at this
  exact this

/-- The readable bytes of an object change only by its own events: a stimulus during which nothing is
    accepted into object `i`, nothing is returned from it and nothing of it is discarded leaves its
    readable bytes exactly as they were — whatever happens to other streams, to the connection, whatever
    the peer sends. -/
theorem stream_changes_only_by_own_events (e : EP) (op : Op) (i : Nat)
    (ha : chunks (settleLog (opStep e op).1) i = [])
    (hr : chunks (returnedBy e op (applyOp e op).2.1) i = [])
    (hd : chunks (discardedBy e op) i = []) :
    str (applyOp e op).1 i = str e i := by
  have h1 := (RxA.opStep e op).str i
  have h2 := (RxT.settle (opStep e op).1).str i
  rw [applyOp_res] at hr
  rw [hr, hd] at h1
  rw [ha] at h2
  simp only [List.nil_append, List.append_nil] at h1 h2
  rw [applyOp_fst]
  exact h2.trans h1.symm

theorem discarded_nil_of_no_drop (e : EP) (g : Ghost) (ops : List Op) (h : ∀ op ∈ ops, ∀ hd, op ≠ .dropStream hd) :
    (runOpsG e g ops).2.discarded = g.discarded := by
  induction ops generalizing e g with
  | nil => rfl
  | cons op rest ih =>
    simp only [runOpsG]
    rw [ih _ _ (fun op' hop => h op' (List.mem_cons_of_mem _ hop))]
    have : discardedBy e op = [] := by
      have hne := h op List.mem_cons_self
      cases op <;> first | rfl | exact absurd rfl (hne _)
    simp [stepG, this]

/-! ### Sender -/

theorem wroteFrames_append (a b : List (Nat × Nat × Bytes)) : wroteFrames (a ++ b) = wroteFrames a ++ wroteFrames b := by
  simp [wroteFrames]

theorem SnT.stepG {e0 e : EP} {g : Ghost} (h : SnT e0 e g.evs (wroteFrames g.wrote)) (op : Op) :
    SnT e0 (stepG e g op).1 (stepG e g op).2.evs (wroteFrames (stepG e g op).2.wrote) := by
  dsimp only [Mux.stepG]
  exact (h.trans (SnT.applyOp e op)).evs rfl (wroteFrames_append _ _)

theorem SnT.run (e0 e : EP) (g : Ghost) (h : SnT e0 e g.evs (wroteFrames g.wrote)) (ops : List Op) :
    SnT e0 (runOpsG e g ops).1 (runOpsG e g ops).2.evs (wroteFrames (runOpsG e g ops).2.wrote) :=
  runOpsG_ind (P := fun e g => SnT e0 e g.evs (wroteFrames g.wrote)) (fun _ _ op h => h.stepG op) h ops

/-- Sender integrity, every history, any peer. -/
theorem sender_inv (o : Opts) (ops : List Op) :
    pushesEv (runOpsG { opts := o } {} ops).2.evs ++ pushesQ (runOpsG { opts := o } {} ops).1.outq <+:
        wroteFrames (runOpsG { opts := o } {} ops).2.wrote ∧
    ((runOpsG { opts := o } {} ops).1.outClosed = false →
      pushesEv (runOpsG { opts := o } {} ops).2.evs ++ pushesQ (runOpsG { opts := o } {} ops).1.outq =
        wroteFrames (runOpsG { opts := o } {} ops).2.wrote) := by
  have h := SnT.run { opts := o } { opts := o } {} (SnT.refl _) ops
  exact ⟨by simpa [pushesQ] using h.pre, fun hc => by simpa [pushesQ] using h.eq hc⟩

/-- The flow id logged with a write is the id of the object behind the handle, which never changes. -/
theorem wrote_ids (e : EP) (g : Ghost) (ops : List Op)
    (h : ∀ w ∈ g.wrote, ∃ ob, e.objs[w.1]? = some ob ∧ ob.fid = w.2.1) :
    ∀ w ∈ (runOpsG e g ops).2.wrote, ∃ ob, (runOpsG e g ops).1.objs[w.1]? = some ob ∧ ob.fid = w.2.1 := by
  refine runOpsG_ind (P := fun e g => ∀ w ∈ g.wrote, ∃ ob, e.objs[w.1]? = some ob ∧ ob.fid = w.2.1) ?_ h ops
  intro e g op h w hw
  have hd := Dst.applyOp e op
  have key : ∃ ob, e.objs[w.1]? = some ob ∧ ob.fid = w.2.1 := by
    simp only [stepG, List.mem_append] at hw
    rcases hw with hw | hw
    · exact h w hw
    · cases op <;> try (simp [wroteBy] at hw; done)
      rename_i hh d
      generalize (Mux.applyOp e (.write hh d)).2.1 = r at hw
      cases r <;> try (simp [wroteBy] at hw; done)
      simp only [wroteBy] at hw
      split at hw
      · simp at hw
      · cases hho : e.handleObj hh with
        | none => rw [hho] at hw; simp at hw
        | some p =>
          obtain ⟨i, ob⟩ := p
          rw [hho] at hw
          simp only [List.mem_cons, List.not_mem_nil, or_false] at hw
          subst hw
          exact ⟨ob, handleObj_some hho, rfl⟩
  obtain ⟨ob, ho, hf⟩ := key
  obtain ⟨ob', ho', hi⟩ := hd.keep w.1 ob ho
  refine ⟨ob', ho', ?_⟩
  have : ob'.fid = ob.fid := congrArg Prod.fst hi
  rw [this, hf]

end Penguin.Mux
