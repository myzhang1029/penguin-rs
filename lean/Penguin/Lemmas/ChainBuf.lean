/-
The provided methods of `bytes::Buf` (`Penguin.BufImpl`) over any implementor whose three required
methods behave like a plain byte vector (`Lawful`), and the two instances: `LongChain` under the
invariant `Inv`, `CowBytes` always.  Also: an endomorphism of the implementor that commutes with the
three required methods commutes with every provided one (used for re-tagging).
-/
import Penguin.Lemmas.Chain

namespace Penguin.C20
open Penguin Penguin.Chain

theorem fromBe_foldl (bs : Bytes) (a : Nat) :
    bs.foldl (fun a b => a * 256 + b.toNat) a = a * 256 ^ bs.length + Spec.Vec.beValue bs := by
  induction bs generalizing a with
  | nil => simp [Spec.Vec.beValue]
  | cons b r ih =>
    simp only [List.foldl_cons, ih, Spec.Vec.beValue, List.length_cons, Nat.pow_succ]
    rw [Nat.add_mul, Nat.mul_assoc, Nat.mul_comm 256, Nat.add_assoc]

/-- The shift-and-add decoding of the model is the positional value of the reference. -/
theorem fromBe_eq (bs : Bytes) : fromBe bs = Spec.Vec.beValue bs := by
  simp [fromBe, fromBe_foldl]

theorem beValue_lt (bs : Bytes) : Spec.Vec.beValue bs < 256 ^ bs.length := by
  induction bs with
  | nil => simp [Spec.Vec.beValue]
  | cons b r ih =>
    have hb := b.toNat_lt
    simp only [Spec.Vec.beValue, List.length_cons, Nat.pow_succ]
    have : b.toNat * 256 ^ r.length ≤ 255 * 256 ^ r.length := Nat.mul_le_mul_right _ (by omega)
    omega

theorem fromBe_lt (bs : Bytes) {w : Nat} (h : bs.length ≤ w) : fromBe bs < 256 ^ w := by
  rw [fromBe_eq]
  exact Nat.lt_of_lt_of_le (beValue_lt bs) (Nat.pow_le_pow_right (by omega) h)

/-- The value read by `get_u16` is the big-endian value of the two bytes. -/
theorem u16_value (bs : Bytes) (h : bs.length ≤ 2) :
    (UInt16.ofNat (fromBe bs)).toNat = Spec.Vec.beValue bs := by
  rw [UInt16.toNat_ofNat', Nat.mod_eq_of_lt (fromBe_lt bs h), fromBe_eq]

theorem u32_value (bs : Bytes) (h : bs.length ≤ 4) :
    (UInt32.ofNat (fromBe bs)).toNat = Spec.Vec.beValue bs := by
  rw [UInt32.toNat_ofNat', Nat.mod_eq_of_lt (fromBe_lt bs h), fromBe_eq]

/-- The `Buf` contract of the three required methods, relative to an invariant `inv` and an
    abstraction `ab` to the bytes still to be read. -/
structure Lawful {σ : Type} (B : BufImpl σ) (inv : σ → Prop) (ab : σ → Bytes) : Prop where
  remaining_eq : ∀ s, inv s → B.remaining s = (ab s).length
  chunk_prefix : ∀ s, inv s → ∃ t, ab s = B.chunk s ++ t
  chunk_ne : ∀ s, inv s → ab s ≠ [] → B.chunk s ≠ []
  advance_ok : ∀ s n, inv s → n ≤ (ab s).length →
    ∃ s', B.advance s n = .ok (s', ()) ∧ inv s' ∧ ab s' = (ab s).drop n

section generic

variable {σ : Type} {B : BufImpl σ} {inv : σ → Prop} {ab : σ → Bytes}

theorem Lawful.chunk_len_le (L : Lawful B inv ab) (s : σ) (hi : inv s) :
    (B.chunk s).length ≤ (ab s).length := by
  obtain ⟨t, ht⟩ := L.chunk_prefix s hi
  rw [ht]; simp

theorem Lawful.chunk_take (L : Lawful B inv ab) (s : σ) (hi : inv s) (l : Nat)
    (hl : l ≤ (B.chunk s).length) : (B.chunk s).take l = (ab s).take l := by
  obtain ⟨t, ht⟩ := L.chunk_prefix s hi
  rw [ht, List.take_append_of_le_length hl]

theorem Lawful.chunk_pos (L : Lawful B inv ab) (s : σ) (hi : inv s) (h : 0 < (ab s).length) :
    0 < (B.chunk s).length :=
  List.length_pos_iff.mpr (L.chunk_ne s hi (List.length_pos_iff.mp h))

theorem hasRemaining_spec (L : Lawful B inv ab) (s : σ) (hi : inv s) :
    B.hasRemaining s = Spec.Vec.hasRemaining (ab s) := by
  simp only [BufImpl.hasRemaining, L.remaining_eq s hi, Spec.Vec.hasRemaining]
  cases ab s <;> simp

/-- `chunks_vectored` with `k` slots: at most `k` slices, none of them empty, together a prefix of
    the contents, and at least one when there is room and bytes remain. -/
theorem chunksVectored_spec (L : Lawful B inv ab) (s : σ) (k : Nat) (hi : inv s) :
    (B.chunksVectored s k).length ≤ k ∧ (∀ ch ∈ B.chunksVectored s k, ch ≠ []) ∧
      (∃ t, ab s = (B.chunksVectored s k).flatten ++ t) ∧
      (0 < k → ab s ≠ [] → B.chunksVectored s k ≠ []) := by
  unfold BufImpl.chunksVectored
  by_cases hk : k = 0
  · simp [hk]
  · rw [hasRemaining_spec L s hi]
    by_cases he : ab s = []
    · simp [hk, he, Spec.Vec.hasRemaining]
    · have hr : Spec.Vec.hasRemaining (ab s) = true := by
        cases h : ab s with
        | nil => exact absurd h he
        | cons a r => simp [Spec.Vec.hasRemaining]
      obtain ⟨t, ht⟩ := L.chunk_prefix s hi
      simp only [hk, hr, if_true, if_false]
      refine ⟨by simp; omega, ?_, ⟨t, by simpa using ht⟩, fun _ _ => by simp⟩
      intro ch hch
      simp at hch; subst hch
      exact L.chunk_ne s hi he

theorem copyLoop_spec (L : Lawful B inv ab) (need : Nat) :
    ∀ (s : σ) (acc : Bytes), inv s → need ≤ (ab s).length →
      ∃ s', B.copyLoop s need acc = .ok (s', acc ++ (ab s).take need) ∧ inv s' ∧
        ab s' = (ab s).drop need := by
  induction need using Nat.strongRecOn with
  | _ need ih =>
    intro s acc hi hn
    rw [BufImpl.copyLoop]
    by_cases h0 : need = 0
    · subst h0; exact ⟨s, by simp, hi, by simp⟩
    · have hpos := L.chunk_pos s hi (by omega)
      have hcle := L.chunk_len_le s hi
      obtain ⟨cnt, hcnt⟩ : ∃ cnt, cnt = min (B.chunk s).length need := ⟨_, rfl⟩
      have hc0 : ¬ cnt = 0 := by omega
      obtain ⟨s1, ha, hi1, hab1⟩ := L.advance_ok s cnt hi (by omega)
      simp only [h0, dite_false, ← hcnt, hc0, ha]
      obtain ⟨s2, h2, hi2, hab2⟩ :=
        ih (need - cnt) (by omega) s1 (acc ++ (B.chunk s).take cnt) hi1 (by rw [hab1]; simp; omega)
      refine ⟨s2, ?_, hi2, ?_⟩
      · rw [h2, hab1, L.chunk_take s hi cnt (by omega), List.append_assoc, ← List.take_add,
          (by omega : cnt + (need - cnt) = need)]
      · rw [hab2, hab1, List.drop_drop]; congr 1; omega

theorem takeLoop_spec (L : Lawful B inv ab) (limit : Nat) :
    ∀ (s : σ) (acc : Bytes), inv s → limit ≤ (ab s).length →
      ∃ s', B.takeLoop s limit acc = .ok (s', acc ++ (ab s).take limit) ∧ inv s' ∧
        ab s' = (ab s).drop limit := by
  induction limit using Nat.strongRecOn with
  | _ limit ih =>
    intro s acc hi hn
    rw [BufImpl.takeLoop]
    have hrem := L.remaining_eq s hi
    by_cases h0 : limit = 0
    · subst h0; exact ⟨s, by simp, hi, by simp⟩
    · have hpos := L.chunk_pos s hi (by omega)
      have hcle := L.chunk_len_le s hi
      have hm : ¬ min (B.remaining s) limit = 0 := by omega
      obtain ⟨l, hl⟩ : ∃ l, l = min (B.chunk s).length limit := ⟨_, rfl⟩
      have hl0 : ¬ l = 0 := by omega
      obtain ⟨s1, ha, hi1, hab1⟩ := L.advance_ok s l hi (by omega)
      simp only [hm, dite_false, ← hl, hl0, ha]
      obtain ⟨s2, h2, hi2, hab2⟩ :=
        ih (limit - l) (by omega) s1 (acc ++ (B.chunk s).take l) hi1 (by rw [hab1]; simp; omega)
      refine ⟨s2, ?_, hi2, ?_⟩
      · rw [h2, hab1, L.chunk_take s hi l (by omega), List.append_assoc, ← List.take_add,
          (by omega : l + (limit - l) = limit)]
      · rw [hab2, hab1, List.drop_drop]; congr 1; omega

theorem copyToSlice_spec (L : Lawful B inv ab) (s : σ) (n : Nat) (hi : inv s) :
    (n ≤ (ab s).length → ∃ s', B.copyToSlice s n = .ok (s', (ab s).take n) ∧ inv s' ∧
        ab s' = (ab s).drop n) ∧
    ((ab s).length < n → B.copyToSlice s n = .error ⟨s⟩) := by
  unfold BufImpl.copyToSlice
  rw [L.remaining_eq s hi]
  constructor
  · intro hle
    have : ¬ (ab s).length < n := by omega
    simp only [this, if_false]
    simpa using copyLoop_spec L n s [] hi hle
  · intro hlt; simp [hlt]

theorem copyToBytes_spec (L : Lawful B inv ab) (s : σ) (n : Nat) (hi : inv s) :
    (n ≤ (ab s).length → ∃ s', B.copyToBytes s n = .ok (s', (ab s).take n) ∧ inv s' ∧
        ab s' = (ab s).drop n) ∧
    ((ab s).length < n → B.copyToBytes s n = .error ⟨s⟩) := by
  unfold BufImpl.copyToBytes
  rw [L.remaining_eq s hi]
  constructor
  · intro hle
    have : ¬ (ab s).length < n := by omega
    simp only [this, if_false]
    simpa using takeLoop_spec L n s [] hi hle
  · intro hlt; simp [hlt]

theorem getFixed_spec (L : Lawful B inv ab) (s : σ) (n : Nat) (hi : inv s) :
    (n ≤ (ab s).length → ∃ s', B.getFixed s n = .ok (s', (ab s).take n) ∧ inv s' ∧
        ab s' = (ab s).drop n) ∧
    ((ab s).length < n → B.getFixed s n = .error ⟨s⟩) := by
  unfold BufImpl.getFixed
  rw [L.remaining_eq s hi]
  constructor
  · intro hle
    have : ¬ (ab s).length < n := by omega
    simp only [this, if_false]
    by_cases hc : n ≤ (B.chunk s).length
    · obtain ⟨s1, ha, hi1, hab1⟩ := L.advance_ok s n hi hle
      simp only [hc, if_true, ha]
      exact ⟨s1, by rw [L.chunk_take s hi n hc], hi1, hab1⟩
    · simp only [hc, if_false]
      exact (copyToSlice_spec L s n hi).1 hle
  · intro hlt; simp [hlt]

theorem getU8_spec (L : Lawful B inv ab) (s : σ) (hi : inv s) :
    (∀ b t, ab s = b :: t → ∃ s', B.getU8 s = .ok (s', b) ∧ inv s' ∧ ab s' = t) ∧
    (ab s = [] → B.getU8 s = .error ⟨s⟩) := by
  unfold BufImpl.getU8
  rw [L.remaining_eq s hi]
  constructor
  · intro b t hbt
    have hlen : ¬ (ab s).length < 1 := by simp [hbt]
    obtain ⟨u, hu⟩ := L.chunk_prefix s hi
    have hne : B.chunk s ≠ [] := L.chunk_ne s hi (by simp [hbt])
    have h0 : (B.chunk s)[0]? = some b := by
      cases hch : B.chunk s with
      | nil => exact absurd hch hne
      | cons x r =>
        rw [hch, hbt] at hu
        simp at hu
        simp [hu.1]
    obtain ⟨s1, ha, hi1, hab1⟩ := L.advance_ok s 1 hi (by simp [hbt])
    simp only [hlen, if_false, h0, ha]
    exact ⟨s1, rfl, hi1, by simp [hab1, hbt]⟩
  · intro he; simp [he]

/-- A fixed-width read whose bytes are then decoded by `g` (`get_u16`, `get_u32`). -/
theorem getFixed_map_spec {β : Type} (L : Lawful B inv ab) (s : σ) (n : Nat) (g : σ × Bytes → β) (hi : inv s) :
    (n ≤ (ab s).length → ∃ s', (B.getFixed s n).map g = .ok (g (s', (ab s).take n)) ∧ inv s' ∧
        ab s' = (ab s).drop n) ∧
    ((ab s).length < n → (B.getFixed s n).map g = .error ⟨s⟩) := by
  obtain ⟨h1, h2⟩ := getFixed_spec L s n hi
  constructor
  · intro hle
    obtain ⟨s1, e, hi1, hab1⟩ := h1 hle
    exact ⟨s1, by rw [e]; rfl, hi1, hab1⟩
  · intro hlt; rw [h2 hlt]; rfl

theorem getU16_spec (L : Lawful B inv ab) (s : σ) (hi : inv s) :
    (2 ≤ (ab s).length → ∃ s', B.getU16 s = .ok (s', UInt16.ofNat (fromBe ((ab s).take 2))) ∧
        inv s' ∧ ab s' = (ab s).drop 2) ∧
    ((ab s).length < 2 → B.getU16 s = .error ⟨s⟩) :=
  getFixed_map_spec L s 2 _ hi

theorem getU32_spec (L : Lawful B inv ab) (s : σ) (hi : inv s) :
    (4 ≤ (ab s).length → ∃ s', B.getU32 s = .ok (s', UInt32.ofNat (fromBe ((ab s).take 4))) ∧
        inv s' ∧ ab s' = (ab s).drop 4) ∧
    ((ab s).length < 4 → B.getU32 s = .error ⟨s⟩) :=
  getFixed_map_spec L s 4 _ hi

end generic

/-- `LongChain` under the invariant. -/
theorem chain_lawful : Lawful Chain.buf Inv abs where
  remaining_eq c hi := by simp [Chain.buf, Chain.remaining, abs, hi.1]
  chunk_prefix c _ := by
    cases hc : c.segs with
    | nil => exact ⟨[], by simp [Chain.buf, abs, Chain.chunk, hc]⟩
    | cons s r => exact ⟨flat r, by simp [Chain.buf, abs, Chain.chunk, hc]⟩
  chunk_ne c hi hne := by
    cases hc : c.segs with
    | nil => simp [abs, hc] at hne
    | cons s r =>
      have := hi.2 s (by simp [hc])
      simpa [Chain.buf, Chain.chunk, hc] using this
  advance_ok c n hi hle := by
    exact (advance_spec c n hi).1 (by rw [← length_abs]; omega)

/-- `CowBytes`, with the variant kept. -/
theorem seg_lawful (t : Tag) : Lawful Seg.buf (fun s => s.tag = t) Seg.bytes where
  remaining_eq s _ := by simp [Seg.buf]
  chunk_prefix s _ := ⟨[], by simp [Seg.buf]⟩
  chunk_ne s _ hne := by simpa [Seg.buf] using hne
  advance_ok s n ht hle := ⟨⟨s.tag, s.bytes.drop n⟩, seg_advance_ok s n hle, ht, rfl⟩

/-- What a successful answer says, for a method that hands out `val` of the first `n` bytes when there
    are that many and panics otherwise. -/
theorem taken_of_spec {α : Type} {x : Res Chain α} {c c' : Chain} {n : Nat} {val : Bytes → α} {v : α}
    (hspec : (n ≤ (abs c).length → ∃ c1, x = .ok (c1, val ((abs c).take n)) ∧ Inv c1 ∧
        abs c1 = (abs c).drop n) ∧ ((abs c).length < n → x = .error ⟨c⟩))
    (h : x = .ok (c', v)) :
    Inv c' ∧ abs c' = (abs c).drop n ∧ v = val ((abs c).take n) ∧ n ≤ (abs c).length := by
  by_cases hle : n ≤ (abs c).length
  · obtain ⟨c1, e, i1, hf⟩ := hspec.1 hle
    rw [e] at h; cases h
    exact ⟨i1, hf, rfl, hle⟩
  · rw [hspec.2 (Nat.lt_of_not_le hle)] at h; cases h

/-- A result with the receiver (and what a panic leaves behind) mapped. -/
def mapRes {σ α : Type} (g : σ → σ) : Res σ α → Res σ α
  | .error p => .error ⟨g p.left⟩
  | .ok (a, b) => .ok (g a, b)

structure Commutes {σ : Type} (B : BufImpl σ) (g : σ → σ) : Prop where
  remaining : ∀ s, B.remaining (g s) = B.remaining s
  chunk : ∀ s, B.chunk (g s) = B.chunk s
  advance : ∀ s n, B.advance (g s) n = mapRes g (B.advance s n)

section commute

variable {σ : Type} {B : BufImpl σ} {g : σ → σ}

theorem copyLoop_commutes (C : Commutes B g) (need : Nat) :
    ∀ (s : σ) (acc : Bytes), B.copyLoop (g s) need acc = mapRes g (B.copyLoop s need acc) := by
  induction need using Nat.strongRecOn with
  | _ need ih =>
    intro s acc
    rw [BufImpl.copyLoop, BufImpl.copyLoop.eq_def (s := s)]
    simp only [C.chunk, C.advance]
    by_cases h0 : need = 0
    · simp [h0, mapRes]
    · simp only [h0, dite_false]
      by_cases hc : min (B.chunk s).length need = 0
      · simp [hc, mapRes]
      · simp only [hc, dite_false]
        cases ha : B.advance s (min (B.chunk s).length need) with
        | error p => simp [mapRes]
        | ok r =>
          obtain ⟨s1, u⟩ := r
          simp only [mapRes]
          exact ih _ (by omega) s1 _

theorem takeLoop_commutes (C : Commutes B g) (limit : Nat) :
    ∀ (s : σ) (acc : Bytes), B.takeLoop (g s) limit acc = mapRes g (B.takeLoop s limit acc) := by
  induction limit using Nat.strongRecOn with
  | _ limit ih =>
    intro s acc
    rw [BufImpl.takeLoop, BufImpl.takeLoop.eq_def (s := s)]
    simp only [C.chunk, C.advance, C.remaining]
    by_cases h0 : min (B.remaining s) limit = 0
    · simp [h0, mapRes]
    · simp only [h0, dite_false]
      by_cases hc : min (B.chunk s).length limit = 0
      · simp [hc, mapRes]
      · simp only [hc, dite_false]
        cases ha : B.advance s (min (B.chunk s).length limit) with
        | error p => simp [mapRes]
        | ok r =>
          obtain ⟨s1, u⟩ := r
          simp only [mapRes]
          exact ih _ (by omega) s1 _

theorem copyToSlice_commutes (C : Commutes B g) (s : σ) (n : Nat) :
    B.copyToSlice (g s) n = mapRes g (B.copyToSlice s n) := by
  unfold BufImpl.copyToSlice
  rw [C.remaining, copyLoop_commutes C]
  split <;> simp [mapRes]

theorem copyToBytes_commutes (C : Commutes B g) (s : σ) (n : Nat) :
    B.copyToBytes (g s) n = mapRes g (B.copyToBytes s n) := by
  unfold BufImpl.copyToBytes
  rw [C.remaining, takeLoop_commutes C]
  split <;> simp [mapRes]

theorem getFixed_commutes (C : Commutes B g) (s : σ) (n : Nat) :
    B.getFixed (g s) n = mapRes g (B.getFixed s n) := by
  unfold BufImpl.getFixed
  rw [C.remaining, C.chunk, C.advance, copyToSlice_commutes C]
  split
  · simp [mapRes]
  · split
    · cases B.advance s n with
      | error p => simp [mapRes]
      | ok r => obtain ⟨a, u⟩ := r; simp [mapRes]
    · rfl

theorem getU8_commutes (C : Commutes B g) (s : σ) :
    B.getU8 (g s) = mapRes g (B.getU8 s) := by
  unfold BufImpl.getU8
  rw [C.remaining, C.chunk, C.advance]
  split
  · simp [mapRes]
  · cases (B.chunk s)[0]? with
    | none => simp [mapRes]
    | some b =>
      cases B.advance s 1 with
      | error p => simp [mapRes]
      | ok r => obtain ⟨a, u⟩ := r; simp [mapRes]

theorem mapRes_map {α β : Type} (x : Res σ α) (k : α → β) :
    (mapRes g x).map (fun (s', a) => (s', k a)) = mapRes g (x.map fun (s', a) => (s', k a)) := by
  cases x with
  | error p => rfl
  | ok r => rfl

theorem getU16_commutes (C : Commutes B g) (s : σ) :
    B.getU16 (g s) = mapRes g (B.getU16 s) := by
  unfold BufImpl.getU16
  rw [getFixed_commutes C]
  exact mapRes_map _ fun bs => UInt16.ofNat (fromBe bs)

theorem getU32_commutes (C : Commutes B g) (s : σ) :
    B.getU32 (g s) = mapRes g (B.getU32 s) := by
  unfold BufImpl.getU32
  rw [getFixed_commutes C]
  exact mapRes_map _ fun bs => UInt32.ofNat (fromBe bs)

end commute

/-- On a result whose value carries no chain and no segment, `retagRes f` is `mapRes (retagChain f)`. -/
theorem retagRes_map {α : Type} (f : Tag → Tag) (k : α → Out) (hk : ∀ a, retagOut f (k a) = k a) (x : Res Chain α) :
    retagRes f (x.map fun (c', a) => (c', k a)) = (mapRes (retagChain f) x).map fun (c', a) => (c', k a) := by
  cases x with
  | error p => rfl
  | ok r => obtain ⟨c', a⟩ := r; simp [Except.map, retagRes, mapRes, hk]

theorem retag_commutes (f : Tag → Tag) : Commutes Chain.buf (retagChain f) where
  remaining c := rfl
  chunk c := by
    cases hc : c.segs with
    | nil => simp [Chain.buf, Chain.chunk, retagChain, hc]
    | cons s r => simp [Chain.buf, Chain.chunk, retagChain, hc]
  advance c n := by
    simp only [Chain.buf, advance_retag, mapRes]
    cases c.advance n with
    | error p => rfl
    | ok r => obtain ⟨a, u⟩ := r; rfl

end Penguin.C20
