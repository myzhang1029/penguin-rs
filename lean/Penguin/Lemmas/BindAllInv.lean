/-
The invariant of the pair of bind views: the id discipline (`Num`, for every flow id), the two invariants of
one endpoint and its observer (`HeldShown`, `SlotAsked`), and per direction (`Dir`): every request of flow
`x` that is under way to, waits at, or was shown to the answering application was ASKED with exactly those
fields (`AskedI`); every `Finish x` on its way back to the side that asked with `x` is BACKED by a
`BindRequest` of `x` that was shown and accepted (`Backing`); every request that resolved `accepted` was
shown with its fields and accepted (`Glob`).

Then its second layer (`Inv3`), for "a request resolves `refused` only if …":
per direction (`Dir3`), every `Reset x` on its way back to the side that asked with `x` is BACKED
(`BackedR`: the answering endpoint takes no binds, or its `Multiplexor` was dropped, or a `BindRequest` of
`x` was shown and rejected, or dropped unanswered); every request that resolved `refused` was asked, and its
id's `Reset` was backed or the asking task has finished (`Glob3`); and while `x` is still in a script no
`Reset x` travels (`NoRst`).  Both layers are preserved by every small step (`Inv.stepL`, `Inv3.stepL`).
Core Lean only.
-/
import Penguin.Lemmas.BindAllNumStep
import Penguin.Lemmas.BindAllLocal

namespace Penguin.BindAll
open Penguin.Mux
open Penguin.PairAll (inMsgs inMsgs_append)

/-- A request of flow `x` with these fields is under way from the left side, waits at the right side, or
    was shown to the right application. -/
def ItemAt (c : BC) (x : Nat) (bt : BindType) (host : Bytes) (port : Nat) : Prop :=
  Msg.frame (.bind x bt port host) ∈ c.path ∨
  (∃ b ∈ c.b.bindq, b.fid = x ∧ b.bt = bt ∧ b.host = host ∧ b.port = port) ∨
  (∃ b, c.b.park = some b ∧ b.fid = x ∧ b.bt = bt ∧ b.host = host ∧ b.port = port) ∨
  (∃ k, BEv.shown k x bt host port ∈ c.gb)

def AskedI (c : BC) : Prop :=
  ∀ x bt host port, ItemAt c x bt host port → ∃ req, BEv.asked req x bt host port ∈ c.ga

def Backing (c : BC) : Prop :=
  ∀ x, Msg.frame (.finish x) ∈ c.swap.path → (∃ req bt host port, BEv.asked req x bt host port ∈ c.ga) →
    ∃ k bt host port, BEv.shown k x bt host port ∈ c.gb ∧ BEv.replied k true ∈ c.gb

def Glob (c : BC) : Prop :=
  ∀ req, BEv.done req .accepted ∈ c.ga →
    ∃ x bt host port k, BEv.asked req x bt host port ∈ c.ga ∧ BEv.shown k x bt host port ∈ c.gb ∧ BEv.replied k true ∈ c.gb

structure Dir (c : BC) : Prop where
  asked : AskedI c
  backing : Backing c
  glob : Glob c

structure Inv (c : BC) : Prop where
  num : ∀ x, Num (sm x c)
  hsA : HeldShown c.a c.ga
  hsB : HeldShown c.b c.gb
  saA : SlotAsked c.a c.ga
  saB : SlotAsked c.b c.gb
  l : Dir c
  r : Dir c.swap

theorem Inv.swap {c : BC} (h : Inv c) : Inv c.swap :=
  ⟨fun x => by rw [sm_swap]; exact (h.num x).swap, h.hsB, h.hsA, h.saB, h.saA, h.r, h.l⟩

theorem mem_inMsgs_of_suffix {l' l : List WsIn} (h : l' <:+ l) {m : Msg} (hm : m ∈ inMsgs l') : m ∈ inMsgs l :=
  (inMsgs_sublist h.sublist).subset hm

theorem false_of_countP_zero {α : Type} {P : α → Bool} {l : List α} (h : l.countP P = 0) {a : α} (ha : a ∈ l) :
    P a = false := by
  have := List.countP_eq_zero.mp h a ha
  simpa using this

theorem one_le_asked {g : List BEv} {req y : Nat} {bt : BindType} {h : Bytes} {p : Nat} (hm : BEv.asked req y bt h p ∈ g) :
    1 ≤ g.countP (isAsked y) := countP_pos_of_mem hm (by simp)

theorem asked_unique {g : List BEv} {y : Nat} (h : g.countP (isAsked y) ≤ 1) {r1 r2 : Nat} {a1 a2 : BindType}
    {b1 b2 : Bytes} {c1 c2 : Nat} (h1 : BEv.asked r1 y a1 b1 c1 ∈ g) (h2 : BEv.asked r2 y a2 b2 c2 ∈ g) :
    r1 = r2 ∧ a1 = a2 ∧ b1 = b2 ∧ c1 = c2 := by
  induction g with
  | nil => cases h1
  | cons e g ih =>
    simp only [List.countP_cons] at h
    rcases List.mem_cons.mp h1 with e1 | e1 <;> rcases List.mem_cons.mp h2 with e2 | e2
    · rw [← e1] at e2; cases e2; exact ⟨rfl, rfl, rfl, rfl⟩
    · subst e1
      have := one_le_asked e2
      simp only [isAsked_asked, beq_self_eq_true, if_true] at h; exfalso; omega
    · subst e2
      have := one_le_asked e1
      simp only [isAsked_asked, beq_self_eq_true, if_true] at h; exfalso; omega
    · exact ih (by omega) e1 e2

theorem mem_path_actL {c : BC} {v : BV} {ws : List Msg} {gs : List BEv} {m : Msg} (h : m ∈ (c.actL v ws gs).path) :
    m ∈ inMsgs c.b.inbox ++ c.ab ∨ m ∈ ws ++ v.outq := by
  simp only [BC.path, BC.actL] at h
  cases hab : c.abOpen <;> simp only [hab, if_true, if_false, Bool.false_eq_true, List.mem_append] at h ⊢ <;> grind

theorem mem_path_of_old {c : BC} {m : Msg} (h : m ∈ inMsgs c.b.inbox ++ c.ab ∨ m ∈ c.a.outq) : m ∈ c.path := by
  simp only [BC.path, List.mem_append] at h ⊢; exact h

theorem mem_swap_path_actL {c : BC} {v : BV} {ws : List Msg} {gs : List BEv} (hi : v.inbox <:+ c.a.inbox) {m : Msg}
    (h : m ∈ (c.actL v ws gs).swap.path) : m ∈ c.swap.path := by
  simp only [BC.path, BC.swap, BC.actL, List.mem_append] at h ⊢
  rcases h with (h | h) | h
  · exact Or.inl (Or.inl (mem_inMsgs_of_suffix hi h))
  · exact Or.inl (Or.inr h)
  · exact Or.inr h

theorem head_mem_swap_path {c : BC} {m : Msg} {r : List WsIn} (h : c.a.inbox = .msg m :: r) : m ∈ c.swap.path := by
  simp [BC.path, BC.swap, h, inMsgs]

/-! ### The left side acts: it is the ASKING side of direction `c`, the ANSWERING side of `c.swap` -/

variable {c : BC} {v : BV} {ws : List Msg} {gs : List BEv}

theorem Dir.actAsker (h : Inv c) (st : BStep c.a v ws gs) (hn : v.rng ≠ []) : Dir (c.actL v ws gs) := by
  refine ⟨?_, ?_, ?_⟩
  · -- every item was asked
    intro x bt host port hit
    have old : ItemAt c x bt host port → ∃ req, BEv.asked req x bt host port ∈ (c.actL v ws gs).ga := fun hi => by
      obtain ⟨req, hr⟩ := h.l.asked x bt host port hi
      exact ⟨req, List.mem_append_left _ hr⟩
    rcases hit with h1 | h1
    · rcases mem_path_actL h1 with h2 | h2
      · exact old (Or.inl (mem_path_of_old (Or.inl h2)))
      · rcases st.bind_out x bt port host h2 with h3 | ⟨req, h3⟩
        · exact old (Or.inl (mem_path_of_old (Or.inr h3)))
        · exact ⟨req, List.mem_append_right _ h3⟩
    · exact old (Or.inr h1)
  · -- every Finish on its way back is backed
    intro x hf ⟨req, bt, host, port, ha⟩
    have hf0 : Msg.frame (.finish x) ∈ c.swap.path := mem_swap_path_actL st.inbox_suffix hf
    rcases List.mem_append.mp ha with ha | ha
    · exact h.l.backing x hf0 ⟨req, bt, host, port, ha⟩
    · exfalso
      have hc : 1 ≤ c.a.rng.count x := st.asked_count hn ha
      have hz := (h.num x).fresh_fQ (by simp only [sm]; omega)
      have := false_of_countP_zero (P := isFinX x) hz hf0
      simp at this
  · -- every accepted request was shown with its fields and accepted
    intro req hd
    rcases List.mem_append.mp hd with hd | hd
    · obtain ⟨x, bt, host, port, k, h1, h2, h3⟩ := h.l.glob req hd
      exact ⟨x, bt, host, port, k, List.mem_append_left _ h1, h2, h3⟩
    · obtain ⟨y, r, hi, hs⟩ := st.accepted_why req hd
      obtain ⟨bt, host, port, ha⟩ := h.saA y req hs
      obtain ⟨k, bt', host', port', hsh, hrp⟩ := h.l.backing y (head_mem_swap_path hi) ⟨req, bt, host, port, ha⟩
      obtain ⟨req', ha'⟩ := h.l.asked y bt' host' port' (Or.inr (Or.inr (Or.inr ⟨k, hsh⟩)))
      have h1 : (sm y c).asA = 1 := ((h.num y).l.binda (one_le_asked ha)).1
      obtain ⟨_, e1, e2, e3⟩ := asked_unique (by simp only [sm] at h1; omega) ha ha'
      subst e1 e2 e3
      exact ⟨y, bt, host, port, k, List.mem_append_left _ ha, hsh, hrp⟩

theorem Dir.actAnswerer (h : Inv c) (st : BStep c.a v ws gs) : Dir (c.actL v ws gs).swap := by
  have hsw : ∀ {m : Msg}, m ∈ (c.actL v ws gs).swap.path → m ∈ c.swap.path := mem_swap_path_actL st.inbox_suffix
  refine ⟨?_, ?_, ?_⟩
  · intro x bt host port hit
    have old : ItemAt c.swap x bt host port → ∃ req, BEv.asked req x bt host port ∈ (c.actL v ws gs).swap.ga :=
      fun hi => h.r.asked x bt host port hi
    rcases hit with h1 | ⟨b, hb, e1, e2, e3, e4⟩ | ⟨b, hb, e1, e2, e3, e4⟩ | ⟨k, hk⟩
    · exact old (Or.inl (hsw h1))
    · rcases st.bindq_from b hb with h2 | h2 | ⟨r, h2⟩
      · exact old (Or.inr (Or.inl ⟨b, h2, e1, e2, e3, e4⟩))
      · exact old (Or.inr (Or.inr (Or.inl ⟨b, h2, e1, e2, e3, e4⟩)))
      · refine old (Or.inl ?_)
        have := head_mem_swap_path h2
        rw [e1, e2, e3, e4] at this; exact this
    · rcases st.park_from b hb with h2 | ⟨r, h2⟩
      · exact old (Or.inr (Or.inr (Or.inl ⟨b, h2, e1, e2, e3, e4⟩)))
      · refine old (Or.inl ?_)
        have := head_mem_swap_path h2
        rw [e1, e2, e3, e4] at this; exact this
    · rcases List.mem_append.mp hk with hk | hk
      · exact old (Or.inr (Or.inr (Or.inr ⟨k, hk⟩)))
      · obtain ⟨b, hb, e1, e2, e3, e4⟩ := st.shown_from k x bt host port hk
        exact old (Or.inr (Or.inl ⟨b, hb, e1, e2, e3, e4⟩))
  · intro x hf ⟨req, bt, host, port, ha⟩
    have old : Msg.frame (.finish x) ∈ c.path →
        ∃ k bt host port, BEv.shown k x bt host port ∈ (c.actL v ws gs).swap.gb ∧ BEv.replied k true ∈ (c.actL v ws gs).swap.gb := fun hm => by
      obtain ⟨k, bt', host', port', h1, h2⟩ := h.r.backing x hm ⟨req, bt, host, port, ha⟩
      exact ⟨k, bt', host', port', List.mem_append_left _ h1, List.mem_append_left _ h2⟩
    rcases mem_path_actL (c := c) hf with h2 | h2
    · exact old (mem_path_of_old (Or.inl h2))
    · rcases st.finish_out x h2 with h3 | h3 | ⟨k, b, hk, hb, hr⟩
      · exact old (mem_path_of_old (Or.inr h3))
      · exfalso
        have hb := (h.num x).r.binda_fb (one_le_asked ha)
        have : 1 ≤ c.a.fids.count x := List.count_pos_iff.mpr h3
        simp only [sm, Sm.swap] at hb; omega
      · have := h.hsA k b hk
        rw [hb] at this
        exact ⟨k, b.bt, b.host, b.port, List.mem_append_left _ this, List.mem_append_right _ hr⟩
  · intro req hd
    obtain ⟨x, bt, host, port, k, h1, h2, h3⟩ := h.r.glob req hd
    exact ⟨x, bt, host, port, k, h1, List.mem_append_left _ h2, List.mem_append_left _ h3⟩

theorem Inv.act (h : Inv c) (st : BStep c.a v ws gs) (hn : v.rng ≠ []) : Inv (c.actL v ws gs) :=
  ⟨fun x => (h.num x).act st hn, h.hsA.step st, h.hsB, h.saA.step st, h.saB, Dir.actAsker h st hn, Dir.actAnswerer h st⟩

theorem mem_swap_path_recv {ib : List WsIn} {ba : List Msg} {bo : Bool}
    (hsub : ∀ f, Msg.frame f ∈ inMsgs ib ++ ba → Msg.frame f ∈ inMsgs c.a.inbox ++ c.ba) {f : Frame}
    (hm : Msg.frame f ∈ ({ c with ba := ba, baOpen := bo, a := { c.a with inbox := ib } } : BC).swap.path) :
    Msg.frame f ∈ c.swap.path := by
  simp only [BC.path, BC.swap, List.mem_append] at hm ⊢
  rcases hm with hm | hm
  · have := hsub f (by simpa using hm)
    exact Or.inl (by simpa using this)
  · exact Or.inr hm

theorem CStepL.act_or_recv {c' : BC} (st : CStepL c c') :
    (∃ v ws gs, BStep c.a v ws gs ∧ c' = c.actL v ws gs) ∨
    ∃ ib ba bo, c' = { c with ba := ba, baOpen := bo, a := { c.a with inbox := ib } } ∧
      ∀ f, Msg.frame f ∈ inMsgs ib ++ ba → Msg.frame f ∈ inMsgs c.a.inbox ++ c.ba := by
  cases st with
  | act v ws gs hs => exact Or.inl ⟨v, ws, gs, hs, rfl⟩
  | dlv m rest deaf hb _ =>
    refine Or.inr ⟨_, rest, c.baOpen, rfl, ?_⟩
    intro f hm
    cases deaf <;> simp only [Bool.false_eq_true, if_true, if_false, inMsgs_append, inMsgs, List.mem_append] at hm ⊢ <;>
      rw [hb] <;> simp only [List.mem_cons, List.not_mem_nil, or_false] at hm ⊢ <;> grind
  | lose extra deaf hx =>
    refine Or.inr ⟨_, [], false, rfl, ?_⟩
    intro f hm
    cases deaf <;> simp only [Bool.false_eq_true, if_true, if_false, inMsgs_append, List.mem_append, List.not_mem_nil, or_false] at hm ⊢
    · rcases hm with hm | hm
      · exact Or.inl hm
      · rcases hx with hx | hx <;> rw [hx] at hm <;> simp at hm
    · exact Or.inl hm

theorem Inv.recv (h : Inv c) (ib : List WsIn) (ba : List Msg) (bo : Bool) (hn : ∀ x, Num (sm x { c with ba := ba, baOpen := bo, a := { c.a with inbox := ib } }))
    (hsub : ∀ f, Msg.frame f ∈ inMsgs ib ++ ba → Msg.frame f ∈ inMsgs c.a.inbox ++ c.ba) :
    Inv { c with ba := ba, baOpen := bo, a := { c.a with inbox := ib } } := by
  have hsw : ∀ {f : Frame}, Msg.frame f ∈ ({ c with ba := ba, baOpen := bo, a := { c.a with inbox := ib } } : BC).swap.path →
      Msg.frame f ∈ c.swap.path := mem_swap_path_recv hsub
  refine ⟨hn, h.hsA, h.hsB, h.saA, h.saB, ⟨?_, ?_, h.l.glob⟩, ⟨?_, ?_, h.r.glob⟩⟩
  · intro x bt host port hit; exact h.l.asked x bt host port hit
  · intro x hf ha; exact h.l.backing x (hsw hf) ha
  · intro x bt host port hit
    refine h.r.asked x bt host port ?_
    rcases hit with h1 | h1
    · exact Or.inl (hsw h1)
    · exact Or.inr h1
  · intro x hf ha; exact h.r.backing x hf ha

theorem Inv.stepL (h : Inv c) {c' : BC} (st : CStepL c c') (hn : c'.a.rng ≠ []) : Inv c' := by
  have hnum := fun x => (h.num x).stepL st hn
  rcases st.act_or_recv with ⟨v, ws, gs, hs, rfl⟩ | ⟨ib, ba, bo, rfl, hsub⟩
  · exact h.act hs hn
  · exact h.recv ib ba bo hnum hsub

/-! ### The second layer: `refused`

The definitions of this layer carry a `3` (`Dir3`, `Glob3`, `Inv3`): the third group of clauses after `Num` and
`Dir`/`Glob`; the ORDER layer of `Lemmas/BindAllOrd.lean` carries a `4`. -/

/-- Why a `Reset x` may travel from the right side to the left side that asked with `x`; `W k g` says in which
    sense the record `g` holds a rejection of `BindRequest` number `k`. -/
def Backed (W : Nat → List BEv → Prop) (c : BC) (x : Nat) : Prop :=
  c.b.bindCap = 0 ∨ BEv.muxDropped ∈ c.gb ∨
  ∃ k bt host port, BEv.shown k x bt host port ∈ c.gb ∧ (W k c.gb ∨ DropU k c.gb)

def BackedR : BC → Nat → Prop := Backed fun k g => BEv.replied k false ∈ g

def RBack (c : BC) : Prop :=
  ∀ x, Msg.frame (.reset x) ∈ c.swap.path → (∃ req bt host port, BEv.asked req x bt host port ∈ c.ga) → BackedR c x

/-- Only its own preservation reads this clause: the properties use `Glob4` (`Lemmas/BindAllOrd.lean`), which implies it
    (a first reply that refuses is a reply that refuses). -/
def Glob3 (c : BC) : Prop :=
  ∀ req, BEv.done req .refused ∈ c.ga →
    ∃ x bt host port, BEv.asked req x bt host port ∈ c.ga ∧ (c.a.dead = true ∨ BackedR c x)

def NoRst (c : BC) : Prop :=
  ∀ x, 1 ≤ c.a.rng.count x + c.b.rng.count x → Msg.frame (.reset x) ∉ c.path

structure Dir3 (c : BC) : Prop where
  rback : RBack c
  glob3 : Glob3 c
  norst : NoRst c

structure Inv3 (c : BC) : Prop where
  base : Inv c
  locA : Loc c.a c.ga
  locB : Loc c.b c.gb
  l : Dir3 c
  r : Dir3 c.swap

theorem Inv3.swap {c : BC} (h : Inv3 c) : Inv3 c.swap := ⟨h.base.swap, h.locB, h.locA, h.r, h.l⟩

/-- The `BindRequest` that backs the `Reset` was shown with the very fields `x` was asked with: by the id
    discipline `x` was asked with once. -/
theorem Backed.fields {W : Nat → List BEv → Prop} (hi : Inv c) {cap : Nat} (hcp : c.b.bindCap = cap) {req x : Nat}
    {bt : BindType} {host : Bytes} {port : Nat} (ha : BEv.asked req x bt host port ∈ c.ga)
    (hw : c.a.dead = true ∨ Backed W c x) :
    c.a.dead = true ∨ cap = 0 ∨ BEv.muxDropped ∈ c.gb ∨
      ∃ k, BEv.shown k x bt host port ∈ c.gb ∧ (W k c.gb ∨ DropU k c.gb) := by
  rcases hw with hw | hw | hw | ⟨k, bt', host', port', hs, hk⟩
  · exact Or.inl hw
  · exact Or.inr (Or.inl (hcp ▸ hw))
  · exact Or.inr (Or.inr (Or.inl hw))
  · obtain ⟨req', ha'⟩ := hi.l.asked x bt' host' port' (Or.inr (Or.inr (Or.inr ⟨k, hs⟩)))
    have h1 : (sm x c).asA = 1 := ((hi.num x).l.binda (one_le_asked ha)).1
    obtain ⟨_, e1, e2, e3⟩ := asked_unique (by simp only [sm] at h1; omega) ha ha'
    subst e1 e2 e3
    exact Or.inr (Or.inr (Or.inr ⟨k, hs, hk⟩))

theorem Backed.answererStep {W : Nat → List BEv → Prop} (hW : ∀ k g gs, W k g → W k (g ++ gs)) {x : Nat}
    (hb : Backed W c.swap x) (hl : Loc c.a c.ga) (st : BStep c.a v ws gs) : Backed W (c.actL v ws gs).swap x := by
  rcases hb with h1 | h1 | ⟨k, bt, host, port, hs, h2⟩
  · left; show v.bindCap = 0; rw [st.bindCap_eq]; exact h1
  · right; left; exact List.mem_append_left _ h1
  · right; right
    refine ⟨k, bt, host, port, List.mem_append_left _ hs, ?_⟩
    rcases h2 with h2 | h2
    · exact Or.inl (hW _ _ _ h2)
    · exact Or.inr (h2.step hl st)

theorem BackedR.answererStep {x : Nat} (hb : BackedR c.swap x) (hl : Loc c.a c.ga) (st : BStep c.a v ws gs) :
    BackedR (c.actL v ws gs).swap x :=
  Backed.answererStep (W := fun k g => BEv.replied k false ∈ g) (fun _ _ _ h => List.mem_append_left _ h) hb hl st

theorem streamFrame_kinds {f : Frame} {x : Nat} (h : streamFrame f x = true) :
    isConnX x (.frame f) = true ∨ isAPX x (.frame f) = true ∨ isFinX x (.frame f) = true := by
  cases f <;> simp_all [streamFrame]

theorem one_le_enX_of_bindq {x : Nat} {v : BV} {b : BindIn} (hb : b ∈ v.bindq) (hx : b.fid = x) : 1 ≤ enX x v := by
  have : 1 ≤ v.bindq.countP (·.fid == x) := countP_pos_of_mem hb (by simp [hx])
  simp only [enX]; omega

theorem one_le_enX_of_park {x : Nat} {v : BV} {b : BindIn} (hb : v.park = some b) (hx : b.fid = x) : 1 ≤ enX x v := by
  simp [enX, hb, parkX, hx]

theorem fresh_no_new_reset {x : Nat} (h : Inv3 c) (st : BStep c.a v ws gs) (hc : 1 ≤ c.a.rng.count x + c.b.rng.count x)
    (hm : Msg.frame (.reset x) ∈ ws ++ v.outq) : Msg.frame (.reset x) ∈ c.a.outq := by
  have hz := (h.base.num x).fresh (by simpa [sm] using hc)
  simp only [sm] at hz
  obtain ⟨_, _, _, _, hes, _, _, _, _, _, _, _, hen, _, hh, _, _, _, _, _, hcQ, hbQ, hfQ, hapQ⟩ := hz
  rcases st.reset_out x hm with h1 | h1 | ⟨k, b, hk, hb, _⟩ | ⟨⟨b, hb, hx⟩, _⟩
  · exact h1
  · exfalso
    rcases h1 with ⟨i, hi⟩ | ⟨f, r, hi, hf⟩ | ⟨bt, p, hh', r, hi, _⟩ | ⟨b, hp, hx, _⟩
    · have := one_le_countP_of_mem hi (P := isES x) (by simp); omega
    · have hmem := head_mem_swap_path hi
      rcases streamFrame_kinds hf with h2 | h2 | h2
      · have := countP_pos_of_mem hmem h2; omega
      · have := countP_pos_of_mem hmem h2; omega
      · have := countP_pos_of_mem hmem h2; omega
    · have := countP_pos_of_mem (head_mem_swap_path hi) (p := isBindX x) (by simp); omega
    · have := one_le_enX_of_park hp hx; omega
  · exfalso; have := one_le_held hk x hb; omega
  · exfalso; have := one_le_enX_of_bindq hb hx; omega

theorem BStep.dropped_no_replied {v v' : BV} {ws : List Msg} {gs : List BEv} (st : BStep v v' ws gs) (k : Nat)
    (hm : BEv.dropped k ∈ gs) (k' : Nat) (acc : Bool) : BEv.replied k' acc ∉ gs := by
  cases st with
  | dropReq k0 b hk => simp
  | finishAll => exact not_mem_refusals_replied _ _ _
  | _ => simp at hm

/-- A dropped-handle notification never names an id the left side asked with: no stream object carries such an id
    (`HalfN.binda`), and a notification names the id of one. -/
theorem Inv3.no_note_of_asked (h : Inv3 c) {req y : Nat} {bt : BindType} {host : Bytes} {port : Nat}
    (ha : BEv.asked req y bt host port ∈ c.ga) (hy0 : y ≠ 0) (hdq : y ∈ c.a.dq) : False := by
  rcases h.locA.dq y hdq with h0 | hfid
  · exact hy0 h0
  · have hb := (h.base.num y).l.binda_fa (one_le_asked ha)
    have : 1 ≤ c.a.fids.count y := List.count_pos_iff.mpr hfid
    simp only [sm] at hb; omega

theorem Dir3.actAsker (h : Inv3 c) (st : BStep c.a v ws gs) (hn : v.rng ≠ []) : Dir3 (c.actL v ws gs) := by
  have drawn : ∀ {req x bt host port}, BEv.asked req x bt host port ∈ gs → 1 ≤ c.a.rng.count x + c.b.rng.count x := by
    intro req x bt host port ha
    have := st.asked_count hn ha; omega
  refine ⟨?_, ?_, ?_⟩
  · intro x hf ⟨req, bt, host, port, ha⟩
    have hf0 : Msg.frame (.reset x) ∈ c.swap.path := mem_swap_path_actL st.inbox_suffix hf
    rcases List.mem_append.mp ha with ha | ha
    · exact h.l.rback x hf0 ⟨req, bt, host, port, ha⟩
    · exact absurd hf0 (h.r.norst x (by have := drawn ha; simp only [BC.swap]; omega))
  · intro req hd
    rcases List.mem_append.mp hd with hd | hd
    · obtain ⟨x, bt, host, port, h1, h2⟩ := h.l.glob3 req hd
      refine ⟨x, bt, host, port, List.mem_append_left _ h1, ?_⟩
      rcases h2 with h2 | h2
      · exact Or.inl (st.dead_mono h2)
      · exact Or.inr h2
    · obtain ⟨y, hs, why⟩ := st.refused_why req hd
      obtain ⟨bt, host, port, ha⟩ := h.base.saA y req hs
      refine ⟨y, bt, host, port, List.mem_append_left _ ha, ?_⟩
      rcases why with ⟨r, hi⟩ | ⟨hy0, hdq⟩ | hdead
      · exact Or.inr (h.l.rback y (head_mem_swap_path hi) ⟨req, bt, host, port, ha⟩)
      · exact (h.no_note_of_asked ha hy0 hdq).elim
      · exact Or.inl hdead
  · intro x hc hm
    have hc0 : 1 ≤ c.a.rng.count x + c.b.rng.count x := by
      have := count_le_of_suffix st.rng_suffix x
      simp only [BC.actL] at hc; omega
    rcases mem_path_actL hm with h2 | h2
    · exact h.l.norst x hc0 (mem_path_of_old (Or.inl h2))
    · exact h.l.norst x hc0 (mem_path_of_old (Or.inr (fresh_no_new_reset h st hc0 h2)))

theorem Dir3.actAnswerer (h : Inv3 c) (st : BStep c.a v ws gs) : Dir3 (c.actL v ws gs).swap := by
  refine ⟨?_, ?_, ?_⟩
  · intro x hf ⟨req, bt, host, port, ha⟩
    have old : Msg.frame (.reset x) ∈ c.path → BackedR (c.actL v ws gs).swap x := fun hm =>
      (h.r.rback x hm ⟨req, bt, host, port, ha⟩).answererStep h.locA st
    rcases mem_path_actL (c := c) hf with h2 | h2
    · exact old (mem_path_of_old (Or.inl h2))
    · have hb := (h.base.num x).r.binda (one_le_asked ha)
      simp only [sm, Sm.swap] at hb
      obtain ⟨_, _, _, _, _, _, _, hes, _, _, hcQ, _, hfQ, hapQ, _⟩ := hb
      rcases st.reset_out x h2 with h3 | h3 | ⟨k, b, hk, hbx, h3⟩ | ⟨_, h3⟩
      · exact old (mem_path_of_old (Or.inr h3))
      · rcases h3 with ⟨i, hi⟩ | ⟨f, r, hi, hf'⟩ | ⟨bt', p, hh', r, hi, h4⟩ | ⟨b, hp, hx, h4⟩
        · exfalso; have := one_le_countP_of_mem hi (P := isES x) (by simp); omega
        · exfalso
          have hmem := head_mem_swap_path hi
          rcases streamFrame_kinds hf' with h5 | h5 | h5
          · have := countP_pos_of_mem hmem h5; omega
          · have := countP_pos_of_mem hmem h5; omega
          · have := countP_pos_of_mem hmem h5; omega
        · rcases h4 with h4 | h4
          · left; show v.bindCap = 0; rw [st.bindCap_eq]; exact h4
          · right; left; exact List.mem_append_left _ (h.locA.mux h4)
        · right; left; exact List.mem_append_left _ (h.locA.mux h4)
      · have hsh := h.base.hsA k b hk
        rw [hbx] at hsh
        right; right
        refine ⟨k, b.bt, b.host, b.port, List.mem_append_left _ hsh, ?_⟩
        rcases h3 with h3 | ⟨h3, hrep⟩
        · exact Or.inl (List.mem_append_right _ h3)
        · refine Or.inr ⟨List.mem_append_right _ h3, ?_⟩
          intro acc hm
          rcases List.mem_append.mp hm with hm | hm
          · exact h.locA.unrep k b hk hrep acc hm
          · exact st.dropped_no_replied k h3 k acc hm
      · right; left; exact List.mem_append_right _ h3
  · intro req hd
    obtain ⟨x, bt, host, port, h1, h2⟩ := h.r.glob3 req hd
    refine ⟨x, bt, host, port, h1, ?_⟩
    rcases h2 with h2 | h2
    · exact Or.inl h2
    · exact Or.inr (h2.answererStep h.locA st)
  · intro x hc hm
    have hc0 : 1 ≤ c.b.rng.count x + c.a.rng.count x := by
      have := count_le_of_suffix st.rng_suffix x
      simp only [BC.actL, BC.swap] at hc; omega
    exact h.r.norst x hc0 (mem_swap_path_actL st.inbox_suffix hm)

theorem Inv3.act (h : Inv3 c) (st : BStep c.a v ws gs) (hn : v.rng ≠ []) : Inv3 (c.actL v ws gs) :=
  ⟨h.base.act st hn, h.locA.step st, h.locB, Dir3.actAsker h st hn, Dir3.actAnswerer h st⟩

theorem Inv3.recv (h : Inv3 c) (ib : List WsIn) (ba : List Msg) (bo : Bool)
    (hb : Inv { c with ba := ba, baOpen := bo, a := { c.a with inbox := ib } })
    (hsub : ∀ f, Msg.frame f ∈ inMsgs ib ++ ba → Msg.frame f ∈ inMsgs c.a.inbox ++ c.ba) :
    Inv3 { c with ba := ba, baOpen := bo, a := { c.a with inbox := ib } } := by
  have hsw : ∀ {f : Frame}, Msg.frame f ∈ ({ c with ba := ba, baOpen := bo, a := { c.a with inbox := ib } } : BC).swap.path →
      Msg.frame f ∈ c.swap.path := mem_swap_path_recv hsub
  refine ⟨hb, ⟨h.locA.mux, h.locA.dq, h.locA.kb, h.locA.unrep, h.locA.dropd⟩, h.locB,
    ⟨?_, h.l.glob3, h.l.norst⟩, ⟨h.r.rback, h.r.glob3, ?_⟩⟩
  · intro x hf ha; exact h.l.rback x (hsw hf) ha
  · intro x hc hm; exact h.r.norst x hc (hsw hm)

theorem Inv3.stepL (h : Inv3 c) {c' : BC} (st : CStepL c c') (hn : c'.a.rng ≠ []) : Inv3 c' := by
  have hb := h.base.stepL st hn
  rcases st.act_or_recv with ⟨v, ws, gs, hs, rfl⟩ | ⟨ib, ba, bo, rfl, hsub⟩
  · exact h.act hs hn
  · exact h.recv ib ba bo hb hsub

end Penguin.BindAll
