/-
What one endpoint hands to the transport, for every history and ANY peer — stated once for any way `sel` of
picking some of the outbound messages, with stream integrity on the SENDING side (`sel` = the `Push` frames,
`SnT`) as the instance proved at the end; `Lemmas/MuxDgramSend.lean` has the other instance (`Datagram` frames).

The outbound queue is FIFO towards the transport; the wind-down after an error or a Close throws away what is
still queued (the connection is gone), the wind-down after the `Multiplexor` was dropped sends it first.
`QT sel e e' evs W` (`QO` on the queue and its closed flag): from `e` to `e'`, emitting `evs`, with `W` the selected
messages the application handed over in between — those given to the transport followed by those still queued
are a prefix of (queued before ++ `W`), and ARE (queued before ++ `W`) as long as the queue is open; nothing is
accepted once it is closed.  The connection task never queues application data (`Quiet sel`: `sel` picks neither
control frames nor `Ping`/`Pong`/`Close`), so every function of the task satisfies `QT sel … []`.
For `Push`: the only thing that ever queues one is a write call that returns `wrote n` for a non-empty payload,
and it queues exactly one, `Push (flow id of the object behind the handle) payload` (`Lemmas/MuxIntegritySendApp.lean`).
Core Lean only.
-/
import Penguin.Lemmas.MuxTrace

namespace Penguin.Mux

/-! ### Any selection of messages -/

section Sel
variable {α : Type} {sel : Msg → Option α}

def selQ (sel : Msg → Option α) (l : List Msg) : List α := l.filterMap sel

def selEv (sel : Msg → Option α) (evs : List Ev) : List α :=
  evs.filterMap (fun ev => match ev with | .wire m => sel m | _ => none)

theorem selQ_append (a b : List Msg) : selQ sel (a ++ b) = selQ sel a ++ selQ sel b := List.filterMap_append

theorem selEv_append (a b : List Ev) : selEv sel (a ++ b) = selEv sel a ++ selEv sel b := List.filterMap_append

theorem selEv_wires (l : List Msg) : selEv sel (l.map Ev.wire) = selQ sel l := by
  unfold selEv selQ
  rw [List.filterMap_map]
  rfl

theorem selEv_map_openDone (l : List OpenReq) (c : OpenRes) :
    selEv sel (l.map (fun r => Ev.openDone r.req c)) = [] := by
  unfold selEv
  rw [List.filterMap_map]
  exact List.filterMap_eq_nil_iff.mpr (fun _ _ => rfl)

/-- Neither a `Push` nor a `Datagram` frame: what the connection task itself may put into the outbound queue. -/
def Msg.ctl : Msg → Bool
  | .frame (.push _ _) => false
  | .frame (.datagram _ _ _ _) => false
  | _ => true

/-- `sel` picks only application data. -/
def Quiet (sel : Msg → Option α) : Prop := ∀ m, m.ctl = true → sel m = none

/-- From queue `q` (closed: `c`) to `q'` (`c'`), emitting `evs`, with `W` the selected messages accepted from the
    application in between: what went to the transport followed by what is still queued is a prefix of
    (queued before ++ `W`), and is all of it while the queue is open; nothing is accepted once it is closed. -/
structure QO (sel : Msg → Option α) (q : List Msg) (c : Bool) (q' : List Msg) (c' : Bool) (evs : List Ev) (W : List α) : Prop where
  closed : c = true → c' = true
  pre : selEv sel evs ++ selQ sel q' <+: selQ sel q ++ W
  eq : c' = false → selEv sel evs ++ selQ sel q' = selQ sel q ++ W
  noW : c = true → W = []

def QT (sel : Msg → Option α) (e e' : EP) (evs : List Ev) (W : List α) : Prop :=
  QO sel e.outq e.outClosed e'.outq e'.outClosed evs W

theorem QT.silent {e e' : EP} {evs : List Ev} (hq : e'.outq = e.outq) (hc : e'.outClosed = e.outClosed)
    (hev : selEv sel evs = []) : QT sel e e' evs [] := by
  unfold QT; rw [hq, hc]
  exact ⟨id, by simp [hev], fun _ => by simp [hev], fun _ => rfl⟩

theorem QT.refl (e : EP) : QT sel e e [] [] := QT.silent rfl rfl rfl

theorem QT.trans {a b c : EP} {ev1 ev2 : List Ev} {W1 W2 : List α}
    (s : QT sel a b ev1 W1) (t : QT sel b c ev2 W2) : QT sel a c (ev1 ++ ev2) (W1 ++ W2) := by
  refine ⟨fun h => t.closed (s.closed h), ?_, ?_, ?_⟩
  · rw [selEv_append, List.append_assoc]
    cases hb : b.outClosed with
    | false =>
      have h1 := s.eq hb
      have h2 := t.pre
      rw [← List.append_assoc (selQ sel a.outq), ← h1, List.append_assoc]
      exact (List.prefix_append_right_inj _).mpr h2
    | true =>
      have hw := t.noW hb
      have h2 := t.pre
      rw [hw, List.append_nil] at h2 ⊢
      exact ((List.prefix_append_right_inj _).mpr h2).trans s.pre
  · intro hc
    have hb : b.outClosed = false := by
      cases hb : b.outClosed with
      | false => rfl
      | true => rw [t.closed hb] at hc; cases hc
    rw [selEv_append, List.append_assoc, t.eq hc, ← List.append_assoc, s.eq hb, List.append_assoc]
  · intro ha
    rw [s.noW ha, t.noW (s.closed ha)]; rfl

theorem QT.cast {e e' : EP} {evs evs' : List Ev} {W W' : List α} (s : QT sel e e' evs W)
    (h : evs' = evs) (hw : W' = W) : QT sel e e' evs' W' := by subst h hw; exact s

theorem QT.trans0 {a b c : EP} {ev1 ev2 : List Ev} (s : QT sel a b ev1 []) (t : QT sel b c ev2 []) : QT sel a c (ev1 ++ ev2) [] :=
  (s.trans t).cast rfl rfl

theorem QT.congr {e e' a a' : EP} {evs : List Ev} {W : List α} (s : QT sel e e' evs W)
    (h1q : a.outq = e.outq) (h1c : a.outClosed = e.outClosed) (h2q : a'.outq = e'.outq) (h2c : a'.outClosed = e'.outClosed) :
    QT sel a a' evs W := by
  unfold QT at *; rw [h1q, h1c, h2q, h2c]; exact s

theorem QT.modObj (e : EP) (i : Nat) (f : Obj → Obj) : QT sel e (e.modObj i f) [] [] := QT.silent rfl rfl rfl

theorem QT.enqOpen (e : EP) (m : Msg) (hc : e.outClosed = false) : QT sel e (e.enq m) [] (sel m).toList := by
  unfold EP.enq
  rw [hc]
  simp only [Bool.false_eq_true, if_false]
  have h : selEv sel [] ++ selQ sel (e.outq ++ [m]) = selQ sel e.outq ++ (sel m).toList := by
    rw [selQ_append]
    cases hm : sel m <;> simp [selEv, selQ, hm]
  exact ⟨fun h => (by rw [hc] at h; cases h), h ▸ List.prefix_refl _, fun _ => h, fun h => (by rw [hc] at h; cases h)⟩

theorem QT.enq (e : EP) (m : Msg) (h : sel m = none) : QT sel e (e.enq m) [] [] := by
  unfold EP.enq; split
  · exact QT.refl e
  · have hq : selEv sel [] ++ selQ sel (e.outq ++ [m]) = selQ sel e.outq ++ [] := by
      rw [selQ_append]; simp [selEv, selQ, h]
    exact ⟨id, hq ▸ List.prefix_refl _, fun _ => hq, fun _ => rfl⟩

theorem QT.close {e e' : EP} (hc : e'.outClosed = true) (hq : selQ sel e'.outq <+: selQ sel e.outq) :
    QT sel e e' [] [] :=
  ⟨fun _ => hc, (by simpa [selEv] using hq), fun h => (by rw [hc] at h; cases h), fun _ => rfl⟩

theorem QT.sendSome (e : EP) : QT sel e (sendSome e).1 (sendSome e).2 [] := by
  unfold Mux.sendSome
  split
  · refine ⟨id, ?_, fun _ => ?_, fun _ => rfl⟩
    · show selEv sel (e.outq.map Ev.wire) ++ selQ sel [] <+: selQ sel e.outq ++ []
      rw [selEv_wires]; simp [selQ]
    · show selEv sel (e.outq.map Ev.wire) ++ selQ sel [] = selQ sel e.outq ++ []
      rw [selEv_wires]; simp [selQ]
  · rename_i n _
    have h : selEv sel ((e.outq.take n).map Ev.wire) ++ selQ sel (e.outq.drop n) = selQ sel e.outq ++ [] := by
      rw [selEv_wires, ← selQ_append, List.take_append_drop, List.append_nil]
    exact ⟨id, by show _ <+: _; rw [h]; exact List.prefix_refl _, fun _ => h, fun _ => rfl⟩

/-! ### Kind by kind (`Lemmas/MuxTrace.lean`): only the application's data and the failed sink are in the way -/

theorem Msg.ctl_of_tag {m : Msg} (h1 : m.tag ≠ .push) (h2 : m.tag ≠ .datagram) : m.ctl = true := by
  cases m with
  | frame f => cases f <;> first | rfl | exact absurd rfl h1 | exact absurd rfl h2
  | _ => rfl

/-- The kinds of step across which `QT sel · · · []` fails for some `sel`: application data is queued (it is handed over:
    `QT.enqOpen`), and the queue is thrown away while open (the failed sink of `Model/MuxStart.lean`). -/
def QT.bad : Kinds := .of [.enq .push, .enq .datagram, .discardOut]

theorem QT.of_upd (hs : Quiet sel) {k : Kind} {e e' : EP} {x : List Ev} (hk : k ∉ QT.bad) (u : Upd k e x e') :
    QT sel e e' x [] := by
  cases u with
  | enq t _ m ht =>
    subst ht
    exact QT.enq e m (hs m (Msg.ctl_of_tag (fun h => hk (by rw [h]; decide +kernel)) (fun h => hk (by rw [h]; decide +kernel))))
  | send => exact QT.sendSome e
  | closeOut => exact QT.close rfl (List.prefix_refl _)
  | clearOut _ h => exact QT.close h List.nil_prefix
  | discardOut => exact absurd (by decide +kernel) hk
  | queue q => exact QT.silent (q.frame .outq) (q.frame .outClosed) rfl
  | ctl c => exact QT.silent (c.frame .outq) (c.frame .outClosed) rfl
  | req r =>
    refine QT.silent (r.frame .outq) (r.frame .outClosed) ?_
    cases r with
    | answerRest => exact selEv_map_openDone _ _
    | _ => rfl
  | _ => exact QT.silent rfl rfl rfl

/-- The connection task, the open futures and every call but `write` and `send_datagram` hand nothing over. -/
theorem QT.of_path (hs : Quiet sel) {A : Kinds} {e e' : EP} {x : List Ev} (p : Path A e x e')
    (hA : A.disj QT.bad = true := by decide +kernel) : QT sel e e' x [] :=
  p.rel (R := fun e x e' => QT sel e e' x []) QT.refl QT.trans0 fun hk u => .of_upd hs (Kinds.not_mem_of_disj hA hk) u

end Sel

/-! ### Stream integrity: the `Push` frames -/

/-- The `Push` frames in a list of messages: (flow id, payload), in order. -/
def pushesQ : List Msg → List (Nat × Bytes)
  | [] => []
  | .frame (.push fid d) :: r => (fid, d) :: pushesQ r
  | _ :: r => pushesQ r

/-- The `Push` frames handed to the transport among a list of events, in order. -/
def pushesEv : List Ev → List (Nat × Bytes)
  | [] => []
  | .wire (.frame (.push fid d)) :: r => (fid, d) :: pushesEv r
  | _ :: r => pushesEv r

def pushSel : Msg → Option (Nat × Bytes)
  | .frame (.push fid d) => some (fid, d)
  | _ => none

theorem pushSel_quiet : Quiet pushSel := by
  intro m h
  cases m with
  | frame f => cases f <;> first | rfl | cases h
  | _ => rfl

theorem pushesQ_eq (l : List Msg) : pushesQ l = selQ pushSel l := by
  induction l with
  | nil => rfl
  | cons m r ih =>
    cases m with
    | frame f => cases f <;> (simp only [pushesQ, ih]; rfl)
    | _ => simp only [pushesQ, ih]; rfl

theorem pushesEv_eq (l : List Ev) : pushesEv l = selEv pushSel l := by
  induction l with
  | nil => rfl
  | cons ev r ih =>
    cases ev with
    | wire m =>
      cases m with
      | frame f => cases f <;> (simp only [pushesEv, ih]; rfl)
      | _ => simp only [pushesEv, ih]; rfl
    | _ => simp only [pushesEv, ih]; rfl

/-- `QT pushSel` written out with `pushesQ` and `pushesEv`, the functions the theorems about histories are stated with
    (`sender_inv`, Props C02); `SnT.iff` ties it back and every lemma below comes through it.  A further selection of
    messages states its results on `QT sel` directly. -/
structure SnO (q : List Msg) (c : Bool) (q' : List Msg) (c' : Bool) (evs : List Ev) (W : List (Nat × Bytes)) : Prop where
  closed : c = true → c' = true
  pre : pushesEv evs ++ pushesQ q' <+: pushesQ q ++ W
  eq : c' = false → pushesEv evs ++ pushesQ q' = pushesQ q ++ W
  noW : c = true → W = []

def SnT (e e' : EP) (evs : List Ev) (W : List (Nat × Bytes)) : Prop :=
  SnO e.outq e.outClosed e'.outq e'.outClosed evs W

theorem SnT.iff {e e' : EP} {evs : List Ev} {W : List (Nat × Bytes)} : SnT e e' evs W ↔ QT pushSel e e' evs W := by
  constructor
  · intro h
    have h' := h
    unfold SnT at h'
    obtain ⟨h1, h2, h3, h4⟩ := h'
    simp only [pushesQ_eq, pushesEv_eq] at h2 h3
    exact ⟨h1, h2, h3, h4⟩
  · intro h
    obtain ⟨h1, h2, h3, h4⟩ := h
    simp only [← pushesQ_eq, ← pushesEv_eq] at h2 h3
    exact ⟨h1, h2, h3, h4⟩

theorem SnT.silent {e e' : EP} {evs : List Ev} (hq : e'.outq = e.outq) (hc : e'.outClosed = e.outClosed)
    (hev : pushesEv evs = []) : SnT e e' evs [] :=
  SnT.iff.mpr (QT.silent hq hc (pushesEv_eq evs ▸ hev))

theorem SnT.refl (e : EP) : SnT e e [] [] := SnT.iff.mpr (QT.refl e)

theorem SnT.trans {a b c : EP} {ev1 ev2 : List Ev} {W1 W2 : List (Nat × Bytes)}
    (s : SnT a b ev1 W1) (t : SnT b c ev2 W2) : SnT a c (ev1 ++ ev2) (W1 ++ W2) :=
  SnT.iff.mpr ((SnT.iff.mp s).trans (SnT.iff.mp t))

theorem SnT.after {a b c : EP} {ev1 ev2 : List Ev} {W1 W2 : List (Nat × Bytes)}
    (t : SnT b c ev2 W2) (s : SnT a b ev1 W1) : SnT a c (ev1 ++ ev2) (W1 ++ W2) := s.trans t

theorem SnT.evs {e e' : EP} {evs evs' : List Ev} {W W' : List (Nat × Bytes)} (s : SnT e e' evs W)
    (h : evs' = evs) (hw : W' = W) : SnT e e' evs' W' := by subst h hw; exact s

theorem SnT.tr {a b c : EP} {ev1 ev2 : List Ev} (s : SnT a b ev1 []) (t : SnT b c ev2 []) : SnT a c (ev1 ++ ev2) [] :=
  (s.trans t).evs rfl rfl

theorem SnT.congr {e e' a a' : EP} {evs : List Ev} {W : List (Nat × Bytes)} (s : SnT e e' evs W)
    (h1q : a.outq = e.outq) (h1c : a.outClosed = e.outClosed) (h2q : a'.outq = e'.outq) (h2c : a'.outClosed = e'.outClosed) :
    SnT a a' evs W := SnT.iff.mpr ((SnT.iff.mp s).congr h1q h1c h2q h2c)

theorem SnT.modObj (e : EP) (i : Nat) (f : Obj → Obj) : SnT e (e.modObj i f) [] [] := SnT.iff.mpr (QT.modObj e i f)

theorem SnT.enqPush (e : EP) (fid : Nat) (d : Bytes) (hc : e.outClosed = false) :
    SnT e (e.enqFrame (.push fid d)) [] [(fid, d)] := SnT.iff.mpr (QT.enqOpen e (.frame (.push fid d)) hc)

theorem SnT.of_path {A : Kinds} {e e' : EP} {x : List Ev} (p : Path A e x e')
    (hA : A.disj QT.bad = true := by decide +kernel) : SnT e e' x [] :=
  SnT.iff.mpr (.of_path pushSel_quiet p hA)

theorem SnT.openRound (e : EP) (r : OpenReq) : SnT e (openRound e r).1 (openRound e r).2 [] :=
  .of_path (.openRoundAny e r)

theorem SnT.closeFlow (e : EP) (fid : Nat) (inh : Bool) : SnT e (closeFlow e fid inh).1 (closeFlow e fid inh).2 [] :=
  .of_path (.closeFlow e fid inh)

/-- `process_frame` never queues a `Push` (it answers with `Reset` or `Acknowledge` only). -/
theorem SnT.processFrame (e : EP) (f : Frame) (ig : Bool) :
    SnT e (processFrame e f ig).1 (processFrame e f ig).2.1 [] :=
  .of_path (.processFrame e f ig)

theorem SnT.windDown (e : EP) (drain : Bool) (res : ExitRes) :
    SnT e (windDown e drain res).1 (windDown e drain res).2 [] :=
  .of_path (.windDown e drain res)

theorem SnT.unpark (e : EP) : SnT e (unpark e) [] [] := .of_path (.unpark e)

theorem SnT.settleLoop (fuel : Nat) (e : EP) (acc : List Ev) :
    ∃ evs, (settleLoop fuel e acc).2 = acc ++ evs ∧ SnT e (settleLoop fuel e acc).1 evs [] := by
  obtain ⟨evs, h1, h2⟩ := Path.settleLoop fuel e acc
  exact ⟨evs, h1, .of_path h2⟩

theorem SnT.runRetries (e : EP) (l : List Nat) : SnT e (runRetries e l).1 (runRetries e l).2 [] :=
  .of_path (.runRetries e l)

theorem SnT.runDone (e : EP) (l : List (Nat × Nat)) : SnT e (runDone e l).1 (runDone e l).2 [] :=
  .of_path (.runDone e l)

theorem SnT.settle (e : EP) : SnT e (settle e).1 (settle e).2 [] := .of_path (.settle e)

end Penguin.Mux
