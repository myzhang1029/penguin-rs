/-
Every message an endpoint model ever puts on its outbound queue is well-formed (`Frame.wf`: the
ranges the wire codec needs — ids, windows and acknowledge counts below 2^32, ports below 2^16, a
`Datagram` host of at most 255 bytes), under an endpoint invariant `EPwf` that every step preserves.
This is what makes "encode, then decode" the identity on everything that travels (C09 ∘ C02, see
`Lemmas/PairBytes.lean`).

Where a value comes from the application (the port of `open` / `bind`, the flow id and port of a
datagram) or from the peer (the frame handed to `processFrame`), its range is a hypothesis of the
lemma — the Rust types (`u16`, `u32`) and the decoder (`decode_fields`) guarantee it.

`Good` is proved function by function below the level of the task (from there on `Good.walk`,
`Lemmas/MuxWfSettle.lean`, uses the spine): that an enqueued frame is in range is no guard of the step
`Upd.enq` (`Lemmas/MuxTrace.lean`) — it comes from the arguments of the function that enqueues it —, so
the scheme "kind by kind of step" (`R.of_upd`, `R.of_path`) does not apply here.
Core Lean only.
-/
import Penguin.Lemmas.MuxReach

namespace Penguin.Mux

/-- A message is well-formed: a frame is in the codec's ranges; control messages always are. -/
def Msg.wf : Msg → Prop
  | .frame f => f.wf
  | _ => True

instance (m : Msg) : Decidable m.wf := by
  cases m <;> unfold Msg.wf <;> infer_instance

/-- What the transport delivers is well-formed (a decoded frame always is, `C09.decode_fields`). -/
def WsIn.wf : WsIn → Prop
  | .msg m => m.wf
  | _ => True

instance (w : WsIn) : Decidable w.wf := by
  cases w <;> unfold WsIn.wf <;> infer_instance

def OutWf (e : EP) : Prop := ∀ m ∈ e.outq, m.wf

/-- A stream object: its flow id is a `u32`, and the count of frames received since the last
    `Acknowledge` stays below the threshold (itself a `u32`), so the count sent is a `u32`. -/
structure Obj.ok (o : Obj) : Prop where
  fid : o.fid < 4294967296
  thr : o.threshold < 4294967296
  cnt : o.recvdSince = 0 ∨ o.recvdSince < o.threshold

/-- The endpoint invariant behind `OutWf`. -/
structure EPwf (e : EP) : Prop where
  rwnd : e.opts.rwnd < 4294967296
  rng : ∀ k ∈ e.rng, k < 4294967296
  flows : ∀ p ∈ e.flows, p.1 < 4294967296
  objs : ∀ o ∈ e.objs, o.ok
  opens : ∀ r ∈ e.opens, r.port < 65536
  bindq : ∀ b ∈ e.bindq, b.fid < 4294967296
  held : ∀ b ∈ e.held, b.fid < 4294967296
  park : ∀ b, e.park = some (.bind b) → b.fid < 4294967296
  inbox : ∀ w ∈ e.inbox, w.wf

/-- The invariant and its consequence together: what every step preserves. -/
structure Good (e : EP) : Prop extends EPwf e where
  out : OutWf e

theorem Good.of {e : EP} (h : EPwf e) (ho : OutWf e) : Good e := ⟨h, ho⟩

theorem Good_init (o : Opts) (r : List Nat) (ho : o.rwnd < 4294967296) (hr : ∀ k ∈ r, k < 4294967296) :
    Good { opts := o, rng := r } :=
  ⟨⟨ho, hr, by simp, by simp, by simp, by simp, by simp, by simp, by simp⟩, by simp [OutWf]⟩

/-! ### Building blocks -/

theorem forall_mem_snoc {α : Type} {P : α → Prop} {l : List α} {x : α} (hl : ∀ a ∈ l, P a) (hx : P x) :
    ∀ a ∈ l ++ [x], P a := by
  intro a ha
  rcases List.mem_append.mp ha with ha | ha
  · exact hl a ha
  · rw [List.mem_singleton.mp ha]; exact hx

theorem Good.enq {e : EP} (h : Good e) {m : Msg} (hm : m.wf) : Good (e.enq m) := by
  unfold EP.enq
  split
  · exact h
  · exact { h with out := forall_mem_snoc h.out hm }

theorem Good.enqFrame {e : EP} (h : Good e) {f : Frame} (hf : f.wf) : Good (e.enqFrame f) :=
  h.enq (m := .frame f) hf

theorem forall_mem_modify {α : Type} {P : α → Prop} {l : List α} {i : Nat} {f : α → α} (hl : ∀ a ∈ l, P a)
    (hf : ∀ a, l[i]? = some a → P a → P (f a)) : ∀ a ∈ l.modify i f, P a := by
  intro a ha
  obtain ⟨j, hj⟩ := List.getElem?_of_mem ha
  rw [List.getElem?_modify] at hj
  cases h : l[j]? with
  | none => simp [h] at hj
  | some a' =>
    have ha' := hl _ (List.mem_of_getElem? h)
    simp only [h, Option.map_eq_map, Option.map_some, Option.some.injEq] at hj
    subst hj
    split
    · rename_i hij; subst hij; exact hf _ h ha'
    · exact ha'

theorem Good.modObj_at {e : EP} (h : Good e) (i : Nat) {f : Obj → Obj}
    (hf : ∀ o, e.objs[i]? = some o → o.ok → (f o).ok) : Good (e.modObj i f) :=
  { h with objs := forall_mem_modify h.objs hf }

theorem Good.modObj {e : EP} (h : Good e) (i : Nat) {f : Obj → Obj} (hf : ∀ o, o.ok → (f o).ok) :
    Good (e.modObj i f) := h.modObj_at i (fun o _ => hf o)

theorem Obj.ok.of_eq {o o' : Obj} (h : o.ok) (h1 : o'.fid = o.fid) (h2 : o'.threshold = o.threshold)
    (h3 : o'.recvdSince = o.recvdSince) : o'.ok := ⟨by rw [h1]; exact h.fid, by rw [h2]; exact h.thr, by rw [h2, h3]; exact h.cnt⟩

/-- Changing one object in other fields only (by computation). -/
theorem Good.modObj_same {e : EP} (h : Good e) (i : Nat) (f : Obj → Obj) (h1 : ∀ o, (f o).fid = o.fid := by intro _; rfl)
    (h2 : ∀ o, (f o).threshold = o.threshold := by intro _; rfl)
    (h3 : ∀ o, (f o).recvdSince = o.recvdSince := by intro _; rfl) : Good (e.modObj i f) :=
  h.modObj i fun o ho => ho.of_eq (h1 o) (h2 o) (h3 o)

@[simp] theorem wake_fid (o : Obj) : o.wake.fid = o.fid := by unfold Obj.wake; split <;> rfl
@[simp] theorem wake_threshold (o : Obj) : o.wake.threshold = o.threshold := by unfold Obj.wake; split <;> rfl
@[simp] theorem wake_recvdSince (o : Obj) : o.wake.recvdSince = o.recvdSince := by unfold Obj.wake; split <;> rfl
@[simp] theorem disallowWrite_fid (o : Obj) : o.disallowWrite.fid = o.fid := by simp [Obj.disallowWrite]
@[simp] theorem disallowWrite_threshold (o : Obj) : o.disallowWrite.threshold = o.threshold := by simp [Obj.disallowWrite]
@[simp] theorem disallowWrite_recvdSince (o : Obj) : o.disallowWrite.recvdSince = o.recvdSince := by simp [Obj.disallowWrite]

theorem Obj.ok.wake {o : Obj} (h : o.ok) : o.wake.ok := h.of_eq (by simp) (by simp) (by simp)
theorem Obj.ok.disallowWrite {o : Obj} (h : o.ok) : o.disallowWrite.ok := h.of_eq (by simp) (by simp) (by simp)

/-- The object a new stream gets: threshold at most the own window, nothing counted yet. -/
theorem newObj_ok (o : Opts) (fid peerRwnd : Nat) (host : Bytes) (port : Nat) (hf : fid < 4294967296)
    (ho : o.rwnd < 4294967296) : (newObj o fid peerRwnd host port).ok :=
  ⟨hf, Nat.lt_of_le_of_lt (thresholdFor_le o _) ho, Or.inl rfl⟩

theorem flows_erase {m : List (Nat × Slot)} (h : ∀ p ∈ m, p.1 < 4294967296) (k : Nat) :
    ∀ p ∈ erase m k, p.1 < 4294967296 := fun p hp => h p (mem_erase hp)

theorem flows_insert {m : List (Nat × Slot)} (h : ∀ p ∈ m, p.1 < 4294967296) {k : Nat} (hk : k < 4294967296)
    (v : Slot) : ∀ p ∈ insert m k v, p.1 < 4294967296 := by
  intro p hp
  rcases mem_insert hp with hp | hp
  · subst hp; exact hk
  · exact h p hp

/-- Nothing is parked: no bind request whose id is to be bounded. -/
theorem noPark_ok (b : BindIn) (h : (none : Option Park) = some (.bind b)) : b.fid < 4294967296 := nomatch h

theorem Good.lookup_lt {e : EP} (h : Good e) {fid : Nat} {s : Slot} (hl : lookup e.flows fid = some s) :
    fid < 4294967296 := h.flows _ (lookup_mem _ _ _ hl)

theorem Good.obj_ok {e : EP} (h : Good e) {i : Nat} {o : Obj} (ho : e.objs[i]? = some o) : o.ok :=
  h.objs o (List.mem_of_getElem? ho)

/-! ### Drawing a flow id -/

theorem drawScript_lt (flows : List (Nat × Slot)) (s : List Nat) (k : Nat) (rest : List Nat)
    (hd : drawScript flows s = some (k, rest)) (hs : ∀ x ∈ s, x < 4294967296) :
    k < 4294967296 ∧ ∀ x ∈ rest, x < 4294967296 := by
  induction s with
  | nil => simp [drawScript] at hd
  | cons a s ih =>
    unfold drawScript at hd
    split at hd
    · simp only [Option.some.injEq, Prod.mk.injEq] at hd
      obtain ⟨rfl, rfl⟩ := hd
      exact ⟨hs _ (by simp), fun x hx => hs x (List.mem_cons_of_mem _ hx)⟩
    · exact ih hd (fun x hx => hs x (List.mem_cons_of_mem _ hx))

theorem fallbackNext_lt (x : Nat) : (fallbackNext x).1 < 4294967296 := by
  unfold fallbackNext
  exact Nat.or_lt_two_pow (n := 32) (Nat.mod_lt _ (by decide)) (by decide)

theorem drawFallback_lt (flows : List (Nat × Slot)) (fb fuel : Nat) (r : Nat × Nat)
    (hd : drawFallback flows fb fuel = some r) : r.1 < 4294967296 := by
  induction fuel generalizing fb with
  | zero => simp [drawFallback] at hd
  | succ n ih =>
    unfold drawFallback at hd
    simp only at hd
    split at hd
    · simp only [Option.some.injEq] at hd; subst hd; exact fallbackNext_lt fb
    · exact ih _ hd

/-- The id drawn is a `u32` (the script holds `next_u32` values; so does the fallback generator). -/
theorem drawId_lt (flows : List (Nat × Slot)) (s : List Nat) (fb fuel k : Nat) (rest : List Nat) (fb' : Nat)
    (hd : drawId flows s fb fuel = some (k, rest, fb')) (hs : ∀ x ∈ s, x < 4294967296) :
    k < 4294967296 ∧ ∀ x ∈ rest, x < 4294967296 := by
  unfold drawId at hd
  split at hd
  · rename_i k' rest' hds
    simp only [Option.some.injEq, Prod.mk.injEq] at hd
    obtain ⟨rfl, rfl, _⟩ := hd
    exact drawScript_lt flows s _ _ hds hs
  · cases hf : drawFallback flows fb fuel with
    | none => simp [hf] at hd
    | some r =>
      simp only [hf, Option.map_some, Option.some.injEq, Prod.mk.injEq] at hd
      obtain ⟨rfl, rfl, _⟩ := hd
      exact ⟨drawFallback_lt flows fb fuel r hf, by simp⟩

/-! ### Opening a stream -/

theorem opens_filter {l : List OpenReq} (h : ∀ r ∈ l, r.port < 65536) (p : OpenReq → Bool) :
    ∀ r ∈ l.filter p, r.port < 65536 := fun r hr => h r (List.mem_filter.mp hr).1

/-- One round of `new_stream_channel`: the `Connect` carries a drawn id, the own window and the
    port the application gave (a `u16`). -/
theorem Good.openRound {e : EP} (h : Good e) (r : OpenReq) (hp : r.port < 65536) : Good (openRound e r).1 := by
  unfold Mux.openRound
  split
  · exact { h with opens := opens_filter h.opens _ }
  · split
    · exact { h with opens := opens_filter h.opens _ }
    · rename_i fid rng' fb' hd
      obtain ⟨hfid, hrng⟩ := drawId_lt _ _ _ _ _ _ _ hd h.rng
      have h1 : Good { e with
          rng := rng', fallback := fb', flows := insert e.flows fid (.requested r.req),
          opens := { r with retriesLeft := r.retriesLeft - 1 } :: e.opens.filter (·.req ≠ r.req) } :=
        { h with
          rng := hrng
          flows := flows_insert h.flows hfid _
          opens := by
            intro x hx
            rcases List.mem_cons.mp hx with hx | hx
            · subst hx; exact hp
            · exact opens_filter h.opens _ x hx }
      simp only
      split
      · exact { h with rng := hrng, opens := opens_filter h.opens _ }
      · exact h1.enqFrame ⟨hfid, h.rwnd, hp⟩

theorem Good.appOpen {e : EP} (h : Good e) (req : Nat) (host : Bytes) (port : Nat) (hp : port < 65536) :
    Good (appOpen e req host port).1 := h.openRound _ hp

theorem Good.runRetries {e : EP} (h : Good e) (l : List Nat) : Good (runRetries e l).1 := by
  induction l generalizing e with
  | nil => exact h
  | cons req rest ih =>
    unfold Mux.runRetries
    split
    · exact ih h
    · rename_i r hf
      exact ih (h.openRound r (h.opens r (List.mem_of_find?_eq_some hf)))

theorem Good.runDone {e : EP} (h : Good e) (l : List (Nat × Nat)) : Good (runDone e l).1 := by
  induction l generalizing e with
  | nil => exact h
  | cons x rest ih =>
    obtain ⟨req, i⟩ := x
    unfold Mux.runDone
    exact ih (e := { e with handles := e.handles ++ [i] }) { h with }

/-! ### Closing a flow -/

theorem Good.openRejected {e : EP} (h : Good e) (req : Nat) (final : Bool) : Good (openRejected e req final).1 := by
  fun_cases Mux.openRejected e req final
  case case1 => exact h
  case case2 => exact { h with opens := opens_filter h.opens _ }
  case case3 => exact { h with }

/-- `close_flow_local`: the `Reset` carries the id of the slot that was removed. -/
theorem Good.closeLocal {e : EP} (h : Good e) (s : Slot) (fid : Nat) (hf : fid < 4294967296) (inh final : Bool) :
    Good (closeLocal e s fid inh final).1 := by
  unfold Mux.closeLocal
  split
  · split
    · exact h
    · rename_i i _ o _
      have h1 := h.modObj (e := e) i (f := fun o => { o.disallowWrite with senderAlive := false })
        (fun o ho => ho.disallowWrite.of_eq rfl rfl rfl)
      simp only
      split
      · exact h1.enqFrame hf
      · exact h1
  · exact h.openRejected _ _
  · exact h

theorem Good.eraseFlow {e : EP} (h : Good e) (fid : Nat) : Good { e with flows := erase e.flows fid } :=
  { h with flows := flows_erase h.flows fid }

theorem Good.closeFlow {e : EP} (h : Good e) (fid : Nat) (inh : Bool) : Good (closeFlow e fid inh).1 := by
  unfold Mux.closeFlow
  split
  · exact h
  · rename_i s hl
    exact (h.eraseFlow fid).closeLocal s fid (h.lookup_lt hl) inh false

/-! ### `process_frame` -/

theorem Good.offerAccept {e : EP} (h : Good e) (i : Nat) : Good (offerAccept e i) := by
  unfold Mux.offerAccept
  split
  · exact { h with }
  · exact { h with park := by intro b hb; cases hb }

theorem Good.offerBind {e : EP} (h : Good e) (b : BindIn) (hb : b.fid < 4294967296) : Good (offerBind e b) := by
  unfold Mux.offerBind
  split
  · exact { h with bindq := forall_mem_snoc h.bindq hb }
  · refine { h with park := ?_ }
    intro x hx
    simp only [Option.some.injEq, Park.bind.injEq] at hx
    subst hx; exact hb

theorem Good.newStream {e : EP} (h : Good e) (fid peerRwnd : Nat) (host : Bytes) (port : Nat)
    (hf : fid < 4294967296) :
    Good { e with objs := e.objs ++ [newObj e.opts fid peerRwnd host port],
                  flows := insert e.flows fid (.established e.objs.length) } :=
  { h with objs := forall_mem_snoc h.objs (newObj_ok _ _ _ _ _ hf h.rwnd), flows := flows_insert h.flows hf _ }

/-- Processing a (well-formed, i.e. decoded) frame: the replies — `Acknowledge` with the own window,
    `Reset` with the id of the frame or of the slot — are well-formed. -/
theorem Good.processFrame {e : EP} (h : Good e) (f : Frame) (hf : f.wf) (ig : Bool) : Good (processFrame e f ig).1 := by
  fun_cases Mux.processFrame e f ig
  -- the cases in the order of the model: `Connect` 1-4, `Acknowledge` 5-9, `Finish` 10-13, `Reset` 14, `Push` 15-20,
  -- `Bind` 21-24, `Datagram` 25-27
  -- a `Reset` with the frame's id: the id names no slot, or a slot of another kind; a `Bind` is refused
  case case1 | case8 | case9 | case21 | case23 => exact h.enqFrame hf.1
  case case10 | case16 | case20 => exact h.enqFrame hf
  -- nothing changes: a `Push` or a `Datagram` is dropped, a `Bind` comes during the wind-down
  case case15 | case17 | case22 | case25 | case27 => exact h
  -- `Connect`, a new stream: the queue is closed (2), nobody accepts any more (3), it is offered (4)
  case case2 => exact h.newStream _ _ _ _ hf.1
  case case3 =>
    exact { ((h.newStream _ _ _ _ hf.1).enqFrame (f := .acknowledge _ e.opts.rwnd) ⟨hf.1, h.rwnd⟩).modObj_same e.objs.length
      (fun o => { o with rxOpen := false }) with }
  case case4 => exact ((h.newStream _ _ _ _ hf.1).enqFrame (f := .acknowledge _ e.opts.rwnd) ⟨hf.1, h.rwnd⟩).offerAccept _
  -- `Acknowledge`: credit for a stream (5); an open request gets its stream (6), or has given up (7)
  case case5 => exact h.modObj _ (fun o ho => ho.wake.of_eq rfl rfl rfl)
  case case6 => exact { h.newStream _ _ [] 0 hf.1 with opens := opens_filter h.opens _ }
  case case7 => exact { (h.newStream _ _ [] 0 hf.1).modObj_same e.objs.length (fun o => { o with rxOpen := false }) with }
  -- `Finish`: a bind request is accepted (11), an open request is closed (12), a stream ends (13); `Push` into a stream (18)
  case case11 => exact h.eraseFlow _
  case case12 =>
    exact Good.enqFrame (e := { e with flows := erase e.flows _, opens := _ })
      { h with flows := flows_erase h.flows _, opens := opens_filter h.opens _ } hf
  case case13 | case18 => exact h.modObj_same _ _
  -- `Reset`, and a `Push` into a full stream: the flow is closed
  case case14 hx | case19 hx => exact (congrArg (fun r => Good r.1) hx).mp (h.closeFlow _ _)
  -- a `Bind` is offered, a `Datagram` is queued
  case case24 => exact h.offerBind _ hf.1
  case case26 => exact { h with }

theorem Good.processIn {e : EP} (h : Good e) (w : WsIn) (hw : w.wf) (ig : Bool) : Good (processIn e w ig).1 := by
  unfold Mux.processIn
  split
  · exact h.processFrame _ hw ig
  all_goals exact h

/-! ### The task's other steps -/

theorem Good.unpark {e : EP} (h : Good e) : Good (unpark e) := by
  unfold Mux.unpark
  split
  · exact h
  · split
    · split
      · exact { h.modObj_same _ (fun o => { o with rxOpen := false }) with park := noPark_ok }
      · exact { h with park := noPark_ok }
    · split
      · exact { h with park := noPark_ok }
      · exact h
  · rename_i b hp
    have hb := h.park b hp
    split
    · exact Good.enqFrame (e := { e with park := none }) { h with park := noPark_ok } hb
    · split
      · exact { h with park := noPark_ok, bindq := forall_mem_snoc h.bindq hb }
      · exact h

/-! ### Application calls -/

theorem Good.appAccept {e : EP} (h : Good e) : Good (appAccept e).1 := by
  fun_cases Mux.appAccept e
  case case1 => exact { h with }
  all_goals exact h

/-- `poll_write`: the `Push` carries the id of the stream object. -/
theorem Good.appWrite {e : EP} (h : Good e) (hd : Nat) (d : Bytes) : Good (appWrite e hd d).1 := by
  fun_cases Mux.appWrite e hd d
  case case1 => exact h
  case case6 i o hh _ _ _ _ =>
    exact Good.enqFrame (h.modObj_same _ _) (f := .push o.fid d) (h.obj_ok (handleObj_some hh)).fid
  all_goals exact h.modObj_same _ _

/-- `increment_psh_recvd_since`: the count acknowledged is at most the threshold, a `u32`. -/
theorem Good.ackStep {e : EP} (h : Good e) (i : Nat) (o : Obj) (ho : o.ok)
    (hx : ∀ x, e.objs[i]? = some x → x.threshold = o.threshold) : Good (ackStep e i o) := by
  unfold Mux.ackStep
  split
  · refine (h.modObj i (f := fun x => { x with recvdSince := 0 }) (fun x hx => ⟨hx.fid, hx.thr, Or.inl rfl⟩)).enqFrame
      (f := .acknowledge o.fid (o.recvdSince + 1)) ⟨ho.fid, ?_⟩
    have := ho.thr; have := ho.cnt
    omega
  · refine h.modObj_at i (f := fun x => { x with recvdSince := o.recvdSince + 1 }) (fun x hxi hxo => ⟨hxo.fid, hxo.thr, Or.inr ?_⟩)
    show o.recvdSince + 1 < x.threshold
    rw [hx x hxi]; omega

theorem Good.fillBuf {e : EP} (h : Good e) (fuel i : Nat) : Good (fillBuf fuel e i).1 := by
  induction fuel generalizing e with
  | zero => exact h
  | succ n ih =>
    unfold Mux.fillBuf
    split
    · exact h
    · rename_i o ho
      have hok := h.obj_ok ho
      split
      · exact h
      · split
        · rename_i f rest hq
          have h1 := h.modObj_same i (fun o => { o with rxq := rest, buf := f })
          have h2 := h1.ackStep i { o with rxq := rest, buf := f } (hok.of_eq rfl rfl rfl) (by
            intro x hxi
            rw [modObj_get_self, ho] at hxi
            simp only [Option.map_some, Option.some.injEq] at hxi
            subst hxi; rfl)
          simp only
          split
          · exact ih h2
          · exact h2
        · split
          · exact h
          · exact h.modObj_same _ _

/-- `poll_read`: the `Acknowledge` it may send is well-formed. -/
theorem Good.appRead {e : EP} (h : Good e) (hd n : Nat) : Good (appRead e hd n).1 := by
  unfold Mux.appRead
  split
  · exact h
  · rename_i i o hh
    have h1 := h.fillBuf (o.rxq.length + 2) i
    split
    · rename_i e' b heq
      rw [heq] at h1
      exact h1.modObj_same _ _
    · exact h1

/-- `poll_shutdown`: the `Finish` carries the id of the stream object. -/
theorem Good.appShutdown {e : EP} (h : Good e) (hd : Nat) : Good (appShutdown e hd).1 := by
  fun_cases Mux.appShutdown e hd
  case case1 => exact h
  case case2 => exact h.modObj_same _ _
  case case3 i o hh _ => exact Good.enqFrame (h.modObj_same _ _) (f := .finish o.fid) (h.obj_ok (handleObj_some hh)).fid

theorem Good.appDropStream {e : EP} (h : Good e) (hd : Nat) : Good (appDropStream e hd).1 := by
  unfold Mux.appDropStream
  split
  · exact h
  · rename_i i o _
    have h1 := h.modObj_same (e := e) i (fun o => { o with rxOpen := false, rxq := [], parked := false })
    simp only
    split
    · exact h1
    · exact { h1 with }

/-- `send_datagram`: flow id and port are the application's (`u32`, `u16`); a host longer than 255
    bytes is refused (lib.rs:348-360), so the `Datagram` frame is well-formed. -/
theorem Good.appSendDgram {e : EP} (h : Good e) (d : Dgram) (hf : d.fid < 4294967296) (hp : d.port < 65536) :
    Good (appSendDgram e d).1 := by
  fun_cases Mux.appSendDgram e d
  case case3 => exact h.enqFrame (f := .datagram d.fid d.port d.host d.data) ⟨hf, hp, by omega⟩
  all_goals exact h

theorem Good.appRecvDgram {e : EP} (h : Good e) : Good (appRecvDgram e).1 := by
  fun_cases Mux.appRecvDgram e
  case case1 => exact { h with }
  all_goals exact h

/-- `request_bind`: a drawn id and the application's port (`u16`). -/
theorem Good.appBindReq {e : EP} (h : Good e) (req : Nat) (bt : BindType) (host : Bytes) (port : Nat)
    (hp : port < 65536) : Good (appBindReq e req bt host port).1 := by
  unfold Mux.appBindReq
  split
  · exact h
  · rename_i fid rng' fb' hd
    obtain ⟨hfid, hrng⟩ := drawId_lt _ _ _ _ _ _ _ hd h.rng
    split
    · exact { h with rng := hrng }
    · exact Good.enqFrame (e := { e with rng := rng', fallback := fb', flows := insert e.flows fid (.bindRequested req) })
        { h with rng := hrng, flows := flows_insert h.flows hfid _ } (f := .bind fid bt port host) ⟨hfid, hp⟩

theorem Good.appBindNext {e : EP} (h : Good e) : Good (appBindNext e).1 := by
  unfold Mux.appBindNext
  split
  · exact h
  · split
    · rename_i b rest hq
      have hb : b.fid < 4294967296 := h.bindq b (by rw [hq]; simp)
      exact { h with bindq := fun x hx => h.bindq x (by rw [hq]; exact List.mem_cons_of_mem _ hx),
                     held := forall_mem_snoc h.held hb }
    · split <;> exact h

/-- `BindRequest::reply`: `Finish` or `Reset` with the id of the request. -/
theorem Good.appBindReply {e : EP} (h : Good e) (k : Nat) (acc : Bool) : Good (appBindReply e k acc).1 := by
  unfold Mux.appBindReply
  split
  · exact h
  · rename_i b hk
    have hb : b.fid < 4294967296 := h.held b (List.mem_of_getElem? hk)
    split
    · exact h
    · split
      · exact h
      · have h1 : Good (e.enqFrame (if acc then .finish b.fid else .reset b.fid)) :=
          h.enqFrame (by cases acc <;> exact hb)
        exact { h1 with held := forall_mem_modify (by
          intro x hx; exact h.held x (by simpa [EP.enqFrame] using hx)) (fun _ _ hb => hb) }

/-- Dropping a `BindRequest`: `Reset` with the id of the request. -/
theorem Good.appBindDrop {e : EP} (h : Good e) (k : Nat) : Good (appBindDrop e k).1 := by
  unfold Mux.appBindDrop
  split
  · exact h
  · rename_i b hk
    have hb : b.fid < 4294967296 := h.held b (List.mem_of_getElem? hk)
    split
    · exact h
    · have h1 : Good { e with held := e.held.modify k (fun b => { b with alive := false }) } :=
        { h with held := forall_mem_modify h.held (fun _ _ hb => hb) }
      simp only
      split
      · exact h1
      · exact h1.enqFrame hb

theorem Good.foldl_reset {e : EP} (h : Good e) (l : List BindIn) (hl : ∀ b ∈ l, b.fid < 4294967296) :
    Good (l.foldl (fun e b => e.enqFrame (.reset b.fid)) e) := by
  induction l generalizing e with
  | nil => exact h
  | cons b rest ih =>
    simp only [List.foldl_cons]
    exact ih (h.enqFrame (f := .reset b.fid) (hl b (by simp))) (fun x hx => hl x (List.mem_cons_of_mem _ hx))

/-- Dropping the `Multiplexor`: the queued `BindRequest`s reject themselves with well-formed `Reset`s. -/
theorem Good.appDropMux {e : EP} (h : Good e) : Good (appDropMux e).1 := by
  unfold Mux.appDropMux
  have h1 : Good { e with muxAlive := false, droppedq := if e.dead then e.droppedq else e.droppedq ++ [0] } := { h with }
  have h2 := h1.foldl_reset e.bindq h.bindq
  exact { h2 with bindq := by intro b hb; cases hb }

end Penguin.Mux
