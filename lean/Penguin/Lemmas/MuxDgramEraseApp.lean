/-
Datagrams never disturb anything else — part 2: the application calls and whole histories.

`strip e q` is the state `e` with another datagram queue and every not yet processed `Datagram` frame replaced
by a `Ping`; `neutralOp` replaces the delivery of a `Datagram` frame by the delivery of a `Ping`.  Every
function of the model commutes with `strip` (part 1: the task; here: the application calls).  Hence the
history in which every `Datagram` frame the peer ever sent is replaced by a `Ping` — whatever its size,
flow id, host, payload — passes through exactly the same states except for `dgramq`, emits exactly the
same events, and answers every call except `get_datagram` in the same way.
Core Lean only.
-/
import Penguin.Lemmas.MuxDgramErase

namespace Penguin.Mux

theorem appAccept_strip {e e' : EP} {q : List Dgram} (h : e' = strip e q) : appAccept e' = stripR (appAccept e) q := by
  subst h
  unfold Mux.appAccept strip stripR
  dsimp only
  repeat' split
  all_goals rfl

theorem handleObj_strip (e : EP) (q : List Dgram) (h : Nat) : (strip e q).handleObj h = e.handleObj h := rfl

theorem appWrite_strip {e e' : EP} {q : List Dgram} (h : e' = strip e q) (hd : Nat) (d : Bytes) :
    appWrite e' hd d = stripR (appWrite e hd d) q := by
  subst h
  unfold Mux.appWrite
  rw [handleObj_strip]
  cases e.handleObj hd with
  | none => rfl
  | some p =>
    exact ite_stripR rfl (ite_stripR rfl (ite_stripR rfl (ite_stripR rfl
      (congrArg (·, Res.wrote d.length) (enqFrame_strip (by rfl) _)))))

theorem ackStep_strip {e e' : EP} {q : List Dgram} (h : e' = strip e q) (i : Nat) (o : Obj) :
    ackStep e' i o = strip (ackStep e i o) q := by
  subst h
  unfold Mux.ackStep EP.enqFrame EP.enq EP.modObj strip
  dsimp only
  repeat' split
  all_goals rfl

theorem fillBuf_strip (fuel : Nat) {e e' : EP} {q : List Dgram} (h : e' = strip e q) (i : Nat) :
    fillBuf fuel e' i = stripR (fillBuf fuel e i) q := by
  induction fuel generalizing e e' with
  | zero => subst h; rfl
  | succ n ih =>
    subst h
    rw [Mux.fillBuf, Mux.fillBuf, strip_objs]
    cases ho : e.objs[i]? with
    | none => rfl
    | some o =>
      simp only []
      by_cases hb : (!o.buf.isEmpty) = true
      · simp only [hb, if_true]; rfl
      · simp only [hb]
        cases hq : o.rxq with
        | nil =>
          simp only []
          by_cases hs : o.senderAlive = true
          · simp only [hs, if_true]; rfl
          · simp only [hs]; rfl
        | cons f rest =>
          simp only []
          rw (transparency := .default) [ackStep_strip (e := e.modObj i (fun o => { o with rxq := rest, buf := f })) (q := q) rfl]
          by_cases hf : f.isEmpty = true
          · simp only [hf, if_true]; exact ih rfl
          · simp only [hf]; rfl

theorem appRead_strip {e e' : EP} {q : List Dgram} (h : e' = strip e q) (hd n : Nat) :
    appRead e' hd n = stripR (appRead e hd n) q := by
  subst h
  unfold Mux.appRead
  rw [handleObj_strip]
  cases hho : e.handleObj hd with
  | none => rfl
  | some p =>
    obtain ⟨i, o⟩ := p
    simp only []
    rw [fillBuf_strip _ (e := e) (q := q) rfl]
    generalize fillBuf (o.rxq.length + 2) e i = r
    obtain ⟨e1, res⟩ := r
    cases res <;> rfl

theorem appShutdown_strip {e e' : EP} {q : List Dgram} (h : e' = strip e q) (hd : Nat) :
    appShutdown e' hd = stripR (appShutdown e hd) q := by
  subst h
  unfold Mux.appShutdown EP.handleObj EP.enqFrame EP.enq EP.modObj strip stripR
  dsimp only
  repeat' split
  all_goals rfl

theorem appDropStream_strip {e e' : EP} {q : List Dgram} (h : e' = strip e q) (hd : Nat) :
    appDropStream e' hd = stripR (appDropStream e hd) q := by
  subst h
  unfold Mux.appDropStream EP.handleObj EP.modObj strip stripR
  dsimp only
  repeat' split
  all_goals rfl

theorem appSendDgram_strip {e e' : EP} {q : List Dgram} (h : e' = strip e q) (d : Dgram) :
    appSendDgram e' d = stripR (appSendDgram e d) q := by
  subst h
  unfold Mux.appSendDgram EP.enqFrame EP.enq strip stripR
  dsimp only
  repeat' split
  all_goals rfl

theorem appBindReq_strip {e e' : EP} {q : List Dgram} (h : e' = strip e q) (req : Nat) (bt : BindType) (host : Bytes)
    (port : Nat) : appBindReq e' req bt host port = stripR (appBindReq e req bt host port) q := by
  subst h
  unfold Mux.appBindReq EP.enqFrame EP.enq strip stripR
  dsimp only
  repeat' split
  all_goals rfl

theorem appBindNext_strip {e e' : EP} {q : List Dgram} (h : e' = strip e q) : appBindNext e' = stripR (appBindNext e) q := by
  subst h
  unfold Mux.appBindNext strip stripR
  dsimp only
  repeat' split
  all_goals rfl

theorem appBindReply_strip {e e' : EP} {q : List Dgram} (h : e' = strip e q) (k : Nat) (a : Bool) :
    appBindReply e' k a = stripR (appBindReply e k a) q := by
  subst h
  unfold Mux.appBindReply EP.enqFrame EP.enq strip stripR
  dsimp only
  repeat' split
  all_goals rfl

theorem appBindDrop_strip {e e' : EP} {q : List Dgram} (h : e' = strip e q) (k : Nat) :
    appBindDrop e' k = stripR (appBindDrop e k) q := by
  subst h
  unfold Mux.appBindDrop EP.enqFrame EP.enq strip stripR
  dsimp only
  repeat' split
  all_goals rfl

theorem foldEnq_strip (l : List BindIn) {e e' : EP} {q : List Dgram} (h : e' = strip e q) :
    l.foldl (fun e b => e.enqFrame (.reset b.fid)) e' = strip (l.foldl (fun e b => e.enqFrame (.reset b.fid)) e) q := by
  induction l generalizing e e' with
  | nil => exact h
  | cons b rest ih => exact ih (enq_strip h _)

/-- Dropping the `Multiplexor` empties the datagram queue on both sides. -/
theorem appDropMux_strip {e e' : EP} {q : List Dgram} (h : e' = strip e q) :
    appDropMux e' = stripR (appDropMux e) [] := by
  subst h
  unfold Mux.appDropMux
  simp only [strip_dead, strip_droppedq, strip_bindq]
  rw (transparency := .default) [foldEnq_strip e.bindq
    (e := { e with muxAlive := false, droppedq := if e.dead then e.droppedq else e.droppedq ++ [0] }) (q := q) rfl]
  rfl

/-- `get_datagram` on the side without datagrams finds nothing; the other fields agree. -/
theorem appRecvDgram_strip (e : EP) : (appRecvDgram (strip e [])).1 = strip (appRecvDgram e).1 [] := by
  have h1 : (appRecvDgram (strip e [])).1 = strip e [] := by
    unfold Mux.appRecvDgram
    rw [strip_dgramq]
    simp only []
    split <;> rfl
  have h2 : strip (appRecvDgram e).1 [] = strip e [] := by
    unfold Mux.appRecvDgram
    split
    · rfl
    · split <;> rfl
  rw [h1, h2]

/-! ### One stimulus, whole histories -/

theorem any_end_neutral (l : List WsIn) :
    (l.map neutral).any (fun x => x == .eof || x == .err) = l.any (fun x => x == .eof || x == .err) := by
  induction l with
  | nil => rfl
  | cons w rest ih =>
    simp only [List.map_cons, List.any_cons, ih]
    have h1 : (neutral w == WsIn.eof) = (w == WsIn.eof) := by
      rw [Bool.eq_iff_iff]; simp [neutral_ne_eof]
    have h2 : (neutral w == WsIn.err) = (w == WsIn.err) := by
      rw [Bool.eq_iff_iff]; simp [neutral_ne_err]
    rw [h1, h2]

theorem strip_snoc (e : EP) (q : List Dgram) (l : List WsIn) :
    ({ strip e q with inbox := e.inbox.map neutral ++ l.map neutral } : EP) = strip { e with inbox := e.inbox ++ l } q := by
  unfold strip
  simp only [List.map_append]

/-- A call's answer, except that of `get_datagram` (which is the one call that is meant to see
    datagrams). -/
def visible (op : Op) (r : Res) : Option Res :=
  match op with
  | .recvDgram => none
  | _ => some r

/-- The shape of `opStep_strip` for a call that emits nothing: `opStep` pairs the call's result with `[]`, which is the
    middle conjunct. -/
theorem strip_triple {r r' : EP × Res} (op : Op) (h : r' = stripR r []) :
    r'.1 = strip r.1 [] ∧ ([] : List Ev) = [] ∧ visible op r'.2 = visible op r.2 := by
  subst h; exact ⟨rfl, rfl, rfl⟩

theorem opStep_strip (e : EP) (op : Op) :
    (opStep (strip e []) (neutralOp op)).1 = strip (opStep e op).1 [] ∧
    (opStep (strip e []) (neutralOp op)).2.2 = (opStep e op).2.2 ∧
    visible (neutralOp op) (opStep (strip e []) (neutralOp op)).2.1 = visible op (opStep e op).2.1 := by
  cases op with
  | «open» req host port =>
    have h := openRound_strip (e := e) (q := []) rfl
      { req := req, host := host, port := port, retriesLeft := e.opts.maxRetries }
    have hL : opStep (strip e []) (.open req host port) =
        if (e.opens.any (·.req == req)) = true then (strip e [], .badHandle, [])
        else ((openRound (strip e []) { req := req, host := host, port := port, retriesLeft := e.opts.maxRetries }).1, .started,
              (openRound (strip e []) { req := req, host := host, port := port, retriesLeft := e.opts.maxRetries }).2) := rfl
    have hR : opStep e (.open req host port) =
        if (e.opens.any (·.req == req)) = true then (e, .badHandle, [])
        else ((openRound e { req := req, host := host, port := port, retriesLeft := e.opts.maxRetries }).1, .started,
              (openRound e { req := req, host := host, port := port, retriesLeft := e.opts.maxRetries }).2) := rfl
    show (opStep (strip e []) (.open req host port)).1 = _ ∧ (opStep (strip e []) (.open req host port)).2.2 = _ ∧
      visible (.open req host port) (opStep (strip e []) (.open req host port)).2.1 = _
    rw [hL, hR, h]
    by_cases hc : (e.opens.any (·.req == req)) = true
    · rw [if_pos hc, if_pos hc]; exact ⟨rfl, rfl, rfl⟩
    · rw [if_neg hc, if_neg hc]; exact ⟨rfl, rfl, rfl⟩
  | accept =>
    exact strip_triple (r := appAccept e) (r' := appAccept (strip e [])) .accept (appAccept_strip rfl)
  | write hd d =>
    exact strip_triple (r := appWrite e hd d) (r' := appWrite (strip e []) hd d) (.write hd d) (appWrite_strip rfl hd d)
  | read hd n =>
    exact strip_triple (r := appRead e hd n) (r' := appRead (strip e []) hd n) (.read hd n) (appRead_strip rfl hd n)
  | shutdown hd =>
    exact strip_triple (r := appShutdown e hd) (r' := appShutdown (strip e []) hd) (.shutdown hd) (appShutdown_strip rfl hd)
  | dropStream hd =>
    exact strip_triple (r := appDropStream e hd) (r' := appDropStream (strip e []) hd) (.dropStream hd) (appDropStream_strip rfl hd)
  | sendDgram d =>
    exact strip_triple (r := appSendDgram e d) (r' := appSendDgram (strip e []) d) (.sendDgram d) (appSendDgram_strip rfl d)
  | recvDgram => exact ⟨appRecvDgram_strip e, rfl, rfl⟩
  | bindReq req bt host port =>
    have h := appBindReq_strip (e := e) (q := []) rfl req bt host port
    exact ⟨congrArg Prod.fst h,
      (show (appBindReq (strip e []) req bt host port).2 = (stripR (appBindReq e req bt host port) []).2 from congrArg Prod.snd h), rfl⟩
  | bindNext =>
    exact strip_triple (r := appBindNext e) (r' := appBindNext (strip e [])) .bindNext (appBindNext_strip rfl)
  | bindReply k a =>
    exact strip_triple (r := appBindReply e k a) (r' := appBindReply (strip e []) k a) (.bindReply k a) (appBindReply_strip rfl k a)
  | bindDrop k =>
    exact strip_triple (r := appBindDrop e k) (r' := appBindDrop (strip e []) k) (.bindDrop k) (appBindDrop_strip rfl k)
  | dropMux =>
    exact strip_triple (r := appDropMux e) (r' := appDropMux (strip e [])) .dropMux (appDropMux_strip rfl)
  | sinkRoom n => exact ⟨rfl, rfl, rfl⟩
  | cancelOpen req => exact ⟨rfl, rfl, rfl⟩
  | deliver w =>
    show (opStep (strip e []) (.deliver (neutral w))).1 = _ ∧ (opStep (strip e []) (.deliver (neutral w))).2.2 = _ ∧
      visible (.deliver (neutral w)) (opStep (strip e []) (.deliver (neutral w))).2.1 = _
    rw [opStep_deliver, opStep_deliver, strip_srcEnded, strip_inbox, any_end_neutral]
    by_cases hc : (e.srcEnded || e.inbox.any (fun x => x == .eof || x == .err)) = true
    · rw [if_pos hc, if_pos hc]; exact ⟨rfl, rfl, rfl⟩
    · rw [if_neg hc, if_neg hc]
      refine ⟨?_, rfl, rfl⟩
      by_cases hw : w = .msg .close
      · subst hw
        exact strip_snoc e [] [.msg .close, .eof]
      · have hn : neutral w ≠ .msg .close := fun hh => hw ((neutral_ne_close w).mp hh)
        rw [if_neg hw, if_neg hn]
        exact strip_snoc e [] [w]

theorem applyOp_fst' (e : EP) (op : Op) : (applyOp e op).1 = (settle (opStep e op).1).1 := applyOp_fst e op

/-- One stimulus: with every `Datagram` frame replaced by a `Ping` the endpoint reaches the same state
    but for `dgramq`, emits the same events and gives the same answer (unless the call is
    `get_datagram`). -/
theorem applyOp_strip (e : EP) (op : Op) :
    (applyOp (strip e []) (neutralOp op)).1 = strip (applyOp e op).1 [] ∧
    (applyOp (strip e []) (neutralOp op)).2.2 = (applyOp e op).2.2 ∧
    visible (neutralOp op) (applyOp (strip e []) (neutralOp op)).2.1 = visible op (applyOp e op).2.1 := by
  obtain ⟨h1, h2, h3⟩ := opStep_strip e op
  have hs := settle_strip (e := (opStep e op).1) (q := []) h1
  rw [applyOp_eq, applyOp_eq, hs, h2]
  -- the projections are reduced before the components are compared: otherwise the unifier compares the triples
  dsimp only
  exact ⟨rfl, rfl, h3⟩

/-- What an observer of the endpoint sees along a history: per stimulus, the answer of the call (hidden
    for `get_datagram`) and the events emitted. -/
def runOpsObs (e : EP) : List Op → List (Option Res × List Ev)
  | [] => []
  | op :: rest => (visible op (applyOp e op).2.1, (applyOp e op).2.2) :: runOpsObs (applyOp e op).1 rest

theorem runOps_strip (e : EP) (ops : List Op) :
    runOps (strip e []) (ops.map neutralOp) = strip (runOps e ops) [] ∧
    runOpsObs (strip e []) (ops.map neutralOp) = runOpsObs e ops := by
  induction ops generalizing e with
  | nil => exact ⟨rfl, rfl⟩
  | cons op rest ih =>
    obtain ⟨h1, h2, h3⟩ := applyOp_strip e op
    simp only [List.map_cons, runOps, List.foldl_cons, runOpsObs]
    rw [h1, h2, h3]
    obtain ⟨i1, i2⟩ := ih (applyOp e op).1
    exact ⟨i1, by rw [i2]⟩

/-- The event trace (what goes to the transport, how requests are answered, how the task ends) is part of what the
    observer sees. -/
theorem runOpsEv_obs (e : EP) (ops : List Op) : (runOpsEv e ops).2 = (runOpsObs e ops).flatMap (·.2) := by
  induction ops generalizing e with
  | nil => rfl
  | cons op rest ih => simp only [runOpsEv, runOpsObs, List.flatMap_cons, ih]

theorem runOpsEv_strip (e : EP) (ops : List Op) :
    (runOpsEv (strip e []) (ops.map neutralOp)).2 = (runOpsEv e ops).2 := by
  rw [runOpsEv_obs, runOpsEv_obs, (runOps_strip e ops).2]

theorem strip_fresh (o : Opts) : strip { opts := o } [] = { opts := o } := rfl

end Penguin.Mux
