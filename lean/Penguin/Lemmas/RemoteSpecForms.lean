/-
The documented forms of a remote specification (C01 glue), written down independently of the
parser — what the user wrote (`Target`, `Entry`, `Suffix`) and what must come out (`expected`) —
and the proof that `Penguin.RemoteSpec.parse` delivers exactly that.
-/
import Penguin.Lemmas.RemoteSpecRound

namespace Penguin.RemoteSpec
open Penguin.Constants

/-- A port as written: the token (any spelling `u16::from_str` accepts, in brackets or not) and its value. -/
structure PortW where
  tok : Tok
  val : Nat

def PortW.OK (p : PortW) : Prop := p.tok.WF ∧ parseU16 p.tok.text = .ok p.val

/-- A host as written: the token (an IPv6 literal is written in brackets; `tok.text` is the text
    WITHOUT them) and what `idna::domain_to_ascii` makes of that text. -/
structure HostW where
  tok : Tok
  ascii : Str

def HostW.OK (o : Oracle) (h : HostW) : Prop := h.tok.WF ∧ o.idna h.tok.text = some h.ascii

inductive Suffix where
  | none
  | some (ptxt : Str) (proto : Protocol)

def Suffix.text : Suffix → Str
  | .none => []
  | .some p _ => '/' :: p

def Suffix.proto : Suffix → Protocol
  | .none => .tcp
  | .some _ p => p

/-- The suffix text contains neither `/` nor `:` and `Protocol::from_str` reads it as `proto`
    (`to_lowercase` of it is `tcp` / `udp`). -/
def Suffix.OK (o : Oracle) : Suffix → Prop
  | .none => True
  | .some ptxt proto => '/' ∉ ptxt ∧ ':' ∉ ptxt ∧ parseProtocol o ptxt = .ok proto

/-! ### Fixed-target forms -/

/-- `[LOCAL_HOST:]LOCAL_PORT:REMOTE_HOST:REMOTE_PORT`, `REMOTE_HOST:REMOTE_PORT`, `PORT`,
    `stdio:[REMOTE_HOST:]REMOTE_PORT`, `[unix:PATH]:[REMOTE_HOST:]REMOTE_PORT`. -/
inductive Target where
  | port (rp : PortW)
  | hostPort (rh : HostW) (rp : PortW)
  | lportHostPort (lp : PortW) (rh : HostW) (rp : PortW)
  | full (lh : HostW) (lp : PortW) (rh : HostW) (rp : PortW)
  | stdioPort (bracketed : Bool) (rp : PortW)
  | stdioHostPort (bracketed : Bool) (rh : HostW) (rp : PortW)
  | unixPort (path : Str) (rp : PortW)
  | unixHostPort (path : Str) (rh : HostW) (rp : PortW)

def Target.toks : Target → List Tok
  | .port rp => [rp.tok]
  | .hostPort rh rp => [rh.tok, rp.tok]
  | .lportHostPort lp rh rp => [lp.tok, rh.tok, rp.tok]
  | .full lh lp rh rp => [lh.tok, lp.tok, rh.tok, rp.tok]
  | .stdioPort b rp => [⟨kwStdio, b⟩, rp.tok]
  | .stdioHostPort b rh rp => [⟨kwStdio, b⟩, rh.tok, rp.tok]
  | .unixPort path rp => [unixTok path, rp.tok]
  | .unixHostPort path rh rp => [unixTok path, rh.tok, rp.tok]

/-- The parts are well formed.  In the two-part form the host is not `stdio` and not `unix:…`
    (these are the stdio and unix forms). -/
def Target.OK (o : Oracle) : Target → Prop
  | .port rp => rp.OK
  | .hostPort rh rp => rh.OK o ∧ rp.OK ∧ rh.tok.text ≠ kwStdio ∧ isUnix rh.tok.text = false
  | .lportHostPort lp rh rp => lp.OK ∧ rh.OK o ∧ rp.OK
  | .full lh lp rh rp => lh.OK o ∧ lp.OK ∧ rh.OK o ∧ rp.OK
  | .stdioPort _ rp => rp.OK
  | .stdioHostPort _ rh rp => rh.OK o ∧ rp.OK
  | .unixPort path rp => ']' ∉ path ∧ rp.OK
  | .unixHostPort path rh rp => ']' ∉ path ∧ rh.OK o ∧ rp.OK

def Target.isUnix : Target → Bool
  | .unixPort _ _ => true
  | .unixHostPort _ _ _ => true
  | _ => false

/-- Where it listens and where it forwards to, as documented (`arg/mod.rs:99-162`). -/
def Target.expected (proto : Protocol) : Target → Remote
  | .port rp => ⟨.inet defaultUnspec rp.val, .inet defaultLocal rp.val, proto⟩
  | .hostPort rh rp => ⟨.inet defaultUnspec rp.val, .inet rh.ascii rp.val, proto⟩
  | .lportHostPort lp rh rp => ⟨.inet defaultUnspec lp.val, .inet rh.ascii rp.val, proto⟩
  | .full lh lp rh rp => ⟨.inet lh.ascii lp.val, .inet rh.ascii rp.val, proto⟩
  | .stdioPort _ rp => ⟨.stdio, .inet defaultLocal rp.val, proto⟩
  | .stdioHostPort _ rh rp => ⟨.stdio, .inet rh.ascii rp.val, proto⟩
  | .unixPort path rp => ⟨.domainSocket path, .inet defaultLocal rp.val, proto⟩
  | .unixHostPort path rh rp => ⟨.domainSocket path, .inet rh.ascii rp.val, proto⟩

/-! ### Facts about port texts and key words -/

theorem port_text_facts {t : Str} {n : Nat} (h : parseU16 t = .ok n) :
    isSpecial t = false ∧ t ≠ kwStdio ∧ isUnix t = false ∧ '/' ∉ t ∧ portOrBail t = .ok n := by
  have hpb : portOrBail t = .ok n := by simp [portOrBail, h]
  obtain ⟨ds, hs, hne, hd, _, _⟩ := (parseU16_ok_iff t n).mp h
  have hsl : '/' ∉ ds := allDigits_not_mem hd (by decide)
  rcases hs with rfl | rfl
  · obtain ⟨a, b, c⟩ := digits_not_special hd hne
    exact ⟨a, b, c, hsl, hpb⟩
  · refine ⟨?_, ?_, ?_, ?_, hpb⟩
    · simp [isSpecial, kwSocks_eq, kwHttp_eq, kwTproxy_eq]
    · simp [kwStdio_eq]
    · simp [isUnix, unixPrefix_eq, List.isPrefixOf]
    · simp [hsl]

theorem not_special_ne {t : Str} (h : isSpecial t = false) : t ≠ kwSocks ∧ t ≠ kwHttp ∧ t ≠ kwTproxy := by
  simp [isSpecial] at h
  exact ⟨h.1.1, h.1.2, h.2⟩

theorem render_no_slash {t : Tok} (h : '/' ∉ t.text) : '/' ∉ t.render := by
  unfold Tok.render
  split
  · simp [h]
  · exact h

theorem unixTok_text (path : Str) : (unixTok path).text = unixPrefix ++ path := rfl

/-- The converse of `of_postChecks_ok` (`Lemmas/RemoteSpecParse.lean`); the two are the whole of the post-checks. -/
theorem postChecks_ok {r : Remote} (h1 : ¬ ((r.remoteAddr = .socks ∨ r.remoteAddr = .http) ∧ r.protocol = .udp))
    (h2 : ¬ (r.localAddr.isDomainSocket = true ∧ r.protocol = .udp))
    (h3 : ¬ (r.localAddr.isDomainSocket = true ∧ r.remoteAddr = .tproxy)) : postChecks r = .ok r := by
  simp only [postChecks, h1, h2, h3, if_false]

attribute [local simp] finish selectArm evalArm bind Except.bind postChecks LocalSpec.isDomainSocket Target.toks
    Target.isUnix Target.expected unixTok_text unix_ne_stdio isUnix_unix udsPath_unix in
theorem finish_target (o : Oracle) (proto : Protocol) (t : Target) (ht : t.OK o) :
    finish o proto (t.toks.map (·.text)) =
      if t.isUnix = true ∧ proto = .udp then .error (.err (.unsupportedCombination .unixUdp))
      else .ok (t.expected proto) := by
  cases t with
  | port rp =>
    obtain ⟨_, hp⟩ := ht
    obtain ⟨f1, _, _, _, f5⟩ := port_text_facts hp
    obtain ⟨n1, n2, n3⟩ := not_special_ne f1
    simp [n1, n2, n3, f5]
  | hostPort rh rp =>
    obtain ⟨⟨_, hh⟩, ⟨_, hp⟩, hns, hnu⟩ := ht
    obtain ⟨f1, _, _, _, f5⟩ := port_text_facts hp
    simp [hns, f1, hnu, f5, domainOrBail_of hh]
  | lportHostPort lp rh rp =>
    obtain ⟨⟨_, hlp⟩, ⟨_, hh⟩, ⟨_, hp⟩⟩ := ht
    obtain ⟨f1, _, _, _, f5⟩ := port_text_facts hp
    obtain ⟨_, g2, g3, _, g5⟩ := port_text_facts hlp
    simp [g2, f1, g3, f5, g5, domainOrBail_of hh]
  | full lh lp rh rp =>
    obtain ⟨⟨_, hlh⟩, ⟨_, hlp⟩, ⟨_, hh⟩, ⟨_, hp⟩⟩ := ht
    obtain ⟨_, _, _, _, f5⟩ := port_text_facts hp
    obtain ⟨_, _, _, _, g5⟩ := port_text_facts hlp
    simp [f5, g5, domainOrBail_of hh, domainOrBail_of hlh]
  | stdioPort b rp =>
    obtain ⟨_, hp⟩ := ht
    obtain ⟨f1, _, _, _, f5⟩ := port_text_facts hp
    obtain ⟨n1, n2, n3⟩ := not_special_ne f1
    simp [n1, n2, n3, f5]
  | stdioHostPort b rh rp =>
    obtain ⟨⟨_, hh⟩, ⟨_, hp⟩⟩ := ht
    obtain ⟨_, _, _, _, f5⟩ := port_text_facts hp
    simp [f5, domainOrBail_of hh]
  | unixPort path rp =>
    obtain ⟨_, ⟨_, hp⟩⟩ := ht
    obtain ⟨f1, _, _, _, f5⟩ := port_text_facts hp
    cases proto <;>
      simp [f1, f5]
  | unixHostPort path rh rp =>
    obtain ⟨_, ⟨_, hh⟩, ⟨_, hp⟩⟩ := ht
    obtain ⟨f1, _, _, _, f5⟩ := port_text_facts hp
    cases proto <;>
      simp [f1, f5, domainOrBail_of hh]

theorem stdioTok_wf (b : Bool) : Tok.WF ⟨kwStdio, b⟩ := keywordTok_wf (.inr (.inr (.inr rfl))) b

theorem target_toks_wf {o : Oracle} {t : Target} (ht : t.OK o) : ∀ x ∈ t.toks, x.WF := by
  intro x hx
  cases t <;> simp [Target.toks] at hx <;> simp only [Target.OK, PortW.OK, HostW.OK] at ht
  case port => subst hx; exact ht.1
  case hostPort => rcases hx with rfl | rfl; exact ht.1.1; exact ht.2.1.1
  case lportHostPort => rcases hx with rfl | rfl | rfl; exact ht.1.1; exact ht.2.1.1; exact ht.2.2.1
  case full => rcases hx with rfl | rfl | rfl | rfl; exact ht.1.1; exact ht.2.1.1; exact ht.2.2.1.1; exact ht.2.2.2.1
  case stdioPort => rcases hx with rfl | rfl; exact stdioTok_wf _; exact ht.1
  case stdioHostPort => rcases hx with rfl | rfl | rfl; exact stdioTok_wf _; exact ht.1.1; exact ht.2.1
  case unixPort => rcases hx with rfl | rfl; exact unixTok_wf ht.1; exact ht.2.1
  case unixHostPort => rcases hx with rfl | rfl | rfl; exact unixTok_wf ht.1; exact ht.2.1.1; exact ht.2.2.1

/-- The remote port, which every fixed-target form ends with. -/
def Target.rp : Target → PortW
  | .port rp | .hostPort _ rp | .lportHostPort _ _ rp | .full _ _ _ rp | .stdioPort _ rp | .stdioHostPort _ _ rp
  | .unixPort _ rp | .unixHostPort _ _ rp => rp

theorem Target.rp_ok {o : Oracle} {t : Target} (ht : t.OK o) : t.rp.OK := by
  cases t
  case port | stdioPort => exact ht
  case stdioHostPort | unixPort => exact ht.2
  case hostPort => exact ht.2.1
  case lportHostPort | unixHostPort => exact ht.2.2
  case full => exact ht.2.2.2

theorem target_toks_last {o : Oracle} {t : Target} (ht : t.OK o) :
    ∃ init rp, t.toks = init ++ [rp] ∧ '/' ∉ rp.render ∧ t.toks.length ≤ 4 :=
  ⟨t.toks.dropLast, t.rp.tok, by cases t <;> rfl, render_no_slash (port_text_facts (Target.rp_ok ht).2).2.2.2.1,
    by cases t <;> simp [Target.toks]⟩

theorem parse_form (o : Oracle) {toks init : List Tok} {last : Tok} (hw : ∀ t ∈ toks, t.WF)
    (he : toks = init ++ [last]) (hlast : '/' ∉ last.render) (hl : toks.length ≤ 4) (sfx : Suffix) (hs : sfx.OK o) :
    parse o (joinToks toks ++ sfx.text) = finish o sfx.proto (toks.map (·.text)) := by
  have hne : toks ≠ [] := by rw [he]; simp
  cases sfx with
  | none =>
    simp only [Suffix.text, List.append_nil, Suffix.proto]
    exact parse_join_plain o hw hne hl (he ▸ no_suffix_of_last init last hlast)
  | some ptxt proto =>
    obtain ⟨h1, h2, h3⟩ := hs
    exact parse_join_suffix o hw hne hl h1 h2 h3

/-- Fixed-target forms: the listener and the target are the ones written (or the documented
    defaults), hosts arrive as `idna` returns them for the text WITHOUT brackets, ports have the value
    written, the protocol is the one of the suffix (tcp without one); a unix socket with udp is refused. -/
theorem target_spec (o : Oracle) (t : Target) (sfx : Suffix) (ht : t.OK o) (hs : sfx.OK o) :
    parse o (joinToks t.toks ++ sfx.text) =
      if t.isUnix = true ∧ sfx.proto = .udp then .error (.err (.unsupportedCombination .unixUdp))
      else .ok (t.expected sfx.proto) := by
  obtain ⟨init, rp, he, hlast, hl⟩ := target_toks_last ht
  rw [parse_form o (target_toks_wf ht) he hlast hl sfx hs]
  exact finish_target o sfx.proto t ht

/-! ### Entry-kind forms -/

inductive Kind where
  | socks
  | http
  | tproxy
  deriving DecidableEq, Repr

def Kind.kw : Kind → Str
  | .socks => kwSocks
  | .http => kwHttp
  | .tproxy => kwTproxy

def Kind.spec : Kind → RemoteSpec
  | .socks => .socks
  | .http => .http
  | .tproxy => .tproxy

def Kind.defaultPort : Kind → Nat
  | .socks => remoteSocksDefaultPort
  | .http => remoteHttpDefaultPort
  | .tproxy => remoteTproxyDefaultPort

/-- `socks`, `PORT:socks`, `HOST:PORT:socks`, `stdio:socks`, `[unix:PATH]:socks` (and `http`, `tproxy`);
    `kb` / `sb`: the key word written in brackets (the tokenizer strips them). -/
inductive Entry where
  | bare (k : Kind) (kb : Bool)
  | port (lp : PortW) (k : Kind) (kb : Bool)
  | hostPort (lh : HostW) (lp : PortW) (k : Kind) (kb : Bool)
  | stdio (sb : Bool) (k : Kind) (kb : Bool)
  | unix (path : Str) (k : Kind) (kb : Bool)

def Entry.toks : Entry → List Tok
  | .bare k kb => [⟨k.kw, kb⟩]
  | .port lp k kb => [lp.tok, ⟨k.kw, kb⟩]
  | .hostPort lh lp k kb => [lh.tok, lp.tok, ⟨k.kw, kb⟩]
  | .stdio sb k kb => [⟨kwStdio, sb⟩, ⟨k.kw, kb⟩]
  | .unix path k kb => [unixTok path, ⟨k.kw, kb⟩]

def Entry.OK (o : Oracle) : Entry → Prop
  | .bare _ _ => True
  | .port lp _ _ => lp.OK
  | .hostPort lh lp _ _ => lh.OK o ∧ lp.OK ∧ lh.tok.text ≠ kwStdio
  | .stdio _ _ _ => True
  | .unix path _ _ => ']' ∉ path

def Entry.kind : Entry → Kind
  | .bare k _ => k | .port _ k _ => k | .hostPort _ _ k _ => k | .stdio _ k _ => k | .unix _ k _ => k

def Entry.local : Entry → LocalSpec
  | .bare k _ => .inet defaultLocal k.defaultPort
  | .port lp _ _ => .inet defaultLocal lp.val
  | .hostPort lh lp _ _ => .inet lh.ascii lp.val
  | .stdio _ _ _ => .stdio
  | .unix path _ _ => .domainSocket path

/-- What must come out: the entry kind written, listening where written (or on the documented
    default), or the refusal the code gives, in the order the code checks. -/
def Entry.expected (proto : Protocol) (e : Entry) : Except Fail Remote :=
  match e.local, e.kind with
  | .stdio, .tproxy => .error (.err (.unsupportedCombination .stdioTproxy))
  | l, k =>
    if k ≠ .tproxy ∧ proto = .udp then .error (.err (.unsupportedCombination .socksHttpUdp))
    else if l.isDomainSocket = true ∧ proto = .udp then .error (.err (.unsupportedCombination .unixUdp))
    else if l.isDomainSocket = true ∧ k = .tproxy then .error (.err (.unsupportedCombination .unixTproxy))
    else .ok ⟨l, k.spec, proto⟩

theorem kind_kw_facts (k : Kind) :
    isSpecial k.kw = true ∧ k.kw ≠ kwStdio ∧ '/' ∉ k.kw ∧ remoteSpecial k.kw = .ok k.spec ∧ k.kw ≠ [] ∧
      ']' ∉ k.kw ∧ ':' ∉ k.kw ∧ k.kw.head? ≠ some '[' := by
  cases k <;> decide

theorem kwTok_wf (k : Kind) (b : Bool) : Tok.WF ⟨k.kw, b⟩ :=
  keywordTok_wf (by cases k <;> simp [Kind.kw]) b

theorem postChecks_kind (l : LocalSpec) (k : Kind) (proto : Protocol) :
    postChecks ⟨l, k.spec, proto⟩ =
      if k ≠ .tproxy ∧ proto = .udp then .error (.err (.unsupportedCombination .socksHttpUdp))
      else if l.isDomainSocket = true ∧ proto = .udp then .error (.err (.unsupportedCombination .unixUdp))
      else if l.isDomainSocket = true ∧ k = .tproxy then .error (.err (.unsupportedCombination .unixTproxy))
      else .ok ⟨l, k.spec, proto⟩ := by
  cases k <;> cases proto <;> simp [postChecks, Kind.spec]

attribute [local simp] finish selectArm evalArm bind Except.bind Entry.toks Entry.expected Entry.local Entry.kind
    unixTok_text unix_ne_stdio isUnix_unix udsPath_unix in
theorem finish_entry (o : Oracle) (proto : Protocol) (e : Entry) (he : e.OK o) :
    finish o proto (e.toks.map (·.text)) = e.expected proto := by
  have d1 : kwHttp ≠ kwSocks := by decide
  have d2 : kwTproxy ≠ kwSocks := by decide
  have d3 : kwTproxy ≠ kwHttp := by decide
  cases e with
  | bare k kb =>
    cases k <;> cases proto <;>
      simp [Kind.kw, d1, d2, d3, Kind.defaultPort, Kind.spec, postChecks, LocalSpec.isDomainSocket]
  | port lp k kb =>
    obtain ⟨_, hp⟩ := he
    obtain ⟨_, g2, g3, _, g5⟩ := port_text_facts hp
    obtain ⟨k1, _, _, k4, _⟩ := kind_kw_facts k
    simp [g2, g3, k1, g5, k4, postChecks_kind]
  | hostPort lh lp k kb =>
    obtain ⟨⟨_, hh⟩, ⟨_, hp⟩, hns⟩ := he
    obtain ⟨_, _, _, _, g5⟩ := port_text_facts hp
    obtain ⟨k1, _, _, k4, _⟩ := kind_kw_facts k
    simp [hns, k1, g5, k4, domainOrBail_of hh, postChecks_kind]
  | stdio sb k kb =>
    cases k <;> cases proto <;>
      simp [Kind.kw, d2, d3, remoteSpecial_socks, remoteSpecial_http, Kind.spec, postChecks, LocalSpec.isDomainSocket]
  | unix path k kb =>
    obtain ⟨k1, _, _, k4, _⟩ := kind_kw_facts k
    simp [k1, k4, postChecks_kind]

theorem entry_toks_wf {o : Oracle} {e : Entry} (he : e.OK o) : ∀ x ∈ e.toks, x.WF := by
  intro x hx
  cases e <;> simp [Entry.toks] at hx <;> simp only [Entry.OK, PortW.OK, HostW.OK] at he
  case bare => subst hx; exact kwTok_wf _ _
  case port => rcases hx with rfl | rfl; exact he.1; exact kwTok_wf _ _
  case hostPort => rcases hx with rfl | rfl | rfl; exact he.1.1; exact he.2.1.1; exact kwTok_wf _ _
  case stdio => rcases hx with rfl | rfl; exact stdioTok_wf _; exact kwTok_wf _ _
  case unix => rcases hx with rfl | rfl; exact unixTok_wf he; exact kwTok_wf _ _

def Entry.kb : Entry → Bool
  | .bare _ kb | .port _ _ kb | .hostPort _ _ _ kb | .stdio _ _ kb | .unix _ _ kb => kb

theorem entry_toks_last (e : Entry) :
    ∃ init last, e.toks = init ++ [last] ∧ '/' ∉ last.render ∧ e.toks.length ≤ 4 :=
  ⟨e.toks.dropLast, ⟨e.kind.kw, e.kb⟩, by cases e <;> rfl, render_no_slash (kind_kw_facts e.kind).2.2.1,
    by cases e <;> simp [Entry.toks]⟩

/-- `socks` / `http` / `tproxy` as the last token select exactly that entry kind, listening where
    written or on the documented default, and the combinations the code refuses are refused with
    exactly the error it gives. -/
theorem entry_spec (o : Oracle) (e : Entry) (sfx : Suffix) (he : e.OK o) (hs : sfx.OK o) :
    parse o (joinToks e.toks ++ sfx.text) = e.expected sfx.proto := by
  obtain ⟨init, last, hl, hlast, hlen⟩ := entry_toks_last e
  rw [parse_form o (entry_toks_wf he) hl hlast hlen sfx hs]
  exact finish_entry o sfx.proto e he

end Penguin.RemoteSpec
