/-
Several writers on one stream (`Model/WakerN`): what holds of each writer thread, and that its own
operations, those of the other writers and those of the actors keep it.  The invariant over whole states
is `Lemmas/WakerNInv`, the identity of the waker in the cell `Lemmas/WakerNId`; the property theorems (`…_n`
in `Props/C12.lean`, `one_write_one_credit_under_concurrency` in `Props/C03.lean`) are corollaries.

Structure: a predicate on ONE writer that does not mention the shared cells (`WInv`), a predicate on
one writer and a VIEW of the shared cells (`WOk`: the wake-up accounting by counts), and three kinds of
preservation lemmas — the writer's own operation (a statement about `Writer.next` alone), an
operation of another writer (the view moves monotonically), an operation of an actor.

Parallel to `Lemmas/Waker.lean` (one writer) on purpose, case by case; neither is derived from the other.  A new step
of the writer's program (a new `WPc`) needs a case in `next_winv`, `next_wok` here, `next_wid` (`WakerNId.lean`) and
`writer_sim` (`WakerNSim.lean`) AND in `writer_inv`, `writer_inv2` of `Lemmas/Waker.lean`.
-/
import Penguin.Model.WakerN
import Penguin.Lemmas.Waker

namespace Penguin.Lemmas.WakerN
open Penguin.Waker (PollResult ActorKind APc Actor WPc)
open Penguin.WakerN

theorem sum_map_set {α : Type} (f : α → Nat) :
    ∀ (l : List α) (i : Nat) (a b : α), l[i]? = some a →
      ((l.set i b).map f).sum + f a = (l.map f).sum + f b := by
  intro l
  induction l with
  | nil => intro i a b h; simp at h
  | cons x xs ih =>
    intro i a b h
    cases i with
    | zero => simp at h; subst h; simp; omega
    | succ j =>
      simp at h
      have := ih j a b h
      simp only [List.set_cons_succ, List.map_cons, List.sum_cons] at *
      omega

theorem forall_set {α : Type} {l : List α} {i : Nat} {b : α} {P : Nat → α → Prop}
    (hold : ∀ j x, j ≠ i → l[j]? = some x → P j x) (hnew : P i b) :
    ∀ j x, (l.set i b)[j]? = some x → P j x := fun j x h => by
  rw [List.getElem?_set] at h
  split at h
  · next e =>
    subst e
    split at h
    · cases h; exact hnew
    · cases h
  · next e => exact hold j x (fun e' => e e'.symm) h

/-- past `register` in the current poll and not yet past the re-check, or parked -/
def postReg (w : Writer) : Prop := w.pc = .reloadFin ∨ w.pc = .reloadCredit ∨ w.parked = true

structure WInv (w : Writer) : Prop where
  takes_pos : ∀ v ∈ w.takes, 0 < v
  cas_pos : ∀ o, w.pc = .cas o → 0 < o
  sent_takes : w.sent + (if w.pc = .send then 1 else 0) = w.takes.length
  log_some : w.log.countP (fun p => p.2 == .some) = w.sent
  log_closed : ∀ p ∈ w.log, p.1 = true → p.2 = .none
  mid_start : w.pc ≠ .loadFin → w.pc ≠ .finished → w.curStartClosed = false
  post_reg : postReg w → w.curRegistered = true

theorem init_writers {sc : Scenario} {j : Nat} {w : Writer} (h : (init sc).writers[j]? = some w) :
    ∃ n, w = initWriter n := by
  simp only [init, List.getElem?_map, Option.map_eq_some_iff] at h
  obtain ⟨n, _, rfl⟩ := h
  exact ⟨n, rfl⟩

theorem initWriter_winv (n : Nat) : WInv (initWriter n) := by
  constructor <;> simp [initWriter, postReg, Writer.parked] <;> (try split) <;> simp_all

theorem finishPoll_cases (w : Writer) (r : PollResult) :
    (w.pollsLeft = 0 ∧ w.finishPoll r = { w with log := (w.curStartClosed, r) :: w.log, pc := .finished }) ∨
    (∃ n, w.pollsLeft = n + 1 ∧ w.finishPoll r =
      { w with log := (w.curStartClosed, r) :: w.log, pc := .loadFin, cur := w.cur + 1, pollsLeft := n,
               curRegistered := false }) := by
  unfold Writer.finishPoll
  cases h : w.pollsLeft with
  | zero => left; simp
  | succ n => right; exact ⟨n, rfl, by simp⟩

theorem pending_of_parked {w : Writer} {c : Bool} {r : PollResult} {l : List (Bool × PollResult)}
    (h : ({ w with log := (c, r) :: l, pc := .finished } : Writer).parked = true) : r = .pending := by
  cases r <;> simp [Writer.parked] at h ⊢

theorem not_postReg {w : Writer} (h : w.pc ≠ .reloadFin ∧ w.pc ≠ .reloadCredit ∧ w.pc ≠ .finished) :
    ¬ postReg w := by
  simp [postReg, Writer.parked, h]

/-- An operation inside a poll other than the successful `compare_exchange`: `pc` and the ghosts of the
    poll move, the clauses that read `pc` are asked of the new `pc`. -/
theorem WInv.move {w : Writer} (h : WInv w) {pc : WPc} {c reg : Bool} {mark : Nat} (hs : w.pc ≠ .send)
    (h1 : pc ≠ .send) (h2 : pc ≠ .finished) (hcas : ∀ o, pc = .cas o → 0 < o) (hc : c = false)
    (hreg : pc = .reloadFin ∨ pc = .reloadCredit → reg = true) :
    WInv { w with pc := pc, curStartClosed := c, curRegistered := reg, regMark := mark } :=
  { h with
    cas_pos := hcas
    sent_takes := by have := h.sent_takes; simp only [hs, h1, if_false] at this ⊢; exact this
    mid_start := fun _ _ => hc
    post_reg := fun h' => hreg (by simpa [postReg, Writer.parked, h2] using h') }

/-- The current poll returns `r` (`c`, `n`: the ghost updates of the returning operation). -/
theorem WInv.finishPoll {w : Writer} (h : WInv w) {c : Bool} {n : Nat} {r : PollResult}
    (hn : n = w.takes.length) (hr : w.sent + (if r == .some then 1 else 0) = n) (hc : c = true → r = .none)
    (hp : r = .pending → w.curRegistered = true) :
    WInv (({ w with curStartClosed := c, sent := n } : Writer).finishPoll r) := by
  have hlog := Waker.log_push_some (c := c) h.log_some hr
  have hcl := Waker.log_push_closed h.log_closed hc
  rcases finishPoll_cases { w with curStartClosed := c, sent := n } r with ⟨_, e⟩ | ⟨m, _, e⟩ <;> rw [e]
  · exact { h with
      cas_pos := nofun
      sent_takes := by simp [hn]
      log_some := hlog
      log_closed := hcl
      mid_start := fun _ h' => absurd rfl h'
      post_reg := fun h' => hp <| h'.elim nofun (·.elim nofun pending_of_parked) }
  · exact { h with
      cas_pos := nofun
      sent_takes := by simp [hn]
      log_some := hlog
      log_closed := hcl
      mid_start := fun h' => absurd rfl h'
      post_reg := fun h' => absurd h' (not_postReg ⟨nofun, nofun, nofun⟩) }

theorem next_winv {w : Writer} (h : WInv w) (closed : Bool) (credit wakes : Nat) :
    WInv (w.next closed credit wakes) := by
  have hst (e : w.pc ≠ .send) : w.sent = w.takes.length := by simpa [e] using h.sent_takes
  cases hpc : w.pc <;> simp only [Writer.next, hpc]
  case loadFin =>
    split
    · exact h.finishPoll (hst (by simp [hpc])) (by simp) (fun _ => rfl) nofun
    · exact h.move (by simp [hpc]) nofun nofun nofun rfl (by simp)
  case loadCredit =>
    have hc := h.mid_start (by simp [hpc]) (by simp [hpc])
    split
    · exact h.move (by simp [hpc]) nofun nofun nofun hc (by simp)
    · exact h.move (by simp [hpc]) nofun nofun (by simp; omega) hc (by simp)
  case register =>
    exact h.move (by simp [hpc]) nofun nofun nofun (h.mid_start (by simp [hpc]) (by simp [hpc])) (fun _ => rfl)
  case reloadFin =>
    split
    · exact h.finishPoll (hst (by simp [hpc])) (by simp) (fun _ => rfl) nofun
    · exact h.move (by simp [hpc]) nofun nofun nofun (h.mid_start (by simp [hpc]) (by simp [hpc]))
        (fun _ => h.post_reg (.inl hpc))
  case reloadCredit =>
    have hc := h.mid_start (by simp [hpc]) (by simp [hpc])
    split
    · exact h.finishPoll (hst (by simp [hpc])) (by simp) (by simp [hc]) (fun _ => h.post_reg (.inr (.inl hpc)))
    · exact h.move (by simp [hpc]) nofun nofun (by simp; omega) hc (by simp)
  case cas orig =>
    have hc := h.mid_start (by simp [hpc]) (by simp [hpc])
    have ho := h.cas_pos _ hpc
    split
    · exact { h with
        takes_pos := fun v hv => (List.mem_cons.mp hv).elim (· ▸ ho) (h.takes_pos v)
        cas_pos := nofun
        sent_takes := by simpa [hpc] using h.sent_takes
        mid_start := fun _ _ => hc
        post_reg := fun h' => absurd h' (not_postReg ⟨nofun, nofun, nofun⟩) }
    · exact h.move (by simp [hpc]) nofun nofun nofun hc (by simp)
  case send =>
    have hc := h.mid_start (by simp [hpc]) (by simp [hpc])
    exact h.finishPoll (by simpa [hpc] using h.sent_takes) (by simp) (by simp [hc]) nofun
  case finished => exact h

theorem writerStep_none {s : State} {i : Nat} (h : s.writers[i]? = none) : writerStep s i = s := by
  simp [writerStep, h]

theorem writerStep_some {s : State} {i : Nat} {w : Writer} (h : s.writers[i]? = some w) :
    writerStep s i = { s with
      credit := if w.pc = .cas s.credit then s.credit - 1 else s.credit,
      registered := if w.pc = .register then some (i, w.cur) else s.registered,
      lastReg := if w.pc = .register then some (i, w.cur) else s.lastReg,
      writers := s.writers.set i (w.next s.closed s.credit s.wakeLog.length) } := by
  simp only [writerStep, h]
  cases hpc : w.pc <;> simp
  next orig =>
    by_cases e : s.credit = orig
    · subst e; simp
    · have : ¬ orig = s.credit := fun e' => e e'.symm
      simp [e, this]

/-! ### One writer and a view of the shared cells: the wake-up accounting

`len` = wake-ups delivered so far, `slot` = the `AtomicWaker` holds a waker, `cd` = closers that have
finished, `am` = acknowledgers between `fetch_add` and `wake()`, `credit`. -/

structure WOk (len : Nat) (slot : Bool) (cd am credit : Nat) (w : Writer) : Prop where
  mark_le : w.regMark ≤ len
  /-- no wake-up delivered since this writer registered: the cell is not empty -/
  slot_full : postReg w → w.regMark = len → slot = true
  recheck : w.pc = .reloadCredit → w.regMark = len → cd = 0
  /-- parked and no wake-up delivered since: no close has completed, and any credit is about to be
      announced by a `wake()` -/
  parked_ok : w.parked = true → w.regMark = len → cd = 0 ∧ (0 < credit → 0 < am)

theorem initWriter_wok (n cd am credit : Nat) (slot : Bool) : WOk 0 slot cd am credit (initWriter n) := by
  constructor <;> simp [initWriter, postReg, Writer.parked] <;> (try split) <;> simp_all

theorem WOk.of_not_postReg {len cd am credit : Nat} {slot : Bool} {w : Writer} (hm : w.regMark ≤ len)
    (hp : ¬ postReg w) : WOk len slot cd am credit w :=
  ⟨hm, fun a => absurd a hp, fun a => absurd (.inr (.inl a)) hp, fun a => absurd (.inr (.inr a)) hp⟩

/-- The cell can only become non-empty, the credit only smaller (an operation of another writer). -/
theorem wok_mono {len cd am credit credit' : Nat} {slot slot' : Bool} {w : Writer}
    (h : WOk len slot cd am credit w) (hs : slot = true → slot' = true) (hc : credit' ≤ credit) :
    WOk len slot' cd am credit' w :=
  ⟨h.1, fun a b => hs (h.2 a b), h.3, fun a b => ⟨(h.4 a b).1, fun c => (h.4 a b).2 (by omega)⟩⟩

/-- The current poll returns `r`; `Pending` only from the re-check, which saw no credit. -/
theorem WOk.finishPoll {len cd am credit : Nat} {slot : Bool} {w : Writer} (hm : w.regMark ≤ len)
    {c : Bool} {n : Nat} {r : PollResult}
    (hp : r = .pending → w.regMark = len → slot = true ∧ cd = 0 ∧ credit = 0) :
    WOk len slot cd am credit (({ w with curStartClosed := c, sent := n } : Writer).finishPoll r) := by
  rcases finishPoll_cases { w with curStartClosed := c, sent := n } r with ⟨_, e⟩ | ⟨m, _, e⟩ <;> rw [e]
  · refine ⟨hm, fun a b => (hp (a.elim nofun (·.elim nofun pending_of_parked)) b).1, nofun, fun a b => ?_⟩
    have := hp (pending_of_parked a) b
    exact ⟨this.2.1, fun _ => by omega⟩
  · exact .of_not_postReg hm (not_postReg ⟨nofun, nofun, nofun⟩)

/-- The writer's own operation: `register` fills the cell, a successful `compare_exchange` takes a unit. -/
theorem next_wok {len cd am credit credit' : Nat} {slot slot' : Bool} {w : Writer}
    (h : WOk len slot cd am credit w) (closed : Bool) (hcl : closed = false → cd = 0)
    (hs : slot = true ∨ w.pc = .register → slot' = true) (hc : credit' ≤ credit) :
    WOk len slot' cd am credit' (w.next closed credit len) := by
  have hm := h.mark_le
  cases hpc : w.pc <;> simp only [Writer.next, hpc]
  case loadFin =>
    split
    · exact .finishPoll hm nofun
    · exact .of_not_postReg hm (not_postReg ⟨nofun, nofun, nofun⟩)
  case loadCredit | cas => split <;> exact .of_not_postReg hm (not_postReg ⟨nofun, nofun, nofun⟩)
  case register => exact ⟨Nat.le_refl _, fun _ _ => hs (.inr hpc), nofun, nofun⟩
  case reloadFin =>
    split
    · exact .finishPoll hm nofun
    · next ho =>
      exact ⟨hm, fun _ b => hs (.inl (h.slot_full (.inl hpc) b)), fun _ _ => hcl (by simpa using ho), nofun⟩
  case reloadCredit =>
    split
    · next hcr =>
      exact .finishPoll hm fun _ b => ⟨hs (.inl (h.slot_full (.inr (.inl hpc)) b)), h.recheck hpc b, by omega⟩
    · exact .of_not_postReg hm (not_postReg ⟨nofun, nofun, nofun⟩)
  case send => exact .finishPoll hm nofun
  case finished => exact wok_mono h (fun e => hs (.inl e)) hc

/-- `fetch_add(n)` of an acknowledger (which is now between `fetch_add` and `wake()`). -/
theorem wok_ack {len cd am credit : Nat} {slot : Bool} {w : Writer} (h : WOk len slot cd am credit w) (n : Nat) :
    WOk len slot cd (am + 1) (credit + n) w :=
  ⟨h.1, h.2, h.3, fun a b => ⟨(h.4 a b).1, fun _ => by omega⟩⟩

/-- A `wake()` that finds a waker: one more wake-up delivered, everything conditional on "no wake-up
    since" is vacuous. -/
theorem wok_wake_some {len cd am credit cd' am' : Nat} {slot slot' : Bool} {w : Writer}
    (h : WOk len slot cd am credit w) : WOk (len + 1) slot' cd' am' credit w :=
  ⟨by have := h.1; omega, fun _ e => by have := h.1; omega, fun _ e => by have := h.1; omega,
   fun _ e => by have := h.1; omega⟩

/-- A `wake()` that finds the cell empty: then a wake-up HAS been delivered since the registration. -/
theorem wok_wake_none {len cd am credit cd' am' : Nat} {w : Writer}
    (h : WOk len false cd am credit w) : WOk len false cd' am' credit w := by
  obtain ⟨h1, h2, h3, h4⟩ := h
  refine ⟨h1, h2, ?_, ?_⟩
  · intro a b; exact absurd (h2 (Or.inr (Or.inl a)) b) (by simp)
  · intro a b; exact absurd (h2 (Or.inr (Or.inr a)) b) (by simp)

end Penguin.Lemmas.WakerN
