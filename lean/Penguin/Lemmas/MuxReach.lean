/-
The invariant `Inv2` (well-formed flow table / object store; no established slot once the task has
finished) is preserved by every stimulus of the endpoint model, hence holds in every reachable state.
-/
import Penguin.Lemmas.MuxWF

namespace Penguin.Mux

/-- `e'` is `e` after an action that neither finishes the task nor creates a stream. -/
structure Step (e e' : EP) : Prop where
  wf : WF e → WF e'
  dead : e'.dead = e.dead
  ns : NoStreams e → NoStreams e'

theorem Step.inv2 {e e' : EP} (s : Step e e') (h : Inv2 e) : Inv2 e' :=
  ⟨s.wf h.1, fun hd => s.ns (h.2 (by rw [← s.dead]; exact hd))⟩

theorem Step.refl (e : EP) : Step e e := ⟨id, rfl, id⟩

theorem Step.trans {a b c : EP} (s : Step a b) (t : Step b c) : Step a c :=
  ⟨fun h => t.wf (s.wf h), by rw [t.dead, s.dead], fun h => t.ns (s.ns h)⟩

def Step.bad : Kinds := .of [.newStream, .die]

theorem Step.of_upd {k : Kind} {e e' : EP} {x : List Ev} (hk : k ∉ Step.bad) (u : Upd k e x e') : Step e e' :=
  ⟨.of_upd u,
   u.frame .dead (Kinds.not_mem_of_sub hk),
   .of_upd (Kinds.not_mem_of_sub hk) u⟩

theorem Step.of_path {A : Kinds} {e e' : EP} {x : List Ev} (p : Path A e x e')
    (hA : A.disj Step.bad = true := by decide +kernel) : Step e e' :=
  p.rel0 Step.refl Step.trans fun hk u => .of_upd (Kinds.not_mem_of_disj hA hk) u

theorem Step.openRound (e : EP) (r : OpenReq) : Step e (openRound e r).1 := .of_path (.openRoundAny e r)
theorem Step.runRetries (e : EP) (l : List Nat) : Step e (runRetries e l).1 := .of_path (.runRetries e l)
theorem Step.runDone (e : EP) (l : List (Nat × Nat)) : Step e (runDone e l).1 := .of_path (.runDone e l)

theorem windDownTail_inv {e1 : EP} (flushed : List Ev) (srcEnded : Bool) (res : ExitRes) (h : WF e1)
    (hd : e1.dead = false) : Inv2 (windDownTail e1 flushed srcEnded res).1 :=
  ⟨let ⟨_, _, p⟩ := Path.windDownTail e1 flushed srcEnded res; .of_path p h, .of_aof (windDownTail_aof _ _ _ _ hd)⟩

theorem settleLoop_inv (fuel : Nat) (e : EP) (acc : List Ev) (h : Inv2 e) : Inv2 (settleLoop fuel e acc).1 := by
  cases hd : e.dead with
  | true => rw [settleLoop_dead _ _ _ hd]; exact h
  | false => exact ⟨let ⟨_, _, p⟩ := Path.settleLoop fuel e acc; .of_path p h.1, .of_aof (settleLoop_aof fuel e acc hd)⟩

theorem settle_inv (e : EP) (h : Inv2 e) : Inv2 (settle e).1 :=
  settle_rel (P := fun a b => Inv2 a → Inv2 b) (Q := Step) (fun p q h => q.inv2 (p h)) Step.trans
    (settleLoop_inv _ e []) (fun a => .of_path (.holdSend a)) (fun a => .of_path (.runDoneq a))
    (fun a => .of_path (.runRetryq a)) h

theorem Step.appWrite (e : EP) (h : Nat) (d : Bytes) : Step e (appWrite e h d).1 := .of_path (.appWrite e h d)
theorem Step.fillBuf (fuel : Nat) (e : EP) (i : Nat) : Step e (fillBuf fuel e i).1 := .of_path (.fillBuf fuel e i)
theorem Step.appRead (e : EP) (h n : Nat) : Step e (appRead e h n).1 := .of_path (.appRead e h n)
theorem Step.appShutdown (e : EP) (h : Nat) : Step e (appShutdown e h).1 := .of_path (.appShutdown e h)
theorem Step.appDropStream (e : EP) (h : Nat) : Step e (appDropStream e h).1 := .of_path (.appDropStream e h)
theorem Step.appBindReq (e : EP) (req : Nat) (bt : BindType) (host : Bytes) (port : Nat) :
    Step e (appBindReq e req bt host port).1 := .of_path (.appBindReq e req bt host port)
theorem Step.appBindNext (e : EP) : Step e (appBindNext e).1 := .of_path (.appBindNext e)
theorem Step.appBindReply (e : EP) (k : Nat) (a : Bool) : Step e (appBindReply e k a).1 := .of_path (.appBindReply e k a)
theorem Step.appBindDrop (e : EP) (k : Nat) : Step e (appBindDrop e k).1 := .of_path (.appBindDrop e k)
theorem Step.opStep (e : EP) (op : Op) : Step e (opStep e op).1 := .of_path (.opStepAny e op)

theorem applyOp_inv (e : EP) (op : Op) (h : Inv2 e) : Inv2 (applyOp e op).1 := by
  rw [applyOp_fst]
  exact settle_inv _ ((Step.opStep e op).inv2 h)

theorem runOps_inv (e : EP) (ops : List Op) (h : Inv2 e) : Inv2 (runOps e ops) := runOps_ind applyOp_inv e ops h

theorem init_inv (o : Opts) : Inv2 { opts := o } :=
  ⟨WF_init o, by intro hd; simp at hd⟩

/-- Every state an endpoint reaches, by any sequence of stimuli, is well-formed; once its task has
    finished, no flow refers to a stream object. -/
theorem reachable_inv (o : Opts) (ops : List Op) : Inv2 (runOps { opts := o } ops) :=
  runOps_inv _ ops (init_inv o)

theorem Inv2.dead_all_closed {e : EP} (h : Inv2 e) (hd : e.dead = true) :
    ∀ (i : Nat) (ob : Obj), e.objs[i]? = some ob → ob.closed := by
  intro i ob hob
  rw [Obj.closed_iff_not_live]
  intro hl
  obtain ⟨fid, hf⟩ := h.1.live i ob hob hl
  exact h.2 hd fid i hf

theorem reachable_dead_all_closed (o : Opts) (ops : List Op)
    (hd : (runOps { opts := o } ops).dead = true) :
    ∀ (i : Nat) (ob : Obj), (runOps { opts := o } ops).objs[i]? = some ob → ob.closed :=
  (reachable_inv o ops).dead_all_closed hd

end Penguin.Mux
