/-
`Once` / `OnceB` (Lemmas/MuxOnce, MuxOnceB: every open / bind request is answered at most once, and
only if it was pending) for the three functions of `Model/MuxStart.lean`: their paths avoid the kinds of step
across which the two relations fail (Lemmas/MuxTrace.lean).
Core Lean only.
-/
import Penguin.Model.MuxStart
import Penguin.Lemmas.MuxOnceB

namespace Penguin.Mux

theorem Once.taskPollSinkFailed (e : EP) : Once [] e (taskPollSinkFailed e).1 (taskPollSinkFailed e).2 :=
  .of_path (.taskPollSinkFailed e)

theorem Once.applySinkFail (e : EP) : Once [] e (applySinkFail e).1 (applySinkFail e).2.2 :=
  .of_path (.applySinkFail e)

theorem Once.applyStart (e : EP) (sf : Bool) : Once [] e (applyStart e sf).1 (applyStart e sf).2.2 :=
  .of_path (.applyStart e sf)

theorem OnceB.taskPollSinkFailed (e : EP) : OnceB [] e (taskPollSinkFailed e).1 (taskPollSinkFailed e).2 :=
  .of_path (.taskPollSinkFailed e)

theorem OnceB.applySinkFail (e : EP) : OnceB [] e (applySinkFail e).1 (applySinkFail e).2.2 :=
  .of_path (.applySinkFail e)

theorem OnceB.applyStart (e : EP) (sf : Bool) : OnceB [] e (applyStart e sf).1 (applyStart e sf).2.2 :=
  .of_path (.applyStart e sf)

end Penguin.Mux
