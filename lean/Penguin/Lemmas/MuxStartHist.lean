/-
Every invariant of the endpoint model, for every history that contains the stimuli of the task's
whole life (`Model/MuxHist.lean`: `OpX`, `applyOpX`, `runOpsX` — calls before the first poll, the
first poll on a working or failed sink, the stimuli of a started task, a failing sink).

The four relations that are paths of primitive steps — `Mono`, `Keeps` (`WakeOk`), `KeepsB` (`Bnd`), `Grow` (`SlotFidE`) —
are read off `Path.runOpsXEv` (Lemmas/MuxTrace.lean) at once.  The invariants that are not — `Inv2`, `Ended`, `Done` —,
what a finished task transmits (`txOf`) and the at-most-once accounting of open and bind requests (`Once`, `OnceB`,
over `runOpsXEv`) are shown for `applyOpX`, stimulus by stimulus (from the lemmas for `opStep`, `settle`, and those of
Lemmas/MuxStartRel, MuxStartOnce, MuxStartEnd, MuxStartTx for the three functions of `Model/MuxStart.lean`), and lifted
to every history by `runOpsX_ind`.
Core Lean only.
-/
import Penguin.Model.MuxHist
import Penguin.Lemmas.MuxStartRel
import Penguin.Lemmas.MuxStartOnce
import Penguin.Lemmas.MuxStartEnd
import Penguin.Lemmas.MuxStartTx

namespace Penguin.Mux

/-! ### Histories -/

theorem runOpsX_ind {Q : EP → List OpX → EP → List Ev → Prop} (nil : ∀ e, Q e [] e [])
    (cons : ∀ e op rest e' evs, Q (applyOpX e op).1 rest e' evs → Q e (op :: rest) e' ((applyOpX e op).2.2 ++ evs))
    (e : EP) (ops : List OpX) : Q e ops (runOpsXEv e ops).1 (runOpsXEv e ops).2 := by
  induction ops generalizing e with
  | nil => exact nil e
  | cons op rest ih => exact cons e op rest _ _ (ih _)

theorem runOpsXEv_fst (e : EP) (ops : List OpX) : (runOpsXEv e ops).1 = runOpsX e ops :=
  runOpsX_ind (Q := fun e ops e' _ => e' = runOpsX e ops) (fun _ => rfl) (fun _ _ _ _ _ h => h) e ops

theorem runOpsX_keeps {P : EP → Prop} (step : ∀ e op, P e → P (applyOpX e op).1) (e : EP) (ops : List OpX)
    (h : P e) : P (runOpsX e ops) :=
  runOpsXEv_fst e ops ▸
    runOpsX_ind (Q := fun e _ e' _ => P e → P e') (fun _ h => h) (fun e op _ _ _ ih h => ih (step e op h)) e ops h

theorem runOpsX_append (e : EP) (l1 l2 : List OpX) : runOpsX e (l1 ++ l2) = runOpsX (runOpsX e l1) l2 := by
  simp [runOpsX, List.foldl_append]

/-! ### Items handed to the transport before the first poll -/

theorem Step.deliverMany (e : EP) (ws : List WsIn) : Step e (deliverMany e ws) := .of_path (.deliverMany e ws)

theorem Still.deliverMany (e : EP) (ws : List WsIn) : Still e (deliverMany e ws) := .of_path (.deliverMany e ws)

theorem deliverMany_pend (e : EP) (ws : List WsIn) : pend (deliverMany e ws) = pend e :=
  pend_of_path (.deliverMany e ws)

theorem deliverMany_flows (e : EP) (ws : List WsIn) : (deliverMany e ws).flows = e.flows :=
  (Path.deliverMany e ws).frame .flows

/-! ### One stimulus -/

theorem applyOpX_inv (e : EP) (op : OpX) (h : Inv2 e) : Inv2 (applyOpX e op).1 := by
  cases op with
  | op o => exact applyOp_inv e o h
  | sinkfail => exact applySinkFail_inv e h
  | start sf => exact applyStart_inv e sf h
  | pre o => exact (Step.opStep e o).inv2 h
  | preDeliver ws => exact (Step.deliverMany e ws).inv2 h

theorem applyOpX_ended (e : EP) (op : OpX) (h : Ended e) : Ended (applyOpX e op).1 := by
  cases op with
  | op o => exact applyOp_ended e o h
  | sinkfail => exact applySinkFail_ended e h
  | start sf => exact applyStart_ended e sf h
  | pre o => exact h.still (Still.opStep e o)
  | preDeliver ws => exact h.still (Still.deliverMany e ws)

theorem applyOpX_done (e : EP) (op : OpX) (he : Ended e) (h : Done e) : Done (applyOpX e op).1 := by
  cases op with
  | op o =>
    show Done (applyOp e o).1
    rw [applyOp_fst]
    exact settle_done _ (he.still (Still.opStep e o)) (opStep_done e o he h).tidy
  | sinkfail => exact applySinkFail_done e he h.tidy
  | start sf => exact applyStart_done e sf he h.tidy
  | pre o => exact opStep_done e o he h
  | preDeliver ws =>
    intro hd
    show pend (deliverMany e ws) = []
    rw [deliverMany_pend]
    exact h (by rw [← (Still.deliverMany e ws).dead]; exact hd)

def newOfX : OpX → List Nat
  | .op o => newOf o
  | .pre o => newOf o
  | _ => []

def newOfBX : OpX → List Nat
  | .op o => newOfB o
  | .pre o => newOfB o
  | _ => []

theorem newOfX_nodup (op : OpX) : (newOfX op).Nodup := by
  cases op <;> first | exact newOf_nodup _ | exact List.nodup_nil

theorem newOfBX_nodup (op : OpX) : (newOfBX op).Nodup := by
  cases op <;> first | exact newOfB_nodup _ | exact List.nodup_nil

theorem Once.applyOpX (e : EP) (op : OpX) : Once (newOfX op) e (applyOpX e op).1 (applyOpX e op).2.2 := by
  cases op with
  | op o => rw [Mux.applyOpX]; exact Once.applyOp e o
  | sinkfail => rw [Mux.applyOpX]; exact Once.applySinkFail e
  | start sf => rw [Mux.applyOpX]; exact Once.applyStart e sf
  | pre o => rw [Mux.applyOpX]; exact Once.opStep e o
  | preDeliver ws => rw [Mux.applyOpX]; exact (Once.refl e).congr rfl (deliverMany_pend e ws)

theorem OnceB.applyOpX (e : EP) (op : OpX) : OnceB (newOfBX op) e (applyOpX e op).1 (applyOpX e op).2.2 := by
  cases op with
  | op o => rw [Mux.applyOpX]; exact OnceB.applyOp e o
  | sinkfail => rw [Mux.applyOpX]; exact OnceB.applySinkFail e
  | start sf => rw [Mux.applyOpX]; exact OnceB.applyStart e sf
  | pre o => rw [Mux.applyOpX]; exact OnceB.opStep e o
  | preDeliver ws => rw [Mux.applyOpX]; exact (OnceB.refl e).congr rfl (pendB_eq (deliverMany_flows e ws))

theorem dead_applyOpX_tx (e : EP) (op : OpX) (hd : e.dead = true) : txOf (applyOpX e op).2.2 = [] := by
  cases op with
  | op o => rw [Mux.applyOpX]; exact dead_applyOp_tx e o hd
  | sinkfail => rw [Mux.applyOpX]; exact dead_applySinkFail_tx e hd
  | start sf => rw [Mux.applyOpX]; exact dead_applyStart_tx e sf hd
  | pre o => rw [Mux.applyOpX]; exact opStep_tx e o
  | preDeliver ws => rfl

/-! ### Every history -/

theorem Mono.runOpsX (e : EP) (ops : List OpX) : Mono e (runOpsX e ops) := runOpsXEv_fst e ops ▸ .of_path (.runOpsXEv e ops)

theorem Keeps.runOpsX (e : EP) (ops : List OpX) : Keeps e (runOpsX e ops) := runOpsXEv_fst e ops ▸ .of_path (.runOpsXEv e ops)

theorem KeepsB.runOpsX (e : EP) (ops : List OpX) : KeepsB e (runOpsX e ops) := runOpsXEv_fst e ops ▸ .of_path (.runOpsXEv e ops)

theorem Grow.runOpsX (e : EP) (ops : List OpX) : Grow e (runOpsX e ops) := runOpsXEv_fst e ops ▸ .of_path (.runOpsXEv e ops)

theorem runOpsX_inv (e : EP) (ops : List OpX) (h : Inv2 e) : Inv2 (runOpsX e ops) := runOpsX_keeps applyOpX_inv e ops h

theorem runOpsX_ended (e : EP) (ops : List OpX) (h : Ended e) : Ended (runOpsX e ops) :=
  runOpsX_keeps applyOpX_ended e ops h

theorem runOpsX_done (e : EP) (ops : List OpX) (he : Ended e) (h : Done e) : Done (runOpsX e ops) :=
  (runOpsX_keeps (P := fun e => Ended e ∧ Done e)
    (fun e op h => ⟨applyOpX_ended e op h.1, applyOpX_done e op h.1 h.2⟩) e ops ⟨he, h⟩).2

theorem dead_runOpsXEv_tx (e : EP) (ops : List OpX) (hd : e.dead = true) : txOf (runOpsXEv e ops).2 = [] :=
  runOpsX_ind (Q := fun e _ _ evs => e.dead = true → txOf evs = []) (fun _ _ => rfl)
    (fun e op _ _ _ ih hd => by
      rw [txOf_append, dead_applyOpX_tx e op hd, ih ((Mono.of_path (.applyOpX e op)).dead hd)]; rfl) e ops hd

/-! ### Before the first poll -/

def isPre : OpX → Bool
  | .pre _ => true
  | .preDeliver _ => true
  | _ => false

/-- Before the first poll a history is a path of the steps of application calls and deliveries: no step of the task. -/
theorem Path.preOps (e : EP) (pres : List OpX) (h : pres.all isPre = true) :
    ∃ evs, Path K.anyOp e evs (runOpsX e pres) := by
  induction pres generalizing e with
  | nil => exact ⟨[], .refl e⟩
  | cons op rest ih =>
    simp only [List.all_cons, Bool.and_eq_true] at h
    obtain ⟨evs, p⟩ := ih (Mux.applyOpX e op).1 h.2
    cases op with
    | pre o => exact ⟨_, ((Path.opStepAny e o).trans p).mono⟩
    | preDeliver ws => exact ⟨_, ((Path.deliverMany e ws).trans p).mono⟩
    | _ => exact absurd h.1 (by simp [isPre])

/-- Before the first poll the life-cycle fields (`dead`, `draining`, `closing`, `outClosed`) are those of the start. -/
theorem pre_flags (e : EP) (pres : List OpX) (h : pres.all isPre = true) : Flags e (runOpsX e pres) :=
  let ⟨_, p⟩ := Path.preOps e pres h; (Still.of_path p).toFlags

theorem pre_park (e : EP) (pres : List OpX) (h : pres.all isPre = true) : (runOpsX e pres).park = e.park :=
  let ⟨_, p⟩ := Path.preOps e pres h; p.frame .park

/-! ### The states reached from a fresh endpoint -/

theorem initX_inv (o : Opts) (rng : List Nat) : Inv2 (initX o rng) :=
  ⟨⟨by intro fid i h; simp [initX] at h, by intro f1 f2 i h; simp [initX] at h, by intro i ob h; simp [initX] at h⟩,
   by intro hd; simp [initX] at hd⟩

theorem initX_ended (o : Opts) (rng : List Nat) : Ended (initX o rng) := .of_running rfl rfl rfl

theorem initX_done (o : Opts) (rng : List Nat) : Done (initX o rng) := fun h => by simp [initX] at h

theorem reachableX_inv (o : Opts) (rng : List Nat) (ops : List OpX) : Inv2 (runOpsX (initX o rng) ops) :=
  runOpsX_inv _ ops (initX_inv o rng)

theorem reachableX_ended (o : Opts) (rng : List Nat) (ops : List OpX) : Ended (runOpsX (initX o rng) ops) :=
  runOpsX_ended _ ops (initX_ended o rng)

theorem reachableX_done (o : Opts) (rng : List Nat) (ops : List OpX) : Done (runOpsX (initX o rng) ops) :=
  runOpsX_done _ ops (initX_ended o rng) (initX_done o rng)

theorem reachableX_wakeOk (o : Opts) (rng : List Nat) (ops : List OpX) : WakeOk (runOpsX (initX o rng) ops) :=
  Keeps.runOpsX _ ops (by intro i ob h; simp [initX] at h)

theorem reachableX_bnd (o : Opts) (rng : List Nat) (ops : List OpX) : Bnd o (runOpsX (initX o rng) ops) :=
  KeepsB.runOpsX _ ops o ⟨rfl, by intro i ob h; simp [initX] at h, Nat.zero_le _, Nat.zero_le _, Nat.zero_le _, rfl⟩

theorem reachableX_slotFid (o : Opts) (rng : List Nat) (ops : List OpX) : SlotFidE (runOpsX (initX o rng) ops) :=
  (Grow.runOpsX _ ops).slotFid (initX_inv o rng).1 (by intro fid i ob h; simp [initX] at h)

theorem reachableX_dead_all_closed (o : Opts) (rng : List Nat) (ops : List OpX)
    (hd : (runOpsX (initX o rng) ops).dead = true) :
    ∀ (i : Nat) (ob : Obj), (runOpsX (initX o rng) ops).objs[i]? = some ob → ob.closed :=
  (reachableX_inv o rng ops).dead_all_closed hd

/-! ### At-most-once accounting over a history -/

def opensOfX : List OpX → List Nat
  | [] => []
  | op :: rest => newOfX op ++ opensOfX rest

def bindsOfX : List OpX → List Nat
  | [] => []
  | op :: rest => newOfBX op ++ bindsOfX rest

theorem answered_at_most_once_x (o : Opts) (rng : List Nat) (ops : List OpX) (h : (opensOfX ops).Nodup) :
    (doneReqs (runOpsXEv (initX o rng) ops).2).Nodup ∧
    ∀ r, r ∈ doneReqs (runOpsXEv (initX o rng) ops).2 → r ∈ opensOfX ops := by
  exact Hist1.run (p := pend) (s := fun e op => (applyOpX e op).1) (n := newOfX)
    (d := fun e op => doneReqs (applyOpX e op).2.2) (N := opensOfX) (D := fun e ops => doneReqs (runOpsXEv e ops).2)
    rfl (fun _ _ => rfl) (fun _ => rfl) (fun _ _ _ => doneReqs_append _ _) (fun e op => (Once.applyOpX e op).to1)
    newOfX_nodup ops _ rfl h

theorem binds_answered_at_most_once_x (o : Opts) (rng : List Nat) (ops : List OpX) (h : (bindsOfX ops).Nodup) :
    (doneB (runOpsXEv (initX o rng) ops).2).Nodup ∧
    ∀ r, r ∈ doneB (runOpsXEv (initX o rng) ops).2 → r ∈ bindsOfX ops := by
  exact Hist1.run (p := pendB) (s := fun e op => (applyOpX e op).1) (n := newOfBX)
    (d := fun e op => doneB (applyOpX e op).2.2) (N := bindsOfX) (D := fun e ops => doneB (runOpsXEv e ops).2)
    rfl (fun _ _ => rfl) (fun _ => rfl) (fun _ _ _ => doneB_append _ _) (fun e op => (OnceB.applyOpX e op).to1)
    newOfBX_nodup ops _ rfl h

end Penguin.Mux
