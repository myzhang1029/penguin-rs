/-
Before the task's first poll: the application's calls (`opStep` alone) never park the receive loop
and never touch what the transport holds, so an endpoint whose history consists of application
calls only — nothing delivered yet — is running with an empty inbox and nothing parked.  Its first
poll on a failed sink therefore finishes the task (`taskPollSinkFailed_quiet`).
Core Lean only.
-/
import Penguin.Model.MuxHist
import Penguin.Lemmas.MuxIntegritySrc
import Penguin.Lemmas.MuxStartHist

namespace Penguin.Mux

/-! ### Histories before the first poll -/

/-- An application call made before the task's first poll (not a delivery into the transport). -/
def isPreCall : OpX → Bool
  | .pre (.deliver _) => false
  | .pre _ => true
  | _ => false

theorem isPre_of_isPreCall {op : OpX} (h : isPreCall op = true) : isPre op = true := by
  cases op with
  | pre o => rfl
  | preDeliver ws => simp [isPreCall] at h
  | op o => simp [isPreCall] at h
  | sinkfail => simp [isPreCall] at h
  | start sf => simp [isPreCall] at h

theorem all_isPre_of_isPreCall {pres : List OpX} (h : pres.all isPreCall = true) : pres.all isPre = true := by
  rw [List.all_eq_true] at h ⊢
  intro x hx
  exact isPre_of_isPreCall (h x hx)

theorem preCall_inbox (e : EP) (pres : List OpX) (h : pres.all isPreCall = true) : (runOpsX e pres).inbox = e.inbox := by
  induction pres generalizing e with
  | nil => rfl
  | cons op rest ih =>
    simp only [List.all_cons, Bool.and_eq_true] at h
    have h1 : (applyOpX e op).1.inbox = e.inbox := by
      cases op with
      | pre o =>
        refine opStep_inbox_eq e o ?_
        intro w hw
        rw [hw] at h
        simp [isPreCall] at h
      | preDeliver ws => simp [isPreCall] at h
      | op o => simp [isPreCall] at h
      | sinkfail => simp [isPreCall] at h
      | start sf => simp [isPreCall] at h
    show (runOpsX (applyOpX e op).1 rest).inbox = e.inbox
    rw [ih _ h.2, h1]

/-- Whatever the application called before the first poll (nothing delivered yet): that poll, with a
    failed sink, finishes the task. -/
theorem preCall_start_failed_dead (o : Opts) (rng : List Nat) (pres : List OpX) (h : pres.all isPreCall = true) :
    (taskPollSinkFailed (runOpsX (initX o rng) pres)).1.dead = true := by
  have hp := all_isPre_of_isPreCall h
  have f := pre_flags (initX o rng) pres hp
  have hd : (runOpsX (initX o rng) pres).dead = false := f.dead
  have hc : (runOpsX (initX o rng) pres).closing = none := f.closing
  have hdr : (runOpsX (initX o rng) pres).draining = none := f.draining
  have hi : (runOpsX (initX o rng) pres).inbox = [] := preCall_inbox _ pres h
  have hk : (runOpsX (initX o rng) pres).park = none := pre_park _ pres hp
  exact taskPollSinkFailed_quiet_dead _ hd hc hdr hi hk

end Penguin.Mux
