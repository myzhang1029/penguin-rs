/-
The application calls on a stream handle (`write`, `read`, `shutdown`, dropping the stream)
preserve the invariant of the pair model.
-/
import Penguin.Lemmas.PairUpd
import Penguin.Lemmas.PairLocal
import Penguin.Lemmas.PairStep

namespace Penguin.Pair
open Penguin.Mux

theorem filterMap_append_nil {α β : Type} (f : α → Option β) (l em : List α) (h : em.filterMap f = []) :
    (l ++ em).filterMap f = l.filterMap f := by
  rw [List.filterMap_append, h, List.append_nil]

section
variable {p : PS} {e' : EP} {g' : Ghost} {i y : Nat} {o o' : Obj} {em : List Msg} {dq : List Nat}
  {ba' hd fbaT : List Msg}

theorem sender_untouched (h1 : o'.credit = o.credit) (h2 : o'.finishSent = o.finishSent) (h3 : g'.wlog i = p.ga.wlog i)
    (h4 : em.filterMap toItem = []) :
    lookup p.a.flows y ≠ none → ∀ oR fwd bwd r eof l, DirRel o oR fwd bwd (p.ga.wlog i) r eof l →
      ∃ l', DirRel o' oR (fwd ++ em) bwd (g'.wlog i) r eof l' :=
  fun _ _ _ _ _ _ l d => ⟨l, d.congr h1 h2 rfl rfl rfl rfl rfl rfl (filterMap_append_nil _ _ _ h4) rfl h3 rfl rfl rfl⟩

theorem reader_untouched (h1 : o'.cap = o.cap) (h2 : o'.threshold = o.threshold) (h3 : o'.senderAlive = o.senderAlive)
    (h4 : o'.rxq = o.rxq) (h5 : o'.buf = o.buf) (h6 : o'.recvdSince = o.recvdSince)
    (h7 : g'.rlog i = p.ga.rlog i) (h8 : g'.eof i = p.ga.eof i) (h9 : em.filterMap ackOf = [])
    (h10 : o'.rxOpen = o.rxOpen) :
    ReaderOk o' (g'.eof i) → ∀ oS fwd bwd w l, DirRel oS o ([] ++ fwd) bwd w (p.ga.rlog i) (p.ga.eof i) l →
      ∃ l', DirRel oS o' fwd (bwd ++ em) w (g'.rlog i) (g'.eof i) l' :=
  fun _ _ _ _ _ l d => ⟨l, d.congr rfl rfl h1 h2 h3 h4 h5 h6 rfl (filterMap_append_nil _ _ _ h9) rfl h7 h8 h10⟩

theorem readerA_untouched (h1 : o'.cap = o.cap) (h2 : o'.threshold = o.threshold) (h3 : o'.senderAlive = o.senderAlive)
    (h4 : o'.rxq = o.rxq) (h5 : o'.buf = o.buf) (h6 : o'.recvdSince = o.recvdSince)
    (h7 : g'.rlog i = p.ga.rlog i) (h8 : g'.eof i = p.ga.eof i) (h10 : o'.rxOpen = o.rxOpen) :
    ReaderOk o' (g'.eof i) → ∀ fwd w l, DirRelA o ([] ++ fwd) w (p.ga.rlog i) (p.ga.eof i) l →
      ∃ l', DirRelA o' fwd w (g'.rlog i) (g'.eof i) l' :=
  fun _ _ _ l d => ⟨l, d.congr h1 h2 h3 h4 h5 h6 (fun _ => rfl) rfl h7 h8 h10⟩

/-- An object-local update with the footprint of the object's flow preserves the invariant. -/
theorem inv_of_local (h : InvCore p) (s : Eff (· = y) p.a e') (u : LocalUpd p.a e' i o' em dq)
    (ho : p.a.objs[i]? = some o) (hoy : o.fid = y) (ho' : o'.fid = y)
    (hem : ∀ m ∈ em, Msg.flow? m = some y ∧ m.isConnect = false)
    (hba : ba' = p.ba ∨ ∃ m, p.ba = m :: ba' ∧ ∀ z, Msg.flow? m = some z → z = y)
    (hba1 : fl y (pathBA p) = hd ++ fbaT) (hba2 : fl y (ba' ++ p.b.outq) = fbaT)
    (hS : lookup p.a.flows y ≠ none → ∀ oR fwd bwd r eof l, DirRel o oR fwd (hd ++ bwd) (p.ga.wlog i) r eof l →
            ∃ l', DirRel o' oR (fwd ++ em) bwd (g'.wlog i) r eof l')
    (hR : ReaderOk o' (g'.eof i) → ∀ oS fwd bwd w l, DirRel oS o (hd ++ fwd) bwd w (p.ga.rlog i) (p.ga.eof i) l →
            ∃ l', DirRel oS o' fwd (bwd ++ em) w (g'.rlog i) (g'.eof i) l')
    (hRA : ReaderOk o' (g'.eof i) → ∀ fwd w l, DirRelA o (hd ++ fwd) w (p.ga.rlog i) (p.ga.eof i) l →
            ∃ l', DirRelA o' fwd w (g'.rlog i) (g'.eof i) l')
    (hok : ReaderOk o' (g'.eof i) → ReaderOk o (p.ga.eof i))
    (hclosed : (o.finishSent = true → o'.finishSent = true ∧ g'.wlog i = p.ga.wlog i) ∧
               (o.senderAlive = false → o'.senderAlive = false))
    (hnr : lookup p.a.flows y ≠ none → noReset em) (hhd : lookup p.a.flows y ≠ none → noReset hd)
    (hw : WireUpd o o' em hd)
    (hrxd : (o.rxOpen = false → o'.rxOpen = false) ∧ (y ∈ dq → o'.rxOpen = false))
    (hHalf : hd = [] → o.rxq = [] → o.buf = [] → o.recvdSince = 0 → o.senderAlive = true →
            o'.rxq = [] ∧ o'.buf = [] ∧ o'.recvdSince = 0 ∧ o'.senderAlive = true ∧ (∀ m ∈ em, ackOf m = none) ∧
            g'.rlog i = p.ga.rlog i ∧ g'.eof i = p.ga.eof i ∧ (¬ y ∈ dq → o.rxOpen = true → o'.rxOpen = true))
    (hcap : o'.cap = o.cap ∧ o'.threshold = o.threshold)
    (hg : ∀ k, k ≠ i → g'.wlog k = p.ga.wlog k ∧ g'.rlog k = p.ga.rlog k ∧ g'.eof k = p.ga.eof k) :
    InvCore { p with a := e', ga := g', ba := ba' } := by
  have hi : i < p.a.objs.length := by
    rcases Nat.lt_or_ge i p.a.objs.length with h1 | h1
    · exact h1
    · simp [List.getElem?_eq_none h1] at ho
  refine inv_of_eff (ba' := ba') (lk' := p.linked) h s hba ?_ ?_ (fun _ _ hh => hh) ?_
  · intro x hx k hk
    by_cases hki : k = i
    · subst hki
      have : objView x p.a k = none := by
        simp only [objView, ho]
        have : o.fid ≠ x := fun hh => hx (by rw [← hh, hoy])
        simp [this]
      rw [this] at hk; cases hk
    · exact hg k hki
  · intro k hk
    have hki : k ≠ i := by have := s.len; omega
    obtain ⟨a1, a2, a3⟩ := hg k hki
    rw [a1, a2, a3]
    exact h.ghA k (by have := s.len; omega)
  · intro x hx
    subst hx
    have := phase_upd (lk' := p.linked) (h.phase _) u ho hoy ho' hem hba1 hba2 hS hR hRA hok hclosed hnr hhd hw hrxd hHalf hcap
    exact ⟨this.1, fun hl => this.2 (h.live _ hl)⟩

end

theorem hfid_of {e : EP} {h i : Nat} {o : Obj} (hh : e.handleObj h = some (i, o)) : hfid e h = o.fid := by
  simp [hfid, hh]

theorem eta (p : PS) : ({ p with a := p.a, ga := p.ga } : PS) = p := rfl

@[simp] theorem addW_wlog_self (g : Ghost) (i : Nat) (d : Bytes) : (g.addW i d).wlog i = g.wlog i ++ d := by simp [Ghost.addW]
theorem addW_other (g : Ghost) (i k : Nat) (d : Bytes) (hk : k ≠ i) :
    (g.addW i d).wlog k = g.wlog k ∧ (g.addW i d).rlog k = g.rlog k ∧ (g.addW i d).eof k = g.eof k := by
  simp [Ghost.addW, hk]
@[simp] theorem addW_rlog (g : Ghost) (i : Nat) (d : Bytes) : (g.addW i d).rlog = g.rlog := rfl
@[simp] theorem addW_eof (g : Ghost) (i : Nat) (d : Bytes) : (g.addW i d).eof = g.eof := rfl
@[simp] theorem addR_rlog_self (g : Ghost) (i : Nat) (d : Bytes) : (g.addR i d).rlog i = g.rlog i ++ d := by simp [Ghost.addR]
theorem addR_other (g : Ghost) (i k : Nat) (d : Bytes) (hk : k ≠ i) :
    (g.addR i d).wlog k = g.wlog k ∧ (g.addR i d).rlog k = g.rlog k ∧ (g.addR i d).eof k = g.eof k := by
  simp [Ghost.addR, hk]
@[simp] theorem addR_wlog (g : Ghost) (i : Nat) (d : Bytes) : (g.addR i d).wlog = g.wlog := rfl
@[simp] theorem addR_eof (g : Ghost) (i : Nat) (d : Bytes) : (g.addR i d).eof = g.eof := rfl
@[simp] theorem setEof_self (g : Ghost) (i : Nat) : (g.setEof i).eof i = true := by simp [Ghost.setEof]
theorem setEof_other (g : Ghost) (i k : Nat) (hk : k ≠ i) :
    (g.setEof i).wlog k = g.wlog k ∧ (g.setEof i).rlog k = g.rlog k ∧ (g.setEof i).eof k = g.eof k := by
  simp [Ghost.setEof, hk]
@[simp] theorem setEof_wlog (g : Ghost) (i : Nat) : (g.setEof i).wlog = g.wlog := rfl
@[simp] theorem setEof_rlog (g : Ghost) (i : Nat) : (g.setEof i).rlog = g.rlog := rfl

theorem flow_push (y : Nat) (d : Bytes) : Msg.flow? (.frame (.push y d)) = some y := rfl
theorem flow_finish (y : Nat) : Msg.flow? (.frame (.finish y)) = some y := rfl
theorem flow_ack (y n : Nat) : Msg.flow? (.frame (.acknowledge y n)) = some y := rfl

theorem noReset_nil : noReset [] := by intro m hm; cases hm

/-- An update that leaves the receiving role of the object alone (write, shutdown). -/
theorem inv_of_sender_upd {p : PS} {e' : EP} {g' : Ghost} {i y : Nat} {o o' : Obj} {em : List Msg}
    (h : InvCore p) (s : Eff (· = y) p.a e') (u : LocalUpd p.a e' i o' em [])
    (ho : p.a.objs[i]? = some o) (hoy : o.fid = y) (ho' : o'.fid = y)
    (hem : ∀ m ∈ em, Msg.flow? m = some y ∧ m.isConnect = false)
    (hS : lookup p.a.flows y ≠ none → ∀ oR fwd bwd r eof l, DirRel o oR fwd ([] ++ bwd) (p.ga.wlog i) r eof l →
            ∃ l', DirRel o' oR (fwd ++ em) bwd (g'.wlog i) r eof l')
    (r1 : o'.cap = o.cap) (r2 : o'.threshold = o.threshold) (r3 : o'.senderAlive = o.senderAlive)
    (r4 : o'.rxq = o.rxq) (r5 : o'.buf = o.buf) (r6 : o'.recvdSince = o.recvdSince) (r7 : o'.rxOpen = o.rxOpen)
    (g1 : g'.rlog i = p.ga.rlog i) (g2 : g'.eof i = p.ga.eof i)
    (hacks : em.filterMap ackOf = []) (hnr : noReset em)
    (hclosed : o.finishSent = true → o'.finishSent = true ∧ g'.wlog i = p.ga.wlog i)
    (hwire : noPushAfterEnd (em.filterMap toItem) = true ∧ (o.finishSent = true → Link.pushes (em.filterMap toItem) = []) ∧
             (Link.hasEnd (em.filterMap toItem) = true → o'.finishSent = true))
    (hg : ∀ k, k ≠ i → g'.wlog k = p.ga.wlog k ∧ g'.rlog k = p.ga.rlog k ∧ g'.eof k = p.ga.eof k) :
    InvCore { p with a := e', ga := g' } := by
  have hackm : ∀ m ∈ em, ackOf m = none := by
    intro m hm
    cases hk : ackOf m with
    | none => rfl
    | some n =>
      have : n ∈ em.filterMap ackOf := List.mem_filterMap.mpr ⟨m, hm, hk⟩
      rw [hacks] at this; cases this
  exact inv_of_local (ba' := p.ba) (hd := []) (fbaT := fl _ (pathBA p)) h s u ho hoy ho' hem (Or.inl rfl) rfl rfl hS
    (reader_untouched r1 r2 r3 r4 r5 r6 g1 g2 hacks r7) (readerA_untouched r1 r2 r3 r4 r5 r6 g1 g2 r7)
    (fun hk => by unfold ReaderOk at *; rw [r7, g2] at hk; exact hk)
    ⟨hclosed, fun ha => by rw [r3]; exact ha⟩ (fun _ => hnr) (fun _ => noReset_nil)
    ⟨hwire.1, hwire.2.1, hwire.2.2, fun ha => Or.inl (by rw [← r3]; exact ha)⟩
    ⟨fun hh => by rw [r7]; exact hh, fun hh => by cases hh⟩
    (fun _ a b c d => ⟨by rw [r4]; exact a, by rw [r5]; exact b, by rw [r6]; exact c, by rw [r3]; exact d, hackm, g1, g2,
      fun _ hh => by rw [r7]; exact hh⟩)
    ⟨r1, r2⟩ hg

theorem inv_write {p : PS} (h : InvCore p) (hd : Nat) (d : Bytes) :
    InvCore { p with a := (appWrite p.a hd d).1,
                     ga := match (appWrite p.a hd d).2, p.a.handles[hd]? with
                           | .wrote _, some i => p.ga.addW i d
                           | _, _ => p.ga } := by
  cases hh : p.a.handleObj hd with
  | none =>
    rw [appWrite_none p.a hd d hh]; exact h
  | some io =>
    obtain ⟨i, o⟩ := io
    have ho := handleObj_some hh
    have hhi := handleObj_handle hh
    have s := appWrite_eff p.a hd d h.runA.outClosed
    rw [hfid_of hh] at s
    rw [hhi]
    rcases appWrite_local p.a hd i o d hh h.runA.outClosed with ⟨hf, hres, u⟩ | ⟨hf, hd0, hres, u⟩ | ⟨hf, hd0, hc, hres, u⟩ | ⟨hf, hd0, hc, hres, u⟩
    · rw [hres]
      exact inv_of_sender_upd (g' := p.ga) h s u ho rfl rfl (by simp) (sender_untouched rfl rfl rfl rfl)
        rfl rfl rfl rfl rfl rfl rfl rfl rfl rfl noReset_nil (fun hh => ⟨hh, rfl⟩) ⟨rfl, fun _ => rfl, fun hh => (by cases hh)⟩ (fun _ _ => ⟨rfl, rfl, rfl⟩)
    · rw [hres]
      subst hd0
      exact inv_of_sender_upd (g' := p.ga.addW i []) h s u ho rfl rfl (by simp) (sender_untouched rfl rfl (by simp) rfl)
        rfl rfl rfl rfl rfl rfl rfl rfl rfl rfl noReset_nil (fun hh => ⟨hh, by simp⟩) ⟨rfl, fun _ => rfl, fun hh => (by cases hh)⟩ (fun k hk => addW_other _ _ _ _ hk)
    · rw [hres]
      exact inv_of_sender_upd (g' := p.ga) h s u ho rfl rfl (by simp) (sender_untouched rfl rfl rfl rfl)
        rfl rfl rfl rfl rfl rfl rfl rfl rfl rfl noReset_nil (fun hh => ⟨hh, rfl⟩) ⟨rfl, fun _ => rfl, fun hh => (by cases hh)⟩ (fun _ _ => ⟨rfl, rfl, rfl⟩)
    · rw [hres]
      refine inv_of_sender_upd (g' := p.ga.addW i d) h s u ho rfl rfl ?_ ?_
        rfl rfl rfl rfl rfl rfl rfl rfl rfl rfl ?_ (fun hh => by rw [hf] at hh; cases hh) ⟨rfl, fun hh => (by rw [hf] at hh; cases hh), fun hh => (by simp [Link.hasEnd, Link.Item.isPush] at hh)⟩ (fun k hk => addW_other _ _ _ _ hk)
      · intro m hm; simp at hm; subst hm; exact ⟨rfl, rfl⟩
      · intro _ oR fwd bwd r eof l dr
        rw [addW_wlog_self]
        exact ⟨_, dr.write o.fid d hf hd0 hc⟩
      · intro m hm y' he; simp at hm; subst hm; cases he

theorem acks_flow {y : Nat} {em : List Msg} (h : AcksOf y em) :
    (∀ m ∈ em, Msg.flow? m = some y ∧ m.isConnect = false) ∧ em.filterMap toItem = [] ∧ noReset em := by
  refine ⟨?_, ?_, ?_⟩
  · intro m hm; obtain ⟨n, rfl⟩ := h m hm; exact ⟨rfl, rfl⟩
  · induction em with
    | nil => rfl
    | cons m rest ih =>
      obtain ⟨n, rfl⟩ := h m (by simp)
      simp [List.filterMap_cons, ih (fun m' hm' => h m' (List.mem_cons_of_mem _ hm'))]
  · intro m hm y' he; obtain ⟨n, rfl⟩ := h m hm; cases he

/-- An update that leaves the sending role of the object alone (reads): the receiving role's
    transformers are given. -/
theorem inv_of_reader_upd {p : PS} {e' : EP} {g' : Ghost} {i y : Nat} {o o' : Obj} {em : List Msg}
    (h : InvCore p) (s : Eff (· = y) p.a e') (u : LocalUpd p.a e' i o' em [])
    (ho : p.a.objs[i]? = some o) (hoy : o.fid = y) (ss : SenderSame o o') (hak : AcksOf y em)
    (gw : g'.wlog i = p.ga.wlog i)
    (hR : ReaderOk o' (g'.eof i) → ∀ oS fwd bwd w l, DirRel oS o ([] ++ fwd) bwd w (p.ga.rlog i) (p.ga.eof i) l →
            ∃ l', DirRel oS o' fwd (bwd ++ em) w (g'.rlog i) (g'.eof i) l')
    (hRA : ReaderOk o' (g'.eof i) → ∀ fwd w l, DirRelA o ([] ++ fwd) w (p.ga.rlog i) (p.ga.eof i) l →
            ∃ l', DirRelA o' fwd w (g'.rlog i) (g'.eof i) l')
    (hok : ReaderOk o' (g'.eof i) → ReaderOk o (p.ga.eof i))
    (hHalf : o.rxq = [] → o.buf = [] → o.senderAlive = true → False)
    (hg : ∀ k, k ≠ i → g'.wlog k = p.ga.wlog k ∧ g'.rlog k = p.ga.rlog k ∧ g'.eof k = p.ga.eof k) :
    InvCore { p with a := e', ga := g' } := by
  obtain ⟨hemf, hemi, hemr⟩ := acks_flow hak
  exact inv_of_local (ba' := p.ba) (hd := []) (fbaT := fl _ (pathBA p)) h s u ho hoy (by rw [ss.fid, hoy]) hemf (Or.inl rfl) rfl rfl
    (sender_untouched ss.credit ss.finishSent gw hemi) hR hRA hok
    ⟨fun hh => ⟨by rw [ss.finishSent]; exact hh, gw⟩, fun ha => by rw [ss.alive]; exact ha⟩ (fun _ => hemr) (fun _ => noReset_nil)
    ⟨(by rw [hemi]; rfl), fun _ => (by rw [hemi]; rfl), fun hh => (by rw [hemi] at hh; cases hh),
     fun ha => Or.inl (by rw [← ss.alive]; exact ha)⟩
    ⟨fun hh => (by cases hr : o'.rxOpen with
                   | false => rfl
                   | true => have := ss.rxOpen hr; rw [hh] at this; cases this), fun hh => (by cases hh)⟩
    (fun _ a b _ d => absurd (hHalf a b d) id) ⟨ss.cap, ss.threshold⟩ hg

def readGhost (e : EP) (g : Ghost) (res : Res) (i : Nat) : Ghost :=
  match res, (some i : Option Nat) with
  | .data bs, some i => g.addR i bs
  | .eof, some i => g.noteEof e i
  | _, _ => g

theorem noteEof_facts (e : EP) (g : Ghost) (i : Nat) (o : Obj) (ho : e.objs[i]? = some o) :
    (g.noteEof e i).wlog = g.wlog ∧ (g.noteEof e i).rlog = g.rlog ∧
    (∀ k, k ≠ i → (g.noteEof e i).eof k = g.eof k) ∧
    ((g.noteEof e i).eof i = true → g.eof i = true ∨ o.rxOpen = true) := by
  simp only [Ghost.noteEof, ho]
  by_cases hc : (o.rxOpen || g.eof i) = true
  · rw [if_pos hc]
    refine ⟨rfl, rfl, fun k hk => (setEof_other _ _ _ hk).2.2, fun _ => ?_⟩
    rcases Bool.or_eq_true_iff.mp hc with h1 | h1
    · exact Or.inr h1
    · exact Or.inl h1
  · rw [if_neg hc]
    exact ⟨rfl, rfl, fun _ _ => rfl, fun hh => Or.inl hh⟩

/-- The ghost update of a read never touches the write log nor other objects' logs; end-of-stream is
    recorded only for an object whose receiving half was still observed. -/
theorem readGhost_facts (e : EP) (g : Ghost) (res : Res) (i : Nat) (o : Obj) (ho : e.objs[i]? = some o) :
    (readGhost e g res i).wlog = g.wlog ∧
    (∀ k, k ≠ i → (readGhost e g res i).rlog k = g.rlog k ∧ (readGhost e g res i).eof k = g.eof k) ∧
    ((readGhost e g res i).eof i = true → g.eof i = true ∨ o.rxOpen = true) := by
  obtain ⟨n1, n2, n3, n4⟩ := noteEof_facts e g i o ho
  cases res with
  | data bs => exact ⟨rfl, fun k hk => ⟨by show (g.addR i bs).rlog k = _; simp [Ghost.addR, hk], rfl⟩, fun hh => Or.inl hh⟩
  | eof => exact ⟨n1, fun k hk => ⟨by show (g.noteEof e i).rlog k = _; rw [n2], n3 k hk⟩, n4⟩
  | _ => exact ⟨rfl, fun _ _ => ⟨rfl, rfl⟩, fun hh => Or.inl hh⟩

theorem inv_read {p : PS} (h : InvCore p) (hd n : Nat) :
    InvCore { p with a := (appRead p.a hd n).1,
                     ga := match (appRead p.a hd n).2, p.a.handles[hd]? with
                           | .data bs, some i => p.ga.addR i bs
                           | .eof, some i => p.ga.noteEof p.a i
                           | _, _ => p.ga } := by
  cases hh : p.a.handleObj hd with
  | none =>
    rw [appRead_none p.a hd n hh]; exact h
  | some io =>
    obtain ⟨i, o⟩ := io
    have ho := handleObj_some hh
    have hhi := handleObj_handle hh
    have s := appRead_eff p.a hd n h.runA.outClosed
    rw [hfid_of hh] at s
    rw [hhi]
    by_cases hne : ∀ d ∈ o.rxq, d ≠ []
    · rcases appRead_local p.a hd i n o hh h.runA.outClosed hne with
        ⟨hb, hres, u⟩ | ⟨hb, f, rest, hq, hres, hcase⟩ | ⟨hb, hq, ha, hres, he⟩ | ⟨hb, hq, ha, hres, u⟩
      · rw [hres]
        refine inv_of_reader_upd (g' := p.ga.addR i (o.buf.take n)) h s u ho rfl ⟨rfl, rfl, rfl, rfl, rfl, rfl, id⟩
          (by intro m hm; cases hm) (by simp) ?_ ?_ id (fun _ b _ => hb b) (fun k hk => addR_other _ _ _ _ hk)
        · intro _ oS fwd bwd w l dr
          rw [addR_rlog_self, List.append_nil]
          exact ⟨_, dr.readBuf n hb⟩
        · intro _ fwd w l dr
          rw [addR_rlog_self]
          exact ⟨_, dr.readBuf n hb⟩
      · rw [hres]
        rcases hcase with ⟨ht, u⟩ | ⟨ht, u⟩
        · refine inv_of_reader_upd (g' := p.ga.addR i (f.take n)) h s u ho rfl ⟨rfl, rfl, rfl, rfl, rfl, rfl, id⟩
            (by intro m hm; simp at hm; exact ⟨_, hm⟩) (by simp) ?_ ?_ id (fun a _ _ => by rw [hq] at a; cases a)
            (fun k hk => addR_other _ _ _ _ hk)
          · intro _ oS fwd bwd w l dr
            rw [addR_rlog_self]
            exact ⟨_, (dr.readFrame o.fid n f rest hb hq).1 ht⟩
          · intro _ fwd w l dr
            rw [addR_rlog_self]
            exact ⟨_, (dr.readFrame n f rest hb hq).1 ht⟩
        · refine inv_of_reader_upd (g' := p.ga.addR i (f.take n)) h s u ho rfl ⟨rfl, rfl, rfl, rfl, rfl, rfl, id⟩
            (by intro m hm; cases hm) (by simp) ?_ ?_ id (fun a _ _ => by rw [hq] at a; cases a)
            (fun k hk => addR_other _ _ _ _ hk)
          · intro _ oS fwd bwd w l dr
            rw [addR_rlog_self, List.append_nil]
            exact ⟨_, (dr.readFrame o.fid n f rest hb hq).2 ht⟩
          · intro _ fwd w l dr
            rw [addR_rlog_self]
            exact ⟨_, (dr.readFrame n f rest hb hq).2 ht⟩
      · rw [hres, he]; exact h
      · rw [hres]
        obtain ⟨gw, gk, ge⟩ := readGhost_facts p.a p.ga .eof i o ho
        change (p.ga.noteEof p.a i).wlog = _ at gw
        change ∀ k, k ≠ i → (p.ga.noteEof p.a i).rlog k = _ ∧ (p.ga.noteEof p.a i).eof k = _ at gk
        change (p.ga.noteEof p.a i).eof i = true → _ at ge
        have hr : (p.ga.noteEof p.a i).rlog = p.ga.rlog := (noteEof_facts p.a p.ga i o ho).2.1
        refine inv_of_reader_upd (g' := p.ga.noteEof p.a i) h s u ho rfl ⟨rfl, rfl, rfl, rfl, rfl, rfl, fun hk => by cases hk⟩
          (by intro m hm; cases hm) (by rw [gw]) ?_ ?_ ?_ (fun _ _ d => by rw [ha] at d; cases d)
          (fun k hk => ⟨by rw [gw], gk k hk⟩)
        · intro hk oS fwd bwd w l dr
          rw [hk.eof rfl, List.append_nil, hr]
          exact ⟨_, dr.readEof n hb hq ha⟩
        · intro hk fwd w l dr
          rw [hk.eof rfl, hr]
          exact ⟨_, dr.readEof n hb hq ha⟩
        · intro hk
          rcases ge (hk.eof rfl) with h1 | h1
          · exact Or.inr h1
          · exact Or.inl h1
    · obtain ⟨o', em, u, ss, ak⟩ := appRead_coarse p.a hd i n o hh h.runA.outClosed
      obtain ⟨gw, gk, ge⟩ := readGhost_facts p.a p.ga (appRead p.a hd n).2 i o ho
      show InvCore { p with a := (appRead p.a hd n).1, ga := readGhost p.a p.ga (appRead p.a hd n).2 i }
      refine inv_of_reader_upd h s u ho rfl ss ak (by rw [gw]) ?_ ?_ ?_ ?_ (fun k hk => ⟨by rw [gw], gk k hk⟩)
      · intro _ oS fwd bwd w l dr
        exfalso; apply hne
        have := dr.inv.hne_rxq
        rw [dr.hrxq] at this
        exact this
      · intro _ fwd w l dr
        exfalso; apply hne
        have := dr.inv.hne_rxq
        rw [dr.hrxq] at this
        exact this
      · intro hk
        rcases hk with hk | hk
        · exact Or.inl (ss.rxOpen hk)
        · rcases ge hk with h1 | h1
          · exact Or.inr h1
          · exact Or.inl h1
      · intro a _ _
        apply hne; rw [a]; intro d hd; cases hd

theorem inv_shutdown {p : PS} (h : InvCore p) (hd : Nat) : InvCore { p with a := (appShutdown p.a hd).1 } := by
  cases hh : p.a.handleObj hd with
  | none =>
    rw [appShutdown_none p.a hd hh]; exact h
  | some io =>
    obtain ⟨i, o⟩ := io
    have ho := handleObj_some hh
    have s := appShutdown_eff p.a hd h.runA.outClosed
    rw [hfid_of hh] at s
    rcases appShutdown_local p.a hd i o hh h.runA.outClosed with ⟨hf, u⟩ | ⟨hf, u⟩
    · exact inv_of_sender_upd (g' := p.ga) h s u ho rfl rfl (by simp) (sender_untouched rfl rfl rfl rfl)
        rfl rfl rfl rfl rfl rfl rfl rfl rfl rfl noReset_nil (fun hh => ⟨hh, rfl⟩) ⟨rfl, fun _ => rfl, fun hh => (by cases hh)⟩ (fun _ _ => ⟨rfl, rfl, rfl⟩)
    · refine inv_of_sender_upd (g' := p.ga) h s u ho rfl rfl ?_ ?_
        rfl rfl rfl rfl rfl rfl rfl rfl rfl rfl ?_ (fun hh => by rw [hf] at hh; cases hh) ⟨rfl, fun hh => (by rw [hf] at hh; cases hh), fun _ => rfl⟩ (fun _ _ => ⟨rfl, rfl, rfl⟩)
      · intro m hm; simp at hm; subst hm; exact ⟨rfl, rfl⟩
      · intro _ oR fwd bwd r eof l dr
        exact ⟨_, (dr.shutdown o.fid hf).congr rfl rfl rfl rfl rfl rfl rfl rfl rfl rfl rfl rfl rfl rfl⟩
      · intro m hm y' he; simp at hm; subst hm; cases he

theorem DirRel.dropAfterEof {oS oR : Obj} {fwd bwd : List Msg} {w r : Bytes} {l : Link.St}
    (h : DirRel oS oR fwd bwd w r true l) :
    DirRel oS { oR with rxOpen := false, rxq := [], parked := false } fwd bwd w r true l := by
  obtain ⟨h1, h2, h3⟩ := h.inv.heof h.heof
  exact ⟨h.inv, h.hW, h.hWb, h.hth, h.hcredit, h.hfin, h.hwire, h.halive, h2, h.hbuf, h.hsince, h.hacks, h.hacc, h.hdel,
    h.heof, fun _ => by rw [← h.halive]; exact h1⟩

theorem DirRelA.dropAfterEof {oR : Obj} {fwd : List Msg} {w r : Bytes} {l : Link.St}
    (h : DirRelA oR fwd w r true l) :
    DirRelA { oR with rxOpen := false, rxq := [], parked := false } fwd w r true l := by
  obtain ⟨h1, h2, h3⟩ := h.inv.heof h.heof
  exact ⟨h.inv, h.hW, h.hWb, h.hth, h.hfin, h.hwire, h.halive, h2, h.hbuf, h.hsince, h.hacc, h.hdel,
    h.heof, fun _ => by rw [← h.halive]; exact h1⟩

/-- Dropping the `MuxStream`: the task is notified; the receiving role is no longer observed (unless
    end-of-stream had been seen, after which nothing changes any more). -/
theorem inv_dropStream {p : PS} (h : InvCore p) (hd : Nat) (dl : List Nat) :
    InvCore { p with a := (appDropStream p.a hd).1, ga := { p.ga with dropped := dl } } := by
  cases hh : p.a.handleObj hd with
  | none =>
    rw [appDropStream_none p.a hd hh]
    exact ⟨h.runA, h.runB, h.sfA, h.sfB, h.nodup, h.nonzero, h.ghA, h.ghB, h.phase, h.live⟩
  | some io =>
    obtain ⟨i, o⟩ := io
    have ho := handleObj_some hh
    have s := appDropStream_eff p.a hd h.runA.dead
    rw [hfid_of hh] at s
    have u := appDropStream_local p.a hd i o hh h.runA.dead
    refine inv_of_local (ba' := p.ba) (hd := []) (fbaT := fl _ (pathBA p)) (g' := { p.ga with dropped := dl }) h s u ho rfl rfl
      (by simp) (Or.inl rfl) rfl rfl (sender_untouched rfl rfl rfl rfl) ?_ ?_ (fun hk => Or.inr (hk.eof rfl)) ⟨fun hh => ⟨hh, rfl⟩, id⟩
      (fun _ => noReset_nil) (fun _ => noReset_nil) ⟨rfl, fun _ => rfl, fun hh => (by cases hh), fun ha => Or.inl ha⟩ ⟨fun _ => rfl, fun _ => rfl⟩ (fun _ a b c d => ⟨rfl, b, c, d, by simp, rfl, rfl, fun hh _ => absurd (by simp) hh⟩)
      ⟨rfl, rfl⟩ (fun _ _ => ⟨rfl, rfl, rfl⟩)
    · intro hk oS fwd bwd w l dr
      have he := hk.eof rfl
      have he' : p.ga.eof i = true := he
      rw [he'] at dr
      rw [List.append_nil]
      show ∃ l', DirRel oS _ fwd bwd w (p.ga.rlog i) (p.ga.eof i) l'
      rw [he']
      exact ⟨l, dr.dropAfterEof⟩
    · intro hk fwd w l dr
      have he' : p.ga.eof i = true := hk.eof rfl
      rw [he'] at dr
      show ∃ l', DirRelA _ fwd w (p.ga.rlog i) (p.ga.eof i) l'
      rw [he']
      exact ⟨l, dr.dropAfterEof⟩

end Penguin.Pair
