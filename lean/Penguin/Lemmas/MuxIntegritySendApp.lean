/-
Stream integrity on the SENDING side — part 2: the application calls.  Only `poll_write` queues a `Push`,
exactly one per call that returns `wrote n` for a non-empty payload, carrying the flow id of the object
behind the handle and the payload of the call (`wroteBy`).
Core Lean only.
-/
import Penguin.Lemmas.MuxIntegritySend

namespace Penguin.Mux

/-- The successful write of a stimulus: (object behind the handle, its flow id, payload) — looked up
    BEFORE the call; only for a call that answered `wrote n` for a non-empty payload (an empty write
    returns `wrote 0` and sends nothing). -/
def wroteBy (e : EP) (op : Op) (r : Res) : List (Nat × Nat × Bytes) :=
  match op, r with
  | .write h d, .wrote _ =>
    if d.isEmpty then []
    else match e.handleObj h with
      | some (i, o) => [(i, o.fid, d)]
      | none => []
  | _, _ => []

/-- (flow id, payload) of the logged writes: what must appear on the wire. -/
def wroteFrames (w : List (Nat × Nat × Bytes)) : List (Nat × Bytes) := w.map (fun x => (x.2.1, x.2.2))

section Sel
variable {α : Type} {sel : Msg → Option α}

/-- What a call hands to the endpoint for sending, as `sel` sees it: the `Push` of a write that answered `wrote n`
    for a non-empty payload (flow id looked up BEFORE the call), the `Datagram` of a `send_datagram` that answered
    `Ok`; every other call, and every refused one, hands over nothing. -/
def callSel (sel : Msg → Option α) (e : EP) (op : Op) (r : Res) : List α :=
  match op, r with
  | .write h d, .wrote _ =>
    if d.isEmpty then []
    else match e.handleObj h with
      | some (_, o) => (sel (.frame (.push o.fid d))).toList
      | none => []
  | .sendDgram d, .unit => (sel (.frame (.datagram d.fid d.port d.host d.data))).toList
  | _, _ => []

theorem QT.appWrite (e : EP) (h : Nat) (d : Bytes) :
    QT sel e (appWrite e h d).1 [] (callSel sel e (.write h d) (appWrite e h d).2) := by
  unfold Mux.appWrite
  cases hh : e.handleObj h with
  | none => exact QT.refl e
  | some p =>
    obtain ⟨i, o⟩ := p
    simp only
    split
    · exact QT.silent rfl rfl rfl
    · split
      · rename_i hd
        simp only [callSel, hd, if_true]
        exact QT.silent rfl rfl rfl
      · rename_i hd
        split
        · exact QT.silent rfl rfl rfl
        · split
          · exact QT.silent rfl rfl rfl
          · rename_i hoc
            simp only [callSel, hd, hh, Bool.false_eq_true, if_false]
            have hoc' : e.outClosed = false := by simpa using hoc
            exact ((QT.modObj e i _).trans (QT.enqOpen _ _ hoc')).cast rfl rfl

theorem QT.appSendDgram (e : EP) (d : Dgram) :
    QT sel e (appSendDgram e d).1 [] (callSel sel e (.sendDgram d) (appSendDgram e d).2) := by
  unfold Mux.appSendDgram
  split
  · exact QT.refl e
  · split
    · exact QT.refl e
    · rename_i hoc
      have hoc' : e.outClosed = false := by simpa using hoc
      exact QT.enqOpen e _ hoc'

variable (hs : Quiet sel)
include hs

theorem QT.opStep (e : EP) (op : Op) :
    QT sel e (opStep e op).1 (opStep e op).2.2 (callSel sel e op (opStep e op).2.1) := by
  cases op with
  | write h d => exact QT.appWrite e h d
  | sendDgram d => exact QT.appSendDgram e d
  | _ => exact .of_path hs (.opStep e _) (by dsimp only [K.opStep]; decide +kernel)

theorem QT.applyOp (e : EP) (op : Op) :
    QT sel e (applyOp e op).1 (applyOp e op).2.2 (callSel sel e op (applyOp e op).2.1) := by
  rw [applyOp_eq]
  dsimp only
  exact ((QT.opStep hs e op).trans (.of_path hs (.settle (Mux.opStep e op).1))).cast rfl (List.append_nil _).symm

end Sel

/-! ### Stream integrity -/

theorem callSel_push (e : EP) (op : Op) (r : Res) : callSel pushSel e op r = wroteFrames (wroteBy e op r) := by
  cases op <;> try rfl
  all_goals cases r <;> try rfl
  rename_i h d n
  simp only [callSel, wroteBy]
  split
  · rfl
  · cases e.handleObj h <;> rfl

theorem SnT.appWrite (e : EP) (h : Nat) (d : Bytes) :
    SnT e (appWrite e h d).1 [] (wroteFrames (wroteBy e (.write h d) (appWrite e h d).2)) :=
  SnT.iff.mpr (callSel_push e _ _ ▸ QT.appWrite e h d)

theorem SnT.fillBuf (fuel : Nat) (e : EP) (i : Nat) : SnT e (fillBuf fuel e i).1 [] [] :=
  .of_path (.fillBuf fuel e i)

theorem SnT.appRead (e : EP) (h n : Nat) : SnT e (appRead e h n).1 [] [] := .of_path (.appRead e h n)

theorem SnT.appShutdown (e : EP) (h : Nat) : SnT e (appShutdown e h).1 [] [] :=
  .of_path (.appShutdown e h)

theorem SnT.appDropStream (e : EP) (h : Nat) : SnT e (appDropStream e h).1 [] [] :=
  .of_path (.appDropStream e h)

theorem SnT.appBindReq (e : EP) (req : Nat) (bt : BindType) (host : Bytes) (port : Nat) :
    SnT e (appBindReq e req bt host port).1 (appBindReq e req bt host port).2 [] :=
  .of_path (.appBindReq e req bt host port)

theorem SnT.appBindNext (e : EP) : SnT e (appBindNext e).1 [] [] := .of_path (.appBindNext e)

theorem SnT.appBindReply (e : EP) (k : Nat) (a : Bool) : SnT e (appBindReply e k a).1 [] [] :=
  .of_path (.appBindReply e k a)

theorem SnT.appBindDrop (e : EP) (k : Nat) : SnT e (appBindDrop e k).1 [] [] :=
  .of_path (.appBindDrop e k)

theorem wroteBy_not_write (e : EP) (op : Op) (r : Res) (h : ∀ hd d, op ≠ .write hd d) : wroteBy e op r = [] := by
  cases op <;> first | rfl | exact absurd rfl (h _ _)

theorem SnT.opStep (e : EP) (op : Op) :
    SnT e (opStep e op).1 (opStep e op).2.2 (wroteFrames (wroteBy e op (opStep e op).2.1)) :=
  SnT.iff.mpr (callSel_push e _ _ ▸ QT.opStep pushSel_quiet e op)

theorem SnT.applyOp (e : EP) (op : Op) :
    SnT e (applyOp e op).1 (applyOp e op).2.2 (wroteFrames (wroteBy e op (applyOp e op).2.1)) :=
  SnT.iff.mpr (callSel_push e _ _ ▸ QT.applyOp pushSel_quiet e op)

end Penguin.Mux
