/-
`BSim` (see `Lemmas/BindAllView.lean`) for the connection task of the endpoint model.  The steps the task is made of
are proved here (one transport item, the pieces of the wind-down, the notification loop's `closeFlow`, the open
futures); the loops and case distinctions around them are `Mux.Walk`'s (`Lemmas/MuxLeaves.lean`): `BSimL.walk` gives
the steps to it.
The inbox is an argument of `BSim`; the bind events of every function are the `bindDone` events it emits (`doneEvs`).
Core Lean only.
-/
import Penguin.Lemmas.BindAllSimFrame

namespace Penguin.BindAll
open Penguin.Mux
open Penguin.PairAll (wireMsgs isEnd endRest wireMsgs_append wireMsgs_wires wireMsgs_map_openDone)

theorem BSim.recvOne {rest : List WsIn} (e : EP) (w : WsIn) :
    BSim (w :: rest) e rest (recvOne e w rest).1 (recvOne e w rest).2.1 (doneEvs (recvOne e w rest).2.1) := by
  cases w with
  | eof =>
    simp only [Mux.recvOne, Mux.processIn, true_or, if_true]
    exact BSim.shrink { Shrinks.refl (bview e (.eof :: rest)) with
      inbox := List.suffix_cons _ rest, srcEnded := fun _ => Or.inr ⟨.eof, List.mem_cons_self, rfl⟩,
      pops := fun _ _ _ => rfl } rfl
  | err =>
    simp only [Mux.recvOne, Mux.processIn, or_true, if_true]
    exact BSim.shrink { Shrinks.refl (bview e (.err :: rest)) with
      inbox := List.suffix_cons _ rest, srcEnded := fun _ => Or.inr ⟨.err, List.mem_cons_self, rfl⟩,
      pops := fun _ _ _ => rfl } rfl
  | msg m =>
    simp only [Mux.recvOne, reduceCtorEq, or_self, if_false]
    exact (BSim.processIn (l := rest) { e with inbox := rest } (.msg m) false rfl).congr rfl rfl
  | bad b =>
    simp only [Mux.recvOne, reduceCtorEq, or_self, if_false]
    exact (BSim.processIn (l := rest) { e with inbox := rest } (.bad b) false rfl).congr rfl rfl

theorem BSim.disallowAll {l : List WsIn} (e : EP) (fl : List (Nat × Slot)) : BSim l e l (disallowAll e fl) [] [] := by
  induction fl generalizing e with
  | nil => exact BSim.refl l e
  | cons p fl ih =>
    obtain ⟨fid, s⟩ := p
    cases s with
    | established i =>
      simp only [Mux.disallowAll]
      exact (BSim.modObj e i Obj.disallowWrite (by bsim_fid)).tr0 (ih _)
    | requested r => simp only [Mux.disallowAll]; exact ih e
    | bindRequested r => simp only [Mux.disallowAll]; exact ih e

/-- The bind event of a slot closed at the end of the wind-down: a pending bind request is refused. -/
def refusedOf (p : Nat × Slot) : Option BEv :=
  match p.2 with
  | .bindRequested r => some (BEv.done r .refused)
  | _ => none

theorem evs_openRejected (e : EP) (req : Nat) (final : Bool) :
    doneEvs (openRejected e req final).2 = [] ∧ wireMsgs (openRejected e req final).2 = [] := by
  fun_cases openRejected e req final <;> exact ⟨rfl, rfl⟩

theorem evs_closeLocal (e : EP) (s : Slot) (fid : Nat) (inh final : Bool) :
    doneEvs (closeLocal e s fid inh final).2 = (refusedOf (fid, s)).toList ∧
      wireMsgs (closeLocal e s fid inh final).2 = [] := by
  unfold Mux.closeLocal
  cases s with
  | established i =>
    simp only
    cases e.obj? i <;> exact ⟨rfl, rfl⟩
  | requested req => exact evs_openRejected e req final
  | bindRequested req => exact ⟨rfl, rfl⟩

theorem evs_drainFlows (e : EP) (fl : List (Nat × Slot)) :
    doneEvs (drainFlows e fl).2 = fl.filterMap refusedOf ∧ wireMsgs (drainFlows e fl).2 = [] := by
  induction fl generalizing e with
  | nil => exact ⟨rfl, rfl⟩
  | cons p fl ih =>
    obtain ⟨fid, s⟩ := p
    simp only [Mux.drainFlows, doneEvs_append, wireMsgs_append, evs_closeLocal, ih, List.append_nil, and_true]
    rw [List.filterMap_cons]
    cases refusedOf (fid, s) <;> rfl

theorem bview_drainFlows (e : EP) (fl : List (Nat × Slot)) (l : List WsIn) : bview (drainFlows e fl).1 l = bview e l := by
  induction fl generalizing e with
  | nil => rfl
  | cons p fl ih =>
    obtain ⟨fid, s⟩ := p
    simp only [Mux.drainFlows]
    rw [ih, bview_closeLocal_final]

theorem BStar.emits (n : Nat) (v : BV) : BStar v { v with outq := v.outq.drop n } (v.outq.take n) [] := by
  induction n generalizing v with
  | zero => exact (BStar.refl v).cast (by rw [List.drop_zero]) (by simp) rfl
  | succ n ih =>
    cases h : v.outq with
    | nil => exact (BStar.refl v).cast (by cases v; simp_all) (by simp) rfl
    | cons m r =>
      exact (BStar.step (BStep.emit v m r h) (ih { v with outq := r })).cast (by simp) (by simp) rfl

theorem BSim.sendSome {l : List WsIn} (e : EP) :
    BSim l e l (sendSome e).1 (sendSome e).2 (doneEvs (sendSome e).2) := by
  unfold Mux.sendSome
  split
  · exact (BStar.emits e.outq.length (bview e l)).cast (by simp [bview]) (by rw [wireMsgs_wires]; simp [bview])
      (doneEvs_wires _)
  · rename_i n _
    exact (BStar.emits n (bview e l)).cast (by simp [bview]) (by rw [wireMsgs_wires]; simp [bview]) (doneEvs_wires _)

theorem doneEvs_sendSome (e : EP) : doneEvs (sendSome e).2 = [] := by
  unfold Mux.sendSome
  split <;> exact doneEvs_wires _

theorem BSim.dropPrep {l : List WsIn} (e : EP) : BSim l e l (dropPrep e) [] [] :=
  (BSim.disallowAll e e.flows).tr0
    (BSim.shrink { Shrinks.refl (bview (Mux.disallowAll e e.flows) l) with
      outq := Or.inl rfl, outClosed := fun _ => rfl, park := Or.inr rfl } rfl)

theorem BSim.windDownPrep {l : List WsIn} (e : EP) : BSim l e l (windDownPrep e) [] [] :=
  (BSim.disallowAll e e.flows).tr0
    (BSim.shrink { Shrinks.refl (bview (Mux.disallowAll e e.flows) l) with
      outq := Or.inr ⟨rfl, rfl⟩, outClosed := fun _ => rfl, park := Or.inr rfl } rfl)

theorem BSim.unpark {l : List WsIn} (e : EP) : BSim l e l (unpark e) [] [] := by
  unfold Mux.unpark
  split
  · exact BSim.refl l e
  · rename_i i hp
    split
    · split
      · rename_i o ho
        exact ((BSim.dropNote e o.fid (List.mem_map.mpr ⟨o, List.mem_of_getElem? ho, rfl⟩)).tr0
          (BSim.parkGone _ none rfl)).tr0 (BSim.modObj _ i (fun o => { o with rxOpen := false }) (by bsim_fid))
      · exact BSim.parkGone e none rfl
    · split
      · exact (BSim.parkGone e none rfl).congr rfl rfl
      · exact BSim.refl l e
  · rename_i b hp
    split
    · rename_i hma
      have hma' : e.muxAlive = false := by simpa using hma
      refine ((BSim.enqFrame e (.reset b.fid) (Or.inr (Or.inr (Or.inr ⟨b, by simp [bview, hp, bindPark], rfl, hma'⟩)))).tr0
        (BSim.parkGone _ none rfl)).congr rfl ?_
      cases hoc : e.outClosed <;> simp [bview, EP.enqFrame, EP.enq, hoc]
    · split
      · exact BSim.one (BStep.unparkQ (bview e l) b (by simp [bview, hp, bindPark])) rfl rfl
      · exact BSim.refl l e

/-- The wind-down reads on until the source ends (the item that ends it stays) or nothing is buffered. -/
theorem BSim.windDownInbox (e : EP) (l : List WsIn) :
    BSim l e (endRest l) (windDownInbox e l).1 (windDownInbox e l).2.1 (doneEvs (windDownInbox e l).2.1) := by
  induction l generalizing e with
  | nil => exact BSim.refl [] e
  | cons w l ih =>
    cases w with
    | err => exact BSim.refl _ e
    | eof => exact BSim.refl _ e
    | msg m =>
      simp only [Mux.windDownInbox, endRest]
      exact ((BSim.processIn (l := l) e (.msg m) true rfl).tr1 (BSim.parkGone _ none rfl)).tr (ih _)
    | bad b =>
      simp only [Mux.windDownInbox, endRest]
      exact ((BSim.processIn (l := l) e (.bad b) true rfl).tr1 (BSim.parkGone _ none rfl)).tr (ih _)

theorem BSim.windDownFinish {l : List WsIn} (e : EP) (res : ExitRes) :
    BSim l e [] (windDownFinish e res).1 (windDownFinish e res).2 (doneEvs (windDownFinish e res).2) := by
  have g0 : BSim l e l { e with flows := [], dead := true } [] (e.flows.filterMap refusedOf) :=
    BSim.one (BStep.finishAll (bview e l)) rfl rfl
  have hv : bview (Mux.windDownFinish e res).1 [] =
      { bview { e with flows := [] } [] with dq := [], dead := true, park := none } := by
    show { bview (Mux.drainFlows { e with flows := [] } e.flows).1 [] with dq := [], dead := true, park := none } = _
    rw [bview_drainFlows]
  have sh : Shrinks (bview { e with flows := [], dead := true } l)
      { bview { e with flows := [] } [] with dq := [], dead := true, park := none } :=
    ⟨List.Sublist.refl _, rfl, List.suffix_refl _, List.nil_suffix, Or.inl rfl, id, List.Sublist.refl _, Or.inr rfl,
     rfl, fun _ h => (nomatch h), rfl, rfl, fun _ => rfl, fun h => Or.inl h, fun _ _ h => (nomatch h)⟩
  have g1 : BSim l { e with flows := [], dead := true } [] (Mux.windDownFinish e res).1 [] [] :=
    BSim.one (BStep.shrink _ _ sh) hv rfl
  refine (g0.tr1 g1).lbl ?_ ?_
  · simp [Mux.windDownFinish, wireMsgs_append, wireMsgs_map_openDone, wireMsgs, evs_drainFlows]
  · simp [Mux.windDownFinish, doneEvs_append, doneEvs_map_openDone, doneEvs, evs_drainFlows]

theorem shrinks_dq (e : EP) (l : List WsIn) (q : List Nat) (h : ∀ y ∈ q, y ∈ e.droppedq) :
    Shrinks (bview e l) (bview { e with droppedq := q } l) :=
  { Shrinks.refl (bview e l) with dq := fun y hy => Or.inr (Or.inl (h y hy)) }

/-- `close_flow` on a state from which notifications (and the like) were dropped: a pending bind request is
    refused by a notification the state still held before. -/
theorem BSim.closeFlowFrom {l : List WsIn} (e0 e : EP) (fid : Nat) (inh : Bool)
    (hsh : Shrinks (bview e0 l) (bview e l)) (hfl : e.flows = e0.flows)
    (hwhy : ∀ req, lookup e.flows fid = some (.bindRequested req) →
      (∃ r, l = .msg (.frame (.reset fid)) :: r) ∨ (fid ≠ 0 ∧ fid ∈ e0.droppedq)) :
    BSim l e0 l (Mux.closeFlow e fid inh).1 (Mux.closeFlow e fid inh).2 (doneEvs (Mux.closeFlow e fid inh).2) := by
  have gs : BSim l e0 l e [] [] := BSim.shrink hsh rfl
  by_cases hb : ∃ req, lookup e.flows fid = some (.bindRequested req)
  · obtain ⟨req, hl⟩ := hb
    have hcf : Mux.closeFlow e fid inh = ({ e with flows := Mux.erase e.flows fid }, [Ev.bindDone req .refused]) := by
      simp [Mux.closeFlow, hl, Mux.closeLocal]
    rw [hcf]
    have hl0 : lookup e0.flows fid = some (.bindRequested req) := by rw [← hfl]; exact hl
    have g : BSim l e0 l e0 [Ev.bindDone req .refused] [BEv.done req .refused] :=
      BSim.one (BStep.refuse (bview e0 l) fid req (lookup_mem _ _ _ hl0) (hwhy req hl)) rfl rfl
    exact (g.tr1 gs).tr1 (BSim.erase e fid)
  · exact gs.tr0 (BSim.closeFlow e fid inh (fun req h => absurd ⟨req, h⟩ hb))

theorem BSim.runRetries {l : List WsIn} (e : EP) (rs : List Nat) :
    BSim l e l (runRetries e rs).1 (runRetries e rs).2 (doneEvs (runRetries e rs).2) := by
  induction rs generalizing e with
  | nil => exact BSim.refl l e
  | cons req rest ih =>
    unfold Mux.runRetries
    split
    · exact ih e
    · rename_i r _
      exact (BSim.openRound e r).tr (ih _)

theorem BSim.runDone {l : List WsIn} (e : EP) (ds : List (Nat × Nat)) :
    BSim l e l (runDone e ds).1 (runDone e ds).2 (doneEvs (runDone e ds).2) := by
  induction ds generalizing e with
  | nil => exact BSim.refl l e
  | cons p rest ih =>
    obtain ⟨req, i⟩ := p
    unfold Mux.runDone
    have g : BSim l e l { e with handles := e.handles ++ [i] } [Ev.openDone req (.ok e.handles.length)]
        (doneEvs [Ev.openDone req (.ok e.handles.length)]) :=
      BSim.same rfl rfl
    exact g.tr (ih _)

/-! ### The task's run, through the one walk of its loops (`Mux.Walk`, Lemmas/MuxLeaves.lean) -/

/-- `BSim` as a relation on (state, later state, events, leaves): the inbox is the state's, the bind events are the
    `bindDone` events emitted; the leaves are not read. -/
def BSimL (e e' : EP) (evs : List Ev) (_ : List Leaf) : Prop := BSim e.inbox e e'.inbox e' evs (doneEvs evs)

theorem BSimL.walk : Walk BSimL where
  refl e := BSim.refl _ e
  trans s t := BSim.tr s t
  ctl e c d := BSim.same rfl rfl
  recv e w rest hi := (BSim.recvOne (rest := rest) e w).inb hi (recvOne_inbox e w rest)
  pass e := (BSim.windDownInbox e e.inbox).congr rfl rfl
  finish e res := ((BSim.windDownFinish (l := e.inbox) { e with inbox := [] } res).congr (a := e) rfl rfl).inb rfl
    (windDownFinish_inbox _ res)
  dropMux e rest hq :=
    BSim.shrink (shrinks_dq e e.inbox rest (fun y hy => by rw [hq]; exact List.mem_cons_of_mem _ hy)) rfl
  -- the view still shows the notification that refuses a pending bind request
  dropped e fid rest hq h0 :=
    (BSim.closeFlowFrom e { e with droppedq := rest } fid false
      (shrinks_dq e e.inbox rest (fun y hy => by rw [hq]; exact List.mem_cons_of_mem _ hy)) rfl
      (fun _ _ => Or.inr ⟨h0, by rw [hq]; exact List.mem_cons_self⟩)).inb rfl (closeFlow_inbox _ fid false)
  unpark e := (BSim.unpark e).inb rfl (unpark_inbox' e)
  send e := (BSim.sendSome e).inb rfl (sendSome_inbox e)
  wireClose e := BSim.one (BStep.sendClose (bview e e.inbox)) rfl rfl
  dropPrep e := (BSim.dropPrep e).inb rfl ((Path.disallowAll e e.flows).frame .inbox)
  windDownPrep e := (BSim.windDownPrep e).inb rfl ((Path.disallowAll e e.flows).frame .inbox)
  done e := ((BSim.runDone { e with doneq := [] } _).congr rfl rfl).inb rfl (runDone_inbox _ _)
  retry e := ((BSim.runRetries { e with retryq := [] } _).congr rfl rfl).inb rfl (runRetries_inbox _ _)

theorem BSim.windDownTail (e1 : EP) (flushed : List Ev) (s : Bool) (res : ExitRes) :
    ∃ evs, (windDownTail e1 flushed s res).2 = flushed ++ evs ∧
      BSim e1.inbox e1 [] (windDownTail e1 flushed s res).1 evs (doneEvs evs) := by
  obtain ⟨evs, h1, h2⟩ := BSimL.walk.windDownTail e1 flushed s res
  refine ⟨evs, h1, h2.inb rfl ?_⟩
  simp only [Mux.windDownTail]; split
  · rw [windDownFinish_inbox]
  · rfl

theorem BSim.drainStep (e : EP) (res : ExitRes) :
    BSim e.inbox e (drainStep e res).1.inbox (drainStep e res).1 (drainStep e res).2 (doneEvs (drainStep e res).2) :=
  BSimL.walk.drainStep e res

theorem BSim.closingStep (e : EP) (res : ExitRes) :
    BSim e.inbox e (closingStep e res).1.inbox (closingStep e res).1 (closingStep e res).2
      (doneEvs (closingStep e res).2) :=
  BSimL.walk.closingStep e res

theorem BSim.hold {l : List WsIn} (e : EP) (c : Bool) :
    BSim l e l (if c then (e, ([] : List Ev)) else Mux.sendSome e).1
      (if c then (e, ([] : List Ev)) else Mux.sendSome e).2
      (doneEvs (if c then (e, ([] : List Ev)) else Mux.sendSome e).2) := by
  split
  · exact BSim.refl l e
  · exact BSim.sendSome e

theorem BSim.windDown (e : EP) (drain : Bool) (res : ExitRes) :
    BSim e.inbox e (windDown e drain res).1.inbox (windDown e drain res).1 (windDown e drain res).2
      (doneEvs (windDown e drain res).2) := BSimL.walk.windDown e drain res

theorem BSim.settleLoop (fuel : Nat) (e : EP) (acc : List Ev) :
    ∃ evs, (settleLoop fuel e acc).2 = acc ++ evs ∧
      BSim e.inbox e (settleLoop fuel e acc).1.inbox (settleLoop fuel e acc).1 evs (doneEvs evs) :=
  BSimL.walk.settleLoop fuel e acc

theorem BSim.settle (e : EP) : BSim e.inbox e (settle e).1.inbox (settle e).1 (settle e).2 (doneEvs (settle e).2) :=
  BSimL.walk.settle e

end Penguin.BindAll
