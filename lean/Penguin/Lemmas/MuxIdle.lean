/-
What the connection task and the open futures of ONE endpoint do on their own once a stimulus is in
(`settle`), when the endpoint is in its running phase, has nothing unread and its sink takes everything:
`unpark` / one notification at a time until none is left (`Notifs`), the queue goes out, the finished
open calls return, the due retries are sent, the queue goes out again (`settle_idle`); a delivered frame
is processed first (`applyOp_deliver_idle`).  Stated for the endpoint alone, so that both pair models
(`Lemmas/PairSettle.lean`, `Lemmas/BindStim.lean`) read their fine-grained actions off the same equations.
The facts are in `Penguin.Mux`; the middle of the file is in `Penguin.Pair`: what is about `Pair.wiresOf`
(Model/Pair.lean), and `Idle`, `settle_eq` and `settleTail`, which statements of the pair development mention there.

Also here, because the above needs them: `Ctl` (the connection-level control fields, which no function of
the running phase writes), what those functions do to the notification queue, and that they hand nothing
to the sink themselves.
-/
import Penguin.Model.Pair
import Penguin.Lemmas.MuxBasic
import Penguin.Lemmas.MuxStep
import Penguin.Lemmas.PairEff
import Penguin.Lemmas.MuxSettle
import Penguin.Lemmas.MuxTrace

namespace Penguin.Mux

/-- The connection-level control fields, which no action of the running phase touches. -/
structure Ctl (e e' : EP) : Prop where
  inbox : e'.inbox = e.inbox
  dead : e'.dead = e.dead
  draining : e'.draining = e.draining
  closing : e'.closing = e.closing
  sinkRoom : e'.sinkRoom = e.sinkRoom
  muxAlive : e'.muxAlive = e.muxAlive
  outClosed : e'.outClosed = e.outClosed
  srcEnded : e'.srcEnded = e.srcEnded

theorem Ctl.refl (e : EP) : Ctl e e := ⟨rfl, rfl, rfl, rfl, rfl, rfl, rfl, rfl⟩
theorem Ctl.trans {a b c : EP} (s : Ctl a b) (t : Ctl b c) : Ctl a c :=
  ⟨by rw [t.inbox, s.inbox], by rw [t.dead, s.dead], by rw [t.draining, s.draining], by rw [t.closing, s.closing],
   by rw [t.sinkRoom, s.sinkRoom], by rw [t.muxAlive, s.muxAlive], by rw [t.outClosed, s.outClosed],
   by rw [t.srcEnded, s.srcEnded]⟩

/-- The kinds of step that write one of the eight fields. -/
def Ctl.bad : Kinds :=
  .of [.inboxPush, .inboxClear, .inboxSet, .die, .draining, .closing, .sinkRoom, .send, .muxGone, .closeOut,
    .srcEnded]

theorem Ctl.of_path {A : Kinds} {e e' : EP} {x : List Ev} (p : Path A e x e')
    (hA : A.disj Ctl.bad = true := by decide +kernel) : Ctl e e' :=
  ⟨p.frame .inbox (Kinds.disj_mono hA (by decide +kernel)), p.frame .dead (Kinds.disj_mono hA (by decide +kernel)),
   p.frame .draining (Kinds.disj_mono hA (by decide +kernel)), p.frame .closing (Kinds.disj_mono hA (by decide +kernel)),
   p.frame .sinkRoom (Kinds.disj_mono hA (by decide +kernel)), p.frame .muxAlive (Kinds.disj_mono hA (by decide +kernel)),
   p.frame .outClosed (Kinds.disj_mono hA (by decide +kernel)), p.frame .srcEnded (Kinds.disj_mono hA (by decide +kernel))⟩

theorem Ctl.silent {e e' : EP} (h1 : e'.inbox = e.inbox) (h2 : e'.dead = e.dead) (h3 : e'.draining = e.draining)
    (h4 : e'.closing = e.closing) (h5 : e'.sinkRoom = e.sinkRoom) (h6 : e'.muxAlive = e.muxAlive)
    (h7 : e'.outClosed = e.outClosed) (h8 : e'.srcEnded = e.srcEnded) : Ctl e e' := ⟨h1, h2, h3, h4, h5, h6, h7, h8⟩

theorem Ctl.enqFrame (e : EP) (f : Frame) : Ctl e (e.enqFrame f) := by
  unfold EP.enqFrame EP.enq; split <;> exact ⟨rfl, rfl, rfl, rfl, rfl, rfl, rfl, rfl⟩

theorem Ctl.closeFlow (e : EP) (fid : Nat) (inh : Bool) : Ctl e (closeFlow e fid inh).1 := .of_path (.closeFlow e fid inh)
theorem Ctl.unpark (e : EP) : Ctl e (unpark e) := .of_path (.unpark e)
theorem Ctl.openRound (e : EP) (r : OpenReq) : Ctl e (openRound e r).1 := .of_path (.openRoundAny e r)
theorem Ctl.runRetries (e : EP) (l : List Nat) : Ctl e (runRetries e l).1 := .of_path (.runRetries e l)
theorem Ctl.runDone (e : EP) (l : List (Nat × Nat)) : Ctl e (runDone e l).1 := .of_path (.runDone e l)
theorem Ctl.processFrame (e : EP) (f : Frame) (ig : Bool) : Ctl e (processFrame e f ig).1 := .of_path (.processFrame e f ig)

theorem closeFlow_droppedq (e : EP) (fid : Nat) (inh : Bool) : (closeFlow e fid inh).1.droppedq = e.droppedq :=
  (Path.closeFlow e fid inh).frame .droppedq

theorem unpark_droppedq (e : EP) (hm : e.muxAlive = true) : (unpark e).droppedq = e.droppedq :=
  (Path.unparkAlive e hm).frame .droppedq

theorem unpark_set_inbox (e : EP) (ib : List WsIn) (hm : e.muxAlive = true) :
    unpark { e with inbox := ib } = { unpark e with inbox := ib } := by
  unfold unpark
  cases hp : e.park with
  | none => simp only [hp]
  | some k => cases k <;> (simp only [hm, Bool.not_true, Bool.false_eq_true, if_false]; split <;> simp only [hp, hm])

theorem closeFlow_droppedq_len (e : EP) (fid : Nat) (inh : Bool) : (closeFlow e fid inh).1.droppedq.length = e.droppedq.length := by
  rw [closeFlow_droppedq]

theorem processFrame_droppedq_le (e : EP) (f : Frame) (ig : Bool) :
    (processFrame e f ig).1.droppedq.length ≤ e.droppedq.length + 1 := by
  fun_cases processFrame e f ig
  -- the two paths that end in `closeFlow`: a `Reset`, and a `Push` that overruns the window
  case case14 h | case19 h =>
    have hq := congrArg (·.1.droppedq) h
    rw [closeFlow_droppedq] at hq
    simp only at hq ⊢
    rw [← hq]; omega
  all_goals first
    | (simp +zetaDelta [EP.enqFrame, offerAccept, offerBind]; done)
    | (simp +zetaDelta [EP.enqFrame, offerAccept, offerBind]; split <;> simp)

end Penguin.Mux

/-! ### In the namespace of the pair model: what is about its `wiresOf`, and `Idle`, `settle_eq`, which statements there mention -/

namespace Penguin.Pair
open Penguin.Mux

@[simp] theorem wiresOf_nil : wiresOf [] = [] := rfl
theorem wiresOf_append (a b : List Ev) : wiresOf (a ++ b) = wiresOf a ++ wiresOf b := by
  induction a with
  | nil => rfl
  | cons x xs ih => cases x <;> simp [wiresOf, ih]
theorem wiresOf_map_wire (l : List Msg) : wiresOf (l.map Ev.wire) = l := by
  induction l with
  | nil => rfl
  | cons x xs ih => simp [wiresOf, ih]

/-- By hand: `closeLocal` on its own has no path (its `Requested` case is half of the step `rejectSlot`). -/
theorem closeLocal_no_wires (e : EP) (s : Slot) (fid : Nat) (inh final : Bool) : wiresOf (closeLocal e s fid inh final).2 = [] := by
  unfold closeLocal
  cases s with
  | established i =>
    simp only
    cases e.obj? i with
    | none => rfl
    | some o => rfl
  | requested req =>
    simp only; unfold openRejected
    repeat' split
    all_goals rfl
  | bindRequested req => rfl

theorem wiresOf_eq_nil {evs : List Ev} (h : ∀ ev ∈ evs, ev.sort ≠ .wire) : wiresOf evs = [] := by
  induction evs with
  | nil => rfl
  | cons x xs ih =>
    cases x with
    | wire m => exact absurd rfl (h _ List.mem_cons_self)
    | _ => exact ih fun ev hev => h ev (List.mem_cons_of_mem _ hev)

theorem _root_.Penguin.Mux.Path.no_wires {A : Kinds} {e e' : EP} {evs : List Ev} (p : Path A e evs e')
    (h : A.disj EvSort.wire.emitters = true := by decide +kernel) : wiresOf evs = [] :=
  wiresOf_eq_nil (p.emits .wire h)

theorem closeFlow_no_wires (e : EP) (fid : Nat) (inh : Bool) : wiresOf (closeFlow e fid inh).2 = [] :=
  (Path.closeFlow e fid inh).no_wires

theorem runDone_no_wires (e : EP) (l : List (Nat × Nat)) : wiresOf (Mux.runDone e l).2 = [] := (Path.runDone e l).no_wires

theorem openRound_no_wires (e : EP) (r : OpenReq) : wiresOf (openRound e r).2 = [] := (Path.openRoundAny e r).no_wires

theorem runRetries_no_wires (e : EP) (l : List Nat) : wiresOf (Mux.runRetries e l).2 = [] := (Path.runRetries e l).no_wires

/-- The task has nothing to read and is in its running phase: its loop only handles notifications. -/
structure Idle (e : EP) : Prop where
  inbox : e.inbox = []
  dead : e.dead = false
  draining : e.draining = none
  closing : e.closing = none
  muxAlive : e.muxAlive = true
  nozero : ¬ 0 ∈ e.droppedq

theorem Idle.of_ctl {e e' : EP} (h : Idle e) (c : Ctl e e') (hd : ¬ 0 ∈ e'.droppedq) : Idle e' :=
  ⟨by rw [c.inbox]; exact h.inbox, by rw [c.dead]; exact h.dead, by rw [c.draining]; exact h.draining,
   by rw [c.closing]; exact h.closing, by rw [c.muxAlive]; exact h.muxAlive, hd⟩

/-- `settle` after the task's loop: the stages of `Mux.settle_eq` applied to the loop's result.  To show that a relation
    holds across `settle`, use `Mux.settle_eq` with `settle_chain` / `settle_rel` (Lemmas/MuxSettle.lean), stage by
    stage; this folded form is for statements about what `settle` computes once the loop's result is known (here, and
    in Lemmas/MuxStartEnd, MuxStartTx, MuxStartAns). -/
def settleTail (e1 : EP) (evs1 : List Ev) : EP × List Ev :=
  thenRun (thenRun (thenRun (e1, evs1) holdSend) (fun e => thenRun (runDoneq e) runRetryq)) holdSend

theorem settle_eq (e : EP) :
    settle e = settleTail (settleLoop (2 * e.inbox.length + e.droppedq.length + 2) e []).1
                          (settleLoop (2 * e.inbox.length + e.droppedq.length + 2) e []).2 :=
  Mux.settle_eq e

end Penguin.Pair

/-! ### `settle` on an endpoint that has nothing to read -/

namespace Penguin.Mux
open Penguin.Pair (wiresOf wiresOf_append wiresOf_map_wire wiresOf_nil Idle settleTail)

theorem processFrame_no_wires (e : EP) (f : Frame) (ig : Bool) : Penguin.Pair.wiresOf (processFrame e f ig).2.1 = [] :=
  (Path.processFrame e f ig).no_wires

theorem holdSend_running (e : EP) (hd : e.dead = false) (hg : e.draining = none) (hs : e.sinkRoom = none) :
    holdSend e = ({ e with outq := [] }, e.outq.map .wire) := by
  unfold holdSend
  simp only [hd, hg, Option.isSome_none, Bool.or_self, Bool.false_eq_true, if_false, sendSome_unlimited e hs]

/-- The open futures have run: the finished calls have returned, the due retries are queued. -/
def futures (e : EP) : EP := (runRetryq (runDoneq e).1).1

theorem Ctl.futures (e : EP) : Ctl e (futures e) := (Ctl.of_path (.runDoneq e)).trans (.of_path (.runRetryq _))

/-- The task's loop on an endpoint with nothing to read, in the pair models' actions: `unpark`; then, while
    a notification is queued, `notif` and `unpark` again. -/
inductive Notifs : EP → EP → Prop
  | done (e : EP) (hq : (unpark e).droppedq = []) : Notifs e (unpark e)
  | step {e e' : EP} {fid : Nat} {rest : List Nat} (hq : (unpark e).droppedq = fid :: rest) (h0 : fid ≠ 0)
      (n : Notifs (closeFlow { unpark e with droppedq := rest } fid false).1 e') : Notifs e e'

theorem settleLoop_idle (fuel : Nat) (e : EP) (acc : List Ev) (h : Idle e) (hf : e.droppedq.length < fuel) :
    ∃ e' evs, settleLoop fuel e acc = (e', acc ++ evs) ∧ wiresOf evs = [] ∧ Notifs e e' ∧ Idle e' ∧
      e'.droppedq = [] ∧ Ctl e e' := by
  induction fuel generalizing e acc with
  | zero => omega
  | succ n ih =>
    have cu := Ctl.unpark e
    have hud : (unpark e).droppedq = e.droppedq := unpark_droppedq e h.muxAlive
    rw [settleLoop_notif n e acc h.dead h.draining h.closing h.inbox, notifBranch]
    cases hq : e.droppedq with
    | nil =>
      simp only [hud, hq]
      exact ⟨unpark e, [], by simp, rfl, .done e (by rw [hud, hq]), h.of_ctl cu (by rw [hud]; exact h.nozero),
        by rw [hud, hq], cu⟩
    | cons fid rest =>
      have hf0 : fid ≠ 0 := by
        intro h0; apply h.nozero; rw [hq, h0]; simp
      cases fid with
      | zero => exact absurd rfl hf0
      | succ k =>
        simp only [hud, hq]
        have c2 : Ctl e (closeFlow { unpark e with droppedq := rest } (k + 1) false).1 :=
          (cu.trans (Ctl.silent rfl rfl rfl rfl rfl rfl rfl rfl : Ctl (unpark e) { unpark e with droppedq := rest })).trans
            (Ctl.closeFlow _ _ _)
        have hd2 : (closeFlow { unpark e with droppedq := rest } (k + 1) false).1.droppedq = rest := closeFlow_droppedq _ _ _
        have hi2 : Idle (closeFlow { unpark e with droppedq := rest } (k + 1) false).1 := h.of_ctl c2 (by
          rw [hd2]; intro h0; apply h.nozero; rw [hq]; exact List.mem_cons_of_mem _ h0)
        obtain ⟨e', evs, h1, h2, h3, h4, h5, h6⟩ :=
          ih _ (acc ++ (closeFlow { unpark e with droppedq := rest } (k + 1) false).2) hi2
            (by rw [hd2]; rw [hq] at hf; simp at hf; omega)
        exact ⟨e', (closeFlow { unpark e with droppedq := rest } (k + 1) false).2 ++ evs,
          by rw [← List.append_assoc]; exact h1, by rw [wiresOf_append, Pair.closeFlow_no_wires, h2]; rfl,
          .step (by rw [hud, hq]) hf0 h3, h4, h5, c2.trans h6⟩

/-- After the loop, with the task running and a sink that takes everything: the queue goes out, the open
    futures run, the queue goes out again. -/
theorem settleTail_running (e1 : EP) (evs1 : List Ev) (hd : e1.dead = false) (hg : e1.draining = none)
    (hs : e1.sinkRoom = none) :
    settleTail e1 evs1 =
      ({ futures { e1 with outq := [] } with outq := [] },
       evs1 ++ e1.outq.map Ev.wire ++ ((runDoneq { e1 with outq := [] }).2 ++ (runRetryq (runDoneq { e1 with outq := [] }).1).2) ++
         (futures { e1 with outq := [] }).outq.map Ev.wire) := by
  have c4 := Ctl.futures { e1 with outq := [] }
  have hh := holdSend_running (futures { e1 with outq := [] }) (by rw [c4.dead]; exact hd) (by rw [c4.draining]; exact hg)
    (by rw [c4.sinkRoom]; exact hs)
  unfold futures at hh
  unfold settleTail thenRun futures
  simp only [holdSend_running e1 hd hg hs, hh]

theorem settleTail_idle (fuel : Nat) (e : EP) (acc : List Ev) (hw : wiresOf acc = []) (h : Idle e)
    (hf : e.droppedq.length < fuel) (hs : e.sinkRoom = none) :
    ∃ e1, Notifs e e1 ∧
      (settleTail (settleLoop fuel e acc).1 (settleLoop fuel e acc).2).1 = { futures { e1 with outq := [] } with outq := [] } ∧
      wiresOf (settleTail (settleLoop fuel e acc).1 (settleLoop fuel e acc).2).2 = e1.outq ++ (futures { e1 with outq := [] }).outq := by
  obtain ⟨e1, evs1, h1, h2, h3, h4, h5, c1⟩ := settleLoop_idle fuel e acc h hf
  rw [h1, settleTail_running e1 (acc ++ evs1) h4.dead h4.draining (by rw [c1.sinkRoom]; exact hs)]
  refine ⟨e1, h3, rfl, ?_⟩
  simp only [wiresOf_append, wiresOf_map_wire, hw, h2, Pair.runDone_no_wires, Pair.runRetries_no_wires, runDoneq, runRetryq,
    List.nil_append, List.append_nil]

/-- **`settle` on a running endpoint that has nothing to read and whose sink takes everything.** -/
theorem settle_idle (e : EP) (h : Idle e) (hs : e.sinkRoom = none) :
    ∃ e1, Notifs e e1 ∧
      (settle e).1 = { futures { e1 with outq := [] } with outq := [] } ∧
      wiresOf (settle e).2 = e1.outq ++ (futures { e1 with outq := [] }).outq := by
  rw [Pair.settle_eq]
  exact settleTail_idle _ e [] rfl h (by omega) hs

/-- **A frame is delivered to such an endpoint**: `unpark`, the frame is processed (the receive loop was not
    parked, the frame does not end the connection), then as above. -/
theorem applyOp_deliver_idle (e : EP) (f : Frame) (h : Idle e) (hsrc : e.srcEnded = false)
    (hpark : (unpark e).park = none) (hcont : (processFrame (unpark e) f false).2.2 = none)
    (hz : ¬ 0 ∈ (processFrame (unpark e) f false).1.droppedq) (hs : e.sinkRoom = none) :
    ∃ e1, Notifs (processFrame (unpark e) f false).1 e1 ∧
      (applyOp e (.deliver (.msg (.frame f)))).1 = { futures { e1 with outq := [] } with outq := [] } ∧
      wiresOf (applyOp e (.deliver (.msg (.frame f)))).2.2 = e1.outq ++ (futures { e1 with outq := [] }).outq := by
  have cu := Ctl.unpark e
  have cp := Ctl.processFrame (unpark e) f false
  have hop : opStep e (.deliver (.msg (.frame f))) = ({ e with inbox := [.msg (.frame f)] }, .unit, []) := by
    simp [opStep_deliver, hsrc, h.inbox]
  -- one round of the loop: `unpark`, then the receive loop takes the frame
  have hloop : settleLoop (2 * 1 + e.droppedq.length + 2) { e with inbox := [.msg (.frame f)] } [] =
      settleLoop (2 * 1 + e.droppedq.length + 1) (processFrame (unpark e) f false).1
        ([] ++ (processFrame (unpark e) f false).2.1) := by
    have hu : unpark { e with inbox := [.msg (.frame f)] } = { unpark e with inbox := [.msg (.frame f)] } :=
      unpark_set_inbox _ _ h.muxAlive
    have hrecv : recvOne { unpark e with inbox := [WsIn.msg (Msg.frame f)] } (.msg (.frame f)) [] =
        processFrame (unpark e) f false := by
      simp only [recvOne, processIn, reduceCtorEq, or_self, if_false]
      rw [set_inbox_self (unpark e) [] (by rw [cu.inbox]; exact h.inbox)]
    rw [show 2 * 1 + e.droppedq.length + 2 = (2 * 1 + e.droppedq.length + 1) + 1 by omega,
      settleLoop_recv _ { e with inbox := [.msg (.frame f)] } _ (.msg (.frame f)) [] h.dead h.draining h.closing
        (by rw [hu]; exact hpark) (by rw [hu]),
      recvBranch, hu, hrecv, hcont]
  have hfuel : (processFrame (unpark e) f false).1.droppedq.length < 2 * 1 + e.droppedq.length + 1 := by
    have := processFrame_droppedq_le (unpark e) f false
    rw [unpark_droppedq e h.muxAlive] at this
    omega
  obtain ⟨e1, n1, t1, t2⟩ := settleTail_idle _ (processFrame (unpark e) f false).1
    ([] ++ (processFrame (unpark e) f false).2.1) (by rw [List.nil_append, processFrame_no_wires])
    (h.of_ctl (cu.trans cp) hz) hfuel (by rw [cp.sinkRoom, cu.sinkRoom]; exact hs)
  refine ⟨e1, n1, ?_, ?_⟩
  · rw [applyOp_fst, hop, Pair.settle_eq]
    simp only [List.length_cons, List.length_nil]
    rw [hloop]; exact t1
  · rw [applyOp_evs, hop, Pair.settle_eq]
    simp only [List.length_cons, List.length_nil, List.nil_append]
    rw [hloop]; exact t2

end Penguin.Mux
