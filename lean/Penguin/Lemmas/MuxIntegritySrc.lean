/-
Where accepted frames come from: for every history of one endpoint and ANY peer, the payloads accepted
into stream objects (all objects together, in the order they were accepted), followed by the `Push`
payloads still waiting in the inbox, are a SUBSEQUENCE of the payloads of the `Push` frames the transport
delivered, in delivery order — every delivered `Push` is accepted at most once, into at most one object,
never out of order, and nothing that was not delivered as a `Push` is ever accepted.
`Src e e' L`: from `e` to `e'`, with accept log `L`: `L`'s payloads ++ the `Push` payloads in `e'.inbox` are
a subsequence of the `Push` payloads in `e.inbox`.
Core Lean only.
-/
import Penguin.Lemmas.MuxIntegrityHist

namespace Penguin.Mux

local infixl:50 " <+ " => List.Sublist

/-- The payloads of the `Push` frames among transport items, in order. -/
def pushData : List WsIn → List Bytes
  | [] => []
  | .msg (.frame (.push _ d)) :: r => d :: pushData r
  | _ :: r => pushData r

def pushOf : WsIn → Option Bytes
  | .msg (.frame (.push _ d)) => some d
  | _ => none

theorem pushData_eq (l : List WsIn) : pushData l = l.filterMap pushOf := by
  induction l with
  | nil => rfl
  | cons w r ih =>
    rw [List.filterMap_cons]
    cases w with
    | msg m =>
      cases m with
      | frame f => cases f <;> first | exact ih | exact congrArg _ ih
      | _ => exact ih
    | _ => exact ih

theorem pushData_append (a b : List WsIn) : pushData (a ++ b) = pushData a ++ pushData b := by
  rw [pushData_eq, pushData_eq, pushData_eq, List.filterMap_append]

def Log.data (L : Log) : List Bytes := L.map (·.2)

theorem Log.data_append (a b : Log) : Log.data (a ++ b) = Log.data a ++ Log.data b := by simp [Log.data]

/-! ### The inbox is only consumed by the receive loop and the wind-down: no other function's steps write it
    (`Path.frame`, `Lemmas/MuxTrace.lean`) -/

@[simp] theorem modObj_inbox (e : EP) (i : Nat) (f : Obj → Obj) : (e.modObj i f).inbox = e.inbox := rfl

theorem closeFlow_inbox (e : EP) (fid : Nat) (inh : Bool) : (closeFlow e fid inh).1.inbox = e.inbox :=
  (Path.closeFlow e fid inh).frame .inbox

theorem processIn_inbox (e : EP) (w : WsIn) (ig : Bool) : (processIn e w ig).1.inbox = e.inbox :=
  (Path.processIn e w ig).frame .inbox

theorem windDownFinish_inbox (e : EP) (res : ExitRes) : (windDownFinish e res).1.inbox = e.inbox :=
  (Path.windDownFinish e res).frame .inbox

theorem sendSome_inbox (e : EP) : (sendSome e).1.inbox = e.inbox := (Path.sendSome e).frame .inbox

theorem unpark_inbox' (e : EP) : (unpark e).inbox = e.inbox := (Path.unpark e).frame .inbox

theorem runRetries_inbox (e : EP) (l : List Nat) : (runRetries e l).1.inbox = e.inbox := (Path.runRetries e l).frame .inbox

theorem runDone_inbox (e : EP) (l : List (Nat × Nat)) : (runDone e l).1.inbox = e.inbox := (Path.runDone e l).frame .inbox

/-! ### The task consumes the inbox in order -/

def Leaf.item : Leaf → Option WsIn
  | .frame _ f => some (.msg (.frame f))
  | _ => none

/-- From `e` to `e'`, with leaves `L`: the frames processed, followed by what is left in the inbox, are a subsequence of
    the inbox before. -/
def Consumed (e e' : EP) (L : List Leaf) : Prop := L.filterMap Leaf.item ++ e'.inbox <+ e.inbox

theorem Consumed.silent {e e' : EP} (h : e'.inbox = e.inbox) : Consumed e e' [] := by
  unfold Consumed; rw [h]; exact List.Sublist.refl _

theorem processInLeaves_items (e : EP) (w : WsIn) : (processInLeaves e w).filterMap Leaf.item <+ [w] := by
  cases w with
  | msg m => cases m <;> first | exact List.Sublist.refl _ | exact List.nil_sublist _
  | _ => exact List.nil_sublist _

theorem windDownInboxLeaves_items (e : EP) (l : List WsIn) :
    (windDownInboxLeaves e l).filterMap Leaf.item ++ PairAll.endRest l <+ l := by
  induction l generalizing e with
  | nil => exact List.Sublist.refl _
  | cons w l ih =>
    cases w with
    | err => exact List.Sublist.refl _
    | eof => exact List.Sublist.refl _
    | msg m =>
      simp only [windDownInboxLeaves, List.filterMap_append, PairAll.endRest, List.append_assoc]
      exact List.Sublist.append (processInLeaves_items e (.msg m)) (ih _)
    | bad b =>
      simp only [windDownInboxLeaves, List.filterMap_append, PairAll.endRest, List.append_assoc]
      exact List.Sublist.append (processInLeaves_items e (.bad b)) (ih _)

/-- The receive loop takes the oldest item, the wind-down reads them in order; nothing else touches the inbox. -/
theorem consumed : Walk (fun e e' _ L => Consumed e e' L) where
  refl e := List.Sublist.refl _
  trans {a b c _ _ L1 L2} s t := by
    unfold Consumed at *
    rw [List.filterMap_append, List.append_assoc]
    exact (List.Sublist.append (List.Sublist.refl _) t).trans s
  ctl e c d := Consumed.silent rfl
  recv e w rest hi := by
    unfold Consumed
    simp only [Mux.recvOne, recvOneLeaves]
    rw [processIn_inbox, hi]
    exact List.Sublist.append (processInLeaves_items _ w) (List.Sublist.refl rest)
  pass e := windDownInboxLeaves_items e e.inbox
  finish e res := by
    unfold Consumed
    rw [windDownFinish_inbox]
    exact List.nil_sublist _
  dropMux e rest _ := Consumed.silent rfl
  dropped e fid rest _ _ := Consumed.silent (closeFlow_inbox _ fid false)
  unpark e := Consumed.silent (unpark_inbox' e)
  send e := Consumed.silent (sendSome_inbox e)
  wireClose e := Consumed.silent rfl
  dropPrep e := Consumed.silent ((Path.dropPrep e).frame .inbox)
  windDownPrep e := Consumed.silent ((Path.windDownPrep e).frame .inbox)
  done e := Consumed.silent (runDone_inbox _ _)
  retry e := Consumed.silent (runRetries_inbox _ _)

/-- A record that notes at every leaf at most the leaf's own item (as `π` shows it, through `d`): what it noted, followed
    by what `π` shows of the inbox afterwards, is a subsequence of what `π` shows of the inbox before. -/
theorem Consumed.sub {β γ : Type} {π : WsIn → Option β} {c : Leaf → List γ} {d : γ → β} {e e' : EP} {L : List Leaf}
    (hc : ∀ x, (c x).map d <+ ((Leaf.item x).bind π).toList) (h : Consumed e e' L) :
    (L.flatMap c).map d ++ e'.inbox.filterMap π <+ e.inbox.filterMap π := by
  have h1 := h.filterMap π
  rw [List.filterMap_append] at h1
  refine (List.Sublist.append ?_ (List.Sublist.refl _)).trans h1
  clear h h1
  induction L with
  | nil => exact List.Sublist.refl _
  | cons x L ih =>
    rw [List.flatMap_cons, List.map_append, List.filterMap_cons]
    have hx := hc x
    cases hi : Leaf.item x with
    | none => rw [hi] at hx; exact List.Sublist.append hx ih
    | some w =>
      rw [hi] at hx
      simp only [List.filterMap_cons]
      cases hp : π w with
      | none => rw [Option.bind_some, hp] at hx; exact List.Sublist.append hx ih
      | some y => rw [Option.bind_some, hp] at hx; exact List.Sublist.append (l₂ := [y]) hx ih

/-- One stimulus of a history, on lists: `acc` was noted before and `i0` waited; the stimulus adds at most `d` to what
    waits (`i1`), the task then notes `L` and leaves `i2`. -/
theorem sublist_step {α : Type} {acc i0 i1 i2 L D d : List α} (h : acc ++ i0 <+ D) (hL : L ++ i2 <+ i1)
    (hd : i1 <+ i0 ++ d) : (acc ++ L) ++ i2 <+ D ++ d := by
  rw [List.append_assoc]
  refine (List.Sublist.append (List.Sublist.refl acc) (hL.trans hd)).trans ?_
  rw [← List.append_assoc]
  exact List.Sublist.append h (List.Sublist.refl d)

def Src (e e' : EP) (L : Log) : Prop := Log.data L ++ pushData e'.inbox <+ pushData e.inbox

theorem Src.silent {e e' : EP} (h : e'.inbox = e.inbox) : Src e e' [] := by
  unfold Src; rw [h]; exact List.Sublist.refl _

theorem Src.clear {e e' : EP} (h : e'.inbox = []) : Src e e' [] := by
  unfold Src; rw [h]; exact List.nil_sublist _

theorem Leaf.rx_own (x : Leaf) : (Leaf.rx x).map (·.2) <+ ((Leaf.item x).bind pushOf).toList := by
  cases x with
  | frame e f =>
    by_cases hn : acceptedInto e f = []
    · simp only [Leaf.rx, hn]; exact List.nil_sublist _
    · obtain ⟨p, hp⟩ := List.exists_mem_of_ne_nil _ hn
      obtain ⟨fid, rfl, _, hl⟩ := acceptedInto_spec e f p.1 p.2 hp
      simp only [Leaf.rx, hl]
      exact List.Sublist.refl _
  | _ => exact List.nil_sublist _

theorem Src.of_consumed {e e' : EP} {L : List Leaf} (h : Consumed e e' L) : Src e e' (L.flatMap Leaf.rx) := by
  unfold Src Log.data
  rw [pushData_eq, pushData_eq]
  exact h.sub Leaf.rx_own

theorem Src.windDown (e : EP) (drain : Bool) (res : ExitRes) : Src e (windDown e drain res).1 (windDownLog e drain) :=
  windDownLog_eq e drain res ▸ Src.of_consumed (consumed.windDown e drain res)

theorem Src.settleLoop (fuel : Nat) (e : EP) (acc : List Ev) : Src e (settleLoop fuel e acc).1 (settleLoopLog fuel e) :=
  let ⟨_, _, h⟩ := consumed.settleLoop fuel e acc; settleLoopLog_eq fuel e ▸ Src.of_consumed h

/-- The task's run to quiescence consumes inbox items in order; what it accepts is what it consumed. -/
theorem Src.settle (e : EP) : Src e (settle e).1 (settleLog e) :=
  settleLog_eq e ▸ Src.of_consumed (consumed.settle e)

/-! ### Application calls do not touch the inbox; a delivery appends to it (or is ignored) -/

theorem enq_inbox (e : EP) (m : Msg) : (e.enq m).inbox = e.inbox := enq_frame e m .inbox
theorem enqFrame_inbox (e : EP) (f : Frame) : (e.enqFrame f).inbox = e.inbox := enq_inbox e _
theorem openRound_inbox (e : EP) (r : OpenReq) : (openRound e r).1.inbox = e.inbox := (Path.openRoundAny e r).frame .inbox
theorem hold_inbox (e : EP) (c : Bool) : (if c then (e, ([] : List Ev)) else Mux.sendSome e).1.inbox = e.inbox :=
  (Path.hold e c).frame .inbox
theorem appWrite_inbox (e : EP) (h : Nat) (d : Bytes) : (appWrite e h d).1.inbox = e.inbox := (Path.appWrite e h d).frame .inbox
theorem appRead_inbox (e : EP) (h n : Nat) : (appRead e h n).1.inbox = e.inbox := (Path.appRead e h n).frame .inbox
theorem appShutdown_inbox (e : EP) (h : Nat) : (appShutdown e h).1.inbox = e.inbox := (Path.appShutdown e h).frame .inbox
theorem appDropStream_inbox (e : EP) (h : Nat) : (appDropStream e h).1.inbox = e.inbox :=
  (Path.appDropStream e h).frame .inbox
theorem appAccept_inbox (e : EP) : (appAccept e).1.inbox = e.inbox := (Path.appAccept e).frame .inbox
theorem appSendDgram_inbox (e : EP) (d : Dgram) : (appSendDgram e d).1.inbox = e.inbox := (Path.appSendDgram e d).frame .inbox
theorem appRecvDgram_inbox (e : EP) : (appRecvDgram e).1.inbox = e.inbox := (Path.appRecvDgram e).frame .inbox
theorem appBindReq_inbox (e : EP) (req : Nat) (bt : BindType) (host : Bytes) (port : Nat) :
    (appBindReq e req bt host port).1.inbox = e.inbox := (Path.appBindReq e req bt host port).frame .inbox
theorem appBindNext_inbox (e : EP) : (appBindNext e).1.inbox = e.inbox := (Path.appBindNext e).frame .inbox
theorem appBindReply_inbox (e : EP) (k : Nat) (a : Bool) : (appBindReply e k a).1.inbox = e.inbox :=
  (Path.appBindReply e k a).frame .inbox
theorem appBindDrop_inbox (e : EP) (k : Nat) : (appBindDrop e k).1.inbox = e.inbox := (Path.appBindDrop e k).frame .inbox
theorem appDropMux_inbox (e : EP) : (appDropMux e).1.inbox = e.inbox := (Path.appDropMux e).frame .inbox

def deliveredBy : Op → List Bytes
  | .deliver (.msg (.frame (.push _ d))) => [d]
  | _ => []

/-- The `Push` payloads the transport delivered along a history, in order. -/
def deliveredData : List Op → List Bytes
  | [] => []
  | op :: rest => deliveredBy op ++ deliveredData rest

theorem deliveredData_append (a b : List Op) : deliveredData (a ++ b) = deliveredData a ++ deliveredData b := by
  induction a with
  | nil => rfl
  | cons op r ih => simp [deliveredData, ih]

theorem opStep_inbox_eq (e : EP) (op : Op) (hc : ∀ w, op ≠ .deliver w) : (opStep e op).1.inbox = e.inbox := by
  cases op with
  | deliver w => exact absurd rfl (hc w)
  | _ => exact (Path.opStep e _).frame .inbox (by dsimp only [K.opStep]; decide +kernel)

def deliveredOf {β : Type} (π : WsIn → Option β) : Op → List β
  | .deliver w => (π w).toList
  | _ => []

/-- A stimulus adds to the inbox at most what it delivers (and the end of the source, of which `π` shows nothing). -/
theorem opStep_inbox_sub {β : Type} (π : WsIn → Option β) (he : π .eof = none) (e : EP) (op : Op) :
    (opStep e op).1.inbox.filterMap π <+ e.inbox.filterMap π ++ deliveredOf π op := by
  have keep : ∀ e' : EP, e'.inbox = e.inbox → e'.inbox.filterMap π <+ e.inbox.filterMap π ++ deliveredOf π op :=
    fun _ h => h ▸ List.sublist_append_left _ _
  cases op with
  | deliver w =>
    simp only [Mux.opStep]
    split
    · exact keep _ rfl
    · split
      · show (e.inbox ++ [WsIn.msg .close, WsIn.eof]).filterMap π <+ _ ++ (π (.msg .close)).toList
        rw [List.filterMap_append, List.filterMap_cons, List.filterMap_cons, he]
        cases π (.msg .close) <;> exact List.Sublist.refl _
      · show (e.inbox ++ [w]).filterMap π <+ _ ++ (π w).toList
        rw [List.filterMap_append, List.filterMap_cons]
        cases π w <;> exact List.Sublist.refl _
  | _ => exact keep _ (opStep_inbox_eq e _ nofun)

theorem deliveredBy_eq (op : Op) : deliveredBy op = deliveredOf pushOf op := by
  cases op with
  | deliver w =>
    cases w with
    | msg m =>
      cases m with
      | frame f => cases f <;> rfl
      | _ => rfl
    | _ => rfl
  | _ => rfl

theorem opStep_inbox (e : EP) (op : Op) : pushData (opStep e op).1.inbox <+ pushData e.inbox ++ deliveredBy op := by
  rw [pushData_eq, pushData_eq, deliveredBy_eq]; exact opStep_inbox_sub pushOf rfl e op

/-- Every history: accepted payloads, then the `Push` payloads still in the inbox, are a subsequence
    of the delivered `Push` payloads. -/
theorem src_run (e : EP) (g : Ghost) (D : List Bytes) (ops : List Op)
    (h : Log.data g.accepted ++ pushData e.inbox <+ D) :
    Log.data (runOpsG e g ops).2.accepted ++ pushData (runOpsG e g ops).1.inbox <+ D ++ deliveredData ops := by
  induction ops generalizing e g D with
  | nil => simpa [runOpsG, deliveredData] using h
  | cons op rest ih =>
    simp only [runOpsG, deliveredData]
    rw [← List.append_assoc]
    refine ih _ _ _ ?_
    dsimp only [stepG]
    rw [Log.data_append]
    have h2 : Src (opStep e op).1 (applyOp e op).1 (settleLog (opStep e op).1) := by
      rw [applyOp_fst]; exact Src.settle _
    exact sublist_step h h2 (opStep_inbox e op)

/-- The payloads a log attributes to object `i`, frame by frame. -/
def Log.dataOf (L : Log) (i : Nat) : List Bytes := (L.filter (fun p => p.1 == i)).map (·.2)

theorem chunks_eq_flatten (L : Log) (i : Nat) : chunks L i = (Log.dataOf L i).flatten := by
  induction L with
  | nil => rfl
  | cons p r ih =>
    obtain ⟨j, d⟩ := p
    by_cases hj : j = i
    · simp [chunks, Log.dataOf, hj] at ih ⊢
      exact ih
    · simp [chunks, Log.dataOf, hj] at ih ⊢
      exact ih

theorem Log.dataOf_sub (L : Log) (i : Nat) : Log.dataOf L i <+ Log.data L :=
  List.Sublist.map _ List.filter_sublist

/-- Accepted frames come from delivered `Push` frames: each at most once, in delivery order. -/
theorem accepted_sublist_delivered (o : Opts) (ops : List Op) :
    Log.data (runOpsG { opts := o } {} ops).2.accepted <+ deliveredData ops := by
  have h := src_run { opts := o } {} [] ops (List.Sublist.refl _)
  simp only [List.nil_append] at h
  exact (List.sublist_append_left _ _).trans h

end Penguin.Mux
