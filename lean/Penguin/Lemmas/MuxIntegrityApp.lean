/-
Stream integrity on the RECEIVING side — part 2: the application calls, in any state of one endpoint.

`RxA e e' R D`: from `e` to `e'` the readable bytes of every stream object shrank by exactly what `R` attributes
to it at the front and what `D` attributes to it at the back.  `R` is what a `read` returned (`returnedBy`), `D`
what was queued, unread, when the handle was dropped (`discardedBy`); every other call leaves the readable bytes
alone (`RxT … []`).
Core Lean only.
-/
import Penguin.Lemmas.MuxIntegrity

namespace Penguin.Mux

/-! ### Application calls that neither read nor drop a stream leave every stream's bytes alone -/

theorem RxT.appWrite (e : EP) (h : Nat) (d : Bytes) : RxT e (appWrite e h d).1 [] := .of_path (.appWrite e h d)

/-- `poll_fill_buf` moves the oldest queued frame into the (empty) buffer: the readable bytes stay. -/
theorem RxT.fillBuf (fuel : Nat) (e : EP) (i : Nat) : RxT e (fillBuf fuel e i).1 [] := .of_path (.fillBuf fuel e i)

theorem RxT.appShutdown (e : EP) (h : Nat) : RxT e (appShutdown e h).1 [] := .of_path (.appShutdown e h)

theorem RxT.appBindReq (e : EP) (req : Nat) (bt : BindType) (host : Bytes) (port : Nat) :
    RxT e (appBindReq e req bt host port).1 [] := .of_path (.appBindReq e req bt host port)

theorem RxT.appBindNext (e : EP) : RxT e (appBindNext e).1 [] := .of_path (.appBindNext e)

theorem RxT.appBindReply (e : EP) (k : Nat) (a : Bool) : RxT e (appBindReply e k a).1 [] := .of_path (.appBindReply e k a)

theorem RxT.appBindDrop (e : EP) (k : Nat) : RxT e (appBindDrop e k).1 [] := .of_path (.appBindDrop e k)

/-! ### The two calls that take bytes out of a stream -/

/-- An application step: `R` is what reads returned, `D` what a handle drop threw away. -/
structure RxA (e e' : EP) (R D : Log) : Prop where
  str : ∀ i, str e i = chunks R i ++ str e' i ++ chunks D i
  shut : ∀ i, rxShut e i → rxShut e' i ∧ chunks D i = []
  drop : ∀ i, chunks D i ≠ [] → rxShut e' i

theorem RxA.ofT {e e' : EP} (s : RxT e e' []) : RxA e e' [] [] :=
  ⟨fun i => by have := s.str i; simp only [chunks_nil, List.append_nil] at this; simp [Mux.str, this],
   fun i h => ⟨(s.shut i h).1, rfl⟩, fun i h => absurd rfl h⟩

theorem RxA.afterT {a b c : EP} {R D : Log} (s : RxT a b []) (t : RxA b c R D) : RxA a c R D :=
  ⟨fun i => by
    have h1 := s.str i
    simp only [chunks_nil, List.append_nil] at h1
    have h2 := t.str i
    unfold Mux.str at h2 ⊢
    rw [← h1]; exact h2,
   fun i h => t.shut i (s.shut i h).1, t.drop⟩

theorem ackStep_buf (e : EP) (i : Nat) (x o : Obj) (ho : e.objs[i]? = some o) :
    ∃ o', (ackStep e i x).objs[i]? = some o' ∧ o'.buf = o.buf := by
  unfold Mux.ackStep
  split
  · refine ⟨{ o with recvdSince := 0 }, ?_, rfl⟩
    simp only [EP.enqFrame, enq_objs]
    rw [modObj_get_self, ho]; rfl
  · refine ⟨{ o with recvdSince := x.recvdSince + 1 }, ?_, rfl⟩
    rw [modObj_get_self, ho]; rfl

theorem fillBuf_data (fuel : Nat) (e : EP) (i : Nat) (e' : EP) (b : Bytes) (h : fillBuf fuel e i = (e', .data b)) :
    ∃ o', e'.objs[i]? = some o' ∧ o'.buf = b := by
  induction fuel generalizing e with
  | zero => simp [Mux.fillBuf] at h
  | succ n ih =>
    unfold Mux.fillBuf at h
    split at h
    · simp at h
    · rename_i o ho
      split at h
      · simp only [Prod.mk.injEq, Res.data.injEq] at h
        obtain ⟨h1, h2⟩ := h
        subst h1; exact ⟨o, ho, h2⟩
      · split at h
        · rename_i f rest hq
          simp only at h
          split at h
          · exact ih _ h
          · simp only [Prod.mk.injEq, Res.data.injEq] at h
            obtain ⟨h1, h2⟩ := h
            subst h1 h2
            have hm : (e.modObj i (fun o => { o with rxq := rest, buf := f })).objs[i]? = some { o with rxq := rest, buf := f } := by
              rw [modObj_get_self, ho]; rfl
            exact ackStep_buf _ i _ _ hm
        · split at h <;> simp at h

/-- The bytes a `read` call returned, attributed to the object behind the handle it used (looked up
    BEFORE the call). Every other call, and a read that does not answer `data`, returns no bytes. -/
def returnedBy (e : EP) (op : Op) (r : Res) : Log :=
  match op, r with
  | .read h _, .data bs =>
    match e.handleObj h with
    | some (i, _) => [(i, bs)]
    | none => []
  | _, _ => []

/-- The frames that were queued, unread, in a stream's channel when the application dropped its handle
    (`Drop for MuxStream`: the `Receiver` goes away with its contents). -/
def discardedBy (e : EP) (op : Op) : Log :=
  match op with
  | .dropStream h =>
    match e.handleObj h with
    | some (i, o) => [(i, o.rxq.flatten)]
    | none => []
  | _ => []

theorem RxA.take (e : EP) (i n : Nat) (o : Obj) (ho : e.objs[i]? = some o) :
    RxA e (e.modObj i (fun x => { x with buf := o.buf.drop n })) [(i, o.buf.take n)] [] := by
  refine ⟨fun j => ?_, fun j hs => ⟨?_, rfl⟩, fun j h => absurd rfl h⟩
  · simp only [Mux.str, EP.modObj, setObj, chunks_nil, List.append_nil]
    by_cases hij : i = j
    · subst hij
      rw [strO_modify_self _ _ _ _ ho, chunks_single_self]
      simp only [strO, ho, Obj.stream]
      rw [← List.append_assoc, List.take_append_drop]
    · rw [strO_modify_ne _ _ _ _ hij, chunks_single_ne _ _ _ hij, List.nil_append]
  · obtain ⟨o', ho', hc, hq⟩ := hs
    simp only [rxShut, EP.modObj, setObj, shutO, List.getElem?_modify]
    by_cases hij : i = j
    · subst hij; rw [ho] at ho'; cases ho'
      exact ⟨{ o with buf := o.buf.drop n }, by simp [ho], hc, hq⟩
    · exact ⟨o', by simp [hij, ho'], hc, hq⟩

theorem RxA.appRead (e : EP) (h n : Nat) :
    RxA e (appRead e h n).1 (returnedBy e (.read h n) (appRead e h n).2) [] := by
  unfold Mux.appRead
  cases hh : e.handleObj h with
  | none => exact RxA.ofT (RxT.refl e)
  | some p =>
    obtain ⟨i, o⟩ := p
    simp only
    have s := RxT.fillBuf (o.rxq.length + 2) e i
    split
    · rename_i e' b heq
      rw [heq] at s
      obtain ⟨o', ho', hb⟩ := fillBuf_data _ _ _ _ _ heq
      subst hb
      simp only [returnedBy, hh]
      exact RxA.afterT s (RxA.take e' i n o' ho')
    · rename_i hne
      have hr : returnedBy e (.read h n) (Mux.fillBuf (o.rxq.length + 2) e i).2 = [] := by
        cases hf : Mux.fillBuf (o.rxq.length + 2) e i with
        | mk e2 res =>
          cases res <;> first | rfl | exact absurd hf (hne _ _)
      rw [hr]
      exact RxA.ofT s

/-- Dropping the handle throws the queued frames away; the handle's own buffer stays. -/
theorem RxA.appDropStream (e : EP) (h : Nat) :
    RxA e (appDropStream e h).1 [] (discardedBy e (.dropStream h)) := by
  unfold Mux.appDropStream
  cases hh : e.handleObj h with
  | none => simp only [discardedBy, hh]; exact RxA.ofT (RxT.refl e)
  | some p =>
    obtain ⟨i, o⟩ := p
    have ho := handleObj_some hh
    simp only [discardedBy, hh]
    have g : RxA e (e.modObj i (fun o => { o with rxOpen := false, rxq := [], parked := false })) [] [(i, o.rxq.flatten)] := by
      refine ⟨fun j => ?_, fun j hs => ?_, fun j hd => ?_⟩
      · simp only [Mux.str, EP.modObj, setObj, chunks_nil, List.nil_append]
        by_cases hij : i = j
        · subst hij
          rw [strO_modify_self _ _ _ _ ho, chunks_single_self]
          simp [strO, ho, Obj.stream]
        · rw [strO_modify_ne _ _ _ _ hij, chunks_single_ne _ _ _ hij, List.append_nil]
      · obtain ⟨o', ho', hc, hq⟩ := hs
        simp only [rxShut, EP.modObj, setObj, shutO, List.getElem?_modify]
        by_cases hij : i = j
        · subst hij; rw [ho] at ho'; cases ho'
          exact ⟨⟨{ o with rxOpen := false, rxq := [], parked := false }, by simp [ho], rfl, rfl⟩,
            by rw [chunks_single_self, hq]; rfl⟩
        · exact ⟨⟨o', by simp [hij, ho'], hc, hq⟩, chunks_single_ne _ _ _ hij⟩
      · by_cases hij : i = j
        · subst hij
          exact ⟨{ o with rxOpen := false, rxq := [], parked := false }, by simp [EP.modObj, setObj, ho], rfl, rfl⟩
        · exact absurd (chunks_single_ne _ _ _ hij) hd
    split
    · exact g
    · exact ⟨g.str, g.shut, g.drop⟩

theorem RxA.opStep (e : EP) (op : Op) :
    RxA e (opStep e op).1 (returnedBy e op (opStep e op).2.1) (discardedBy e op) := by
  cases op with
  | read h n => exact RxA.appRead e h n
  | dropStream h => exact RxA.appDropStream e h
  | _ => exact RxA.ofT (.of_path (.opStep e _) (by dsimp only [K.opStep]; decide +kernel))

end Penguin.Mux
