/-
Bounded buffering and the reserved id, for every history of one endpoint and ANY peer.

`Bnd e`: every stream's receive queue holds at most the stream's own window of frames; the accept
queue, the datagram queue and the bind queue hold at most their configured capacities; no slot of
the flow table is under the reserved flow id 0.  Every primitive update preserves it (`KeepsB`; each push
carries the model's own test for room, `Lemmas/MuxTrace.lean`), hence every function of the endpoint
model, every stimulus and every history: whatever a peer sends — more `Push` frames than
the window allows, floods of `Connect`, `Datagram` or `Bind` frames, frames with id 0 — the endpoint
never buffers more than it was configured to, and never uses id 0.
Core Lean only.
-/
import Penguin.Lemmas.MuxTrace

namespace Penguin.Mux

structure Bnd (c : Opts) (e : EP) : Prop where
  opts : e.opts = c
  rxq : ∀ (i : Nat) (o : Obj), e.objs[i]? = some o → o.rxq.length ≤ o.cap
  acc : e.acceptq.length ≤ e.opts.acceptCap
  dg : e.dgramq.length ≤ e.opts.dgramCap
  bnd : e.bindq.length ≤ e.opts.bindCap
  zero : lookup e.flows 0 = none

def KeepsB (e e' : EP) : Prop := ∀ c, Bnd c e → Bnd c e'

theorem KeepsB.refl (e : EP) : KeepsB e e := fun _ h => h
theorem KeepsB.trans {a b c : EP} (s : KeepsB a b) (t : KeepsB b c) : KeepsB a c := fun k h => t k (s k h)
theorem length_push_le {α : Type} {l : List α} {x : α} {n : Nat} (h : l.length < n) : (l ++ [x]).length ≤ n := by
  rw [List.length_append]; exact h

theorem OUpd.rxq_le {k : OKind} {o o' : Obj} (u : OUpd k o o') (h : o.rxq.length ≤ o.cap) : o'.rxq.length ≤ o'.cap := by
  cases u with
  | pushRx _ d hr => exact length_push_le hr
  | popRx _ f rest hq => rw [hq] at h; exact Nat.le_of_succ_le h
  | dropRx => exact Nat.zero_le _
  | closeWrite | disallowWrite | grant => simp only [Obj.disallowWrite, Obj.wake]; split <;> exact h
  | _ => exact h

theorem KeepsB.same {e e' : EP} (ho : e'.opts = e.opts) (hf : e'.flows = e.flows) (hobj : e'.objs = e.objs)
    (ha : e'.acceptq = e.acceptq) (hd : e'.dgramq = e.dgramq) (hb : e'.bindq = e.bindq) : KeepsB e e' := fun _ h =>
  ⟨ho.trans h.opts, by rw [hobj]; exact h.rxq, by rw [ha, ho]; exact h.acc, by rw [hd, ho]; exact h.dg,
    by rw [hb, ho]; exact h.bnd, by rw [hf]; exact h.zero⟩

theorem lookup_sublist_none {m m' : List (Nat × Slot)} (hs : m'.Sublist m) {k : Nat} (h : lookup m k = none) :
    lookup m' k = none := by
  induction hs with
  | slnil => rfl
  | cons p _ ih =>
    obtain ⟨k', v⟩ := p
    rw [lookup_cons] at h
    split at h
    · cases h
    · exact ih h
  | cons_cons p _ ih =>
    obtain ⟨k', v⟩ := p
    rw [lookup_cons] at h ⊢
    split at h
    · cases h
    · rename_i hk; rw [if_neg hk]; exact ih h

theorem KeepsB.of_upd {k : Kind} {e e' : EP} {x : List Ev} (u : Upd k e x e') : KeepsB e e' := by
  have erased : ∀ fid, KeepsB e { e with flows := erase e.flows fid } := fun fid c h =>
    ⟨h.opts, h.rxq, h.acc, h.dg, h.bnd, lookup_sublist_none List.filter_sublist h.zero⟩
  have inserted : ∀ fid s, fid ≠ 0 → KeepsB e { e with flows := insert e.flows fid s } := fun fid s h0 c h =>
    ⟨h.opts, h.rxq, h.acc, h.dg, h.bnd, (lookup_insert_ne _ _ _ _ (Ne.symm h0)).trans h.zero⟩
  cases u with
  | obj ok _ i f hf =>
    intro c h
    exact ⟨h.opts, modObj_all hf (fun _ _ u => u.rxq_le) h.rxq, h.acc, h.dg, h.bnd, h.zero⟩
  | erase _ fid | acceptBind _ fid | refuseBind _ fid => exact erased fid
  -- also writes `retryq`, which `Bnd` does not read
  | rejectSlot _ fid => exact (erased fid).trans (.same rfl rfl rfl rfl rfl rfl)
  | reqSlot _ fid req h0 | startBind _ fid req h0 => exact inserted fid _ h0
  | newStream _ fid rwnd host port hslot =>
    intro c h
    -- an `Acknowledge` finds its `Requested` slot under `fid`, and no slot is under 0
    have h0 : fid ≠ 0 := by
      rcases hslot with ⟨h0, _⟩ | ⟨req, hl⟩
      · exact h0
      · rintro rfl; rw [h.zero] at hl; cases hl
    exact ⟨h.opts, append_all (Nat.zero_le _) h.rxq, h.acc, h.dg, h.bnd, (lookup_insert_ne _ _ _ _ (Ne.symm h0)).trans h.zero⟩
  | dropSlots => exact fun c h => ⟨h.opts, h.rxq, h.acc, h.dg, h.bnd, lookup_sublist_none List.filter_sublist h.zero⟩
  | drainBind _ fid req rest hfl =>
    exact fun c h => ⟨h.opts, h.rxq, h.acc, h.dg, h.bnd, lookup_sublist_none (hfl ▸ List.sublist_cons_self ..) h.zero⟩
  | queue q =>
    intro c h
    cases q with
    | acceptPush _ i hr => exact ⟨h.opts, h.rxq, length_push_le hr, h.dg, h.bnd, h.zero⟩
    | acceptPop _ i rest hq => exact ⟨h.opts, h.rxq, Nat.le_of_succ_le (by simpa [hq] using h.acc), h.dg, h.bnd, h.zero⟩
    | dgramPush _ d hr => exact ⟨h.opts, h.rxq, h.acc, length_push_le hr, h.bnd, h.zero⟩
    | dgramPop _ d rest hq => exact ⟨h.opts, h.rxq, h.acc, Nat.le_of_succ_le (by simpa [hq] using h.dg), h.bnd, h.zero⟩
    | bindPush _ b hr | bindUnpark _ b _ hr => exact ⟨h.opts, h.rxq, h.acc, h.dg, length_push_le hr, h.zero⟩
    | bindPop _ b rest hq => exact ⟨h.opts, h.rxq, h.acc, h.dg, Nat.le_of_succ_le (by simpa [hq] using h.bnd), h.zero⟩
    | dropQueues => exact ⟨h.opts, h.rxq, Nat.zero_le _, Nat.zero_le _, Nat.zero_le _, h.zero⟩
  | enq _ _ m =>
    exact .same (enq_frame e m .opts) (enq_frame e m .flows) (enq_frame e m .objs) (enq_frame e m .acceptq)
      (enq_frame e m .dgramq) (enq_frame e m .bindq)
  | send =>
    have u := Upd.send e
    exact .same (u.frame .opts) (u.frame .flows) (u.frame .objs) (u.frame .acceptq) (u.frame .dgramq) (u.frame .bindq)
  | ctl c =>
    exact .same (c.frame .opts) (c.frame .flows) (c.frame .objs) (c.frame .acceptq) (c.frame .dgramq) (c.frame .bindq)
  | req r =>
    exact .same (r.frame .opts) (r.frame .flows) (r.frame .objs) (r.frame .acceptq) (r.frame .dgramq) (r.frame .bindq)
  | _ => exact fun c h => ⟨h.opts, h.rxq, h.acc, h.dg, h.bnd, h.zero⟩

theorem KeepsB.of_path {A : Kinds} {e e' : EP} {x : List Ev} (p : Path A e x e') : KeepsB e e' :=
  p.rel0 KeepsB.refl KeepsB.trans fun _ u => .of_upd u

theorem KeepsB.openRound (e : EP) (r : OpenReq) : KeepsB e (openRound e r).1 := .of_path (.openRoundAny e r)
theorem KeepsB.closeFlow (e : EP) (fid : Nat) (inh : Bool) : KeepsB e (closeFlow e fid inh).1 :=
  .of_path (.closeFlow e fid inh)
theorem KeepsB.processFrame (e : EP) (f : Frame) (ig : Bool) : KeepsB e (processFrame e f ig).1 :=
  .of_path (.processFrame e f ig)
theorem KeepsB.disallowAll (e : EP) (l : List (Nat × Slot)) : KeepsB e (disallowAll e l) := .of_path (.disallowAll e l)
theorem KeepsB.windDownTail (e1 : EP) (flushed : List Ev) (srcEnded : Bool) (res : ExitRes) :
    KeepsB e1 (windDownTail e1 flushed srcEnded res).1 := let ⟨_, _, p⟩ := Path.windDownTail e1 flushed srcEnded res; .of_path p

theorem KeepsB.windDown (e : EP) (drain : Bool) (res : ExitRes) : KeepsB e (windDown e drain res).1 :=
  .of_path (.windDown e drain res)
theorem KeepsB.unpark (e : EP) : KeepsB e (unpark e) := .of_path (.unpark e)
theorem KeepsB.settleLoop (fuel : Nat) (e : EP) (acc : List Ev) : KeepsB e (settleLoop fuel e acc).1 :=
  let ⟨_, _, p⟩ := Path.settleLoop fuel e acc; .of_path p
theorem KeepsB.runRetries (e : EP) (l : List Nat) : KeepsB e (runRetries e l).1 := .of_path (.runRetries e l)
theorem KeepsB.runDone (e : EP) (l : List (Nat × Nat)) : KeepsB e (runDone e l).1 := .of_path (.runDone e l)
theorem KeepsB.settle (e : EP) : KeepsB e (settle e).1 := .of_path (.settle e)
theorem KeepsB.appWrite (e : EP) (h : Nat) (d : Bytes) : KeepsB e (appWrite e h d).1 := .of_path (.appWrite e h d)
theorem KeepsB.fillBuf (fuel : Nat) (e : EP) (i : Nat) : KeepsB e (fillBuf fuel e i).1 := .of_path (.fillBuf fuel e i)
theorem KeepsB.appRead (e : EP) (h n : Nat) : KeepsB e (appRead e h n).1 := .of_path (.appRead e h n)
theorem KeepsB.appShutdown (e : EP) (h : Nat) : KeepsB e (appShutdown e h).1 := .of_path (.appShutdown e h)
theorem KeepsB.appDropStream (e : EP) (h : Nat) : KeepsB e (appDropStream e h).1 := .of_path (.appDropStream e h)
theorem KeepsB.appBindReq (e : EP) (req : Nat) (bt : BindType) (host : Bytes) (port : Nat) :
    KeepsB e (appBindReq e req bt host port).1 :=
  .of_path (.appBindReq e req bt host port)
theorem KeepsB.appBindNext (e : EP) : KeepsB e (appBindNext e).1 := .of_path (.appBindNext e)
theorem KeepsB.appBindReply (e : EP) (k : Nat) (a : Bool) : KeepsB e (appBindReply e k a).1 :=
  .of_path (.appBindReply e k a)
theorem KeepsB.appBindDrop (e : EP) (k : Nat) : KeepsB e (appBindDrop e k).1 := .of_path (.appBindDrop e k)
theorem KeepsB.opStep (e : EP) (op : Op) : KeepsB e (opStep e op).1 := .of_path (.opStep e op)
theorem KeepsB.applyOp (e : EP) (op : Op) : KeepsB e (applyOp e op).1 := .of_path (.applyOp e op)
theorem KeepsB.runOps (e : EP) (ops : List Op) : KeepsB e (runOps e ops) := let ⟨_, p⟩ := Path.runOps e ops; .of_path p

/-- In every state an endpoint reaches — any sequence of application calls and deliveries, any
    peer — the bounds hold. -/
theorem reachable_bnd (o : Opts) (ops : List Op) : Bnd o (runOps { opts := o } ops) :=
  KeepsB.runOps _ ops o ⟨rfl, by intro i ob h; simp at h, Nat.zero_le _, Nat.zero_le _, Nat.zero_le _, rfl⟩

end Penguin.Mux
