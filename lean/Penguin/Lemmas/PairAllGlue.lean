/-
From the endpoint model to the pair of views: a stimulus of the endpoint model (`applyOp`) is a sequence
of small steps of the view (`star_call`, `star_deliver`), a delivery first appends to the inbox (`view_deliver_*`).
`Lemmas/PairAllMain.lean` puts these under the invariant of the pair of views, `Lemmas/PairAllRun.lean` along every run.
Core Lean only.
-/
import Penguin.Lemmas.PairAllAbs
import Penguin.Lemmas.PairAllSimTask
import Penguin.Lemmas.PairAllSimApp

namespace Penguin.PairAll
open Penguin.Mux

variable {x j : Nat}

theorem star_call (e : EP) (op : Mux.Op) (hc : isCall op = true) (hsf : SF e) (hj : J x j (applyOp e op).1) :
    Star x j (view x j e e.inbox) (view x j (applyOp e op).1 (applyOp e op).1.inbox) (wireMsgs (applyOp e op).2.2)
      (Log.dataOf (settleLog (opStep e op).1) j)
      (xlOfWrote x (wroteBy e op (applyOp e op).2.1) ++ finsOf x j (applyOpEnds e op)) := by
  rw [applyOp_fst] at hj
  rw [applyOp_fst, applyOp_evs, applyOp_res]
  have s1 : SimX x j e.inbox e e.inbox (opStep e op).1 (opStep e op).2.2 [] _ := SimX.opStep e op hc
  have s2 := SimX.settle (x := x) (j := j) (opStep e op).1 (SF.grow (Grow.opStep e op) hsf) hj
  rw [opStep_call_inbox e op hc] at s2
  exact (s1.trans s2).log (List.nil_append _).symm

theorem star_deliver (e : EP) (w : WsIn) (hsf : SF e) (hj : J x j (applyOp e (.deliver w)).1) :
    Star x j (view x j (opStep e (.deliver w)).1 (opStep e (.deliver w)).1.inbox)
      (view x j (applyOp e (.deliver w)).1 (applyOp e (.deliver w)).1.inbox) (wireMsgs (applyOp e (.deliver w)).2.2)
      (Log.dataOf (settleLog (opStep e (.deliver w)).1) j)
      (xlOfWrote x (wroteBy e (.deliver w) (applyOp e (.deliver w)).2.1) ++ finsOf x j (applyOpEnds e (.deliver w))) := by
  rw [applyOp_fst] at hj
  rw [applyOp_fst, applyOp_evs, opStep_deliver_evs, List.nil_append]
  exact SimX.settle (x := x) (j := j) (opStep e (.deliver w)).1 (SF.grow (Grow.opStep e _) hsf) hj

theorem any_isEnd (l : List WsIn) : l.any (fun x => x == .eof || x == .err) = l.any isEnd := by
  congr 1
  funext w
  cases w <;> simp [isEnd]

theorem deaf_view (e : EP) : deaf (view x j e e.inbox) = (e.srcEnded || e.inbox.any (fun x => x == .eof || x == .err)) := by
  simp [deaf, view, any_isEnd]

theorem view_deliver_msg (e : EP) (m : Msg) (hm : m ≠ .close) :
    view x j (opStep e (.deliver (.msg m))).1 (opStep e (.deliver (.msg m))).1.inbox =
      { view x j e e.inbox with
        inbox := if deaf (view x j e e.inbox) then (view x j e e.inbox).inbox else (view x j e e.inbox).inbox ++ [.msg m] } := by
  rw [deaf_view]
  simp only [Mux.opStep]
  split
  · rename_i h; simp [view, canAcc, bindHeld]
  · rename_i h
    cases m with
    | close => exact absurd rfl hm
    | frame f => simp [view, canAcc, bindHeld]
    | ping => simp [view, canAcc, bindHeld]
    | pong => simp [view, canAcc, bindHeld]

/-- A delivered Close: the source ends after it. -/
theorem view_deliver_close (e : EP) :
    view x j (opStep e (.deliver (.msg .close))).1 (opStep e (.deliver (.msg .close))).1.inbox =
      { view x j e e.inbox with
        inbox := if deaf (view x j e e.inbox) then (view x j e e.inbox).inbox
                 else (view x j e e.inbox).inbox ++ [.msg .close, .eof] } := by
  rw [deaf_view]
  simp only [Mux.opStep]
  split
  · rename_i h; simp [view, canAcc, bindHeld]
  · rename_i h; simp [view, canAcc, bindHeld]

theorem view_deliver_end (e : EP) (w : WsIn) (hw : w = .eof ∨ w = .err) :
    view x j (opStep e (.deliver w)).1 (opStep e (.deliver w)).1.inbox =
      { view x j e e.inbox with
        inbox := if deaf (view x j e e.inbox) then (view x j e e.inbox).inbox else (view x j e e.inbox).inbox ++ [w] } := by
  rw [deaf_view]
  simp only [Mux.opStep]
  split
  · rename_i h; simp [view, canAcc, bindHeld]
  · rename_i h
    rcases hw with rfl | rfl <;> simp [view, canAcc, bindHeld]

end Penguin.PairAll
