/-
Bind traffic in the pair model: the flow id of a bind request never meets a stream.

`Binds p` (`Lemmas/PairInv.lean`): every flow id that is *marked* — a `Bind` frame carrying it is in
transit, or an endpoint remembers it as a bind request of its peer (parked hand-over, bind queue,
requests handed to the application) — is *bound* (`BoundAt`): it has left both scripts, no `Connect`
carries it, no stream object carries it, neither endpoint has a stream slot for it.  `BoundAt` is stable
under every action, and a step marks no new id except the one `request_bind` draws: hence every action
preserves `Binds`.  A bound id is in the phase *dead* and is never recorded as linked, so the bind calls
and a `Bind` frame preserve the stream part of the invariant.
-/
import Penguin.Lemmas.PairBindEff
import Penguin.Lemmas.PairRun

namespace Penguin.Pair
open Penguin.Mux

/-! ### A bound id is dead and never linked -/

theorem BoundAt.dead {x : Nat} {p : PS} (hb : BoundAt x p) :
    Dead x (ev x p.a p.ga) (ev x p.b p.gb) (fl x (pathAB p)) (fl x (pathBA p)) :=
  ⟨hb.ra, hb.rb, hb.nab, hb.nba, by
    rcases hb.gone with g | g
    · exact Or.inl g
    · exact Or.inr (Or.inl g)⟩

theorem BoundAt.not_linked {x : Nat} {p : PS} (hb : BoundAt x p) :
    ¬ Linked x (ev x p.a p.ga) (ev x p.b p.gb) (fl x (pathAB p)) (fl x (pathBA p)) := by
  intro r
  obtain ⟨⟨i, o, ho⟩, _⟩ := r.has_objs
  obtain ⟨h1, h2⟩ := objView_some ho
  exact hb.oa i o h1 h2

theorem BoundAt.noStreamSlotA {x : Nat} {p : PS} (hb : BoundAt x p) : NoStreamSlot p.a x := hb.sa

theorem Inv.marked_bound {x : Nat} {p : PS} (h : Inv p) (hm : Marked x p) : BoundAt x p ∧ x ∉ p.linked :=
  ⟨h.binds x hm, fun hx => (h.binds x hm).not_linked (h.live x hx)⟩

/-! ### Stability -/

/-- Once bound, bound after any step of `a` that creates no stream object for the id, leaves its slot
    alone or removes it, takes script entries away only and emits `Connect` only for script entries. -/
theorem BoundAt.step {x : Nat} {p : PS} {e' : EP} {g' : Ghost} {ba' : List Msg} {lk' : List Nat} (hb : BoundAt x p)
    (hrng : ∀ z, z ∈ e'.rng → z ∈ p.a.rng)
    (hout : ∃ em, e'.outq = p.a.outq ++ em ∧ ∀ m ∈ em, ∀ y, Msg.flow? m = some y → m.isConnect = true → y ∈ p.a.rng)
    (hba : ∀ m, m ∈ fl x (ba' ++ p.b.outq) → m ∈ fl x (pathBA p))
    (hobj : ∀ (k : Nat) (o : Obj), e'.objs[k]? = some o → o.fid = x → ∃ (k' : Nat) (o' : Obj), p.a.objs[k']? = some o' ∧ o'.fid = x)
    (hslot : lookup e'.flows x = lookup p.a.flows x ∨ lookup e'.flows x = none) :
    BoundAt x { p with a := e', ga := g', ba := ba', linked := lk' } := by
  refine ⟨fun hh => hb.ra (hrng x hh), hb.rb, noConnect_out (p := p) hout hb.ra hb.nab, ?_, ?_, hb.ob, ?_, hb.sb, ?_⟩
  · show noConnect (fl x (ba' ++ p.b.outq))
    intro m hmm
    exact hb.nba m (hba m hmm)
  · intro k o ho hf
    obtain ⟨k', o', ho', hf'⟩ := hobj k o ho hf
    exact hb.oa k' o' ho' hf'
  · show lookup e'.flows x = none ∨ ∃ r, lookup e'.flows x = some (.bindRequested r)
    rcases hslot with h | h
    · rw [h]; exact hb.sa
    · exact Or.inl h
  · show lookup e'.flows x = none ∨ lookup p.b.flows x = none
    rcases hslot with h | h
    · rw [h]; exact hb.gone
    · exact Or.inl h

theorem BoundAt.of_eff {x : Nat} {p : PS} {Y : Nat → Prop} {e' : EP} {g' : Ghost} {ba' : List Msg} {lk' : List Nat}
    (hb : BoundAt x p) (s : Eff Y p.a e') (hx : ¬ Y x)
    (hba : ∀ m, m ∈ fl x (ba' ++ p.b.outq) → m ∈ fl x (pathBA p)) :
    BoundAt x { p with a := e', ga := g', ba := ba', linked := lk' } := by
  refine hb.step (fun z hz => s.rngSub.subset hz) (eff_hout s) hba ?_ (Or.inl (s.flows x hx))
  intro k o ho hf
  rcases Nat.lt_or_ge k p.a.objs.length with h1 | h1
  · have h0 : p.a.objs[k]? = some p.a.objs[k] := by simp [h1]
    obtain ⟨o2, h2, f2⟩ := s.fid k _ h0
    rw [ho] at h2; cases h2
    exact ⟨k, _, h0, by rw [← f2]; exact hf⟩
  · exact absurd (hf ▸ s.fresh k o h1 ho) hx

theorem suffix_mem {p : PS} {ba' : List Msg} (hba : ba' = p.ba ∨ ∃ m, p.ba = m :: ba') (x : Nat) (m : Msg)
    (hm : m ∈ fl x (ba' ++ p.b.outq)) : m ∈ fl x (pathBA p) := by
  rcases hba with h | ⟨m0, h⟩
  · rw [h] at hm; exact hm
  · unfold pathBA
    rw [h, List.cons_append, fl_cons]
    split
    · exact List.mem_cons_of_mem _ hm
    · exact hm

/-! ### Marking -/

theorem marked_of_bsame {p : PS} {N : Nat → Prop} {e' : EP} {g' : Ghost} {ba' : List Msg} {lk' : List Nat}
    (bs : BSame N p.a e') (hba : ba' = p.ba ∨ ∃ m, p.ba = m :: ba') {x : Nat}
    (hm : Marked x { p with a := e', ga := g', ba := ba', linked := lk' }) : Marked x p ∨ N x := by
  rcases hm with hm | hm | hm | hm
  · obtain ⟨m, hmem, hb⟩ := hm
    obtain ⟨em, he, hem⟩ := bs.outq
    have hmem' : m ∈ fl x (p.ab ++ e'.outq) := hmem
    rw [he, ← List.append_assoc, fl_append] at hmem'
    rcases List.mem_append.mp hmem' with h1 | h1
    · exact Or.inl (Or.inl ⟨m, h1, hb⟩)
    · obtain ⟨y, hy, hn⟩ := hem m (mem_fl h1).1 hb
      rw [(mem_fl h1).2] at hy; cases hy
      exact Or.inr hn
  · obtain ⟨m, hmem, hb⟩ := hm
    exact Or.inl (Or.inr (Or.inl ⟨m, suffix_mem hba x m hmem, hb⟩))
  · rcases bs.ids x hm with h | h
    · exact Or.inl (Or.inr (Or.inr (Or.inl h)))
    · exact Or.inr h
  · exact Or.inl (Or.inr (Or.inr (Or.inr hm)))

/-- What a step must leave alone on an id of its footprint that is bound. -/
def KeepsBound (p : PS) (e' : EP) (x : Nat) : Prop :=
  (∀ (k : Nat) (o : Obj), e'.objs[k]? = some o → o.fid = x → ∃ (k' : Nat) (o' : Obj), p.a.objs[k']? = some o' ∧ o'.fid = x) ∧
  (lookup e'.flows x = lookup p.a.flows x ∨ lookup e'.flows x = none)

theorem KeepsBound.of_eq {p : PS} {e' : EP} {x : Nat} (ho : e'.objs = p.a.objs)
    (hs : lookup e'.flows x = lookup p.a.flows x ∨ lookup e'.flows x = none) : KeepsBound p e' x :=
  ⟨fun k o h hf => ⟨k, o, by rw [← ho]; exact h, hf⟩, hs⟩

/-- The generic step: a footprint, a bind footprint, the bound ids of the footprint are left alone,
    the newly marked ids are bound afterwards. -/
theorem binds_step {p : PS} (hb : Binds p) {Y N : Nat → Prop} {e' : EP} {g' : Ghost} {ba' : List Msg}
    {lk' : List Nat} (s : Eff Y p.a e') (bs : BSame N p.a e') (hba : ba' = p.ba ∨ ∃ m, p.ba = m :: ba')
    (hY : ∀ x, Y x → BoundAt x p → KeepsBound p e' x)
    (hN : ∀ x, N x → Marked x p ∨ BoundAt x { p with a := e', ga := g', ba := ba', linked := lk' }) :
    Binds { p with a := e', ga := g', ba := ba', linked := lk' } := by
  intro x hm
  have stable : BoundAt x p → BoundAt x { p with a := e', ga := g', ba := ba', linked := lk' } := by
    intro b
    by_cases hx : Y x
    · obtain ⟨h1, h2⟩ := hY x hx b
      exact b.step (fun z hz => s.rngSub.subset hz) (eff_hout s) (suffix_mem hba x) h1 h2
    · exact b.of_eff s hx (suffix_mem hba x)
  rcases marked_of_bsame bs hba hm with h | h
  · exact stable (hb x h)
  · rcases hN x h with h1 | h1
    · exact stable (hb x h1)
    · exact h1

theorem binds_silent {p : PS} (hb : Binds p) {e' : EP} {g' : Ghost}
    (s : Eff (fun _ => False) p.a e') (bs : BSame (fun _ => False) p.a e') :
    Binds { p with a := e', ga := g' } :=
  binds_step (ba' := p.ba) (lk' := p.linked) hb s bs (Or.inl rfl) (fun _ h => absurd h id) (fun _ h => absurd h id)

/-! ### The actions of the stream fragment -/

theorem binds_xmit {p : PS} (hb : Binds p) (m : Msg) (rest : List Msg) (hq : p.a.outq = m :: rest) :
    Binds { p with a := { p.a with outq := rest }, ab := p.ab ++ [m] } := by
  have hp : ∀ x, fl x ((p.ab ++ [m]) ++ rest) = fl x (pathAB p) := by
    intro x; unfold pathAB; rw [hq]; simp
  intro x hm
  have hm' : Marked x p := by
    rcases hm with h | h | h | h
    · left
      have h' : hasBind (fl x ((p.ab ++ [m]) ++ rest)) := h
      rw [hp] at h'; exact h'
    · exact Or.inr (Or.inl h)
    · exact Or.inr (Or.inr (Or.inl h))
    · exact Or.inr (Or.inr (Or.inr h))
  have b := hb x hm'
  refine ⟨b.ra, b.rb, ?_, b.nba, b.oa, b.ob, b.sa, b.sb, b.gone⟩
  show noConnect (fl x ((p.ab ++ [m]) ++ rest))
  rw [hp]; exact b.nab

theorem not_bound_of_inRng {x : Nat} {p : PS} (hx : x ∈ p.a.rng) : ¬ BoundAt x p := fun b => b.ra hx

theorem binds_openRound {p : PS} (hc : InvCore p) (hb : Binds p) (r : OpenReq) (hne : (openRound p.a r).1.rng ≠ []) :
    Binds { p with a := (openRound p.a r).1 } := by
  cases hq : p.a.rng with
  | nil => exact absurd (openRound_rng_nil p.a r hq) hne
  | cons y rest =>
    obtain ⟨hfr, h0, _⟩ := script_head hc hq
    have s := openRound_eff p.a r y rest hq h0 hfr.sa hc.runA.outClosed
    refine binds_step (g' := p.ga) (ba' := p.ba) (lk' := p.linked) (N := fun _ => False) hb s (BSame.openRound _ _ _)
      (Or.inl rfl) ?_ (fun _ h => absurd h id)
    intro x hx b
    subst hx
    exact absurd b (not_bound_of_inRng (by rw [hq]; simp))

/-- A call on a stream handle: the stream's id is not bound (it has an object), so nothing is to show;
    a handle that refers to nothing changes nothing. -/
theorem keeps_of_handle {p : PS} {e' : EP} (h : Nat) (hnone : p.a.handleObj h = none → e' = p.a) :
    ∀ x, x = hfid p.a h → BoundAt x p → KeepsBound p e' x := by
  intro x hx b
  cases hh : p.a.handleObj h with
  | none => rw [hnone hh]; exact KeepsBound.of_eq rfl (Or.inl rfl)
  | some io =>
    obtain ⟨i, o⟩ := io
    have ho := handleObj_some hh
    have : o.fid = x := by rw [hx, hfid_of hh]
    exact absurd this (b.oa i o ho)

theorem binds_write {p : PS} (hc : InvCore p) (hb : Binds p) (hd : Nat) (d : Bytes) (g' : Ghost) :
    Binds { p with a := (appWrite p.a hd d).1, ga := g' } :=
  binds_step (ba' := p.ba) (lk' := p.linked) (N := fun _ => False) hb (appWrite_eff p.a hd d hc.runA.outClosed) (BSame.appWrite _ _ _ _)
    (Or.inl rfl) (keeps_of_handle hd fun hh => by rw [appWrite_none p.a hd d hh]) (fun _ h => absurd h id)

theorem binds_read {p : PS} (hc : InvCore p) (hb : Binds p) (hd n : Nat) (g' : Ghost) :
    Binds { p with a := (appRead p.a hd n).1, ga := g' } :=
  binds_step (ba' := p.ba) (lk' := p.linked) (N := fun _ => False) hb (appRead_eff p.a hd n hc.runA.outClosed) (BSame.appRead _ _ _ _)
    (Or.inl rfl) (keeps_of_handle hd fun hh => by rw [appRead_none p.a hd n hh]) (fun _ h => absurd h id)

theorem binds_shutdown {p : PS} (hc : InvCore p) (hb : Binds p) (hd : Nat) :
    Binds { p with a := (appShutdown p.a hd).1 } :=
  binds_step (g' := p.ga) (ba' := p.ba) (lk' := p.linked) (N := fun _ => False) hb (appShutdown_eff p.a hd hc.runA.outClosed)
    (BSame.appShutdown _ _ _) (Or.inl rfl) (keeps_of_handle hd fun hh => by rw [appShutdown_none p.a hd hh]) (fun _ h => absurd h id)

theorem binds_dropStream {p : PS} (hc : InvCore p) (hb : Binds p) (hd : Nat) (g' : Ghost) :
    Binds { p with a := (appDropStream p.a hd).1, ga := g' } :=
  binds_step (ba' := p.ba) (lk' := p.linked) (N := fun _ => False) hb (appDropStream_eff p.a hd hc.runA.dead)
    (BSame.appDropStream _ _ _) (Or.inl rfl) (keeps_of_handle hd fun hh => by rw [appDropStream_none p.a hd hh]) (fun _ h => absurd h id)

theorem binds_notif {p : PS} (hc : InvCore p) (hb : Binds p) (fid : Nat) (rest : List Nat) (hq : p.a.droppedq = fid :: rest) :
    Binds { p with a := (closeFlow { p.a with droppedq := rest } fid false).1 } := by
  have s1 : Eff (· = fid) p.a { p.a with droppedq := rest } := Eff.dqPop p.a fid rest hq rfl
  have s := s1.trans (closeFlow_eff _ fid false (s1.slotFid hc.sfA))
  have bs : BSame (fun _ => False) p.a (closeFlow { p.a with droppedq := rest } fid false).1 :=
    (BSame.silent rfl rfl rfl rfl : BSame _ p.a { p.a with droppedq := rest }).trans (BSame.closeFlow _ _ _ _)
  refine binds_step (g' := p.ga) (ba' := p.ba) (lk' := p.linked) hb s bs (Or.inl rfl) ?_ (fun _ h => absurd h id)
  intro x hx b
  subst hx
  exact KeepsBound.of_eq (closeFlow_bound { p.a with droppedq := rest } x false b.sa) (Or.inr (closeFlow_slot_none _ _ _))

/-- The receive loop processes one frame (any frame). -/
theorem binds_recv {p : PS} (hc : InvCore p) (hb : Binds p) (f : Frame) (rest : List Msg) (hba : p.ba = .frame f :: rest)
    (lk' : List Nat) :
    Binds { p with a := (processFrame p.a f false).1, ba := rest, linked := lk' } := by
  have s := processFrame_eff p.a f false hc.sfA
  refine binds_step (g' := p.ga) hb s (BSame.processFrame p.a f false) (Or.inr ⟨_, hba⟩) ?_ ?_
  · intro x hx b
    subst hx
    have hnc : ∀ a b c d, f ≠ .connect a b c d := by
      intro a1 b1 c1 d1 hf
      subst hf
      have : (Msg.frame (Frame.connect a1 b1 c1 d1)).isConnect = false := by
        apply b.nba
        exact (fl_pathBA_cons (x := a1) hba rfl).symm ▸ List.mem_cons_self
      cases this
    obtain ⟨h1, h2⟩ := processFrame_bound p.a f false b.sa hnc
    exact KeepsBound.of_eq h1 h2
  · -- the id of a `Bind` frame was marked while the frame was in transit
    intro x hx
    obtain ⟨bt, port, host, hf⟩ := hx
    left; right; left
    refine ⟨.frame f, ?_, by rw [hf]; rfl⟩
    rw [fl_pathBA_cons (x := x) hba (by rw [hf]; rfl)]
    exact List.mem_cons_self

/-! ### The bind calls -/

theorem binds_bindNext {p : PS} (hb : Binds p) : Binds { p with a := (appBindNext p.a).1 } :=
  binds_silent (g' := p.ga) hb (appBindNext_eff _ _) (BSame.appBindNext _ _)

theorem binds_bindReply {p : PS} (hb : Binds p) (k : Nat) (acc : Bool) :
    Binds { p with a := (appBindReply p.a k acc).1 } :=
  binds_step (g' := p.ga) (ba' := p.ba) (lk' := p.linked) (N := fun _ => False) hb (appBindReply_eff p.a k acc)
    (BSame.appBindReply _ _ _ _) (Or.inl rfl)
    (fun x _ _ => KeepsBound.of_eq (appBindReply_same p.a k acc).2 (Or.inl (by rw [(appBindReply_same p.a k acc).1])))
    (fun _ h => absurd h id)

theorem binds_bindDrop {p : PS} (hb : Binds p) (k : Nat) :
    Binds { p with a := (appBindDrop p.a k).1 } :=
  binds_step (g' := p.ga) (ba' := p.ba) (lk' := p.linked) (N := fun _ => False) hb (appBindDrop_eff p.a k)
    (BSame.appBindDrop _ _ _) (Or.inl rfl)
    (fun x _ _ => KeepsBound.of_eq (appBindDrop_same p.a k).2 (Or.inl (by rw [(appBindDrop_same p.a k).1])))
    (fun _ h => absurd h id)

/-! ### The stream part of the invariant under the bind calls -/

/-- A step of `a` that concerns only a bound id `z`, consumes nothing (or a message of `z` that is
    not a `Reset`) and gives `z` no slot: the stream part of the invariant is preserved — `z` stays
    dead, every other flow is not concerned. -/
theorem core_of_bound {p : PS} (h : InvCore p) {z : Nat} (hb : BoundAt z p) {e' : EP} {ba' hd : List Msg}
    (s : Eff (· = z) p.a e')
    (hba : ba' = p.ba ∨ ∃ m, p.ba = m :: ba' ∧ ∀ y, Msg.flow? m = some y → y = z)
    (hhd : fl z (pathBA p) = hd ++ fl z (ba' ++ p.b.outq)) (hnr : noReset hd)
    (hslot : lookup p.a.flows z = none → lookup e'.flows z = none) :
    InvCore { p with a := e', ba := ba' } := by
  have hgf : GhostFresh e' p.ga := fun k hk => h.ghA k (Nat.le_trans s.len hk)
  refine inv_of_eff (g' := p.ga) (ba' := ba') (lk' := p.linked) h s hba (fun x _ => GhostAgree.refl x _ _) hgf
    (fun _ _ hh => hh) ?_
  intro x hx
  subst hx
  exact ⟨dead_step (hd := hd) hb.dead s hhd hslot (fun hh => absurd hnr hh),
    fun hxl => absurd (h.live x hxl) hb.not_linked⟩

theorem core_of_bound_call {p : PS} (h : InvCore p) {z : Nat} (hb : BoundAt z p) {e' : EP}
    (s : Eff (· = z) p.a e') (hslot : lookup p.a.flows z = none → lookup e'.flows z = none) :
    InvCore { p with a := e' } :=
  core_of_bound (ba' := p.ba) (hd := []) h hb s (Or.inl rfl) rfl noReset_nil hslot

theorem bound_of_held {p : PS} (hb : Binds p) {k : Nat} {b : BindIn} (hk : p.a.held[k]? = some b) : BoundAt b.fid p := by
  apply hb
  right; right; left
  rw [mem_bindIds]
  exact Or.inr (Or.inl ⟨b, List.mem_of_getElem? hk, rfl⟩)

theorem core_bindNext {p : PS} (h : InvCore p) : InvCore { p with a := (appBindNext p.a).1 } :=
  inv_of_silent h (appBindNext_eff _ _)

theorem core_bindReply {p : PS} (h : InvCore p) (hb : Binds p) (k : Nat) (acc : Bool) :
    InvCore { p with a := (appBindReply p.a k acc).1 } := by
  cases hk : p.a.held[k]? with
  | none =>
    have : (appBindReply p.a k acc).1 = p.a := by unfold appBindReply; rw [hk]
    rw [this]; exact h
  | some b =>
    have s := appBindReply_eff p.a k acc
    have hz : heldFid p.a k = b.fid := by unfold heldFid; rw [hk]
    rw [hz] at s
    exact core_of_bound_call h (bound_of_held hb hk) s (fun hn => by rw [(appBindReply_same p.a k acc).1]; exact hn)

theorem core_bindDrop {p : PS} (h : InvCore p) (hb : Binds p) (k : Nat) :
    InvCore { p with a := (appBindDrop p.a k).1 } := by
  cases hk : p.a.held[k]? with
  | none =>
    have : (appBindDrop p.a k).1 = p.a := by unfold appBindDrop; rw [hk]
    rw [this]; exact h
  | some b =>
    have s := appBindDrop_eff p.a k
    have hz : heldFid p.a k = b.fid := by unfold heldFid; rw [hk]
    rw [hz] at s
    exact core_of_bound_call h (bound_of_held hb hk) s (fun hn => by rw [(appBindDrop_same p.a k).1]; exact hn)

/-- The receive loop processes a `Bind` frame. -/
theorem core_recvBind {p : PS} (h : InvCore p) (hb : Binds p) (x : Nat) (bt : BindType) (port : Nat) (host : Bytes)
    (rest : List Msg) (hba : p.ba = .frame (.bind x bt port host) :: rest) :
    InvCore { p with a := (processFrame p.a (.bind x bt port host) false).1, ba := rest } := by
  have hhead : fl x (pathBA p) = [.frame (.bind x bt port host)] ++ fl x (rest ++ p.b.outq) := fl_pathBA_cons hba rfl
  have b : BoundAt x p := by
    apply hb
    right; left
    exact ⟨.frame (.bind x bt port host), by rw [hhead]; simp, rfl⟩
  have s := processFrame_eff p.a (.bind x bt port host) false h.sfA
  refine core_of_bound (hd := [.frame (.bind x bt port host)]) h b s
    (Or.inr ⟨_, hba, fun y hy => by simp [Msg.flow?, Frame.id] at hy; exact hy.symm⟩) hhead ?_ ?_
  · intro m hm y he
    simp only [List.mem_singleton] at hm
    rw [hm] at he; cases he
  · intro hn
    have h2 := (processFrame_bound p.a (.bind x bt port host) false (Or.inl hn) (by intro a b c d hf; cases hf)).2
    simp only [Frame.id] at h2
    rcases h2 with h2 | h2
    · rw [h2]; exact hn
    · exact h2

/-- `request_bind` is called: the drawn id goes from fresh to dead, and is bound from now on. -/
theorem core_bindReq {p : PS} (h : InvCore p) (req : Nat) (bt : BindType) (host : Bytes) (port : Nat)
    (hne : (appBindReq p.a req bt host port).1.rng ≠ []) :
    InvCore { p with a := (appBindReq p.a req bt host port).1 } ∧
    ∀ y, drawn p.a y → BoundAt y { p with a := (appBindReq p.a req bt host port).1 } := by
  cases hq : p.a.rng with
  | nil => exact absurd (appBindReq_rng_nil p.a req bt host port hq) hne
  | cons y rest =>
    obtain ⟨hfr, h0, hxr⟩ := script_head h hq
    have hfree : lookup p.a.flows y = none := hfr.sa
    have s := appBindReq_eff p.a req bt host port y rest hq h0 hfree h.runA.outClosed
    have hspec := appBindReq_spec p.a req bt host port y rest hq h0 hfree h.runA.outClosed
    have hb : BoundAt y { p with a := (appBindReq p.a req bt host port).1 } := by
      rw [hspec]
      have hpath : fl y (p.ab ++ (({ p.a with rng := rest, flows := insert p.a.flows y (.bindRequested req) } : EP).enqFrame
          (.bind y bt port host)).outq) = [.frame (.bind y bt port host)] := by
        simp only [EP.enqFrame, enq_outq, h.runA.outClosed, Bool.false_eq_true, if_false]
        have hf : fl y (p.ab ++ p.a.outq) = [] := hfr.fab
        rw [← List.append_assoc, fl_append, hf]
        simp [fl, isFl, Msg.flow?, Frame.id]
      refine ⟨?_, hxr.2, ?_, ?_, ?_, ?_, ?_, Or.inl hfr.sb, Or.inr hfr.sb⟩
      · show ¬ y ∈ (EP.enqFrame _ _).rng
        simp [EP.enqFrame]; exact hxr.1
      · show noConnect (fl y (p.ab ++ (EP.enqFrame _ _).outq))
        rw [hpath]
        intro m hm
        simp only [List.mem_singleton] at hm
        rw [hm]; rfl
      · show noConnect (fl y (pathBA p))
        have : fl y (pathBA p) = [] := hfr.fba
        rw [this]; intro m hm; cases hm
      · intro k o ho hf
        have ho' : p.a.objs[k]? = some o := by simpa [EP.enqFrame] using ho
        have := hfr.oa k
        have hv : objView y p.a k = some o := objView_self ho' hf
        have hv' : (ev y p.a p.ga).objs k = some o := hv
        rw [this] at hv'; cases hv'
      · intro k o ho hf
        have := hfr.ob k
        have hv : (ev y p.b p.gb).objs k = some o := objView_self ho hf
        rw [this] at hv; cases hv
      · right
        exact ⟨req, by show lookup (EP.enqFrame _ _).flows y = _; simp [EP.enqFrame, lookup_insert_self]⟩
    refine ⟨?_, ?_⟩
    · have hgf : GhostFresh (appBindReq p.a req bt host port).1 p.ga := fun k hk => h.ghA k (Nat.le_trans s.len hk)
      refine inv_of_eff (g' := p.ga) (ba' := p.ba) (lk' := p.linked) h s (Or.inl rfl) (fun x _ => GhostAgree.refl x _ _) hgf
        (fun _ _ hh => hh) ?_
      intro x hx
      subst hx
      exact ⟨Or.inr (Or.inr (Or.inr (Or.inr (Or.inr (Or.inr hb.dead))))),
        fun hxl => absurd (show x ∈ p.a.rng by rw [hq]; simp) (h.live x hxl).ra⟩
    · intro y' hy'
      obtain ⟨r, fb, hd⟩ := hy'
      rw [hq, drawId_head _ _ _ _ _ h0 hfree] at hd
      simp only [Option.some.injEq, Prod.mk.injEq] at hd
      rw [← hd.1]; exact hb

theorem binds_bindReq {p : PS} (hc : InvCore p) (hb : Binds p) (req : Nat) (bt : BindType) (host : Bytes) (port : Nat)
    (hne : (appBindReq p.a req bt host port).1.rng ≠ []) :
    Binds { p with a := (appBindReq p.a req bt host port).1 } := by
  cases hq : p.a.rng with
  | nil => exact absurd (appBindReq_rng_nil p.a req bt host port hq) hne
  | cons y rest =>
    obtain ⟨hfr, h0, _⟩ := script_head hc hq
    have s := appBindReq_eff p.a req bt host port y rest hq h0 hfr.sa hc.runA.outClosed
    refine binds_step (g' := p.ga) (ba' := p.ba) (lk' := p.linked) hb s (BSame.appBindReq p.a req bt host port)
      (Or.inl rfl) ?_ (fun x hx => Or.inr ((core_bindReq hc req bt host port hne).2 x hx))
    intro x hx b
    subst hx
    exact absurd b (not_bound_of_inRng (by rw [hq]; simp))

/-! ### The footprint of bind traffic on the streams

A bind call, or a `Bind` frame processed by the receive loop, leaves every stream object, every handle,
every stream slot (`Requested`, `Established`) and everything the applications have observed on their
streams exactly as they were — in every state, reachable or not. -/

def StreamSlot : Slot → Prop
  | .bindRequested _ => False
  | _ => True

structure EpStreamsSame (e e' : EP) : Prop where
  objs : e'.objs = e.objs
  handles : e'.handles = e.handles
  acceptq : e'.acceptq = e.acceptq
  opens : e'.opens = e.opens
  droppedq : e'.droppedq = e.droppedq
  slots : ∀ x sl, StreamSlot sl → (lookup e'.flows x = some sl ↔ lookup e.flows x = some sl)

theorem EpStreamsSame.of_flows {e e' : EP} (h1 : e'.objs = e.objs) (h2 : e'.handles = e.handles) (h3 : e'.acceptq = e.acceptq)
    (h4 : e'.opens = e.opens) (h5 : e'.droppedq = e.droppedq) (h6 : e'.flows = e.flows) : EpStreamsSame e e' :=
  ⟨h1, h2, h3, h4, h5, fun _ _ _ => by rw [h6]⟩

theorem EpStreamsSame.refl (e : EP) : EpStreamsSame e e := .of_flows rfl rfl rfl rfl rfl rfl

theorem EpStreamsSame.trans {a b c : EP} (s : EpStreamsSame a b) (t : EpStreamsSame b c) : EpStreamsSame a c :=
  ⟨by rw [t.objs, s.objs], by rw [t.handles, s.handles], by rw [t.acceptq, s.acceptq], by rw [t.opens, s.opens],
   by rw [t.droppedq, s.droppedq], fun x sl h => (t.slots x sl h).trans (s.slots x sl h)⟩

/-- The kinds of step that write one of the five fields, or the flow table otherwise than by giving a new bind
    request its slot. -/
def EpStreamsSame.bad : Kinds :=
  Field.objs.writers ∪ Field.handles.writers ∪ Field.acceptq.writers ∪ Field.opens.writers ∪ Field.droppedq.writers ∪
    .of [.erase, .reqSlot, .newStream, .acceptBind, .refuseBind, .dropSlots, .drainBind, .rejectSlot]

theorem EpStreamsSame.of_upd {k : Kind} {e e' : EP} {x : List Ev} (hk : k ∉ EpStreamsSame.bad) (u : Upd k e x e') :
    EpStreamsSame e e' := by
  have fr : ∀ X : Field, X.writers.sub EpStreamsSame.bad = true → X.get e' = X.get e :=
    fun X h => u.frame X fun h' => hk (Kinds.mem_of_sub h h')
  have same : e'.flows = e.flows → EpStreamsSame e e' := fun h =>
    .of_flows (fr .objs (by decide +kernel)) (fr .handles (by decide +kernel)) (fr .acceptq (by decide +kernel))
      (fr .opens (by decide +kernel)) (fr .droppedq (by decide +kernel)) h
  cases u with
  | startBind _ fid req h0 hfree hoc =>
    refine ⟨rfl, rfl, rfl, rfl, rfl, fun y sl hsl => ?_⟩
    by_cases hy : y = fid
    · subst hy
      rw [lookup_insert_self, hfree]
      exact ⟨fun h => by cases h; exact absurd hsl id, nofun⟩
    · rw [lookup_insert_ne _ _ _ _ hy]
  | erase | reqSlot | newStream | acceptBind | refuseBind | dropSlots | drainBind | rejectSlot => exact absurd (by decide +kernel) hk
  | enq _ _ m => exact same (enq_flows e m)
  | send => exact same ((Upd.send e).frame .flows (by decide +kernel))
  | queue q => exact same (q.frame .flows)
  | ctl c => exact same (c.frame .flows)
  | req r => exact same (r.frame .flows)
  | _ => exact same rfl

theorem EpStreamsSame.of_path {A : Kinds} {e e' : EP} {x : List Ev} (p : Path A e x e')
    (hA : A.disj EpStreamsSame.bad = true := by decide +kernel) : EpStreamsSame e e' :=
  p.rel0 EpStreamsSame.refl EpStreamsSame.trans fun hk u => .of_upd (Kinds.not_mem_of_disj hA hk) u

theorem EpStreamsSame.appBindReq (e : EP) (req : Nat) (bt : BindType) (host : Bytes) (port : Nat) :
    EpStreamsSame e (appBindReq e req bt host port).1 := .of_path (.appBindReq e req bt host port)

theorem EpStreamsSame.appBindNext (e : EP) : EpStreamsSame e (appBindNext e).1 := .of_path (.appBindNext e)

theorem EpStreamsSame.appBindReply (e : EP) (k : Nat) (acc : Bool) : EpStreamsSame e (appBindReply e k acc).1 :=
  .of_path (.appBindReply e k acc)

theorem EpStreamsSame.appBindDrop (e : EP) (k : Nat) : EpStreamsSame e (appBindDrop e k).1 := .of_path (.appBindDrop e k)

theorem EpStreamsSame.processBind (e : EP) (x : Nat) (bt : BindType) (port : Nat) (host : Bytes) (ig : Bool) :
    EpStreamsSame e (processFrame e (.bind x bt port host) ig).1 :=
  .of_path (.processFrameOf e (.bind x bt port host) ig) (by dsimp only [K.processFrameOf]; decide +kernel)

/-- The stream side of the pair is unchanged: both endpoints' stream objects, handles, stream slots,
    accept queues, pending open requests and notifications; everything the applications observed; the
    record of established flows. -/
structure StreamsSame (p p' : PS) : Prop where
  a : EpStreamsSame p.a p'.a
  b : EpStreamsSame p.b p'.b
  ga : p'.ga = p.ga
  gb : p'.gb = p.gb
  linked : p'.linked = p.linked

def Act.isBindCall : Act → Bool
  | .bindReq .. | .bindNext | .bindReply .. | .bindDrop .. => true
  | _ => false

theorem stepL_bindCall_same {p p' : PS} (a : Act) (ha : a.isBindCall = true) (hs : stepL p a = some p') :
    StreamsSame p p' := by
  cases stepL_shape hs with
  | bindReq => exact ⟨EpStreamsSame.appBindReq _ _ _ _ _, .refl _, rfl, rfl, rfl⟩
  | bindNext => exact ⟨EpStreamsSame.appBindNext _, .refl _, rfl, rfl, rfl⟩
  | bindReply => exact ⟨EpStreamsSame.appBindReply _ _ _, .refl _, rfl, rfl, rfl⟩
  | bindDrop => exact ⟨EpStreamsSame.appBindDrop _ _, .refl _, rfl, rfl, rfl⟩
  | _ => simp [Act.isBindCall] at ha

theorem stepL_recvBind_same {p p' : PS} (x : Nat) (bt : BindType) (port : Nat) (host : Bytes) (rest : List Msg)
    (hba : p.ba = .frame (.bind x bt port host) :: rest) (hs : stepL p .recv = some p') : StreamsSame p p' := by
  cases stepL_shape hs with
  | recv f rest' e evs hp hba' hpf =>
    obtain ⟨rfl, rfl⟩ : f = .bind x bt port host ∧ rest' = rest := by
      rw [hba] at hba'; cases hba'; exact ⟨rfl, rfl⟩
    have he : e = (processFrame p.a (.bind x bt port host) false).1 := by rw [hpf]
    subst he
    exact ⟨EpStreamsSame.processBind _ _ _ _ _ _, .refl _, rfl, rfl, rfl⟩

def PS.incoming (p : PS) : Side → List Msg
  | .A => p.ba
  | .B => p.ab

theorem StreamsSame.unswap {p q : PS} (h : StreamsSame p.swap q) : StreamsSame p q.swap :=
  ⟨h.b, h.a, h.gb, h.ga, h.linked⟩

end Penguin.Pair
