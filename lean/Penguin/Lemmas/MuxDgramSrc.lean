/-
Where queued datagrams come from: for every history of one endpoint and ANY peer, the datagrams the task
noted while processing frames (queued ones, or all the `Datagram` frames it processed), followed by the
datagrams of the `Datagram` frames still waiting in the inbox, are a SUBSEQUENCE of the datagrams of the
`Datagram` frames the transport delivered, in delivery order — every delivered `Datagram` frame is
processed at most once, never out of order, with its four fields as delivered, and nothing that was not
delivered as a `Datagram` frame is ever queued.  Also: what is queued is a subsequence of what is
processed.
Core Lean only.
-/
import Penguin.Lemmas.MuxDgramHist
import Penguin.Lemmas.MuxIntegritySrc
import Penguin.Lemmas.ListFacts

namespace Penguin.Mux

local infixl:50 " <+ " => List.Sublist

def dgOfIn : WsIn → Option Dgram
  | .msg (.frame f) => dgOfFrame f
  | _ => none

def dgIn (l : List WsIn) : List Dgram := l.filterMap dgOfIn

theorem dgIn_append (a b : List WsIn) : dgIn (a ++ b) = dgIn a ++ dgIn b := by simp [dgIn]

theorem dgIn_cons (w : WsIn) (r : List WsIn) : dgIn (w :: r) = (dgOfIn w).toList ++ dgIn r := by
  unfold dgIn
  rw [List.filterMap_cons]
  cases dgOfIn w <;> rfl

/-- An observation that notes, per frame, at most the frame's own datagram. -/
def DgObs.Own (φ : DgObs) : Prop := ∀ e f, φ e f <+ (dgOfFrame f).toList

theorem seenDg_own : DgObs.Own seenDg := fun _ _ => List.Sublist.refl _

theorem queuedDg_own : DgObs.Own queuedDg := by
  intro e f
  rw [queuedDg_eq]
  split
  · exact List.Sublist.refl _
  · exact List.nil_sublist _

/-- From `e` to `e'`, with log `L`: `L` ++ the datagrams in `e'.inbox` are a subsequence of the datagrams
    in `e.inbox`. -/
def SrcD (e e' : EP) (L : List Dgram) : Prop := L ++ dgIn e'.inbox <+ dgIn e.inbox

theorem SrcD.silent {e e' : EP} (h : e'.inbox = e.inbox) : SrcD e e' [] := by
  unfold SrcD; rw [h]; exact List.Sublist.refl _

theorem Leaf.dg_own {φ : DgObs} (hφ : φ.Own) (x : Leaf) :
    (Leaf.dg φ x).map id <+ ((Leaf.item x).bind dgOfIn).toList := by
  cases x with
  | frame e f => rw [List.map_id]; exact hφ e f
  | _ => exact List.nil_sublist _

theorem SrcD.of_consumed {φ : DgObs} (hφ : φ.Own) {e e' : EP} {L : List Leaf} (h : Consumed e e' L) :
    SrcD e e' (L.flatMap (Leaf.dg φ)) := by
  have := h.sub (Leaf.dg_own hφ)
  rwa [List.map_id] at this

theorem SrcD.windDown (φ : DgObs) (hφ : φ.Own) (e : EP) (drain : Bool) (res : ExitRes) :
    SrcD e (windDown e drain res).1 (windDownLogD φ e drain) :=
  windDownLogD_eq φ e drain res ▸ SrcD.of_consumed hφ (consumed.windDown e drain res)

theorem SrcD.settleLoop (φ : DgObs) (hφ : φ.Own) (fuel : Nat) (e : EP) (acc : List Ev) :
    SrcD e (settleLoop fuel e acc).1 (settleLoopLogD φ fuel e) :=
  let ⟨_, _, h⟩ := consumed.settleLoop fuel e acc; settleLoopLogD_eq φ fuel e ▸ SrcD.of_consumed hφ h

/-- The task's run to quiescence consumes inbox items in order; what it notes is what it consumed. -/
theorem SrcD.settle (φ : DgObs) (hφ : φ.Own) (e : EP) : SrcD e (settle e).1 (settleLogD φ e) :=
  settleLogD_eq φ e ▸ SrcD.of_consumed hφ (consumed.settle e)

/-! ### A delivery appends to the inbox (or is ignored) -/

def deliveredDgBy : Op → List Dgram
  | .deliver w => (dgOfIn w).toList
  | _ => []

/-- The datagrams of the `Datagram` frames the transport delivered along a history, in order. -/
def deliveredDg : List Op → List Dgram
  | [] => []
  | op :: rest => deliveredDgBy op ++ deliveredDg rest

theorem deliveredDg_append (a b : List Op) : deliveredDg (a ++ b) = deliveredDg a ++ deliveredDg b := by
  induction a with
  | nil => rfl
  | cons op r ih => simp [deliveredDg, ih]

theorem opStep_dgIn (e : EP) (op : Op) : dgIn (opStep e op).1.inbox <+ dgIn e.inbox ++ deliveredDgBy op := by
  have : deliveredDgBy op = deliveredOf dgOfIn op := by cases op <;> rfl
  rw [this]; exact opStep_inbox_sub dgOfIn rfl e op

theorem srcD_step (φ : DgObs) (hφ : φ.Own) (e : EP) (op : Op) (acc D : List Dgram) (h : acc ++ dgIn e.inbox <+ D) :
    (acc ++ settleLogD φ (opStep e op).1) ++ dgIn (applyOp e op).1.inbox <+ D ++ deliveredDgBy op := by
  have h2 : SrcD (opStep e op).1 (applyOp e op).1 (settleLogD φ (opStep e op).1) := by
    rw [applyOp_fst]; exact SrcD.settle φ hφ _
  exact sublist_step h h2 (opStep_dgIn e op)

/-- Every history: the queued datagrams (and: all the processed ones), then the datagrams still in the
    inbox, are a subsequence of the delivered datagrams. -/
theorem srcD_run (e : EP) (g : DGhost) (D : List Dgram) (ops : List Op)
    (hq : g.queued ++ dgIn e.inbox <+ D) (hs : g.seen ++ dgIn e.inbox <+ D) :
    (runOpsD e g ops).2.queued ++ dgIn (runOpsD e g ops).1.inbox <+ D ++ deliveredDg ops ∧
    (runOpsD e g ops).2.seen ++ dgIn (runOpsD e g ops).1.inbox <+ D ++ deliveredDg ops := by
  induction ops generalizing e g D with
  | nil => simpa [runOpsD, deliveredDg] using ⟨hq, hs⟩
  | cons op rest ih =>
    simp only [runOpsD, deliveredDg]
    rw [← List.append_assoc]
    dsimp only [stepD]
    exact ih _ _ _ (srcD_step queuedDg queuedDg_own e op _ _ hq) (srcD_step seenDg seenDg_own e op _ _ hs)

/-! ### What is queued is a subsequence of what is processed -/

theorem settleLoopLogD_mono (φ ψ : DgObs) (h : ∀ e f, φ e f <+ ψ e f) (fuel : Nat) (e : EP) :
    settleLoopLogD φ fuel e <+ settleLoopLogD ψ fuel e := by
  rw [settleLoopLogD_eq, settleLoopLogD_eq]
  refine flatMap_sublist (fun x => ?_) _
  cases x with
  | frame e f => exact h e f
  | _ => exact List.Sublist.refl _

theorem queued_sub_seen (e : EP) (g : DGhost) (ops : List Op) (h : g.queued <+ g.seen) :
    (runOpsD e g ops).2.queued <+ (runOpsD e g ops).2.seen :=
  runOpsD_ind (P := fun _ g => g.queued <+ g.seen)
    (fun _ _ _ h => List.Sublist.append h (settleLoopLogD_mono queuedDg seenDg queuedDg_own _ _)) h ops

end Penguin.Mux
