/-
The inductive invariant of the link model and its preservation by every action.
-/
import Penguin.Model.Link

namespace Penguin.Link

def pushes : List Item → List Bytes
  | [] => []
  | .push d :: rest => d :: pushes rest
  | _ :: rest => pushes rest

/-- The FIFO holds pushes, then at most one end marker (`Finish`/`Reset`) in last position. -/
def shapeOk : List Item → Bool
  | [] => true
  | [.fin] => true
  | [.rst] => true
  | .push _ :: rest => shapeOk rest
  | _ => false

def hasEnd (w : List Item) : Bool := w.any (fun i => !i.isPush)

@[simp] theorem pushes_nil : pushes [] = [] := rfl
@[simp] theorem pushes_push (d : Bytes) (r : List Item) : pushes (.push d :: r) = d :: pushes r := rfl
@[simp] theorem pushes_fin (r : List Item) : pushes (.fin :: r) = pushes r := rfl
@[simp] theorem pushes_rst (r : List Item) : pushes (.rst :: r) = pushes r := rfl

theorem pushes_append (a b : List Item) : pushes (a ++ b) = pushes a ++ pushes b := by
  induction a with
  | nil => rfl
  | cons x a ih => cases x <;> simp [pushes, ih]

@[simp] theorem hasEnd_nil : hasEnd [] = false := rfl
@[simp] theorem hasEnd_cons_push (d : Bytes) (r : List Item) : hasEnd (.push d :: r) = hasEnd r := by
  simp [hasEnd, Item.isPush]
@[simp] theorem hasEnd_cons_fin (r : List Item) : hasEnd (.fin :: r) = true := by simp [hasEnd, Item.isPush]
@[simp] theorem hasEnd_cons_rst (r : List Item) : hasEnd (.rst :: r) = true := by simp [hasEnd, Item.isPush]

theorem hasEnd_append (a b : List Item) : hasEnd (a ++ b) = (hasEnd a || hasEnd b) := by
  simp [hasEnd, List.any_append]

theorem shapeOk_append_single (w : List Item) (x : Item) (h : shapeOk w = true) (hn : hasEnd w = false) :
    shapeOk (w ++ [x]) = true := by
  induction w with
  | nil => cases x <;> rfl
  | cons y w ih =>
    cases y with
    | push d' =>
      rw [hasEnd_cons_push] at hn
      simp only [List.cons_append, shapeOk] at h ⊢
      exact ih h hn
    | fin => simp at hn
    | rst => simp at hn

theorem shapeOk_end_head (x : Item) (rest : List Item) (hx : x.isPush = false)
    (h : shapeOk (x :: rest) = true) : rest = [] := by
  cases x with
  | push d => simp [Item.isPush] at hx
  | fin => cases rest <;> simp_all [shapeOk]
  | rst => cases rest <;> simp_all [shapeOk]

theorem shapeOk_tail (d : Bytes) (rest : List Item) (h : shapeOk (.push d :: rest) = true) :
    shapeOk rest = true := by simpa [shapeOk] using h

structure Inv (s : St) : Prop where
  /-- credit accounting: every unit of the window is in exactly one place -/
  hcredit : s.credit + (pushes s.wire).length + s.rxq.length + s.since + s.acks.sum = s.W
  hth : s.th ≤ s.W
  hpos : 0 < s.W
  hsince : s.since < s.th ∨ (s.th = 0 ∧ s.since = 0)
  /-- every byte accepted by a write is in exactly one place, in order -/
  hdata : s.delivered ++ s.buf ++ s.rxq.flatten ++ (pushes s.wire).flatten = s.accepted
  hne_wire : ∀ d ∈ pushes s.wire, d ≠ []
  hne_rxq : ∀ d ∈ s.rxq, d ≠ []
  hshape : shapeOk s.wire = true
  hopen : s.sFin = false → hasEnd s.wire = false ∧ s.rAlive = true
  hfin : s.sFin = true → hasEnd s.wire = true ∨ s.rAlive = false
  hdeadwire : s.rAlive = false → s.wire = []
  hover : s.overrun = false
  heof : s.eofSeen = true → s.rAlive = false ∧ s.rxq = [] ∧ s.buf = []
  hacked : s.acked + s.since = s.consumed
  hgranted : s.granted + s.acks.sum = s.acked
  hsent : s.sent + s.credit = s.W + s.granted

theorem init_inv (W th : Nat) (hW : 0 < W) (hth : th ≤ W) : Inv (init W th) := by
  have hs : (init W th).since < (init W th).th ∨ ((init W th).th = 0 ∧ (init W th).since = 0) := by
    show (0 : Nat) < th ∨ (th = 0 ∧ (0 : Nat) = 0)
    omega
  refine ⟨by simp [init], hth, hW, hs, by simp [init], by simp [init],
    by simp [init], rfl, fun _ => ⟨rfl, rfl⟩, by simp [init], by simp [init], rfl, by simp [init],
    by simp [init], by simp [init], by simp [init]⟩

theorem Inv.alive_of_wire {s : St} (h : Inv s) (hw : s.wire ≠ []) : s.rAlive = true := by
  cases hr : s.rAlive with
  | true => rfl
  | false => exact absurd (h.hdeadwire hr) hw

theorem Inv.room_of_push {s : St} (h : Inv s) {d : Bytes} {rest : List Item} (hw : s.wire = .push d :: rest) :
    s.rxq.length < s.W := by
  have := h.hcredit
  rw [hw] at this
  simp only [pushes_push, List.length_cons] at this
  omega

theorem eof_facts (s : St) (h : Inv s) (he : s.eofSeen = true) : s.sFin = true ∧ s.delivered = s.accepted := by
  obtain ⟨h1, h2, h3⟩ := h.heof he
  refine ⟨?_, ?_⟩
  · cases hs : s.sFin with
    | true => rfl
    | false => have := (h.hopen hs).2; simp [h1] at this
  · have hw := h.hdeadwire h1
    have := h.hdata
    rw [h2, h3, hw] at this
    simpa [pushes] using this

theorem prefix_of_inv (s : St) (h : Inv s) : s.delivered <+: s.accepted := by
  have := h.hdata
  rw [← this, List.append_assoc, List.append_assoc]
  exact List.prefix_append _ _

/-! ### One round of `fill` in any state (empty frames may be queued) -/

theorem fill_buf_ne (k : Nat) (s : St) (hb : s.buf ≠ []) : fill (k + 1) s = (s, true) := by
  have : s.buf.isEmpty = false := by cases hq : s.buf <;> simp_all
  simp [fill, this]

theorem fill_nil (k : Nat) (s : St) (hb : s.buf = []) (hq : s.rxq = []) : fill (k + 1) s = (s, false) := by
  simp [fill, hb, hq]

theorem fill_cons_empty (k : Nat) (s : St) (rest : List Bytes) (hb : s.buf = []) (hq : s.rxq = [] :: rest) :
    fill (k + 1) s = fill k (countFrame { s with rxq := rest, buf := [] }) := by
  simp [fill, hb, hq]

theorem fill_cons_ne (k : Nat) (s : St) (f : Bytes) (rest : List Bytes) (hb : s.buf = []) (hq : s.rxq = f :: rest)
    (hf : f ≠ []) : fill (k + 1) s = (countFrame { s with rxq := rest, buf := f }, true) := by
  have : f.isEmpty = false := by cases f <;> simp_all
  simp [fill, hb, hq, this]

theorem countFrame_fields (s : St) :
    (countFrame s).rxq = s.rxq ∧ (countFrame s).buf = s.buf ∧ (countFrame s).wire = s.wire ∧
    (countFrame s).credit = s.credit ∧ (countFrame s).W = s.W ∧ (countFrame s).th = s.th ∧
    (countFrame s).sFin = s.sFin ∧ (countFrame s).rAlive = s.rAlive ∧ (countFrame s).overrun = s.overrun ∧
    (countFrame s).eofSeen = s.eofSeen ∧ (countFrame s).accepted = s.accepted ∧
    (countFrame s).delivered = s.delivered ∧ (countFrame s).granted = s.granted ∧ (countFrame s).sent = s.sent ∧
    (countFrame s).consumed = s.consumed + 1 := by
  unfold countFrame; split <;> simp

theorem countFrame_W (s : St) : (countFrame s).W = s.W := (countFrame_fields s).2.2.2.2.1

theorem countFrame_th (s : St) : (countFrame s).th = s.th := (countFrame_fields s).2.2.2.2.2.1

/-! ### `fill` and `read` under the invariant: the skip-empty branch is never taken -/

theorem fill_one (k : Nat) (s : St) (hne : ∀ d ∈ s.rxq, d ≠ []) :
    fill (k + 1) s =
      if !s.buf.isEmpty then (s, true)
      else match s.rxq with
        | f :: rest => (countFrame { s with rxq := rest, buf := f }, true)
        | [] => (s, false) := by
  by_cases hb : s.buf = []
  · cases hq : s.rxq with
    | nil => rw [fill_nil k s hb hq]; simp [hb]
    | cons f rest => rw [fill_cons_ne k s f rest hb hq (hne f (by simp [hq]))]; simp [hb]
  · rw [fill_buf_ne k s hb]
    have : s.buf.isEmpty = false := by cases hq : s.buf <;> simp_all
    simp [this]

theorem read_buf (l : St) (n : Nat) (hinv : Inv l) (hb : l.buf.isEmpty = false) :
    (step l (.read n)).1 = { l with buf := l.buf.drop n, delivered := l.delivered ++ l.buf.take n } := by
  simp [step, fill_one _ _ hinv.hne_rxq, hb]

theorem read_frame_ack (l : St) (n : Nat) (f : Bytes) (rest : List Bytes) (hinv : Inv l)
    (hb : l.buf.isEmpty = true) (hq : l.rxq = f :: rest) (ht : l.since + 1 ≥ l.th) :
    (step l (.read n)).1 =
      { l with rxq := rest, buf := f.drop n, since := 0, acks := l.acks ++ [l.since + 1], consumed := l.consumed + 1,
               acked := l.acked + (l.since + 1), delivered := l.delivered ++ f.take n } := by
  simp [step, fill_one _ _ hinv.hne_rxq, hb, hq, countFrame, ht]

theorem read_frame_quiet (l : St) (n : Nat) (f : Bytes) (rest : List Bytes) (hinv : Inv l)
    (hb : l.buf.isEmpty = true) (hq : l.rxq = f :: rest) (ht : ¬ l.since + 1 ≥ l.th) :
    (step l (.read n)).1 =
      { l with rxq := rest, buf := f.drop n, since := l.since + 1, consumed := l.consumed + 1,
               delivered := l.delivered ++ f.take n } := by
  simp [step, fill_one _ _ hinv.hne_rxq, hb, hq, countFrame, ht]

theorem read_pending (l : St) (n : Nat) (hinv : Inv l) (hb : l.buf.isEmpty = true) (hq : l.rxq = [])
    (ha : l.rAlive = true) : (step l (.read n)).1 = l := by
  simp [step, fill_one _ _ hinv.hne_rxq, hb, hq, ha]

theorem read_eof (l : St) (n : Nat) (hinv : Inv l) (hb : l.buf.isEmpty = true) (hq : l.rxq = [])
    (ha : l.rAlive = false) : (step l (.read n)).1 = { l with eofSeen := true } := by
  simp [step, fill_one _ _ hinv.hne_rxq, hb, hq, ha]

theorem sum_append_single (l : List Nat) (n : Nat) : (l ++ [n]).sum = l.sum + n := by simp

theorem close_inv (s : St) (x : Item) (hx : x.isPush = false) (h : Inv s) (hsf : s.sFin = false) :
    Inv { s with sFin := true, wire := s.wire ++ [x] } := by
  obtain ⟨hne, hal⟩ := h.hopen hsf
  have hp : pushes (s.wire ++ [x]) = pushes s.wire := by
    cases x <;> simp [pushes_append, Item.isPush] at hx ⊢
  exact { h with
    hcredit := by rw [hp]; exact h.hcredit
    hdata := by rw [hp]; exact h.hdata
    hne_wire := by rw [hp]; exact h.hne_wire
    hshape := shapeOk_append_single _ _ h.hshape hne
    hopen := by intro hc; simp at hc
    hfin := by intro _; left; simp [hasEnd, hx]
    hdeadwire := by intro hc; simp [hal] at hc }

theorem deliver_end_inv (s : St) (x : Item) (rest : List Item) (hx : x.isPush = false) (h : Inv s)
    (hw : s.wire = x :: rest) : Inv { s with wire := rest, rAlive := false } := by
  have hrest : rest = [] := shapeOk_end_head x rest hx (hw ▸ h.hshape)
  subst hrest
  have hp : pushes s.wire = [] := by
    rw [hw]; cases x <;> simp [Item.isPush] at hx ⊢
  have hal : s.rAlive = true := h.alive_of_wire (by simp [hw])
  have hsf : s.sFin = true := by
    cases hs : s.sFin with
    | true => rfl
    | false => have := (h.hopen hs).1; simp [hw, hasEnd, hx] at this
  exact { h with
    hcredit := by simpa [hp] using h.hcredit
    hdata := by simpa [hp] using h.hdata
    hne_wire := by simp
    hshape := rfl
    hopen := by intro hc; simp [hsf] at hc
    hfin := by intro _; right; rfl
    hdeadwire := by intro _; rfl
    heof := by intro he; have := h.heof he; simp [hal] at this }

/-- By cases on the action; each case names the clauses of `Inv` the action changes and takes the others over from `h`. -/
theorem step_inv (s : St) (a : Act) (h : Inv s) : Inv (step s a).1 := by
  cases a with
  | write d =>
    simp only [step]
    split
    · exact h
    · rename_i hsf
      have hsf : s.sFin = false := by simpa using hsf
      obtain ⟨hne, hal⟩ := h.hopen hsf
      split
      · exact h
      · rename_i hd
        split
        · exact h
        · rename_i hc
          have hdne : d ≠ [] := by cases d <;> simp_all
          exact { h with
            hcredit := by
              have := h.hcredit
              simp only [pushes_append, List.length_append, pushes_push, pushes_nil, List.length_cons, List.length_nil]
              omega
            hdata := by
              simp only [pushes_append, pushes_push, pushes_nil, List.flatten_append, List.flatten_cons,
                List.flatten_nil, List.append_nil]
              rw [← h.hdata]; simp [List.append_assoc]
            hne_wire := by
              intro x hx
              simp only [pushes_append, pushes_push, pushes_nil, List.mem_append, List.mem_singleton] at hx
              rcases hx with hx | hx
              · exact h.hne_wire x hx
              · subst hx; exact hdne
            hshape := shapeOk_append_single _ _ h.hshape hne
            hopen := by intro _; exact ⟨by rw [hasEnd_append, hne]; simp, hal⟩
            hfin := by intro hc2; simp [hsf] at hc2
            hdeadwire := by intro hc2; simp [hal] at hc2
            hsent := by dsimp only; have := h.hsent; omega }
  | shutdown =>
    simp only [step]
    split
    · exact h
    · rename_i hsf; exact close_inv s .fin rfl h (by simpa using hsf)
  | abort =>
    simp only [step]
    split
    · exact h
    · rename_i hsf; exact close_inv s .rst rfl h (by simpa using hsf)
  | deliver =>
    simp only [step]
    cases hw : s.wire with
    | nil => exact h
    | cons x rest =>
      have hal : s.rAlive = true := h.alive_of_wire (by simp [hw])
      have hcredit := h.hcredit
      have hdata := h.hdata
      have hnw := h.hne_wire
      have hshape := h.hshape
      rw [hw] at hcredit hdata hnw hshape
      cases x with
      | push d =>
        have hlt : s.rxq.length < s.W := h.room_of_push hw
        simp only [hal, Bool.not_true, Bool.false_eq_true, if_false, hlt, if_true]
        exact { h with
          hcredit := by
            simp only [pushes_push, List.length_cons, List.length_append, List.length_nil] at hcredit ⊢; omega
          hdata := by
            simp only [pushes_push, List.flatten_cons, List.flatten_append, List.flatten_nil, List.append_nil] at hdata ⊢
            rw [← hdata]; simp [List.append_assoc]
          hne_wire := by intro x hx; exact hnw x (by simp [hx])
          hne_rxq := by
            intro x hx
            simp only [List.mem_append, List.mem_singleton] at hx
            rcases hx with hx | hx
            · exact h.hne_rxq x hx
            · subst hx; exact hnw _ (by simp)
          hshape := shapeOk_tail d rest hshape
          hopen := by
            intro hsf
            have := (h.hopen hsf).1
            rw [hw, hasEnd_cons_push] at this
            exact ⟨this, rfl⟩
          hfin := by
            intro hsf
            have := h.hfin hsf
            rw [hw, hasEnd_cons_push, hal] at this
            left; simpa using this
          hdeadwire := by intro hc; simp at hc
          heof := by intro he; have := h.heof he; simp [hal] at this }
      | fin => exact deliver_end_inv s .fin rest rfl h hw
      | rst => exact deliver_end_inv s .rst rest rfl h hw
  | read n =>
    by_cases hb : s.buf.isEmpty = true
    · have hbuf : s.buf = [] := by cases hq : s.buf <;> simp_all
      cases hq : s.rxq with
      | nil =>
        cases hal : s.rAlive with
        | true => rw [read_pending s n h hb hq hal]; exact h
        | false =>
          rw [read_eof s n h hb hq hal]
          exact { h with heof := fun _ => ⟨hal, hq, hbuf⟩ }
      | cons f rest =>
        -- a frame leaves the queue: its unit of the window moves to `since` or into an acknowledgement
        have hcredit := h.hcredit
        have hdata := h.hdata
        have hnr := h.hne_rxq
        rw [hq] at hcredit hdata hnr
        have hdata' : s.delivered ++ f.take n ++ f.drop n ++ rest.flatten ++ (pushes s.wire).flatten = s.accepted := by
          rw [← hdata, hbuf]; simp [List.append_assoc]
        have hne' : ∀ d ∈ rest, d ≠ [] := fun d hd => hnr d (by simp [hd])
        have heof' : s.eofSeen = true → s.rAlive = false ∧ rest = [] ∧ f.drop n = [] := fun he => by
          have := (h.heof he).2.1; rw [hq] at this; cases this
        by_cases ht : s.since + 1 ≥ s.th
        · rw [read_frame_ack s n f rest h hb hq ht]
          exact { h with
            hcredit := by simp only [List.length_cons, List.sum_append, List.sum_cons, List.sum_nil] at hcredit ⊢; omega
            hsince := by have := h.hth; dsimp only; omega
            hdata := hdata'
            hne_rxq := hne'
            heof := heof'
            hacked := by have := h.hacked; dsimp only; omega
            hgranted := by have := h.hgranted; simp only [List.sum_append, List.sum_cons, List.sum_nil]; omega }
        · rw [read_frame_quiet s n f rest h hb hq ht]
          exact { h with
            hcredit := by simp only [List.length_cons] at hcredit ⊢; omega
            hsince := Or.inl (by dsimp only; omega)
            hdata := hdata'
            hne_rxq := hne'
            heof := heof'
            hacked := by have := h.hacked; dsimp only; omega }
    · have hb' : s.buf.isEmpty = false := by simpa using hb
      rw [read_buf s n h hb']
      exact { h with
        hdata := by rw [← h.hdata]; simp [List.append_assoc]
        heof := fun he => by have := (h.heof he).2.2; simp [this] at hb' }
  | deliverAck =>
    simp only [step]
    cases ha : s.acks with
    | nil => exact h
    | cons n rest =>
      have hcredit := h.hcredit
      have hgranted := h.hgranted
      have hsent := h.hsent
      rw [ha] at hcredit hgranted
      simp only [List.sum_cons] at hcredit hgranted
      exact { h with
        hcredit := by dsimp only; omega
        hgranted := by dsimp only; omega
        hsent := by dsimp only; omega }

theorem run_inv (s : St) (as : List Act) (h : Inv s) : Inv (run s as) := by
  induction as generalizing s with
  | nil => exact h
  | cons a as ih => exact ih _ (step_inv s a h)

theorem reach_inv {W th : Nat} (hW : 0 < W) (hth : th ≤ W) (as : List Act) : Inv (run (init W th) as) :=
  run_inv _ as (init_inv W th hW hth)

/-- `fill` keeps whatever taking one frame out of the queue into the empty buffer keeps. -/
theorem fill_preserves (P : St → Prop)
    (htake : ∀ s f rest, s.buf = [] → s.rxq = f :: rest → P s → P (countFrame { s with rxq := rest, buf := f }))
    (k : Nat) (s : St) (h : P s) : P (fill k s).1 := by
  induction k generalizing s with
  | zero => exact h
  | succ k ih =>
    by_cases hb : s.buf = []
    · cases hq : s.rxq with
      | nil => rw [fill_nil k s hb hq]; exact h
      | cons f rest =>
        have ht := htake s f rest hb hq h
        by_cases hf : f = []
        · subst hf; rw [fill_cons_empty k s rest hb hq]; exact ih _ ht
        · rw [fill_cons_ne k s f rest hb hq hf]; exact ht
    · rw [fill_buf_ne k s hb]; exact h

theorem fill_W_th (k : Nat) (s : St) : (fill k s).1.W = s.W ∧ (fill k s).1.th = s.th :=
  fill_preserves (fun t => t.W = s.W ∧ t.th = s.th)
    (fun _ _ _ _ _ h => ⟨(countFrame_W _).trans h.1, (countFrame_th _).trans h.2⟩)
    k s ⟨rfl, rfl⟩

theorem step_W_th (s : St) (a : Act) : (step s a).1.W = s.W ∧ (step s a).1.th = s.th := by
  cases a with
  | read n =>
    simp only [step]
    have := fill_W_th (s.rxq.length + 1) s
    repeat' split
    all_goals exact this
  | _ =>
    simp only [step]
    repeat' split
    all_goals exact ⟨rfl, rfl⟩

theorem run_W (s : St) (as : List Act) : (run s as).W = s.W := by
  induction as generalizing s with
  | nil => rfl
  | cons a as ih => exact (ih _).trans (step_W_th s a).1

theorem run_th (s : St) (as : List Act) : (run s as).th = s.th := by
  induction as generalizing s with
  | nil => rfl
  | cons a as ih => exact (ih _).trans (step_W_th s a).2

theorem write_effect (s : St) (d : Bytes) :
    ((step s (.write d)).2 = .wrote d.length ∧ d ≠ [] →
        (step s (.write d)).1.credit + 1 = s.credit ∧ (step s (.write d)).1.wire = s.wire ++ [.push d] ∧
        (step s (.write d)).1.sent = s.sent + 1) ∧
    ((step s (.write d)).2 = .pending → (step s (.write d)).1 = s ∧ s.credit = 0) := by
  simp only [step]
  split
  · exact ⟨fun h => by simp at h, fun h => by simp at h⟩
  · split
    · rename_i hd
      have : d = [] := by cases d <;> simp_all
      exact ⟨fun h => absurd this h.2, fun h => by simp at h⟩
    · split
      · rename_i hc
        exact ⟨fun h => by simp at h, fun _ => ⟨rfl, hc⟩⟩
      · rename_i hc
        refine ⟨fun _ => ⟨by simp only; omega, rfl, rfl⟩, fun h => by simp at h⟩

theorem read_no_eof (s : St) (n : Nat) (h : Inv s) (hal : s.rAlive = true) : (step s (.read n)).2 ≠ .eof := by
  simp only [step]
  rw [fill_one _ _ h.hne_rxq]
  split
  · simp
  · cases hq : s.rxq with
    | nil => simp [hal]
    | cons f rest => simp

/-- A blocked writer always has something in flight or readable: with the window exhausted and the
    sender not finished, the wire, the receive queue or the acknowledgement path is non-empty. -/
theorem blocked_has_work (s : St) (h : Inv s) (hc : s.credit = 0) :
    pushes s.wire ≠ [] ∨ s.rxq ≠ [] ∨ s.acks ≠ [] := by
  have h1 := h.hcredit
  have h2 := h.hsince
  have h3 := h.hth
  have h4 := h.hpos
  by_cases hw : pushes s.wire = []
  · by_cases hr : s.rxq = []
    · by_cases ha : s.acks = []
      · rw [hc, hw, hr, ha] at h1
        simp at h1
        omega
      · exact Or.inr (Or.inr ha)
    · exact Or.inr (Or.inl hr)
  · exact Or.inl hw

/-- Work still to be done by the transport and the reader before the sender hears back. -/
def mu (s : St) : Nat := 3 * s.wire.length + 2 * s.rxq.length + s.acks.length

theorem countFrame_acks_le (s : St) : (countFrame s).acks.length ≤ s.acks.length + 1 := by
  unfold countFrame; split <;> simp

theorem mu_deliver (s : St) (hw : s.wire ≠ []) : mu (step s .deliver).1 < mu s := by
  simp only [step, mu]
  cases hq : s.wire with
  | nil => exact absurd hq hw
  | cons x rest =>
    cases x <;> simp only [List.length_cons]
    · repeat' split
      all_goals simp only [List.length_append, List.length_cons, List.length_nil]
      all_goals omega
    · omega
    · omega

theorem mu_read (s : St) (n : Nat) (h : Inv s) (hb : s.buf = []) (hr : s.rxq ≠ []) :
    mu (step s (.read n)).1 < mu s := by
  have hbe : s.buf.isEmpty = true := by simp [hb]
  cases hq : s.rxq with
  | nil => exact absurd hq hr
  | cons f rest =>
    by_cases ht : s.since + 1 ≥ s.th
    · rw [read_frame_ack s n f rest h hbe hq ht]
      simp only [mu, hq, List.length_cons, List.length_append, List.length_nil]; omega
    · rw [read_frame_quiet s n f rest h hbe hq ht]
      simp only [mu, hq, List.length_cons]; omega

theorem mu_deliverAck (s : St) (ha : s.acks ≠ []) : mu (step s .deliverAck).1 < mu s := by
  simp only [step, mu]
  cases hq : s.acks with
  | nil => exact absurd hq ha
  | cons x rest => simp only [List.length_cons]; omega

end Penguin.Link
