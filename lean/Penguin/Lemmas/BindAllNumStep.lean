/-
Every small step of the pair of bind views changes the numeric summary in one of the eight ways of
`Lemmas/BindAllAbs.lean`; so the id discipline `Num` is preserved by every small step in which the left side
acts or receives (a delivery, a lost wire), as long as its id script is not exhausted.
Core Lean only.
-/
import Penguin.Lemmas.BindAllNum

namespace Penguin.BindAll
open Penguin.Mux
open Penguin.PairAll (inMsgs inMsgs_append)

theorem rightSame_act (x : Nat) (c : BC) (v : BV) (ab : List Msg) (g : List BEv) (ba : List Msg) (bo : Bool) :
    RightSame (sm x c) (sm x { c with a := v, ab := ab, ga := g, ba := ba, baOpen := bo }) :=
  ⟨rfl, rfl, rfl, rfl, rfl, rfl, rfl, rfl, rfl⟩

theorem rightSame_actL (x : Nat) (c : BC) (v : BV) (ws : List Msg) (gs : List BEv) :
    RightSame (sm x c) (sm x (c.actL v ws gs)) := rightSame_act x c v _ _ _ _

theorem BC.actL_nil (c : BC) (v : BV) (gs : List BEv) : c.actL v [] gs = { c with a := v, ga := c.ga ++ gs } := by
  cases hab : c.abOpen <;> simp [BC.actL, hab]

theorem BC.countP_path (P : Msg → Bool) (c : BC) :
    c.path.countP P = (inMsgs c.b.inbox).countP P + c.ab.countP P + c.a.outq.countP P := by
  simp only [BC.path, List.countP_append]

/-- The seventeen fields of the summary that a step of the left view can change, as counts over the parts of the
    pair. `num_simp` rewrites with these instead of unfolding `sm`, so that a goal about one field stays about that
    field. -/
theorem sm_fields (x : Nat) (c : BC) :
    (sm x c).ca = c.a.rng.count x ∧
    (sm x c).bra = c.a.flows.countP (isBR x) ∧
    (sm x c).rqa = c.a.flows.countP (isRQ x) ∧
    (sm x c).esa = c.a.flows.countP (isES x) ∧
    (sm x c).fa = c.a.fids.count x ∧
    (sm x c).asA = c.ga.countP (isAsked x) ∧
    (sm x c).shA = c.ga.countP (isShown x) ∧
    (sm x c).enA = enX x c.a ∧
    (sm x c).hA = c.a.held.countP (·.fid == x) ∧
    (sm x c).cP = (inMsgs c.b.inbox).countP (isConnX x) + c.ab.countP (isConnX x) + c.a.outq.countP (isConnX x) ∧
    (sm x c).bP = (inMsgs c.b.inbox).countP (isBindX x) + c.ab.countP (isBindX x) + c.a.outq.countP (isBindX x) ∧
    (sm x c).fP = (inMsgs c.b.inbox).countP (isFinX x) + c.ab.countP (isFinX x) + c.a.outq.countP (isFinX x) ∧
    (sm x c).apP = (inMsgs c.b.inbox).countP (isAPX x) + c.ab.countP (isAPX x) + c.a.outq.countP (isAPX x) ∧
    (sm x c).cQ = (inMsgs c.a.inbox).countP (isConnX x) + c.ba.countP (isConnX x) + c.b.outq.countP (isConnX x) ∧
    (sm x c).bQ = (inMsgs c.a.inbox).countP (isBindX x) + c.ba.countP (isBindX x) + c.b.outq.countP (isBindX x) ∧
    (sm x c).fQ = (inMsgs c.a.inbox).countP (isFinX x) + c.ba.countP (isFinX x) + c.b.outq.countP (isFinX x) ∧
    (sm x c).apQ = (inMsgs c.a.inbox).countP (isAPX x) + c.ba.countP (isAPX x) + c.b.outq.countP (isAPX x) :=
  ⟨rfl, rfl, rfl, rfl, rfl, rfl, rfl, rfl, rfl, c.countP_path _, c.countP_path _, c.countP_path _, c.countP_path _,
    c.swap.countP_path _, c.swap.countP_path _, c.swap.countP_path _, c.swap.countP_path _⟩

/-- Opens one field of the summary of the pair, after a silent step of the left view if there is one, into
    counts over the parts of the pair. -/
macro "num_simp" : tactic =>
  `(tactic| simp only [BC.actL_nil, sm_fields, enX, ↓reduceIte, Bool.false_eq_true, List.countP_append])

theorem okEnq_not_conn_bind {v : BV} {m : Msg} (ok : OkEnq v m) (x : Nat) : isConnX x m = false ∧ isBindX x m = false := by
  cases m with
  | frame f => cases f <;> simp_all [OkEnq]
  | _ => simp

theorem okEnq_stream {v : BV} {m : Msg} (ok : OkEnq v m) {x : Nat} (h : isFinX x m = true ∨ isAPX x m = true) : x ∈ v.fids := by
  cases m with
  | frame f => cases f <;> simp_all [OkEnq]
  | _ => simp at h

theorem countP_resets (P : Msg → Bool) (hP : ∀ f, P (.frame (.reset f)) = false) (l : List BindIn) :
    (l.map (fun b => Msg.frame (.reset b.fid))).countP P = 0 := by
  rw [List.countP_eq_zero]
  intro m hm
  simp only [List.mem_map] at hm
  obtain ⟨b, _, rfl⟩ := hm
  simp [hP]

theorem countP_refusals (P : BEv → Bool) (hP : ∀ r a, P (.done r a) = false) (fl : List (Nat × Slot)) :
    (fl.filterMap (fun p => match p.2 with | .bindRequested r => some (BEv.done r .refused) | _ => none)).countP P = 0 := by
  rw [List.countP_eq_zero]
  intro m hm
  obtain ⟨r, rfl⟩ := mem_refusals hm
  simp [hP]

variable {x : Nat} {c : BC}

/-! Every lemma below picks the way of `Lemmas/BindAllAbs.lean` that applies and reads its hypotheses off the
    fields (`num_simp`, then `simp` with the facts of the step). A step that moves, drops or hands on things, or
    that concerns a flow `y ≠ x`, lets no count of `x` grow: `Num.shrink`. A step that concerns `x` itself is the
    way named after it: `drawOpen`, `drawBind`, `connNew`, `ackNew`, `offer` (a Bind of `x` reaches the queue or
    the parking place), `next` (it is shown), `enqS` (a stream frame of `x`, or the accepting answer to a held
    request of `x`, is queued). -/

theorem Num.emit (h : Num (sm x c)) (m : Msg) (r : List Msg) (ho : c.a.outq = m :: r) :
    Num (sm x (c.actL { c.a with outq := r } [m] [])) := by
  apply Num.shrink h (rightSame_actL x c _ _ _) <;>
    simp only [BC.actL] <;> cases c.abOpen <;>
    num_simp <;> simp [ho, List.countP_cons] <;> omega

theorem Num.sendClose (h : Num (sm x c)) : Num (sm x (c.actL c.a [.close] [])) := by
  apply Num.shrink h (rightSame_actL x c _ _ _) <;>
    simp only [BC.actL] <;> cases c.abOpen <;> num_simp <;> simp

theorem Num.shrinks (h : Num (sm x c)) {v : BV} (hs : Shrinks c.a v) : Num (sm x (c.actL v [] [])) := by
  have ho : ∀ P : Msg → Bool, v.outq.countP P ≤ c.a.outq.countP P := by
    intro P
    rcases hs.outq with h1 | ⟨h1, _⟩ <;> simp [h1]
  have hp : parkX x v.park ≤ parkX x c.a.park := by
    rcases hs.park with h1 | h1 <;> simp [h1, parkX]
  have hb := hs.bindq.countP_le (p := fun b : BindIn => b.fid == x)
  have hi := fun P => countP_inMsgs_suffix hs.inbox P
  apply Num.shrink h (rightSame_actL x c _ _ _) <;>
    num_simp
  · exact count_le_of_suffix hs.rng x
  · exact hs.flows.countP_le
  · exact hs.flows.countP_le
  · exact hs.flows.countP_le
  · rw [hs.fids]
  · simp
  · simp
  · omega
  · rw [hs.held]
  all_goals first | exact Nat.add_le_add_left (ho _) _ | exact Nat.add_le_add_right (Nat.add_le_add_right (hi _) _) _

theorem Num.enq (h : Num (sm x c)) (m : Msg) (ok : OkEnq c.a m) :
    Num (sm x (c.actL { c.a with outq := c.a.outq ++ [m] } [] [])) := by
  obtain ⟨n1, n2⟩ := okEnq_not_conn_bind ok x
  by_cases hS : isFinX x m = true ∨ isAPX x m = true
  · have hf : 1 ≤ c.a.fids.count x := List.count_pos_iff.mpr (okEnq_stream ok hS)
    apply Num.enqS h (rightSame_actL x c _ _ _) (Or.inl hf) <;>
      num_simp <;> simp [List.countP_cons, n1, n2] <;> split <;> omega
  · have h1 : isFinX x m = false := by cases hh : isFinX x m <;> simp_all
    have h2 : isAPX x m = false := by cases hh : isAPX x m <;> simp_all
    apply Num.shrink h (rightSame_actL x c _ _ _) <;>
      num_simp <;> simp [n1, n2, h1, h2]

theorem countP_insert_new {x y : Nat} {fl : List (Nat × Slot)} (hf : ∀ s, (y, s) ∉ fl) (s : Slot) {P : Nat × Slot → Bool}
    (hP : KeyX x P) : (Mux.insert fl y s).countP P = fl.countP P + if y = x ∧ P (y, s) then 1 else 0 := by
  by_cases hy : y = x
  · subst hy
    simp only [countP_insert_self hP, countP_of_noKey hP hf, true_and, Nat.zero_add]
  · simp only [countP_insert_ne hP hy, hy, false_and, if_false, Nat.add_zero]

theorem Num.doDrawOpen (h : Num (sm x c)) (y q : Nat) (r' : List Nat) (w p : Nat) (hh : Bytes)
    (hs : (y :: r') <:+ c.a.rng ∨ r' = []) (hf : ∀ s, (y, s) ∉ c.a.flows) (hn : r' ≠ []) :
    Num (sm x (c.actL { c.a with rng := r', flows := Mux.insert c.a.flows y (.requested q),
                                 outq := c.a.outq ++ [.frame (.connect y w p hh)] } [] [])) := by
  have hs' : (y :: r') <:+ c.a.rng := hs.resolve_right hn
  have f1 := countP_insert_new hf (.requested q) (isBR_key x)
  have f2 := countP_insert_new hf (.requested q) (isRQ_key x)
  have f3 := countP_insert_new hf (.requested q) (isES_key x)
  by_cases hy : y = x
  · subst hy
    have hr := count_lt_of_cons_suffix hs'
    apply Num.drawOpen h (rightSame_actL y c _ _ _) <;>
      num_simp <;> simp [f1, f2, f3, hr] <;> omega
  · have hr := count_le_of_suffix (suffix_of_cons_suffix hs') x
    apply Num.shrink h (rightSame_actL x c _ _ _) <;>
      num_simp <;> simp [f1, f2, f3, hy, hr]

theorem Num.doDrawBind (h : Num (sm x c)) (y req : Nat) (bt : BindType) (host : Bytes) (port : Nat) (r' : List Nat)
    (hs : (y :: r') <:+ c.a.rng ∨ r' = []) (hf : ∀ s, (y, s) ∉ c.a.flows) (hn : r' ≠ []) :
    Num (sm x (c.actL { c.a with rng := r', flows := Mux.insert c.a.flows y (.bindRequested req),
                                 outq := c.a.outq ++ [.frame (.bind y bt port host)] } [] [.asked req y bt host port])) := by
  have hs' : (y :: r') <:+ c.a.rng := hs.resolve_right hn
  have f1 := countP_insert_new hf (.bindRequested req) (isBR_key x)
  have f2 := countP_insert_new hf (.bindRequested req) (isRQ_key x)
  have f3 := countP_insert_new hf (.bindRequested req) (isES_key x)
  by_cases hy : y = x
  · subst hy
    have hr := count_lt_of_cons_suffix hs'
    apply Num.drawBind h (rightSame_actL y c _ _ _) <;>
      num_simp <;> simp [f1, f2, f3, hr] <;> omega
  · have hr := count_le_of_suffix (suffix_of_cons_suffix hs') x
    apply Num.shrink h (rightSame_actL x c _ _ _) <;>
      num_simp <;> simp [f1, f2, f3, hy, hr]

theorem Num.doConnNew (h : Num (sm x c)) (y w p : Nat) (hh : Bytes) (r : List WsIn)
    (hi : c.a.inbox = .msg (.frame (.connect y w p hh)) :: r) (hf : ∀ s, (y, s) ∉ c.a.flows) :
    Num (sm x (c.actL { c.a with inbox := r, fids := c.a.fids ++ [y],
                                 flows := Mux.insert c.a.flows y (.established c.a.fids.length) } [] [])) := by
  have f1 := countP_insert_new hf (.established c.a.fids.length) (isBR_key x)
  have f2 := countP_insert_new hf (.established c.a.fids.length) (isRQ_key x)
  have f3 := countP_insert_new hf (.established c.a.fids.length) (isES_key x)
  by_cases hy : y = x
  · subst hy
    apply Num.connNew h (rightSame_actL y c _ _ _) <;>
      num_simp <;> simp [f1, f2, f3, hi, inMsgs] <;> omega
  · apply Num.shrink h (rightSame_actL x c _ _ _) <;>
      num_simp <;> simp [f1, f2, f3, hy, hi, inMsgs]

theorem Num.doAckNew (h : Num (sm x c)) (y n q : Nat) (r : List WsIn)
    (hi : c.a.inbox = .msg (.frame (.acknowledge y n)) :: r) (hs : (y, Slot.requested q) ∈ c.a.flows) :
    Num (sm x (c.actL { c.a with inbox := r, fids := c.a.fids ++ [y],
                                 flows := Mux.insert c.a.flows y (.established c.a.fids.length) } [] [])) := by
  by_cases hy : y = x
  · subst hy
    have h0 : 1 ≤ c.a.flows.countP (isRQ y) := one_le_countP_of_mem hs (by simp)
    apply Num.ackNew h (rightSame_actL y c _ _ _) h0 <;>
      num_simp <;>
      simp [countP_insert_self (isBR_key y), countP_insert_self (isRQ_key y), countP_insert_self (isES_key y), hi, inMsgs]
  · apply Num.shrink h (rightSame_actL x c _ _ _) <;>
      num_simp <;>
      simp [countP_insert_ne (isBR_key x) hy, countP_insert_ne (isRQ_key x) hy, countP_insert_ne (isES_key x) hy, hy, hi, inMsgs]

theorem Num.label (h : Num (sm x c)) (gs : List BEv) (h1 : gs.countP (isAsked x) = 0) (h2 : gs.countP (isShown x) = 0) :
    Num (sm x (c.actL c.a [] gs)) := by
  apply Num.shrink h (rightSame_actL x c _ _ _) <;>
    num_simp <;>
    (first | simpa using List.countP_eq_zero.mp h1 | simpa using List.countP_eq_zero.mp h2)

theorem actL_actL (c : BC) (v : BV) (gs : List BEv) : c.actL v [] gs = (c.actL c.a [] gs).actL v [] [] := by
  cases c with
  | mk a b ab ba abo bao ga gb => cases abo <;> simp [BC.actL]

theorem Num.finishAll (h : Num (sm x c)) :
    Num (sm x (c.actL { c.a with flows := [], dead := true } []
      (c.a.flows.filterMap (fun p => match p.2 with | .bindRequested r => some (BEv.done r .refused) | _ => none)))) := by
  have h1 := Num.label h _ (countP_refusals (isAsked x) (by simp) c.a.flows) (countP_refusals (isShown x) (by simp) c.a.flows)
  have h2 := Num.shrinks h1 (v := { c.a with flows := [], dead := true })
    { Shrinks.refl c.a with flows := List.nil_sublist _, dead := fun _ => rfl }
  rw [actL_actL]; exact h2

theorem Num.offerQ (h : Num (sm x c)) (b : BindIn) (r : List WsIn)
    (hi : c.a.inbox = .msg (.frame (.bind b.fid b.bt b.port b.host)) :: r) :
    Num (sm x (c.actL { c.a with inbox := r, bindq := c.a.bindq ++ [b] } [] [])) := by
  by_cases hy : b.fid = x
  · apply Num.offer h (rightSame_actL x c _ _ _) <;>
      num_simp <;> simp [hi, inMsgs, hy] <;> omega
  · apply Num.shrink h (rightSame_actL x c _ _ _) <;>
      num_simp <;> simp [hi, inMsgs, hy]

theorem Num.offerPark (h : Num (sm x c)) (b : BindIn) (r : List WsIn)
    (hi : c.a.inbox = .msg (.frame (.bind b.fid b.bt b.port b.host)) :: r) :
    Num (sm x (c.actL { c.a with inbox := r, park := some b } [] [])) := by
  have hp := parkX_le x c.a.park
  by_cases hy : b.fid = x
  · apply Num.offer h (rightSame_actL x c _ _ _) <;>
      num_simp <;> simp [hi, inMsgs, hy, parkX] <;> omega
  · apply Num.shrink h (rightSame_actL x c _ _ _) <;>
      num_simp <;> simp [hi, inMsgs, hy, parkX]

theorem Num.unparkQ (h : Num (sm x c)) (b : BindIn) (hp : c.a.park = some b) :
    Num (sm x (c.actL { c.a with bindq := c.a.bindq ++ [b], park := none } [] [])) := by
  apply Num.shrink h (rightSame_actL x c _ _ _) <;>
    num_simp <;> simp [hp, parkX]

theorem Num.bindNext (h : Num (sm x c)) (b : BindIn) (r : List BindIn) (hq : c.a.bindq = b :: r) :
    Num (sm x (c.actL { c.a with bindq := r, held := c.a.held ++ [b] } [] [.shown c.a.held.length b.fid b.bt b.host b.port])) := by
  by_cases hy : b.fid = x
  · apply Num.next h (rightSame_actL x c _ _ _) <;>
      num_simp <;> simp [hq, hy] <;> omega
  · apply Num.shrink h (rightSame_actL x c _ _ _) <;>
      num_simp <;> simp [hq, hy]

theorem one_le_held {l : List BindIn} {k : Nat} {b : BindIn} (hk : l[k]? = some b) (x : Nat) (hb : b.fid = x) :
    1 ≤ l.countP (·.fid == x) :=
  countP_pos_of_get hk (by simp [hb])

theorem Num.reply (h : Num (sm x c)) (k : Nat) (b : BindIn) (acc : Bool) (hk : c.a.held[k]? = some b) :
    Num (sm x (c.actL { c.a with held := c.a.held.modify k (fun b => { b with replied := true }),
                                 outq := c.a.outq ++ [.frame (if acc then .finish b.fid else .reset b.fid)] } [] [.replied k acc])) := by
  have hm := countP_modify_fid c.a.held k (fun b => { b with replied := true }) x (fun _ => rfl)
  by_cases hy : acc = true ∧ b.fid = x
  · obtain ⟨ha, hb⟩ := hy
    subst ha
    have h0 := one_le_held hk x hb
    apply Num.enqS h (rightSame_actL x c _ _ _) (Or.inr ⟨h0, ?_⟩) <;>
      num_simp <;> (try simp [hm, hb]) <;> omega
  · have f1 : isConnX x (.frame (if acc then .finish b.fid else .reset b.fid)) = false := by cases acc <;> rfl
    have f2 : isBindX x (.frame (if acc then .finish b.fid else .reset b.fid)) = false := by cases acc <;> rfl
    have f3 : isFinX x (.frame (if acc then .finish b.fid else .reset b.fid)) = false := by cases acc <;> simp_all
    have f4 : isAPX x (.frame (if acc then .finish b.fid else .reset b.fid)) = false := by cases acc <;> rfl
    apply Num.shrink h (rightSame_actL x c _ _ _) <;>
      num_simp <;> simp [hm, f1, f2, f3, f4]

theorem Num.dropReq (h : Num (sm x c)) (k : Nat) (b : BindIn) :
    Num (sm x (c.actL { c.a with held := c.a.held.modify k (fun b => { b with alive := false }),
                                 outq := if b.replied || c.a.outClosed then c.a.outq else c.a.outq ++ [.frame (.reset b.fid)] } []
                        [.dropped k])) := by
  have hm := countP_modify_fid c.a.held k (fun b => { b with alive := false }) x (fun _ => rfl)
  apply Num.shrink h (rightSame_actL x c _ _ _) <;>
    num_simp <;> (try simp [hm]) <;> (split <;> simp)

theorem Num.dropMux (h : Num (sm x c)) :
    Num (sm x (c.actL { c.a with muxAlive := false, bindq := [],
                                 outq := if c.a.outClosed then c.a.outq
                                         else c.a.outq ++ c.a.bindq.map (fun b => Msg.frame (.reset b.fid)) } [] [.muxDropped])) := by
  have r1 := countP_resets (isConnX x) (by simp) c.a.bindq
  have r2 := countP_resets (isBindX x) (by simp) c.a.bindq
  have r3 := countP_resets (isFinX x) (by simp) c.a.bindq
  have r4 := countP_resets (isAPX x) (by simp) c.a.bindq
  apply Num.shrink h (rightSame_actL x c _ _ _) <;>
    num_simp <;> (try split) <;> simp [r1, r2, r3, r4]

theorem Num.act (h : Num (sm x c)) {v : BV} {ws : List Msg} {gs : List BEv} (st : BStep c.a v ws gs) (hn : v.rng ≠ []) :
    Num (sm x (c.actL v ws gs)) := by
  cases st with
  | emit m r ho => exact h.emit m r ho
  | sendClose => exact h.sendClose
  | shrink v' hs => exact h.shrinks hs
  | enq m hc ok => exact h.enq m ok
  | drawOpen y q r' w p hh hs hf ho => exact h.doDrawOpen y q r' w p hh hs hf hn
  | drawBind y req bt host port r' hs hf ho => exact h.doDrawBind y req bt host port r' hs hf hn
  | connNew y w p hh r hi hf => exact h.doConnNew y w p hh r hi hf
  | ackNew y n q r hi hs => exact h.doAckNew y n q r hi hs
  | finBind y req r hi hs => exact h.label _ (by simp) (by simp)
  | refuse y req hs why => exact h.label _ (by simp) (by simp)
  | finishAll => exact h.finishAll
  | doneClosed req => exact h.label _ (by simp) (by simp)
  | offerQ b r hi => exact h.offerQ b r hi
  | offerPark b r hi => exact h.offerPark b r hi
  | unparkQ b hp => exact h.unparkQ b hp
  | bindNext b r hq => exact h.bindNext b r hq
  | reply k b acc hk ha ho => exact h.reply k b acc hk
  | dropReq k b hk => exact h.dropReq k b
  | dropMux => exact h.dropMux

theorem Num.dlv (h : Num (sm x c)) (m : Msg) (rest : List Msg) (deaf : Bool) (hb : c.ba = m :: rest) :
    Num (sm x { c with ba := rest, a := { c.a with inbox := if deaf then c.a.inbox else c.a.inbox ++ [.msg m] } }) := by
  refine Num.shrink h ⟨rfl, rfl, rfl, rfl, rfl, rfl, rfl, rfl, rfl⟩ ?_ ?_ ?_ ?_ ?_ ?_ ?_ ?_ ?_ ?_ ?_ ?_ ?_ ?_ ?_ ?_ ?_ <;>
    cases deaf <;> num_simp <;> simp [hb, inMsgs_append, inMsgs, List.countP_cons, List.countP_append] <;> omega

theorem Num.lose (h : Num (sm x c)) (extra : List WsIn) (deaf : Bool) (hx : inMsgs extra = [] ∨ inMsgs extra = [.close]) :
    Num (sm x { c with ba := [], baOpen := false,
                       a := { c.a with inbox := if deaf then c.a.inbox else c.a.inbox ++ extra } }) := by
  refine Num.shrink h ⟨rfl, rfl, rfl, rfl, rfl, rfl, rfl, rfl, rfl⟩ ?_ ?_ ?_ ?_ ?_ ?_ ?_ ?_ ?_ ?_ ?_ ?_ ?_ ?_ ?_ ?_ ?_ <;>
    cases deaf <;> num_simp <;> rcases hx with hx | hx <;> simp [inMsgs_append, hx, List.countP_append]

theorem Num.stepL (h : Num (sm x c)) {c' : BC} (st : CStepL c c') (hn : c'.a.rng ≠ []) : Num (sm x c') := by
  cases st with
  | act v ws gs hs => exact h.act hs hn
  | dlv m rest deaf hb _ => exact h.dlv m rest deaf hb
  | lose extra deaf hx => exact h.lose extra deaf hx

end Penguin.BindAll
