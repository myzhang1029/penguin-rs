/-
Helper lemmas for Props/C19: the back-off closed form over operation sequences and the retry loop
against its specification.  (The request bookkeeping of the connected loop is `Lemmas/ClientReqs.lean`.)
-/
import Penguin.Model.Backoff
import Penguin.Model.Client
import Penguin.Spec.Backoff
import Penguin.Spec.ClientLoop
import Penguin.Lemmas.Backoff

namespace Penguin.Lemmas.Client
open Penguin Penguin.Backoff Penguin.Client Penguin.Constants Penguin.Spec Penguin.Lemmas.Backoff

theorem advance_closed {i m c n k : Nat} {b : Backoff} (h : Inv i m c n k b) :
    b.advance.2 = closedDelay i m c n k ∧ Inv i m c n (if n = 0 ∨ k < n then k + 1 else k) b.advance.1 := by
  by_cases hk : n = 0 ∨ k < n
  · simpa [closedDelay, hk] using advance_some h hk
  · rw [advance_none h (by omega) (by omega)]; simpa [closedDelay, hk] using h

theorem advanceN_closed_form {i m c n : Nat} (k : Nat) : ∀ {j : Nat} {b : Backoff}, Inv i m c n j b →
    (b.advanceN k).advance.2 = closedDelay i m c n (j + k) := by
  induction k with
  | zero => intro j b h; exact (advance_closed h).1
  | succ k ih =>
    intro j b h
    simp only [Backoff.advanceN]
    rw [ih (advance_closed h).2]
    -- refused: the closed form is `none` from `j` on
    by_cases hk : n = 0 ∨ j < n
    · rw [if_pos hk, Nat.add_assoc, Nat.add_comm 1 k]
    · have h1 : ¬ (n = 0 ∨ j + k < n) := by omega
      have h2 : ¬ (n = 0 ∨ j + (k + 1) < n) := by omega
      simp [closedDelay, hk, h1, h2]

def applyOps (b : Backoff) : List Backoff.Op → Backoff
  | [] => b
  | .reset :: ops => applyOps b.reset ops
  | .advance :: ops => applyOps b.advance.1 ops

def SameParams (a b : Backoff) : Prop :=
  a.initial = b.initial ∧ a.max = b.max ∧ a.mult = b.mult ∧ a.maxCount = b.maxCount

theorem sameParams_advance (b : Backoff) : SameParams b.advance.1 b := by
  unfold Backoff.advance
  split <;> simp [SameParams]

theorem sameParams_reset (b : Backoff) : SameParams b.reset b := by
  simp [SameParams, Backoff.reset]

theorem SameParams.trans {a b c : Backoff} (h1 : SameParams a b) (h2 : SameParams b c) : SameParams a c :=
  ⟨h1.1.trans h2.1, h1.2.1.trans h2.2.1, h1.2.2.1.trans h2.2.2.1, h1.2.2.2.trans h2.2.2.2⟩

theorem sameParams_applyOps (b : Backoff) (ops : List Backoff.Op) : SameParams (applyOps b ops) b := by
  induction ops generalizing b with
  | nil => simp [applyOps, SameParams]
  | cons op ops ih =>
    cases op with
    | advance => exact (ih b.advance.1).trans (sameParams_advance b)
    | reset => exact (ih b.reset).trans (sameParams_reset b)

theorem new_advance (i m c n : Nat) : (Backoff.new i m c n).advance.2 = some (Nat.min i m) := by
  simpa using (advance_some (inv_new i m c n) (k := 0) (by omega)).1

theorem reset_restarts (i m c n : Nat) (ops : List Backoff.Op) :
    (applyOps (Backoff.new i m c n) ops).reset = Backoff.new i m c n ∧
    (applyOps (Backoff.new i m c n) ops).reset.advance.2 = some (Nat.min i m) := by
  have h := sameParams_applyOps (Backoff.new i m c n) ops
  have hr : (applyOps (Backoff.new i m c n) ops).reset = Backoff.new i m c n := by
    obtain ⟨h1, h2, h3, h4⟩ := h
    generalize applyOps (Backoff.new i m c n) ops = b at *
    cases b
    simp only [Backoff.new, Backoff.reset] at *
    simp [h1, h2, h3, h4]
  exact ⟨hr, by rw [hr]; exact new_advance i m c n⟩

/-- After a `reset` — an attempt that got as far as the connected phase — a retryable error is slept off with the
    shortest delay, whatever was done to the generator before. -/
theorem retryStep_after_reset (n m : Nat) (ops : List Backoff.Op) (e : ClientErr)
    (he : e.retryable = true) (hc : e ≠ .cancelled) :
    retryStep (applyOps (clientBackoff n m) ops).reset e false =
      .inr ((clientBackoff n m).advance.1, Nat.min 200 m) := by
  have h2 : (clientBackoff n m).advance.2 = some (Nat.min 200 m) := new_advance 200 m 2 n
  rw [show (applyOps (clientBackoff n m) ops).reset = clientBackoff n m from (reset_restarts 200 m 2 n ops).1]
  rcases hb : (clientBackoff n m).advance with ⟨b', r⟩
  rw [hb] at h2
  subst h2
  simp [retryStep, hc, he, hb]

theorem outputs_spec (i m c n : Nat) (ops : List Backoff.Op) :
    ∀ (k : Nat) (b : Backoff), Inv i m c n k b → b.outputs ops = specOps i m c n k ops := by
  induction ops with
  | nil => intro k b _; rfl
  | cons op ops ih =>
    intro k b hinv
    cases op with
    | reset => simp only [Backoff.outputs, specOps]; exact ih 0 _ (inv_reset hinv)
    | advance =>
      simp only [Backoff.outputs, specOps]
      rw [(advance_closed hinv).1, ih _ _ (advance_closed hinv).2]

theorem no_overflow (b : Backoff) (m : Nat) (hmax : b.max = m) (hmult : b.mult = 2) (hm : m < 2 ^ 64) :
    b.advanceOverflows = false := by
  have h1 : Nat.min b.current b.max ≤ m := by rw [hmax]; exact Nat.min_le_right _ _
  have h2 : ¬ (Nat.min b.current b.max * b.mult > Backoff.durationMaxMs) := by
    rw [hmult]
    have : Backoff.durationMaxMs = 18446744073709551616 * 1000 - 1 := rfl
    have h64 : (2:Nat) ^ 64 = 18446744073709551616 := by decide
    omega
  simp [Backoff.advanceOverflows, h2]

theorem runOps_no_overflow (m : Nat) (hm : m < 2 ^ 64) (ops : List Backoff.Op) :
    ∀ b : Backoff, b.max = m → b.mult = 2 → b.runOps ops = (b.outputs ops).map Backoff.Out.ofOption := by
  induction ops with
  | nil => intro b _ _; rfl
  | cons op ops ih =>
    intro b hmax hmult
    cases op with
    | reset =>
      simp only [Backoff.runOps, Backoff.outputs]
      exact ih b.reset (by simpa [Backoff.reset] using hmax) (by simpa [Backoff.reset] using hmult)
    | advance =>
      have hno := no_overflow b m hmax hmult hm
      have hp := sameParams_advance b
      have ih' := ih b.advance.1 (hp.2.1.trans hmax) (hp.2.2.1.trans hmult)
      simp only [Backoff.runOps, Backoff.outputs, Backoff.advanceChecked, hno, Bool.false_eq_true, if_false,
        List.map_cons]
      rcases hb : b.advance with ⟨b', r⟩
      rw [hb] at ih'
      cases r <;> simp [Backoff.Out.ofOption, ih']

theorem retryStep_spec {n m k : Nat} {b : Backoff} (hinv : Inv 200 m 2 n k b) (e : ClientErr) (c : Bool) :
    (∃ f, retryStep b e c = .inl f ∧ specRetry n m k e c = .inl f) ∨
    (∃ b' d, retryStep b e c = .inr (b', d) ∧ specRetry n m k e c = .inr d ∧ Inv 200 m 2 n (k + 1) b') := by
  unfold retryStep specRetry
  by_cases h1 : e = .cancelled
  · left; exact ⟨.panicCancelled, by simp [h1], by simp [h1]⟩
  · by_cases h2 : e.retryable = false
    · left; exact ⟨.fatal e, by simp [h1, h2], by simp [h1, h2]⟩
    · simp only [h1, h2, if_false]
      obtain ⟨hr, hi⟩ := advance_closed hinv
      rcases hb : b.advance with ⟨b', r⟩
      rw [hb] at hr hi
      subst hr
      by_cases h : n = 0 ∨ k < n <;> simp only [closedDelay, h, if_true, if_false] at hi ⊢
      · cases c
        · right; exact ⟨b', Nat.min (200 * 2 ^ k) m, by simp, by simp, hi⟩
        · left; exact ⟨.cancelled, by simp, by simp⟩
      · left; exact ⟨.gaveUp e, rfl, rfl⟩

theorem loop_spec (n m : Nat) (script : List (Outcome × Bool)) :
    ∀ (k : Nat) (b : Backoff), Inv 200 m 2 n k b → runLoop b script = specLoop n m k script := by
  induction script with
  | nil => intro k b _; rfl
  | cons oc rest ih =>
    intro k b hinv
    obtain ⟨o, c⟩ := oc
    cases o with
    | never | connectedOk => simp [runLoop, stepLoop, specLoop]
    | handshakeErr e =>
      simp only [runLoop, stepLoop, specLoop]
      rcases retryStep_spec hinv e c with ⟨f, h1, h2⟩ | ⟨b', d, h1, h2, hi⟩
      · rw [h1, h2]
      · rw [h1, h2]; simp only; rw [ih (k + 1) b' hi]
    | connectedErr e =>
      simp only [runLoop, stepLoop, specLoop]
      rcases retryStep_spec (inv_reset hinv) e c with ⟨f, h1, h2⟩ | ⟨b', d, h1, h2, hi⟩
      · rw [h1, h2]
      · rw [h1, h2]; simp only; rw [ih 1 b' hi]

theorem spec_gives_up (n m : Nat) (rest : List (Outcome × Bool)) :
    ∀ (errs : List ClientErr) (k : Nat) (hne : errs ≠ []), k ≤ n → 0 < n → errs.length = n + 1 - k →
      (∀ e ∈ errs, e.retryable = true ∧ e ≠ .cancelled) →
      specLoop n m k (errs.map (fun e => (Outcome.handshakeErr e, false)) ++ rest) =
        ((List.range' k (n - k)).map (fun j => Nat.min (200 * 2 ^ j) m), .gaveUp (errs.getLast hne)) := by
  intro errs
  induction errs with
  | nil => intro k hne; exact absurd rfl hne
  | cons e es ih =>
    intro k hne hk hn hlen hr
    have he := hr e (by simp)
    simp only [List.map_cons, List.cons_append, specLoop, specRetry, he.2, he.1, if_false, Bool.true_eq_false]
    by_cases hkn : k = n
    · subst hkn
      have hes : es = [] := by
        cases es with
        | nil => rfl
        | cons a as => exfalso; simp only [List.length_cons] at hlen; omega
      subst hes
      have hk0 : k ≠ 0 := by omega
      simp [closedDelay, hk0]
    · have hlt : k < n := by omega
      have hcd : closedDelay 200 m 2 n k = some (Nat.min (200 * 2 ^ k) m) := by simp [closedDelay, hlt]
      have hes : es ≠ [] := by
        intro h; subst h; simp at hlen; omega
      have hlen' : es.length = n + 1 - (k + 1) := by simp at hlen; omega
      have := ih (k + 1) hes (by omega) hn hlen' (fun e he => hr e (by simp [he]))
      rw [hcd]
      simp only [Bool.false_eq_true, if_false]
      rw [this]
      have hr' : n - k = (n - (k + 1)) + 1 := by omega
      rw [hr', List.range'_succ, List.getLast_cons hes]
      simp

theorem spec_never_gives_up_0 (m : Nat) (script : List (Outcome × Bool)) (e : ClientErr) :
    ∀ k, (specLoop 0 m k script).2 ≠ .gaveUp e := by
  induction script with
  | nil => intro k; simp [specLoop]
  | cons oc rest ih =>
    intro k
    obtain ⟨o, c⟩ := oc
    cases o with
    | never | connectedOk => simp [specLoop]
    | handshakeErr e' | connectedErr e' =>
      simp only [specLoop, specRetry, closedDelay, true_or, if_true]
      by_cases h1 : e' = .cancelled
      · simp [h1]
      · by_cases h2 : e'.retryable = false
        · simp [h1, h2]
        · cases c <;> simp [h1, h2, ih]

/-- A delay the specification prescribes is a closed-form delay, hence at most `m`. -/
theorem specRetry_le {n m k : Nat} {e : ClientErr} {c : Bool} {d : Nat}
    (h : specRetry n m k e c = .inr d) : d ≤ m := by
  unfold specRetry closedDelay at h
  split at h
  · cases h
  · split at h
    · cases h
    · split at h
      · cases h
      · rename_i d' hd
        split at hd
        · cases hd
          cases c <;> simp at h
          subst h; exact Nat.min_le_right _ _
        · cases hd

theorem spec_sleeps_bounded (n m : Nat) (script : List (Outcome × Bool)) :
    ∀ k, ∀ d ∈ (specLoop n m k script).1, d ≤ m := by
  induction script with
  | nil => intro k d hd; simp [specLoop] at hd
  | cons oc rest ih =>
    intro k d hd
    obtain ⟨o, c⟩ := oc
    cases o with
    | never | connectedOk => simp [specLoop] at hd
    | handshakeErr e | connectedErr e =>
      simp only [specLoop] at hd
      split at hd
      · simp at hd
      · rename_i d' hs
        rcases List.mem_cons.mp hd with rfl | hd
        · exact specRetry_le hs
        · exact ih _ d hd

end Penguin.Lemmas.Client
