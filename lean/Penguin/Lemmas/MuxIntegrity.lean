/-
Stream integrity on the RECEIVING side, for every history of one endpoint and ANY peer — part 1: the
connection task.

What a stream's reader can ever see is `buf ++ rxq.flatten` of its stream object (`str e i`).  This file
defines, by looking at the state BEFORE a frame is processed, which frames `process_frame` accepts into
which object (`acceptedInto`: a `Push` whose flow id is, at that moment, the id of a slot
`Established i`, whose object still has its `Sender`, an open `Receiver` and room in the bounded queue),
follows the task's run to quiescence with "log" functions that mirror `settleLoop`, `windDown`, … and
list the accepted frames in the order they were processed (`settleLog`), and proves for every function
of the task that the readable bytes of EVERY object grow by exactly the payloads the log attributes to
it, and by nothing else (`RxT`): not by a frame of another flow, not by a frame that arrived while
another object (or none) held the id, not by a datagram, not by anything the wind-down does.
Core Lean only.
-/
import Penguin.Lemmas.MuxLeaves
import Penguin.Lemmas.MuxTrace

namespace Penguin.Mux

/-- A log of byte strings attributed to stream objects (by index into `objs`), oldest first. -/
abbrev Log := List (Nat × Bytes)

/-- The bytes a log attributes to object `i`, in order. -/
def chunks : Log → Nat → Bytes
  | [], _ => []
  | (j, d) :: r, i => if j = i then d ++ chunks r i else chunks r i

@[simp] theorem chunks_nil (i : Nat) : chunks [] i = [] := rfl

theorem chunks_append (a b : Log) (i : Nat) : chunks (a ++ b) i = chunks a i ++ chunks b i := by
  induction a with
  | nil => rfl
  | cons p r ih =>
    obtain ⟨j, d⟩ := p
    simp only [List.cons_append, chunks]
    split
    · rw [ih, List.append_assoc]
    · exact ih

theorem chunks_single_self (i : Nat) (d : Bytes) : chunks [(i, d)] i = d := by simp [chunks]
theorem chunks_single_ne (i j : Nat) (d : Bytes) (h : j ≠ i) : chunks [(j, d)] i = [] := by simp [chunks, h]

/-- What the reader of a stream object can still obtain: the handle's buffer, then the queued frames. -/
def Obj.stream (o : Obj) : Bytes := o.buf ++ o.rxq.flatten

def strO (objs : List Obj) (i : Nat) : Bytes :=
  match objs[i]? with
  | some o => o.stream
  | none => []

def str (e : EP) (i : Nat) : Bytes := strO e.objs i

/-- Object `i` exists, its `Receiver` is gone or closed (handle dropped, or end-of-stream seen) and
    nothing is queued: nothing will ever be queued again. -/
def shutO (objs : List Obj) (i : Nat) : Prop := ∃ o, objs[i]? = some o ∧ o.rxOpen = false ∧ o.rxq = []

def rxShut (e : EP) (i : Nat) : Prop := shutO e.objs i

/-! ### Which frames are accepted into which object -/

/-- The test `process_frame` makes for a `Push` (task.rs:524-557: `slot.dispatch` = `try_send` on the stream's bounded channel answers `Ok`), read off the state BEFORE the frame is
    processed: the flow id has a slot `Established i`, the object's `Sender` is still in the slot, its
    `Receiver` is open, and the bounded queue has room.  Every other frame, and a `Push` that fails one
    of the tests, is accepted into no object. -/
def acceptedInto (e : EP) (f : Frame) : Log :=
  match f with
  | .push fid d =>
    match lookup e.flows fid with
    | some (.established i) =>
      match e.obj? i with
      | some o => if o.senderAlive && o.rxOpen && decide (o.rxq.length < o.cap) then [(i, d)] else []
      | none => []
    | _ => []
  | _ => []

def processInLog (e : EP) (w : WsIn) : Log :=
  match w with
  | .msg (.frame f) => acceptedInto e f
  | _ => []

/-! ### The log of the task's run (mirrors of the model's functions; they return only the log)

The theorems about histories (`stepG`, Props C02) are stated with these mirrors; what they compute is
`(…Leaves …).flatMap Leaf.rx` (`settleLoopLog_eq` below), and everything is proved about that. -/

def windDownInboxLog (e : EP) : List WsIn → Log
  | [] => []
  | .err :: _ => []
  | .eof :: _ => []
  | w :: rest => processInLog e w ++ windDownInboxLog { (processIn e w true).1 with park := none } rest

def windDownTailLog (e1 : EP) : Log := windDownInboxLog e1 e1.inbox

def windDownLog (e : EP) (drain : Bool) : Log :=
  if drain then
    if (sendSome (dropPrep e)).1.outq.isEmpty then windDownTailLog (sendSome (dropPrep e)).1 else []
  else windDownTailLog (windDownPrep e)

def drainStepLog (e : EP) : Log :=
  if (sendSome e).1.outq.isEmpty then windDownTailLog { (sendSome e).1 with draining := none } else []

def closingStepLog (e : EP) : Log := windDownInboxLog e e.inbox

def recvOneLog (e : EP) (w : WsIn) (rest : List WsIn) : Log :=
  processInLog { (if w = .eof ∨ w = .err then { e with srcEnded := true } else e) with inbox := rest } w

def settleLoopLog : Nat → EP → Log
  | 0, _ => []
  | fuel + 1, e =>
    if e.dead then [] else
    match e.draining with
    | some _ => drainStepLog e
    | none =>
    match e.closing with
    | some _ => closingStepLog e
    | none =>
    recvCase (unpark e).park (unpark e).inbox
      (fun w rest =>
        match (recvOne (unpark e) w rest).2.2 with
        | some _ => recvOneLog (unpark e) w rest ++ windDownLog (recvOne (unpark e) w rest).1 false
        | none => recvOneLog (unpark e) w rest ++ settleLoopLog fuel (recvOne (unpark e) w rest).1)
      (match (unpark e).droppedq with
        | 0 :: rest => windDownLog { unpark e with droppedq := rest } true
        | fid :: rest => settleLoopLog fuel (closeFlow { unpark e with droppedq := rest } fid false).1
        | [] => [])

/-- The frames accepted into stream objects while the task runs to quiescence after a stimulus, in the
    order they were processed (several inbox items can be processed in one run: the receive loop may
    have been parked; the wind-down reads on). -/
def settleLog (e : EP) : Log := settleLoopLog (2 * e.inbox.length + e.droppedq.length + 2) e

/-! ### The log is what `acceptedInto` notes at the leaves of the task's run (`Lemmas/MuxLeaves.lean`) -/

def Leaf.rx : Leaf → Log
  | .frame e f => acceptedInto e f
  | _ => []

theorem processInLog_eq (e : EP) (w : WsIn) : processInLog e w = (processInLeaves e w).flatMap Leaf.rx := by
  cases w with
  | msg m => cases m <;> simp [processInLog, processInLeaves, Leaf.rx]
  | _ => rfl

theorem windDownInboxLog_eq (e : EP) (l : List WsIn) :
    windDownInboxLog e l = (windDownInboxLeaves e l).flatMap Leaf.rx := by
  induction l generalizing e with
  | nil => rfl
  | cons w l ih =>
    cases w <;> first | rfl | simp only [windDownInboxLog, windDownInboxLeaves, List.flatMap_append, processInLog_eq, ih]

theorem windDownTailLog_eq (e1 : EP) (s : Bool) (res : ExitRes) :
    windDownTailLog e1 = (windDownTailLeaves e1 s res).flatMap Leaf.rx := by
  simp only [windDownTailLog, windDownTailLeaves, List.flatMap_append, windDownInboxLog_eq]
  split <;> simp [Leaf.rx]

theorem windDownLog_eq (e : EP) (drain : Bool) (res : ExitRes) :
    windDownLog e drain = (windDownLeaves e drain res).flatMap Leaf.rx := by
  simp only [windDownLog, windDownLeaves]
  repeat' split
  all_goals first | rfl | exact windDownTailLog_eq _ _ _

theorem recvOneLog_eq (e : EP) (w : WsIn) (rest : List WsIn) :
    recvOneLog e w rest = (recvOneLeaves e w rest).flatMap Leaf.rx := processInLog_eq _ w

theorem settleLoopLog_eq (fuel : Nat) (e : EP) : settleLoopLog fuel e = (settleLoopLeaves fuel e).flatMap Leaf.rx := by
  induction fuel generalizing e with
  | zero => rfl
  | succ n ih =>
    unfold settleLoopLog settleLoopLeaves
    cases e.dead with
    | true => rfl
    | false =>
      simp only [Bool.false_eq_true, if_false]
      cases e.draining with
      | some res =>
        simp only [drainStepLog, drainStepLeaves]
        split
        · exact windDownTailLog_eq _ _ _
        · rfl
      | none =>
        cases e.closing with
        | some res =>
          simp only [closingStepLog, closingStepLeaves, List.flatMap_append, windDownInboxLog_eq]
          split <;> simp [Leaf.rx]
        | none =>
          simp only [recvCase_map (List.flatMap Leaf.rx)]
          congr 1
          · funext w rest
            rw [List.flatMap_append, ← recvOneLog_eq]
            split
            · rename_i hr; simp only [hr]; rw [windDownLog_eq _ _ _]
            · rename_i hr; simp only [hr]; rw [ih]
          · split
            · rename_i hq; simp only [hq]; exact windDownLog_eq _ _ _
            · rename_i hq; simp only [hq]; rw [ih]; rfl
            · rename_i hq; simp only [hq]; rfl

theorem settleLog_eq (e : EP) : settleLog e = (settleLeaves e).flatMap Leaf.rx := settleLoopLog_eq _ e

/-! ### The relation every function of the task satisfies -/

/-- From `a` to `b` the readable bytes of every object grew by exactly what `L` attributes to it, and an
    object whose receiver was shut stays shut and got nothing. -/
structure RxO (a b : List Obj) (L : Log) : Prop where
  str : ∀ i, strO b i = strO a i ++ chunks L i
  shut : ∀ i, shutO a i → shutO b i ∧ chunks L i = []

def RxT (e e' : EP) (L : Log) : Prop := RxO e.objs e'.objs L

theorem RxT.same {e e' : EP} (h : e'.objs = e.objs) : RxT e e' [] := by
  unfold RxT; rw [h]
  exact ⟨fun i => by simp, fun i hs => ⟨hs, rfl⟩⟩

theorem RxT.refl (e : EP) : RxT e e [] := RxT.same rfl

theorem RxT.trans {a b c : EP} {L1 L2 : Log} (s : RxT a b L1) (t : RxT b c L2) : RxT a c (L1 ++ L2) :=
  ⟨fun i => by rw [t.str i, s.str i, chunks_append, List.append_assoc],
   fun i h => by
    obtain ⟨h1, c1⟩ := s.shut i h
    obtain ⟨h2, c2⟩ := t.shut i h1
    exact ⟨h2, by rw [chunks_append, c1, c2]; rfl⟩⟩

theorem RxT.log {e e' : EP} {L L' : Log} (s : RxT e e' L) (h : L' = L) : RxT e e' L' := h ▸ s

theorem RxT.trans0 {a b c : EP} {L : Log} (s : RxT a b []) (t : RxT b c L) : RxT a c L := (s.trans t).log rfl

theorem strO_modify_self (objs : List Obj) (i : Nat) (f : Obj → Obj) (o : Obj) (h : objs[i]? = some o) :
    strO (objs.modify i f) i = (f o).stream := by
  simp [strO, h]

theorem strO_modify_ne (objs : List Obj) (i j : Nat) (f : Obj → Obj) (h : i ≠ j) :
    strO (objs.modify i f) j = strO objs j := by
  simp [strO, h]

theorem RxT.modObj (e : EP) (i : Nat) (f : Obj → Obj)
    (hf : ∀ o : Obj, e.objs[i]? = some o →
      (f o).stream = o.stream ∧ (o.rxOpen = false → o.rxq = [] → (f o).rxOpen = false ∧ (f o).rxq = [])) :
    RxT e (e.modObj i f) [] := by
  refine ⟨fun j => ?_, fun j hs => ⟨?_, rfl⟩⟩
  · simp only [EP.modObj, setObj, chunks_nil, List.append_nil]
    by_cases hij : i = j
    · subst hij
      cases ho : e.objs[i]? with
      | none => simp [strO, ho]
      | some o => rw [strO_modify_self _ _ _ _ ho]; simp only [strO, ho]; exact (hf o ho).1
    · exact strO_modify_ne _ _ _ _ hij
  · obtain ⟨o, ho, hc, hq⟩ := hs
    simp only [EP.modObj, setObj, shutO, List.getElem?_modify]
    by_cases hij : i = j
    · subst hij; exact ⟨f o, by simp [ho], (hf o ho).2 hc hq⟩
    · exact ⟨o, by simp [hij, ho], hc, hq⟩

theorem RxT.enq (e : EP) (m : Msg) : RxT e (e.enq m) [] := by
  unfold EP.enq; split
  · exact RxT.refl e
  · exact RxT.same rfl
theorem RxT.enqFrame (e : EP) (f : Frame) : RxT e (e.enqFrame f) [] := RxT.enq e _
theorem RxT.enqFrame' {e e' : EP} (f : Frame) (h : e'.objs = e.objs) : RxT e (e'.enqFrame f) [] :=
  (RxT.same h).trans0 (RxT.enqFrame e' f)

theorem RxT.newStream (e : EP) (fl : List (Nat × Slot)) (o : Obj) (hb : o.buf = []) (hq : o.rxq = []) :
    RxT e { e with objs := e.objs ++ [o], flows := fl } [] := by
  refine ⟨fun j => ?_, fun j hs => ⟨?_, rfl⟩⟩
  · simp only [chunks_nil, List.append_nil, strO]
    by_cases hj : j < e.objs.length
    · rw [List.getElem?_append_left hj]
    · have hn : e.objs[j]? = none := List.getElem?_eq_none (by omega)
      rw [hn]
      by_cases hj2 : j = e.objs.length
      · subst hj2; simp [Obj.stream, hb, hq]
      · have : (e.objs ++ [o])[j]? = none := List.getElem?_eq_none (by simp; omega)
        rw [this]
  · obtain ⟨o', ho', hc⟩ := hs
    have hj : j < e.objs.length := (List.getElem?_eq_some_iff.mp ho').1
    exact ⟨o', by simp only; rw [List.getElem?_append_left hj]; exact ho', hc⟩

/-- The one place where bytes enter a stream: a frame is appended to the queue of an object whose
    receiver is open. -/
theorem RxT.push (e : EP) (i : Nat) (o : Obj) (d : Bytes) (ho : e.objs[i]? = some o) (hopen : o.rxOpen = true) :
    RxT e (e.modObj i (fun o => { o with rxq := o.rxq ++ [d] })) [(i, d)] := by
  refine ⟨fun j => ?_, fun j hs => ?_⟩
  · simp only [EP.modObj, setObj]
    by_cases hij : i = j
    · subst hij
      rw [strO_modify_self _ _ _ _ ho, chunks_single_self]
      simp [strO, ho, Obj.stream]
    · rw [strO_modify_ne _ _ _ _ hij, chunks_single_ne _ _ _ hij, List.append_nil]
  · obtain ⟨o', ho', hc, hq⟩ := hs
    by_cases hij : i = j
    · subst hij; rw [ho] at ho'; cases ho'; rw [hopen] at hc; cases hc
    · exact ⟨⟨o', by simp [EP.modObj, setObj, hij, ho'], hc, hq⟩, chunks_single_ne _ _ _ hij⟩

/-! ### Kind by kind: every primitive step but three leaves every stream's bytes alone (`Lemmas/MuxTrace.lean`) -/

/-- The kinds of step that change the readable bytes of a stream: a frame is queued (the task), the queue is thrown
    away or the buffer cut (the application's `drop` and `read`). -/
def RxT.bad : Kinds := .of [.obj .pushRx, .obj .dropRx, .obj .setBuf]

theorem OUpd.rx_keeps {ok : OKind} {o o' : Obj} (u : OUpd ok o o') (hk : Kind.obj ok ∉ RxT.bad) :
    o'.stream = o.stream ∧ (o.rxOpen = false → o.rxq = [] → o'.rxOpen = false ∧ o'.rxq = []) := by
  cases u with
  | pushRx | dropRx | setBuf => exact absurd (by decide +kernel) hk
  -- the oldest queued frame moves into the buffer, which is empty
  | popRx _ f rest hq hb => exact ⟨by simp [Obj.stream, hq, hb], fun _ h2 => by rw [hq] at h2; cases h2⟩
  | closeWrite | disallowWrite | grant =>
    simp only [Obj.disallowWrite, Obj.wake, Obj.stream]; split <;> exact ⟨rfl, fun h1 h2 => ⟨h1, h2⟩⟩
  | closeRx => exact ⟨rfl, fun _ h2 => ⟨rfl, h2⟩⟩
  | _ => exact ⟨rfl, fun h1 h2 => ⟨h1, h2⟩⟩

theorem RxT.of_upd {k : Kind} {e e' : EP} {x : List Ev} (hk : k ∉ RxT.bad) (u : Upd k e x e') : RxT e e' [] := by
  cases u with
  | obj ok _ i f h => exact RxT.modObj e i f fun o ho => (h o ho).rx_keeps hk
  | newStream => exact RxT.newStream e _ _ rfl rfl
  | enq => exact RxT.enq _ _
  | send => exact RxT.same ((Upd.send e).frame .objs (by decide +kernel))
  | queue q => exact RxT.same (q.frame .objs)
  | ctl c => exact RxT.same (c.frame .objs)
  | req r => exact RxT.same (r.frame .objs)
  | _ => exact RxT.same rfl

theorem RxT.of_path {A : Kinds} {e e' : EP} {x : List Ev} (p : Path A e x e')
    (hA : A.disj RxT.bad = true := by decide +kernel) : RxT e e' [] :=
  p.rel0 (R := fun e e' => RxT e e' []) RxT.refl RxT.trans0 fun hk u => .of_upd (Kinds.not_mem_of_disj hA hk) u

theorem RxT.openRound (e : EP) (r : OpenReq) : RxT e (openRound e r).1 [] := .of_path (.openRoundAny e r)

theorem RxT.closeFlow (e : EP) (fid : Nat) (inh : Bool) : RxT e (closeFlow e fid inh).1 [] := .of_path (.closeFlow e fid inh)

theorem acceptedInto_not_push (e : EP) (f : Frame) (h : ∀ fid d, f ≠ .push fid d) : acceptedInto e f = [] := by
  cases f <;> first | rfl | exact absurd rfl (h _ _)

theorem RxT.processFrame (e : EP) (f : Frame) (ig : Bool) : RxT e (processFrame e f ig).1 (acceptedInto e f) := by
  -- a frame that is no `Push` takes no step that changes a stream's bytes, and nothing is accepted from it
  have p := Path.processFrameOf e f ig
  cases f with
  | push fid d =>
    simp only [Mux.processFrame, acceptedInto]
    cases hl : lookup e.flows fid with
    | none => exact RxT.enqFrame _ _
    | some s =>
      cases s with
      | requested r => exact RxT.enqFrame _ _
      | bindRequested r => exact RxT.enqFrame _ _
      | established i =>
        simp only
        cases ho : e.obj? i with
        | none => exact RxT.refl e
        | some o =>
          simp only
          by_cases h1 : o.senderAlive = true
          · by_cases h2 : o.rxOpen = true
            · by_cases h3 : o.rxq.length < o.cap
              · simp only [h1, h2, h3, Bool.not_true, Bool.false_eq_true, if_false, if_true, Bool.and_self, decide_true]
                exact RxT.push e i o d ho h2
              · simp only [h1, h2, h3, Bool.not_true, Bool.false_eq_true, if_false, Bool.and_false, decide_false,
                  Bool.and_true]
                exact RxT.closeFlow e fid false
            · simp only [Bool.not_eq_true] at h2
              simp only [h1, h2, Bool.not_true, Bool.not_false, Bool.false_eq_true, if_false, if_true, Bool.and_false,
                Bool.false_and]
              exact RxT.refl e
          · simp only [Bool.not_eq_true] at h1
            simp only [h1, Bool.not_false, if_true, Bool.false_and, Bool.false_eq_true, if_false]
            exact RxT.enqFrame _ _
  | _ => exact .of_path p (by dsimp only [K.processFrameOf]; decide +kernel)

theorem RxT.unpark (e : EP) : RxT e (unpark e) [] := .of_path (.unpark e)

theorem RxT.runRetries (e : EP) (l : List Nat) : RxT e (runRetries e l).1 [] := .of_path (.runRetries e l)

theorem RxT.runDone (e : EP) (l : List (Nat × Nat)) : RxT e (runDone e l).1 [] := .of_path (.runDone e l)

/-! ### The task's run: `RxT` holds across the functions the task is made of, hence across its loops -/

theorem RxT.walk : Walk (fun e e' _ L => RxT e e' (L.flatMap Leaf.rx)) :=
  .ofLog RxT.refl RxT.trans (fun _ _ _ _ _ _ _ => RxT.same rfl) RxT.processFrame (fun e fid => RxT.closeFlow e fid false)
    (fun e res => .of_path (.windDownFinish e res)) RxT.unpark (fun e => .of_path (.sendSome e))
    (fun e => .of_path (.dropPrep e)) (fun e => .of_path (.windDownPrep e)) (fun e => .of_path (.runDoneq e))
    (fun e => .of_path (.runRetryq e))

theorem RxT.windDown (e : EP) (drain : Bool) (res : ExitRes) : RxT e (windDown e drain res).1 (windDownLog e drain) :=
  windDownLog_eq e drain res ▸ RxT.walk.windDown e drain res

theorem RxT.settleLoop (fuel : Nat) (e : EP) (acc : List Ev) : RxT e (settleLoop fuel e acc).1 (settleLoopLog fuel e) :=
  let ⟨_, _, h⟩ := RxT.walk.settleLoop fuel e acc; settleLoopLog_eq fuel e ▸ h

/-- The task's run to quiescence: the readable bytes of every object grow by exactly the payloads of
    the frames accepted into it, in the order they were processed. -/
theorem RxT.settle (e : EP) : RxT e (settle e).1 (settleLog e) := settleLog_eq e ▸ RxT.walk.settle e

end Penguin.Mux
