/-
The invariant of the client's two UDP maps (`Inv`, kept by every `step`) and what it gives for any consistent pair of
maps (the UDP theorems of C01 are these on reachable maps); at the end the invariant of the server's forwarders.
-/
import Penguin.Model.UdpMap

namespace Penguin.UdpMap
open Penguin.Constants

section alist
variable {κ ν : Type} [DecidableEq κ]

def keys (l : List (κ × ν)) : List κ := l.map (·.1)

theorem get_some_mem {l : List (κ × ν)} {k : κ} {v : ν} (h : get l k = some v) : (k, v) ∈ l := by
  induction l with
  | nil => simp [get] at h
  | cons p rest ih =>
    obtain ⟨k', v'⟩ := p
    unfold get at h
    split at h
    · rename_i hk
      cases h; subst hk; exact List.mem_cons_self
    · exact List.mem_cons_of_mem _ (ih h)

theorem get_none_not_mem {l : List (κ × ν)} {k : κ} (h : get l k = none) : k ∉ keys l := by
  induction l with
  | nil => simp [keys]
  | cons p rest ih =>
    obtain ⟨k', v'⟩ := p
    unfold get at h
    split at h
    · cases h
    · rename_i hk
      simp only [keys, List.map_cons, List.mem_cons, not_or]
      exact ⟨fun e => hk e.symm, ih h⟩

theorem mem_keys_of_mem {l : List (κ × ν)} {k : κ} {v : ν} (h : (k, v) ∈ l) : k ∈ keys l :=
  List.mem_map.mpr ⟨(k, v), h, rfl⟩

theorem mem_get_of_nodup {l : List (κ × ν)} (hn : (keys l).Nodup) {k : κ} {v : ν} (h : (k, v) ∈ l) :
    get l k = some v := by
  induction l with
  | nil => cases h
  | cons p rest ih =>
    obtain ⟨k', v'⟩ := p
    simp only [keys, List.map_cons, List.nodup_cons] at hn
    unfold get
    rcases List.mem_cons.mp h with h | h
    · cases h; simp
    · split
      · rename_i hk
        subst hk
        exact absurd (mem_keys_of_mem h) hn.1
      · exact ih hn.2 h

theorem get_isSome_of_mem {l : List (κ × ν)} {k : κ} {v : ν} (h : (k, v) ∈ l) : (get l k).isSome = true := by
  cases hg : get l k with
  | some _ => rfl
  | none => exact absurd (mem_keys_of_mem h) (get_none_not_mem hg)

theorem mem_unique {l : List (κ × ν)} (hn : (keys l).Nodup) {k : κ} {v w : ν}
    (h1 : (k, v) ∈ l) (h2 : (k, w) ∈ l) : v = w := by
  have a := mem_get_of_nodup hn h1
  have b := mem_get_of_nodup hn h2
  rw [a] at b; cases b; rfl

theorem mem_del {l : List (κ × ν)} {k : κ} {p : κ × ν} : p ∈ del l k ↔ p ∈ l ∧ p.1 ≠ k := by
  simp [del]

theorem mem_put {l : List (κ × ν)} {k : κ} {v : ν} {p : κ × ν} :
    p ∈ put l k v ↔ p = (k, v) ∨ (p ∈ l ∧ p.1 ≠ k) := by
  simp [put, mem_del]

theorem keys_filter_sublist (l : List (κ × ν)) (f : κ × ν → Bool) : (keys (l.filter f)).Sublist (keys l) :=
  (List.filter_sublist (l := l)).map _

theorem nodup_filter {l : List (κ × ν)} (hn : (keys l).Nodup) (f : κ × ν → Bool) : (keys (l.filter f)).Nodup :=
  hn.sublist (keys_filter_sublist l f)

theorem get_filter {l : List (κ × ν)} (hn : (keys l).Nodup) (f : κ × ν → Bool) (k : κ) :
    get (l.filter f) k = (get l k).filter (fun v => f (k, v)) := by
  cases hg : get l k with
  | none =>
    cases hq : get (l.filter f) k with
    | none => rfl
    | some v => exact absurd (mem_keys_of_mem (List.mem_filter.mp (get_some_mem hq)).1) (get_none_not_mem hg)
  | some v =>
    by_cases hf : f (k, v) = true
    · rw [mem_get_of_nodup (nodup_filter hn f) (List.mem_filter.mpr ⟨get_some_mem hg, hf⟩)]
      simp [Option.filter, hf]
    · cases hq : get (l.filter f) k with
      | none => simp [Option.filter, hf]
      | some v' =>
        have hm := List.mem_filter.mp (get_some_mem hq)
        cases mem_unique hn hm.1 (get_some_mem hg)
        exact absurd hm.2 hf

theorem nodup_del {l : List (κ × ν)} (hn : (keys l).Nodup) (k : κ) : (keys (del l k)).Nodup :=
  nodup_filter hn _

theorem nodup_put {l : List (κ × ν)} (hn : (keys l).Nodup) (k : κ) (v : ν) : (keys (put l k v)).Nodup := by
  simp only [put, keys, List.map_cons, List.nodup_cons]
  refine ⟨?_, nodup_del hn k⟩
  intro h
  obtain ⟨p, hp, hk⟩ := List.mem_map.mp h
  exact (mem_del.mp hp).2 hk

theorem get_put (l : List (κ × ν)) (k k' : κ) (v : ν) :
    get (put l k v) k' = if k = k' then some v else get (del l k) k' := by
  simp [put, get]

theorem get_del (l : List (κ × ν)) (k k' : κ) :
    get (del l k) k' = if k = k' then none else get l k' := by
  induction l with
  | nil => simp [del, get]
  | cons p rest ih =>
    obtain ⟨a, b⟩ := p
    simp only [del, List.filter_cons] at ih ⊢
    by_cases hak : a = k
    · subst hak
      simp only [decide_true, Bool.not_true, Bool.false_eq_true, if_false]
      rw [ih]
      by_cases h : a = k'
      · simp [h]
      · simp [h, get]
    · simp only [hak, decide_false, Bool.not_false, if_true]
      unfold get
      by_cases h : a = k'
      · subst h; simp [Ne.symm hak]
      · simp only [h, if_false]; exact ih

theorem get_put_self (l : List (κ × ν)) (k : κ) (v : ν) : get (put l k v) k = some v := by
  simp [get_put]

theorem get_put_other (l : List (κ × ν)) {k k' : κ} (v : ν) (h : k ≠ k') : get (put l k v) k' = get l k' := by
  simp [get_put, get_del, h]

end alist

/-- The two maps of `ClientIdMaps` are consistent (keys unique in both, each the inverse of the other): what the
    `expect("… inconsistent (this is a bug)")` calls of `client/mod.rs` take for granted. -/
structure Inv (m : Maps) : Prop where
  kid : (keys m.idMap).Nodup
  kaddr : (keys m.addrMap).Nodup
  fwd : ∀ cid e, (cid, e) ∈ m.idMap → (e.tuple, cid) ∈ m.addrMap
  bwd : ∀ t cid, (t, cid) ∈ m.addrMap → ∃ e, (cid, e) ∈ m.idMap ∧ e.tuple = t
  /-- with the non-zero key generator, 0 (the stdio sentinel) is never a client id -/
  nz : udpClientIdNonzero = true → ∀ cid e, (cid, e) ∈ m.idMap → cid ≠ 0

theorem init_inv (now : Nat) : Inv { now := now } :=
  ⟨(by simp [keys]), (by simp [keys]), (by intro _ _ h; cases h), (by intro _ _ h; cases h),
   (by intro _ _ _ h; cases h)⟩

theorem Entry.tuple_eq_iff (e : Entry) (p o : Addr) : e.tuple = (p, o) ↔ e.peer = p ∧ e.our = o := by
  simp [Entry.tuple]

theorem Inv.get_of_addr {m : Maps} (h : Inv m) {t : Addr × Addr} {cid : Nat} (hg : get m.addrMap t = some cid) :
    ∃ e, (cid, e) ∈ m.idMap ∧ get m.idMap cid = some e ∧ e.tuple = t := by
  obtain ⟨e, he, ht⟩ := h.bwd _ _ (get_some_mem hg)
  exact ⟨e, he, mem_get_of_nodup h.kid he, ht⟩

theorem Inv.eq_of_tuple {m : Maps} (h : Inv m) {c1 c2 : Nat} {e1 e2 : Entry} (h1 : (c1, e1) ∈ m.idMap)
    (h2 : (c2, e2) ∈ m.idMap) (ht : e1.tuple = e2.tuple) : c1 = c2 ∧ e1 = e2 := by
  have hc : c1 = c2 := mem_unique h.kaddr (ht ▸ h.fwd _ _ h1) (h.fwd _ _ h2)
  subst hc
  exact ⟨rfl, mem_unique h.kid h1 h2⟩

theorem nextKey_spec {idMap : List (Nat × Entry)} {nz : Bool} {rng : List Nat} {cid : Nat}
    (h : nextKey idMap nz rng = some cid) : get idMap cid = none ∧ (nz = true → cid ≠ 0) ∧ cid ∈ rng := by
  induction rng with
  | nil => simp [nextKey] at h
  | cons k rest ih =>
    unfold nextKey at h
    split at h
    · obtain ⟨a, b, c⟩ := ih h
      exact ⟨a, b, List.mem_cons_of_mem _ c⟩
    · rename_i hc
      have hk : k = cid := Option.some.inj h
      subst hk
      simp only [Bool.or_eq_true, Bool.and_eq_true, decide_eq_true_eq, not_or, not_and] at hc
      refine ⟨?_, ?_, List.mem_cons_self⟩
      · cases hg : get idMap k with
        | none => rfl
        | some _ => simp [hg] at hc
      · intro hz; exact hc.1 hz

theorem refresh_tuple (e : Entry) (now : Nat) : (refresh e now).tuple = e.tuple := rfl

theorem refresh_inv {m : Maps} (h : Inv m) {cid : Nat} {e : Entry} (he : (cid, e) ∈ m.idMap) :
    Inv { m with idMap := put m.idMap cid (refresh e m.now) } := by
  refine ⟨nodup_put h.kid _ _, h.kaddr, ?_, ?_, ?_⟩
  · intro c e' hm
    rcases mem_put.mp hm with hm | ⟨hm, _⟩
    · cases hm; exact h.fwd cid e he
    · exact h.fwd _ _ hm
  · intro t c hm
    obtain ⟨e0, h0, ht⟩ := h.bwd t c hm
    by_cases hc : c = cid
    · subst hc
      have : e0 = e := mem_unique h.kid h0 he
      subst this
      exact ⟨refresh e0 m.now, mem_put.mpr (Or.inl rfl), ht⟩
    · exact ⟨e0, mem_put.mpr (Or.inr ⟨h0, hc⟩), ht⟩
  · intro hz c e' hm
    rcases mem_put.mp hm with hm | ⟨hm, _⟩
    · cases hm; exact h.nz hz _ _ he
    · exact h.nz hz _ _ hm

theorem add_inv (m : Maps) (h : Inv m) (peer our : Addr) (sock : SockId) (s5 : Bool) (rng : List Nat) :
    Inv (add m peer our sock s5 rng).1 := by
  unfold add
  split
  · rename_i cid hg
    obtain ⟨e, he, hge, _⟩ := h.get_of_addr hg
    rw [hge]
    exact refresh_inv h he
  · rename_i hg
    split
    · exact h
    · rename_i cid hk
      obtain ⟨hfree, hnz, _⟩ := nextKey_spec hk
      have hcid : cid ∉ keys m.idMap := get_none_not_mem hfree
      have htup : (peer, our) ∉ keys m.addrMap := get_none_not_mem hg
      refine ⟨nodup_put h.kid _ _, nodup_put h.kaddr _ _, ?_, ?_, ?_⟩
      · intro c e' hm
        rcases mem_put.mp hm with hm | ⟨hm, _⟩
        · cases hm; exact mem_put.mpr (Or.inl rfl)
        · have := h.fwd _ _ hm
          refine mem_put.mpr (Or.inr ⟨this, ?_⟩)
          intro heq
          exact htup (heq ▸ mem_keys_of_mem this)
      · intro t c hm
        rcases mem_put.mp hm with hm | ⟨hm, hne⟩
        · cases hm
          exact ⟨_, mem_put.mpr (Or.inl rfl), rfl⟩
        · obtain ⟨e0, h0, ht⟩ := h.bwd _ _ hm
          refine ⟨e0, mem_put.mpr (Or.inr ⟨h0, ?_⟩), ht⟩
          intro heq
          exact hcid (heq ▸ mem_keys_of_mem h0)
      · intro hz c e' hm
        rcases mem_put.mp hm with hm | ⟨hm, _⟩
        · cases hm; exact hnz hz
        · exact h.nz hz _ _ hm

theorem reply_inv (m : Maps) (h : Inv m) (cid : Nat) : Inv (reply m cid).1 := by
  unfold reply
  split
  · exact h
  · split
    · exact h
    · rename_i e hg
      exact refresh_inv h (get_some_mem hg)

def alive (now : Nat) (p : Nat × Entry) : Bool := decide (p.2.expires > now)

def deadTuple (now : Nat) (l : List (Nat × Entry)) (t : Addr × Addr) : Bool :=
  l.any (fun p => !alive now p && decide (p.2.tuple = t))

theorem pruneGo_spec (now : Nat) (l : List (Nat × Entry)) (am : List ((Addr × Addr) × Nat))
    (hd : l.Pairwise (fun p q => p.2.tuple ≠ q.2.tuple))
    (hp : ∀ p ∈ l, (get am p.2.tuple).isSome = true) :
    pruneGo now l am = some (l.filter (alive now), am.filter (fun q => !deadTuple now l q.1)) := by
  induction l generalizing am with
  | nil =>
    simp only [pruneGo, deadTuple, List.any_nil, Bool.not_false, List.filter_nil]
    rw [List.filter_eq_self.mpr (fun _ _ => rfl)]
  | cons p rest ih =>
    obtain ⟨cid, e⟩ := p
    rw [List.pairwise_cons] at hd
    have hp' : ∀ p ∈ rest, (get am p.2.tuple).isSome = true := fun p hm => hp p (List.mem_cons_of_mem _ hm)
    unfold pruneGo
    by_cases hal : e.expires > now
    · simp only [hal, if_true]
      rw [ih am hd.2 hp']
      have h1 : alive now (cid, e) = true := by simp [alive, hal]
      simp [h1, deadTuple, List.any_cons]
    · simp only [hal, if_false]
      have hsome := hp (cid, e) List.mem_cons_self
      cases hg : get am e.tuple with
      | none => simp [hg] at hsome
      | some _ =>
        simp only
        have hp2 : ∀ p ∈ rest, (get (del am e.tuple) p.2.tuple).isSome = true := by
          intro p hm
          rw [get_del]
          have hne : e.tuple ≠ p.2.tuple := hd.1 p hm
          simp [hne, hp' p hm]
        rw [ih (del am e.tuple) hd.2 hp2]
        have h1 : alive now (cid, e) = false := by simp [alive, hal]
        simp only [List.filter_cons, h1, Bool.false_eq_true, if_false, del, List.filter_filter]
        congr 2
        apply List.filter_congr
        intro q _
        simp only [deadTuple, List.any_cons, h1, Bool.not_false, Bool.true_and, Bool.not_or]
        by_cases hq : e.tuple = q.1
        · simp [hq]
        · have : ¬ q.1 = e.tuple := fun x => hq x.symm
          simp [hq, this, Bool.and_comm]

theorem tuples_distinct {m : Maps} (h : Inv m) : m.idMap.Pairwise (fun p q => p.2.tuple ≠ q.2.tuple) := by
  have hk : m.idMap.Pairwise (fun p q => p.1 ≠ q.1) := by
    have := h.kid
    simp only [keys, List.Nodup, List.pairwise_map] at this
    exact this
  refine hk.imp_of_mem ?_
  intro p q hp hq hne heq
  exact hne (h.eq_of_tuple hp hq heq).1

theorem prune_eq (m : Maps) (h : Inv m) :
    prune m = ({ m with idMap := m.idMap.filter (alive m.now),
                        addrMap := m.addrMap.filter (fun q => !deadTuple m.now m.idMap q.1) },
               .pruned ((m.idMap.filter (fun p => !alive m.now p)).map (·.1))) := by
  unfold prune
  rw [pruneGo_spec m.now m.idMap m.addrMap (tuples_distinct h)
    (fun p hp => get_isSome_of_mem (h.fwd p.1 p.2 hp))]
  rfl

theorem deadTuple_iff {now : Nat} {l : List (Nat × Entry)} {t : Addr × Addr} :
    deadTuple now l t = true ↔ ∃ p ∈ l, alive now p = false ∧ p.2.tuple = t := by
  simp [deadTuple, List.any_eq_true]

theorem prune_inv (m : Maps) (h : Inv m) : Inv (prune m).1 := by
  rw [prune_eq m h]
  refine ⟨nodup_filter h.kid _, nodup_filter h.kaddr _, ?_, ?_, ?_⟩
  · intro cid e hm
    simp only [List.mem_filter] at hm ⊢
    refine ⟨h.fwd _ _ hm.1, ?_⟩
    simp only [Bool.not_eq_true']
    cases hdead : deadTuple m.now m.idMap e.tuple with
    | false => rfl
    | true =>
      obtain ⟨p, hp, hpd, hpt⟩ := deadTuple_iff.mp hdead
      obtain ⟨c2, e2⟩ := p
      obtain ⟨rfl, rfl⟩ := h.eq_of_tuple hp hm.1 hpt
      rw [hm.2] at hpd; cases hpd
  · intro t cid hm
    simp only [List.mem_filter, Bool.not_eq_true'] at hm
    obtain ⟨e0, h0, ht⟩ := h.bwd _ _ hm.1
    refine ⟨e0, ?_, ht⟩
    simp only [List.mem_filter]
    refine ⟨h0, ?_⟩
    cases hal : alive m.now (cid, e0) with
    | true => rfl
    | false =>
      have : deadTuple m.now m.idMap t = true := deadTuple_iff.mpr ⟨(cid, e0), h0, hal, ht⟩
      rw [this] at hm; cases hm.2
  · intro hz cid e hm
    exact h.nz hz _ _ (List.mem_filter.mp hm).1

theorem step_inv (m : Maps) (op : Op) (h : Inv m) : Inv (step m op).1 := by
  cases op with
  | add p o s f rng => exact add_inv m h p o s f rng
  | reply cid => exact reply_inv m h cid
  | prune => exact prune_inv m h
  | tick dt => exact ⟨h.kid, h.kaddr, h.fwd, h.bwd, h.nz⟩

theorem run_inv (m : Maps) (ops : List Op) (h : Inv m) : Inv (run m ops) := by
  induction ops generalizing m with
  | nil => exact h
  | cons op rest ih => exact ih _ (step_inv m op h)

theorem reach_inv (ops : List Op) : Inv (run {} ops) := run_inv _ ops (init_inv 0)

/-- With consistent maps no operation reaches one of the `expect("… inconsistent (this is a bug)")` panics. -/
theorem step_ne_panic {m : Maps} (h : Inv m) (op : Op) : (step m op).2 ≠ .panic := by
  cases op with
  | add p o s f rng =>
    simp only [step, add]
    split
    · rename_i cid hg
      obtain ⟨e, _, hge, _⟩ := h.get_of_addr hg
      rw [hge]
      simp
    · split <;> simp
  | reply cid =>
    simp only [step, reply]
    repeat' split
    all_goals simp
  | prune =>
    simp only [step]
    rw [prune_eq m h]
    simp
  | tick dt => simp [step]

theorem add_routes {m : Maps} (h : Inv m) (peer our : Addr) (sock : SockId) (s5 : Bool) (rng : List Nat) (cid : Nat)
    (hadd : (add m peer our sock s5 rng).2 = .id cid) :
    ∃ e, get (add m peer our sock s5 rng).1.idMap cid = some e ∧
      e.peer = peer ∧ e.our = our ∧
      (reply (add m peer our sock s5 rng).1 cid).2 = .target e.sock peer e.socks5 ∧
      (get m.addrMap (peer, our) = none → e.sock = sock ∧ e.socks5 = s5) := by
  have h2 : Inv (add m peer our sock s5 rng).1 := add_inv _ h _ _ _ _ _
  have hnz : udpClientIdNonzero = true := rfl
  have key : ∃ e, get (add m peer our sock s5 rng).1.idMap cid = some e ∧ e.peer = peer ∧ e.our = our ∧
      (get m.addrMap (peer, our) = none → e.sock = sock ∧ e.socks5 = s5) := by
    unfold add at hadd ⊢
    split at hadd
    · rename_i c hg
      obtain ⟨e, _, hge, ht⟩ := h.get_of_addr hg
      rw [hge] at hadd ⊢
      simp only [Out.id.injEq] at hadd
      subst hadd
      obtain ⟨hp, ho⟩ := (e.tuple_eq_iff _ _).mp ht
      exact ⟨refresh e m.now, by simp [get_put_self], hp, ho, fun hn => by rw [hn] at hg; cases hg⟩
    · split at hadd
      · cases hadd
      · simp only [Out.id.injEq] at hadd
        subst hadd
        exact ⟨{ peer := peer, our := our, sock := sock, socks5 := s5, expires := m.now + udpPruneTimeoutMs },
          by simp [get_put_self], rfl, rfl, fun _ => ⟨rfl, rfl⟩⟩
  obtain ⟨e, hg, hp, ho, hfresh⟩ := key
  refine ⟨e, hg, hp, ho, ?_, hfresh⟩
  have hne : cid ≠ udpStdioClientId := h2.nz hnz cid e (get_some_mem hg)
  simp [reply, hne, hg, hp]

theorem Inv.bijection {m : Maps} (h : Inv m) :
    (∀ cid e1 e2, (cid, e1) ∈ m.idMap → (cid, e2) ∈ m.idMap → e1 = e2) ∧
    (∀ c1 c2 e1 e2, get m.idMap c1 = some e1 → get m.idMap c2 = some e2 →
        e1.peer = e2.peer → e1.our = e2.our → c1 = c2) ∧
    (∀ cid e, get m.idMap cid = some e → get m.addrMap (e.peer, e.our) = some cid) ∧
    (∀ p o cid, get m.addrMap (p, o) = some cid → ∃ e, get m.idMap cid = some e ∧ e.peer = p ∧ e.our = o) := by
  refine ⟨fun cid e1 e2 a b => mem_unique h.kid a b, ?_, ?_, ?_⟩
  · intro c1 c2 e1 e2 g1 g2 hp ho
    exact (h.eq_of_tuple (get_some_mem g1) (get_some_mem g2) (by simp [Entry.tuple, hp, ho])).1
  · intro cid e g
    exact mem_get_of_nodup h.kaddr (h.fwd _ _ (get_some_mem g))
  · intro p o cid g
    obtain ⟨e, _, hge, ht⟩ := h.get_of_addr g
    exact ⟨e, hge, (e.tuple_eq_iff p o).mp ht⟩

theorem step_keeps_target {m : Maps} (h : Inv m) (op : Op) (cid : Nat) (e : Entry) (hg : get m.idMap cid = some e) :
    get (step m op).1.idMap cid = none ∨
    ∃ e', get (step m op).1.idMap cid = some e' ∧
      e'.peer = e.peer ∧ e'.our = e.our ∧ e'.sock = e.sock ∧ e'.socks5 = e.socks5 := by
  have same : get m.idMap cid = none ∨ ∃ e', get m.idMap cid = some e' ∧
      e'.peer = e.peer ∧ e'.our = e.our ∧ e'.sock = e.sock ∧ e'.socks5 = e.socks5 :=
    Or.inr ⟨e, hg, rfl, rfl, rfl, rfl⟩
  have putcase : ∀ (c : Nat) (e0 : Entry), get m.idMap c = some e0 →
      (get (put m.idMap c (refresh e0 m.now)) cid = none ∨ ∃ e', get (put m.idMap c (refresh e0 m.now)) cid = some e' ∧
        e'.peer = e.peer ∧ e'.our = e.our ∧ e'.sock = e.sock ∧ e'.socks5 = e.socks5) := by
    intro c e0 h0
    by_cases hc : c = cid
    · subst hc
      rw [hg] at h0; cases h0
      exact Or.inr ⟨refresh e m.now, get_put_self _ _ _, rfl, rfl, rfl, rfl⟩
    · rw [get_put_other _ _ hc]; exact same
  cases op with
  | add p o s f rng =>
    simp only [step, add]
    split
    · rename_i c hga
      obtain ⟨e0, _, hge, _⟩ := h.get_of_addr hga
      rw [hge]
      exact putcase c e0 hge
    · split
      · exact same
      · rename_i c hk
        have hfree := (nextKey_spec hk).1
        have hc : c ≠ cid := by intro e; subst e; rw [hg] at hfree; cases hfree
        simp only
        rw [get_put_other _ _ hc]; exact same
  | reply c =>
    simp only [step, reply]
    split
    · exact same
    · split
      · exact same
      · rename_i e0 h0
        exact putcase c e0 h0
  | prune =>
    simp only [step]
    rw [prune_eq m h]
    simp only
    rw [get_filter h.kid, hg]
    by_cases hal : alive m.now (cid, e) = true
    · exact Or.inr ⟨e, by simp [Option.filter, hal], rfl, rfl, rfl, rfl⟩
    · exact Or.inl (by simp [Option.filter, hal])
  | tick dt => exact same

theorem prune_spec {m : Maps} (h : Inv m) (cid : Nat) :
    get (prune m).1.idMap cid = (get m.idMap cid).filter (fun e => decide (e.expires > m.now)) ∧
    (∀ e, get m.idMap cid = some e →
       get (prune m).1.addrMap (e.peer, e.our) = if e.expires > m.now then some cid else none) := by
  have h2 : Inv (prune m).1 := prune_inv m h
  have hidm : (prune m).1.idMap = m.idMap.filter (alive m.now) := by rw [prune_eq m h]
  have first : get (prune m).1.idMap cid = (get m.idMap cid).filter (fun e => decide (e.expires > m.now)) := by
    rw [hidm, get_filter h.kid]
    rfl
  refine ⟨first, ?_⟩
  intro e hg
  rw [hg] at first
  by_cases hal : e.expires > m.now
  · simp only [hal, if_true]
    have : get (prune m).1.idMap cid = some e := by simpa [Option.filter, hal] using first
    exact mem_get_of_nodup h2.kaddr (h2.fwd _ _ (get_some_mem this))
  · simp only [hal, if_false]
    cases hq : get (prune m).1.addrMap (e.peer, e.our) with
    | none => rfl
    | some c =>
      obtain ⟨e', he', ht⟩ := h2.bwd _ _ (get_some_mem hq)
      -- the surviving entry under `c` has the same tuple as `e`, hence is `e`, which has expired
      have hm' : (c, e') ∈ m.idMap := by
        rw [hidm] at he'; exact (List.mem_filter.mp he').1
      obtain ⟨rfl, rfl⟩ := h.eq_of_tuple hm' (get_some_mem hg) (by simpa [Entry.tuple] using ht)
      rw [hidm] at he'
      have := (List.mem_filter.mp he').2
      simp [alive, hal] at this

/-! ### The server's forwarders

The invariant of `srun` has one part about the state (`TableOk`) and one about every entry of the trace
(`TraceOk`); the second only mentions the forwarders' flow ids, which no step changes (`Keeps`), so a step has to
establish it for the entry it appends and nothing else. -/

def Keeps (fs fs' : List Fwd) : Prop :=
  ∀ (j : Nat) (f : Fwd), fs[j]? = some f → ∃ f' : Fwd, fs'[j]? = some f' ∧ f'.flowId = f.flowId

theorem Keeps.refl (fs : List Fwd) : Keeps fs fs := fun _ f h => ⟨f, h, rfl⟩

theorem Keeps.append (fs : List Fwd) (f0 : Fwd) : Keeps fs (fs ++ [f0]) := fun j f h =>
  ⟨f, by rw [List.getElem?_append_left (List.getElem?_eq_some_iff.mp h).1]; exact h, rfl⟩

theorem Keeps.set {fs : List Fwd} {i : Nat} {f0 : Fwd} (h0 : fs[i]? = some f0) :
    Keeps fs (fs.set i { f0 with alive := false }) := by
  intro j f hf
  by_cases hij : i = j
  · subst hij
    cases h0.symm.trans hf
    exact ⟨{ f0 with alive := false }, by simp [List.getElem?_set_self (List.getElem?_eq_some_iff.mp h0).1], rfl⟩
  · exact ⟨f, by rw [List.getElem?_set_ne hij]; exact hf, rfl⟩

/-- `udp_clients` points at forwarders of that flow id. -/
def TableOk (cl : List (Nat × Nat)) (fs : List Fwd) : Prop :=
  ∀ k j, get cl k = some j → ∃ f : Fwd, fs[j]? = some f ∧ f.flowId = k

theorem TableOk.keeps {cl : List (Nat × Nat)} {fs fs' : List Fwd} (h : TableOk cl fs) (hk : Keeps fs fs') :
    TableOk cl fs' := fun k j hg => by
  obtain ⟨f, hf, e⟩ := h k j hg
  obtain ⟨f', hf', e'⟩ := hk j f hf
  exact ⟨f', hf', e'.trans e⟩

theorem TableOk.del {cl : List (Nat × Nat)} {fs : List Fwd} (h : TableOk cl fs) (k0 : Nat) :
    TableOk (del cl k0) fs := fun k j hg => by
  rw [get_del] at hg
  split at hg
  · cases hg
  · exact h k j hg

def TraceOk (fs : List Fwd) : SOp × SOut → Prop
  | (.fromClient dq, .toTarget j _ _ _) => ∃ f : Fwd, fs[j]? = some f ∧ f.flowId = dq.flowId
  | (.fromTarget j pl, .toClient dr) => ∃ f : Fwd, fs[j]? = some f ∧ f.flowId = dr.flowId ∧ dr.data = pl
  | _ => True

theorem TraceOk.keeps {fs fs' : List Fwd} (hk : Keeps fs fs') {x : SOp × SOut} (h : TraceOk fs x) : TraceOk fs' x := by
  obtain ⟨op, out⟩ := x
  cases op <;> cases out <;> first | trivial | skip
  · obtain ⟨f, hf, e⟩ := h
    obtain ⟨f', hf', e'⟩ := hk _ f hf
    exact ⟨f', hf', e'.trans e⟩
  · obtain ⟨f, hf, e, hd⟩ := h
    obtain ⟨f', hf', e'⟩ := hk _ f hf
    exact ⟨f', hf', e'.trans e, hd⟩

theorem spawn_ok {s : Srv} (h : TableOk s.clients s.fwds) (d : Dgram) :
    Keeps s.fwds (s.spawn d).1.fwds ∧ TableOk (s.spawn d).1.clients (s.spawn d).1.fwds ∧
      TraceOk (s.spawn d).1.fwds (.fromClient d, (s.spawn d).2) := by
  refine ⟨Keeps.append _ _, fun k j hg => ?_,
    ⟨{ flowId := d.flowId, host := d.host, port := d.port }, by simp [Srv.spawn], rfl⟩⟩
  simp only [Srv.spawn] at hg ⊢
  rw [get_put] at hg
  split at hg
  · next hk => cases hg; subst hk; exact ⟨{ flowId := d.flowId, host := d.host, port := d.port }, by simp, rfl⟩
  · exact (h.del _).keeps (Keeps.append _ _) k j hg

theorem sstep_ok {s : Srv} (h : TableOk s.clients s.fwds) (op : SOp) :
    Keeps s.fwds (sstep s op).1.fwds ∧ TableOk (sstep s op).1.clients (sstep s op).1.fwds ∧
      TraceOk (sstep s op).1.fwds (op, (sstep s op).2) := by
  cases op with
  | fromClient d =>
    simp only [sstep]
    split
    · next j hg =>
      obtain ⟨f, hf, hk⟩ := h _ _ hg
      rw [hf]
      simp only
      split
      · exact ⟨Keeps.refl _, h, f, hf, hk⟩
      · split
        · exact spawn_ok (s := { s with clients := del s.clients d.flowId }) (h.del _) d
        · exact ⟨Keeps.refl _, h.del _, trivial⟩
    · exact spawn_ok h d
  | fromTarget j pl =>
    simp only [sstep]
    split
    · next f hf =>
      split
      · exact ⟨Keeps.refl _, h, f, hf, rfl, rfl⟩
      · exact ⟨Keeps.refl _, h, trivial⟩
    · exact ⟨Keeps.refl _, h, trivial⟩
  | expire j =>
    simp only [sstep]
    split
    · next f0 h0 => exact ⟨Keeps.set h0, h.keeps (Keeps.set h0), trivial⟩
    · exact ⟨Keeps.refl _, h, trivial⟩

theorem srun_ok (ops : List SOp) :
    TableOk (srun {} ops).1.clients (srun {} ops).1.fwds ∧ ∀ x ∈ (srun {} ops).2, TraceOk (srun {} ops).1.fwds x := by
  let P : Srv × List (SOp × SOut) → Prop := fun st =>
    TableOk st.1.clients st.1.fwds ∧ ∀ x ∈ st.2, TraceOk st.1.fwds x
  -- `srun {} ops` is, by definition, this fold started at `({}, [])`; the induction needs it from any state and trace
  suffices hs : ∀ st, P st →
      P (ops.foldl (fun (acc : Srv × List (SOp × SOut)) op => ((sstep acc.1 op).1, acc.2 ++ [(op, (sstep acc.1 op).2)])) st) from
    hs ({}, []) ⟨fun _ _ hg => by simp [get] at hg, fun _ hx => nomatch hx⟩
  induction ops with
  | nil => exact fun _ h => h
  | cons op rest ih =>
    intro st ⟨ht, hx⟩
    obtain ⟨hk, ht', hn⟩ := sstep_ok ht op
    refine ih _ ⟨ht', fun x hm => ?_⟩
    rcases List.mem_append.mp hm with hm | hm
    · exact (hx x hm).keeps hk
    · cases List.mem_singleton.mp hm; exact hn

end Penguin.UdpMap
