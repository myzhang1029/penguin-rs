/-
The datagram service, one delivery at a time: in a running endpoint whose receive loop is not parked,
the stimulus that delivers a `Datagram` frame makes the task process exactly that frame, so the
datagram is queued if (and only if) the `Multiplexor` exists and the queue has room — whatever happened
before.  Also: a task run that finds nothing in the inbox processes no frame.
Core Lean only.
-/
import Penguin.Lemmas.MuxDgram
import Penguin.Lemmas.MuxStep
import Penguin.Lemmas.MuxIntegritySrc

namespace Penguin.Mux

theorem settleLoopLogD_nil (φ : DgObs) (fuel : Nat) (e : EP) (h : e.inbox = []) : settleLoopLogD φ fuel e = [] := by
  obtain ⟨_, _, hc⟩ := consumed.settleLoop fuel e []
  unfold Consumed at hc
  rw [h, List.sublist_nil, List.append_eq_nil_iff, List.filterMap_eq_nil_iff] at hc
  rw [settleLoopLogD_eq, List.flatMap_eq_nil_iff]
  intro x hx
  cases x with
  | frame e f => exact absurd (hc.1 _ hx) nofun
  | _ => rfl

theorem settleLoopLogD_one (φ : DgObs) (n : Nat) (e1 : EP) (w : WsIn)
    (hd : e1.dead = false) (hdr : e1.draining = none) (hc : e1.closing = none) (hp : e1.park = none)
    (hin : e1.inbox = [w]) (hex : (recvOne e1 w []).2.2 = none) (hnil : (recvOne e1 w []).1.inbox = []) :
    settleLoopLogD φ (n + 1) e1 = recvOneLogD φ e1 w [] := by
  unfold settleLoopLogD
  simp only [hd, Bool.false_eq_true, if_false, hdr, hc]
  rw [unpark_of_none _ hp, recvCase_pos _ _ hp hin]
  simp only [hex]
  rw [settleLoopLogD_nil φ _ _ hnil, List.append_nil]

/-- The stimulus that delivers a `Datagram` frame to a running endpoint whose receive loop is free makes
    the task process that frame, on the state as it is, and no other frame. -/
theorem settleLogD_deliver_datagram (φ : DgObs) (e : EP) (fid port : Nat) (host d : Bytes)
    (hd : e.dead = false) (hdr : e.draining = none) (hc : e.closing = none) (hp : e.park = none)
    (hi : e.inbox = []) (hs : e.srcEnded = false) :
    settleLogD φ (opStep e (.deliver (.msg (.frame (.datagram fid port host d))))).1 =
      φ e (.datagram fid port host d) := by
  have hop : (opStep e (.deliver (.msg (.frame (.datagram fid port host d))))).1 =
      { e with inbox := [.msg (.frame (.datagram fid port host d))] } := by
    simp [opStep_deliver, hs, hi]
  rw [hop]
  have he : ({ e with inbox := [] } : EP) = e := set_inbox_self e [] hi
  have hr : recvOne { e with inbox := [WsIn.msg (.frame (.datagram fid port host d))] }
      (.msg (.frame (.datagram fid port host d))) [] = processFrame e (.datagram fid port host d) false := by
    simp only [Mux.recvOne, Mux.processIn, reduceCtorEq, or_self, if_false]
    rw [he]
  have hex : (processFrame e (.datagram fid port host d) false).2.2 = none := by rw [processFrame_datagram]
  have hin : (processFrame e (.datagram fid port host d) false).1.inbox = [] := by rw [processFrame_datagram]; exact hi
  unfold settleLogD
  have hf : 2 * ({ e with inbox := [WsIn.msg (.frame (.datagram fid port host d))] } : EP).inbox.length +
      ({ e with inbox := [WsIn.msg (.frame (.datagram fid port host d))] } : EP).droppedq.length + 2 =
      (e.droppedq.length + 3) + 1 := by simp; omega
  rw [hf, settleLoopLogD_one φ _ { e with inbox := [WsIn.msg (.frame (.datagram fid port host d))] }
    (.msg (.frame (.datagram fid port host d))) hd hdr hc hp rfl
    (by rw [hr]; exact hex) (by rw [hr]; exact hin)]
  simp only [recvOneLogD, processInLogD, reduceCtorEq, or_self, if_false]
  rw [he]

end Penguin.Mux
