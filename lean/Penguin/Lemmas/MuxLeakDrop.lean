/-
Dropping a stream handle releases its slot: on a running endpoint whose task is idle, after the
`dropStream` stimulus (the call, then the task running to quiescence) no slot of the flow table
refers to the dropped stream's object — and by `no_slot_forever` none ever will again.
Core Lean only.
-/
import Penguin.Lemmas.MuxLeak

namespace Penguin.Mux

theorem closeFlow_noSlot (e : EP) (fid i : Nat) (o : Obj) (inh : Bool) (hs : SlotFidE e)
    (ho : e.objs[i]? = some o) (hf : o.fid = fid) : NoSlotTo (closeFlow e fid inh).1 i := by
  intro y hy
  have hi : i < e.objs.length := (List.getElem?_eq_some_iff.mp ho).1
  rcases (Grow.closeFlow e fid inh).slots y i hy with h1 | ⟨hl, _⟩
  · have : o.fid = y := hs y i o h1 ho
    have hyf : y = fid := by rw [← this, hf]
    subst hyf
    rw [closeFlow_slot_none] at hy; cases hy
  · omega

theorem Grow.settle_tail (e : EP) :
    Grow (Mux.settleLoop (2 * e.inbox.length + e.droppedq.length + 2) e []).1 (Mux.settle e).1 :=
  let ⟨_, _, p⟩ := Path.settle_tail e; .of_path p

/-- The task is running and idle: nothing unread, no notification pending, not winding down. -/
structure IdleE (e : EP) : Prop where
  inbox : e.inbox = []
  droppedq : e.droppedq = []
  dead : e.dead = false
  draining : e.draining = none
  closing : e.closing = none
  muxAlive : e.muxAlive = true

/-- The task takes the notification of an object's own id: one round closes that flow, and no slot refers to the
    object at the end of the loop. -/
theorem settleLoop_notif_noSlot (fuel : Nat) (e : EP) (x i : Nat) (o : Obj) (hw : WF e) (hs : SlotFidE e)
    (hi : e.inbox = []) (hq : e.droppedq = [x]) (hx : x ≠ 0) (hd : e.dead = false) (hdr : e.draining = none)
    (hc : e.closing = none) (hm : e.muxAlive = true) (ho : e.objs[i]? = some o) (hf : o.fid = x) :
    NoSlotTo (settleLoop (fuel + 1) e []).1 i ∧ i < (settleLoop (fuel + 1) e []).1.objs.length := by
  rw [settleLoop_one_notif fuel e [] x [] hi hq hx hd hdr hc hm]
  have g2 : Grow e { unpark e with droppedq := [] } := (Grow.unpark e).trans (Grow.same rfl rfl)
  obtain ⟨o2, ho2, hf2⟩ := g2.fid i o ho
  have hn := closeFlow_noSlot _ x i o2 false (g2.slotFid hw hs) ho2 (by rw [hf2, hf])
  have hi3 : i < (closeFlow { unpark e with droppedq := [] } x false).1.objs.length :=
    Nat.lt_of_lt_of_le (List.getElem?_eq_some_iff.mp ho2).1 (Grow.closeFlow _ x false).len
  have g := Grow.settleLoop fuel (closeFlow { unpark e with droppedq := [] } x false).1
    ([] ++ (closeFlow { unpark e with droppedq := [] } x false).2)
  exact ⟨g.noSlot hi3 hn, Nat.lt_of_lt_of_le hi3 g.len⟩

theorem dropStream_releases_slot (e : EP) (h i : Nat) (o : Obj) (hw : WF e) (hs : SlotFidE e) (hidle : IdleE e)
    (hh : e.handleObj h = some (i, o)) (hf : o.fid ≠ 0) :
    NoSlotTo (applyOp e (.dropStream h)).1 i ∧ i < (applyOp e (.dropStream h)).1.objs.length := by
  have ho : e.objs[i]? = some o := handleObj_some hh
  -- the call: `e1`
  let e0 : EP := e.modObj i (fun o => { o with rxOpen := false, rxq := [], parked := false })
  let e1 : EP := { e0 with droppedq := [o.fid] }
  have hop : Mux.opStep e (.dropStream h) = (e1, .unit, []) := by
    have hd' : e0.dead = false := hidle.dead
    have hq' : e0.droppedq = [] := hidle.droppedq
    simp only [Mux.opStep, Mux.appDropStream, hh, hd', Bool.false_eq_true, if_false, hq', List.nil_append, e1, e0]
  have hw1 : WF e1 := by
    have := (Step.opStep e (.dropStream h)).wf hw
    rwa [hop] at this
  have g1 : Grow e e1 := (Grow.modObj e i _ (fun _ _ => rfl) : Grow e e0).trans (Grow.same rfl rfl)
  obtain ⟨o1, ho1, hf1⟩ := g1.fid i o ho
  -- the task's loop takes the one notification; the rest of the stimulus only grows the state
  obtain ⟨hn, hi⟩ := settleLoop_notif_noSlot (2 * e1.inbox.length + e1.droppedq.length + 1) e1 o.fid i o1 hw1
    (g1.slotFid hw hs) hidle.inbox rfl hf hidle.dead hidle.draining hidle.closing hidle.muxAlive ho1 hf1
  have g := Grow.settle_tail e1
  rw [show 2 * e1.inbox.length + e1.droppedq.length + 2 = (2 * e1.inbox.length + e1.droppedq.length + 1) + 1 from rfl] at g
  rw [applyOp_fst, hop]
  dsimp only
  exact ⟨g.noSlot hi hn, Nat.lt_of_lt_of_le hi g.len⟩

end Penguin.Mux
