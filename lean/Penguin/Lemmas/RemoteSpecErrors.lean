/-
Which error `Remote::from_str` gives (C01 glue), what an accepted remote always satisfies (the
facts `client/handle_remote/mod.rs:80-140` relies on), and where the payload of a `Port` error
comes from.
-/
import Penguin.Lemmas.RemoteSpecForms

namespace Penguin.RemoteSpec
open Penguin.Constants

/-! ### The tokenizer in front of a segment it refuses -/

theorem tokenize_prefix {pre : List Tok} {tail : Str} (hw : ∀ t ∈ pre, t.WF) (hlen : pre.length ≤ 4) :
    tokenize (prefixText pre tail) = tokLoop (5 - pre.length) pre tail := by
  have := @tokLoop_prefix (5 - pre.length) [] pre tail hw (by simpa using hlen)
  simp only [List.nil_append] at this
  rw [← this]
  unfold tokenize prefixText
  rw [maxSegments_eq]
  congr 1; omega

theorem step_empty {fuel : Nat} {acc : List Tok} {tail : Str} (ha : acc.length < 4)
    (ht : tail = [] ∨ ∃ x, tail = ':' :: x) : tokLoop (fuel + 1) acc tail = .error (.err .emptySegment) := by
  rcases ht with rfl | ⟨x, rfl⟩
  · simp [tokLoop, checkAndPush_empty ha]
  · simp [tokLoop, splitOnce, checkAndPush_empty ha]

theorem step_empty_brackets {fuel : Nat} {acc : List Tok} {x : Str} (ha : acc.length < 4) :
    tokLoop (fuel + 1) acc ('[' :: ']' :: x) = .error (.err .emptySegment) := by
  simp [tokLoop, splitOnce, checkAndPush_empty ha]

/-- A fifth segment: `TooManySegments` — unless it opens a bracket that is never closed. -/
theorem step_full {fuel : Nat} {acc : List Tok} {tail : Str} (ha : 4 ≤ acc.length)
    (ht : tail.head? ≠ some '[' ∨ ']' ∈ tail) : tokLoop (fuel + 1) acc tail = .error (.err .tooManySegments) := by
  unfold tokLoop
  split
  · next c body =>
    split
    · next hc =>
      subst hc
      have hin : ']' ∈ body := by
        rcases ht with h | h
        · simp at h
        · simpa using h
      cases hs : splitOnce ']' body with
      | none => exact absurd hin (splitOnce_none.mp hs)
      | some p => simp only []; rw [checkAndPush_full ha]
    · split
      · rw [checkAndPush_full ha]
      · exact checkAndPush_full ha
  · exact checkAndPush_full ha

/-- `[` without a `]`: `BracketMismatch`, even as a fifth segment. -/
theorem step_mismatch {fuel : Nat} {acc : List Tok} {body : Str} (hb : ']' ∉ body) :
    tokLoop (fuel + 1) acc ('[' :: body) = .error (.err .bracketMismatch) := by
  simp [tokLoop, splitOnce_none.mpr hb]

theorem step_garbage {fuel : Nat} {acc : List Tok} {t more : Str} {ch : Char} (ha : acc.length < 4) (hne : t ≠ [])
    (hb : ']' ∉ t) (hch : ch ≠ ':') :
    tokLoop (fuel + 1) acc ('[' :: t ++ ']' :: ch :: more) = .error (.err (.garbageAfterAddress ch)) := by
  rw [tokLoop_bracketed ha hne hb]; simp [hch]

/-! ### Protocol errors come first -/

/-- A suffix that is not a protocol is reported before anything else is looked at. -/
theorem parse_bad_protocol (o : Oracle) (rest ptxt : Str) (h1 : '/' ∉ ptxt) (h2 : ':' ∉ ptxt)
    (h3 : o.lower ptxt ≠ kwTcp) (h4 : o.lower ptxt ≠ kwUdp) :
    parse o (rest ++ '/' :: ptxt) = .error (.err (.protocol (o.lower ptxt))) := by
  rw [parse_eq, splitProto_suffix o h1 h2, parseProtocol_other h3 h4]

/-- A `:` after the last `/`: the `/` is not a protocol separator, the whole text is tokenized, tcp. -/
theorem parse_colon_after_slash (o : Oracle) (rest ptxt : Str) (h1 : '/' ∉ ptxt) (h2 : ':' ∈ ptxt) :
    parse o (rest ++ '/' :: ptxt) =
      match tokenize (rest ++ '/' :: ptxt) with
      | .error e => .error e
      | .ok toks => finish o .tcp (toks.map (·.text)) := by
  rw [parse_eq, splitProto_none o fun a b h => by
    rw [rsplitOnce_append h1] at h; cases h; exact h2]
  rfl

/-! ### A single segment -/

/-- One bare segment that is not a key word is a port: accepted exactly when `u16::from_str` accepts
    it, refused with the text and `u16`'s error kind otherwise. -/
theorem parse_single (o : Oracle) (t : Str) (hne : t ≠ []) (h1 : ':' ∉ t) (h2 : '/' ∉ t) (h3 : t.head? ≠ some '[')
    (h4 : isSpecial t = false) :
    parse o t =
      match parseU16 t with
      | .ok n => .ok ⟨.inet defaultUnspec n, .inet defaultLocal n, .tcp⟩
      | .error k => .error (.err (.port t k)) := by
  have hw : ∀ x ∈ [(⟨t, false⟩ : Tok)], x.WF := by
    intro x hx; simp at hx; subst hx
    exact ⟨hne, by simp only [Bool.false_eq_true, if_false]; exact ⟨h1, h3⟩⟩
  have hj : joinToks [(⟨t, false⟩ : Tok)] = t := by simp [joinToks, Tok.render]
  have := parse_join_plain o hw (by simp) (by simp) (by
    intro a b hab
    rw [hj] at hab
    obtain ⟨e, _⟩ := rsplitOnce_some.mp hab
    exact absurd (e ▸ (by simp : '/' ∈ a ++ '/' :: b)) h2)
  rw [hj] at this
  rw [this]
  obtain ⟨n1, n2, n3⟩ := not_special_ne h4
  cases hp : parseU16 t with
  | ok n =>
    simp [finish, selectArm, n1, n2, n3, evalArm, portOrBail, hp, bind, Except.bind, postChecks, LocalSpec.isDomainSocket]
  | error k =>
    simp [finish, selectArm, n1, n2, n3, evalArm, portOrBail, hp, bind, Except.bind]

/-! ### What every accepted remote satisfies -/

theorem portOrBail_ok {t : Str} {n : Nat} (h : portOrBail t = .ok n) : n ≤ u16Max ∧ parseU16 t = .ok n := by
  unfold portOrBail at h
  split at h
  · next m hm =>
    simp at h; subst h
    obtain ⟨ds, _, _, _, _, hle⟩ := (parseU16_ok_iff t m).mp hm
    exact ⟨hle, hm⟩
  · cases h

theorem remoteSpecial_ok {t : Str} {r : RemoteSpec} (h : remoteSpecial t = .ok r) :
    (t = kwSocks ∧ r = .socks) ∨ (t = kwHttp ∧ r = .http) ∨ (t = kwTproxy ∧ r = .tproxy) := by
  unfold remoteSpecial at h
  split at h
  · next h1 => simp at h; exact Or.inl ⟨h1, h.symm⟩
  · split at h
    · next h2 => simp at h; exact Or.inr (Or.inl ⟨h2, h.symm⟩)
    · split at h
      · next h3 => simp at h; exact Or.inr (Or.inr ⟨h3, h.symm⟩)
      · cases h

def RemoteSpec.PortOK : RemoteSpec → Prop
  | .inet _ p => p ≤ u16Max
  | _ => True

def LocalSpec.PortOK : LocalSpec → Prop
  | .inet _ p => p ≤ u16Max
  | _ => True

theorem remoteSpecial_ok_sane {t : Str} {a : RemoteSpec} (h : remoteSpecial t = .ok a) : a.PortOK := by
  rcases remoteSpecial_ok h with ⟨_, rfl⟩ | ⟨_, rfl⟩ | ⟨_, rfl⟩ <;> trivial

/-- Ports of an accepted remote are 16-bit; `stdio` never comes with `tproxy`. -/
def Remote.Sane (r : Remote) : Prop :=
  r.localAddr.PortOK ∧ r.remoteAddr.PortOK ∧ ¬ (r.localAddr = .stdio ∧ r.remoteAddr = .tproxy)

theorem bind_ok {α β : Type} {x : Except Fail α} {f : α → Except Fail β} {b : β} (h : (x >>= f) = .ok b) :
    ∃ a, x = .ok a ∧ f a = .ok b := by
  cases x with
  | error e => cases h
  | ok a => exact ⟨a, rfl, h⟩

/-- The last sub-slice an arm binds (the key word itself for the one-element key-word arms). -/
def Matched.lastText : Matched → Str
  | .socks1 => kwSocks | .http1 => kwHttp | .tproxy1 => kwTproxy
  | .port1 p => p
  | .stdioSpecial2 s => s
  | .stdioTproxy2 => kwTproxy
  | .stdioPort2 p => p
  | .unixSpecial2 _ s => s
  | .portSpecial2 _ s => s
  | .unixPort2 _ p => p
  | .hostPort2 _ p => p
  | .stdio3 _ p => p
  | .special3 _ _ s => s
  | .unix3 _ _ p => p
  | .port3 _ _ p => p
  | .full4 _ _ _ p => p
  | .wildcard => []

/-- The one walk over the arm bodies for what they return: the protocol handed in, a 16-bit listening port, never
    `stdio` with `tproxy`, and a remote side that is either a host with the port read from the arm's last sub-slice or
    what `parse_remote_special!` makes of that sub-slice. -/
theorem evalArm_ok (o : Oracle) (proto : Protocol) {m : Matched} (hg : m.Good) {r : Remote}
    (h : evalArm o proto m = .ok r) :
    r.protocol = proto ∧ r.localAddr.PortOK ∧ ¬ (r.localAddr = .stdio ∧ r.remoteAddr = .tproxy) ∧
      ((∃ h p, r.remoteAddr = .inet h p ∧ portOrBail m.lastText = .ok p) ∨
        remoteSpecial m.lastText = .ok r.remoteAddr) := by
  have d1 : remoteSocksDefaultPort ≤ u16Max := by decide
  have d2 : remoteHttpDefaultPort ≤ u16Max := by decide
  have d3 : remoteTproxyDefaultPort ≤ u16Max := by decide
  cases m <;> simp only [evalArm] at h
  case socks1 => cases h; exact ⟨rfl, d1, by simp, .inr remoteSpecial_socks⟩
  case http1 => cases h; exact ⟨rfl, d2, by simp, .inr remoteSpecial_http⟩
  case tproxy1 => cases h; exact ⟨rfl, d3, by simp, .inr remoteSpecial_tproxy⟩
  case port1 =>
    obtain ⟨a, ha, h⟩ := bind_ok h
    obtain ⟨b, hb, h⟩ := bind_ok h
    cases h; exact ⟨rfl, (portOrBail_ok ha).1, by simp, .inl ⟨_, _, rfl, hb⟩⟩
  case stdioSpecial2 =>
    obtain ⟨a, ha, h⟩ := bind_ok h
    cases h
    refine ⟨rfl, trivial, ?_, .inr ha⟩
    rintro ⟨_, e⟩
    simp only at e; subst e
    rcases remoteSpecial_ok ha with ⟨_, h⟩ | ⟨_, h⟩ | ⟨h, _⟩
    · cases h
    · cases h
    · rcases hg with hg | hg <;> rw [h] at hg <;> exact absurd hg (by decide)
  case stdioTproxy2 => cases h
  case stdioPort2 =>
    obtain ⟨a, ha, h⟩ := bind_ok h
    cases h; exact ⟨rfl, trivial, by simp, .inl ⟨_, _, rfl, ha⟩⟩
  case unixSpecial2 =>
    obtain ⟨a, ha, h⟩ := bind_ok h
    cases h; exact ⟨rfl, trivial, by simp, .inr ha⟩
  case portSpecial2 =>
    obtain ⟨a, ha, h⟩ := bind_ok h
    obtain ⟨b, hb, h⟩ := bind_ok h
    cases h; exact ⟨rfl, (portOrBail_ok ha).1, by simp, .inr hb⟩
  case unixPort2 =>
    obtain ⟨a, ha, h⟩ := bind_ok h
    cases h; exact ⟨rfl, trivial, by simp, .inl ⟨_, _, rfl, ha⟩⟩
  case hostPort2 =>
    obtain ⟨a, ha, h⟩ := bind_ok h
    obtain ⟨b, hb, h⟩ := bind_ok h
    obtain ⟨c, hc, h⟩ := bind_ok h
    cases h; exact ⟨rfl, (portOrBail_ok ha).1, by simp, .inl ⟨_, _, rfl, hc⟩⟩
  case stdio3 =>
    obtain ⟨a, ha, h⟩ := bind_ok h
    obtain ⟨b, hb, h⟩ := bind_ok h
    cases h; exact ⟨rfl, trivial, by simp, .inl ⟨_, _, rfl, hb⟩⟩
  case special3 =>
    obtain ⟨a, ha, h⟩ := bind_ok h
    obtain ⟨b, hb, h⟩ := bind_ok h
    obtain ⟨c, hc, h⟩ := bind_ok h
    cases h; exact ⟨rfl, (portOrBail_ok hb).1, by simp, .inr hc⟩
  case unix3 =>
    obtain ⟨a, ha, h⟩ := bind_ok h
    obtain ⟨b, hb, h⟩ := bind_ok h
    cases h; exact ⟨rfl, trivial, by simp, .inl ⟨_, _, rfl, hb⟩⟩
  case port3 =>
    obtain ⟨a, ha, h⟩ := bind_ok h
    obtain ⟨b, hb, h⟩ := bind_ok h
    obtain ⟨c, hc, h⟩ := bind_ok h
    cases h; exact ⟨rfl, (portOrBail_ok ha).1, by simp, .inl ⟨_, _, rfl, hc⟩⟩
  case full4 =>
    obtain ⟨a, ha, h⟩ := bind_ok h
    obtain ⟨b, hb, h⟩ := bind_ok h
    obtain ⟨c, hc, h⟩ := bind_ok h
    obtain ⟨d, hd, h⟩ := bind_ok h
    cases h; exact ⟨rfl, (portOrBail_ok hb).1, by simp, .inl ⟨_, _, rfl, hd⟩⟩
  case wildcard => cases h

theorem evalArm_ok_sane (o : Oracle) (proto : Protocol) {m : Matched} (hg : m.Good) {r : Remote}
    (h : evalArm o proto m = .ok r) : r.Sane ∧ r.protocol = proto := by
  obtain ⟨hp, hl, hn, hr⟩ := evalArm_ok o proto hg h
  refine ⟨⟨hl, ?_, hn⟩, hp⟩
  rcases hr with ⟨_, _, e, hq⟩ | hs
  · exact e ▸ (portOrBail_ok hq).1
  · exact remoteSpecial_ok_sane hs

/-- What `handle_remote` (`client/handle_remote/mod.rs:80-140`) relies on, for every accepted text:
    a `socks` or `http` remote is tcp ("the parser guarantees that the protocol is TCP"), a unix
    socket listener is tcp and never `tproxy`, `stdio` is never `tproxy` (the `unreachable!` of the
    last arm), ports are 16-bit. -/
theorem parse_ok_invariants {o : Oracle} {s : Str} {r : Remote} (h : parse o s = .ok r) :
    r.Sane ∧
    ((r.remoteAddr = .socks ∨ r.remoteAddr = .http) → r.protocol = .tcp) ∧
    (r.localAddr.isDomainSocket = true → r.protocol = .tcp ∧ r.remoteAddr ≠ .tproxy) := by
  obtain ⟨_, proto, _, _, _, hg, he, hpc⟩ := parse_ok h
  obtain ⟨_, c1, c2, c3⟩ := of_postChecks_ok hpc
  refine ⟨(evalArm_ok_sane o proto hg he).1, fun hk => ?_, fun hd => ⟨?_, fun e => c3 ⟨hd, e⟩⟩⟩
  · cases hp : r.protocol with
    | tcp => rfl
    | udp => exact absurd ⟨hk, hp⟩ c1
  · cases hp : r.protocol with
    | tcp => rfl
    | udp => exact absurd ⟨hd, hp⟩ c2

/-! ### The payload of a `Port` error -/

/-- A `Port` error names one of the segments of the text, with the verdict of `u16::from_str` on
    it — and since a segment is never empty, the kind is `InvalidDigit` or `PosOverflow`, never `Empty`. -/
theorem parse_port_error {o : Oracle} {s t : Str} {k : IntErrKind} (h : parse o s = .error (.err (.port t k))) :
    parseU16 t = .error k ∧ t ≠ [] ∧ (k = .invalidDigit ∨ k = .posOverflow) := by
  -- only `parse_port_or_bail!` fails with `Port`, and it is handed sub-slices the arm bound, which are tokens
  obtain ⟨hp, hne⟩ :=
    parse_errIn (E := fun e => ∀ t k, e = .err (.port t k) → parseU16 t = .error k ∧ t ≠ []) o s
      (fun _ _ _ h => nomatch h)
      (fun _ => tokLoop_errIn (fun _ _ h => nomatch h) (fun _ _ h => nomatch h) (fun _ _ h => nomatch h)
        (fun _ _ h => nomatch h) (fun _ _ _ h => nomatch h) _ _ _)
      (fun proto toks hne hl hw =>
        evalArm_errIn o proto (selectArm_good _ (by simpa using hne) (by simpa using hl))
          (fun t ht e he t' k' hp => by
            obtain ⟨k, rfl, hk⟩ := portOrBail_error he
            cases hp
            obtain ⟨tk, htk, rfl⟩ := List.mem_map.mp (selectArm_pieces _ t ht)
            exact ⟨hk, (hw tk htk).1⟩)
          (fun t e he _ _ hp => by cases domainOrBail_error he; cases hp)
          (fun _ _ h => nomatch h))
      (fun _ _ _ h => nomatch h) _ h t k rfl
  refine ⟨hp, hne, ?_⟩
  rcases parseU16_error_kinds hp with ⟨_, he⟩ | ⟨hk, _⟩
  · exact absurd he hne
  · exact hk

end Penguin.RemoteSpec
