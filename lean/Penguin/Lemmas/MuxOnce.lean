/-
Every open request is answered at most once — for every history of one endpoint and any peer.

`pend e`: the requests that are pending at `e` (`opens`: the `new_stream_channel` futures still
waiting; `doneq`: answered ones whose future has not run yet).  `Once new e e' evs` relates a state,
a later state and the events emitted in between: requests only leave `pend` (apart from the ones in
`new`, started in between); every `openDone` event is for a request that was pending (or new) and is
not pending afterwards; no request gets two `openDone` events.  It is established for every function
of the endpoint model that emits events (frames from any peer, the wind-down, the futures' rounds)
and lifted to stimuli and histories.
Core Lean only.
-/
import Penguin.Lemmas.MuxTrace

namespace Penguin.Mux

/-- Pending: not answered yet (`opens`), or answered by the peer with a stream that its future has not returned yet (`doneq`). -/
def pend (e : EP) : List Nat := e.opens.map (·.req) ++ e.doneq.map (·.1)

/-- The requests answered by a list of events. -/
def doneReqs : List Ev → List Nat
  | [] => []
  | .openDone req _ :: rest => req :: doneReqs rest
  | _ :: rest => doneReqs rest

@[simp] theorem doneReqs_nil : doneReqs [] = [] := rfl

theorem doneReqs_append (a b : List Ev) : doneReqs (a ++ b) = doneReqs a ++ doneReqs b := by
  induction a with
  | nil => rfl
  | cons x rest ih => cases x <;> simp [doneReqs, ih]

theorem doneReqs_sendSome (e : EP) : doneReqs (sendSome e).2 = [] := by
  obtain ⟨sent, hs, -⟩ := sendSome_split e
  rw [hs]
  clear hs
  induction sent with
  | nil => rfl
  | cons m r ih => exact ih

@[simp] theorem enq_doneq (e : EP) (m : Msg) : (e.enq m).doneq = e.doneq := by unfold EP.enq; split <;> rfl
@[simp] theorem enqFrame_opens (e : EP) (f : Frame) : (e.enqFrame f).opens = e.opens := enq_opens e _
@[simp] theorem enqFrame_doneq (e : EP) (f : Frame) : (e.enqFrame f).doneq = e.doneq := enq_doneq e _
@[simp] theorem enqFrame_flows (e : EP) (f : Frame) : (e.enqFrame f).flows = e.flows := enq_flows e _

/-! ### Answered at most once, over lists

`p`, `p'`: the requests pending before and after; `d`: the requests answered in between; `new`: the
requests started in between.  `Once` (below) and `OnceB` (Lemmas/MuxOnceB) are this for the open and for
the bind requests of an endpoint.  That no request number is used twice (`(p ++ new).Nodup`) is a premise
of three clauses, not a parameter: `sub` holds without it, and in `trans` the second step gets it for the
middle state from the first step's `nd`. -/

structure Once1 (new p p' d : List Nat) : Prop where
  sub : ∀ r, r ∈ p' → r ∈ p ∨ r ∈ new
  nd : (p ++ new).Nodup → p'.Nodup
  done : (p ++ new).Nodup → ∀ r, r ∈ d → (r ∈ p ∨ r ∈ new) ∧ r ∉ p'
  dnd : (p ++ new).Nodup → d.Nodup

namespace Once1

theorem ignore (new p : List Nat) : Once1 new p p [] :=
  ⟨fun _ h => Or.inl h, fun hn => (List.nodup_append.mp hn).1, fun _ x hx => (by cases hx), fun _ => List.nodup_nil⟩

theorem weaken {p p' d : List Nat} (s : Once1 [] p p' d) (new : List Nat) : Once1 new p p' d :=
  ⟨fun x h => (s.sub x h).imp id (fun h => by cases h),
   fun hn => s.nd (by simpa using (List.nodup_append.mp hn).1),
   fun hn x hx => by
     obtain ⟨h1, h2⟩ := s.done (by simpa using (List.nodup_append.mp hn).1) x hx
     exact ⟨h1.imp id (fun h => by cases h), h2⟩,
   fun hn => s.dnd (by simpa using (List.nodup_append.mp hn).1)⟩

theorem trans {new a b c d1 d2 : List Nat} (s : Once1 new a b d1) (t : Once1 [] b c d2) : Once1 new a c (d1 ++ d2) := by
  refine ⟨?_, ?_, ?_, ?_⟩
  · intro r h
    rcases t.sub r h with h1 | h1
    · exact s.sub r h1
    · cases h1
  · intro h
    exact t.nd (by simpa using s.nd h)
  · intro hn r h
    have hnb : (b ++ []).Nodup := by simpa using s.nd hn
    rcases List.mem_append.mp h with h1 | h1
    · obtain ⟨h2, h3⟩ := s.done hn r h1
      refine ⟨h2, ?_⟩
      intro hc
      rcases t.sub r hc with h4 | h4
      · exact h3 h4
      · cases h4
    · obtain ⟨h2, h3⟩ := t.done hnb r h1
      refine ⟨?_, h3⟩
      rcases h2 with h2 | h2
      · exact s.sub r h2
      · cases h2
  · intro h
    have hnb : (b ++ []).Nodup := by simpa using s.nd h
    refine List.nodup_append.mpr ⟨s.dnd h, t.dnd hnb, ?_⟩
    intro x hx y hy hxy
    subst hxy
    have h1 := (s.done h x hx).2
    rcases (t.done hnb x hy).1 with h2 | h2
    · exact h1 h2
    · cases h2

end Once1

/-- What is known between two stimuli: the pending requests `p` are among the started ones, without
    repetition; the answered ones are started ones that are no longer pending, without repetition. -/
structure Hist1 (opened done p : List Nat) : Prop where
  sub : ∀ r, r ∈ p → r ∈ opened
  nd : p.Nodup
  dnd : done.Nodup
  dsub : ∀ r, r ∈ done → r ∈ opened ∧ r ∉ p

theorem Hist1.step {opened done new p p' d : List Nat} (h : Hist1 opened done p) (s : Once1 new p p' d)
    (hnew : new.Nodup) (hfresh : (opened ++ new).Nodup) : Hist1 (opened ++ new) (done ++ d) p' := by
  have hdisj : ∀ x, x ∈ opened → x ∈ new → False := fun x h1 h2 =>
    (List.nodup_append.mp hfresh).2.2 x h1 x h2 rfl
  have hn : (p ++ new).Nodup :=
    List.nodup_append.mpr ⟨h.nd, hnew, fun x hx y hy hxy => hdisj x (h.sub x hx) (hxy ▸ hy)⟩
  refine ⟨?_, s.nd hn, ?_, ?_⟩
  · intro r hr
    rcases s.sub r hr with h1 | h1
    · exact List.mem_append_left _ (h.sub r h1)
    · exact List.mem_append_right _ h1
  · refine List.nodup_append.mpr ⟨h.dnd, s.dnd hn, ?_⟩
    intro x hx y hy hxy
    subst hxy
    rcases (s.done hn x hy).1 with h1 | h1
    · exact (h.dsub x hx).2 h1
    · exact hdisj x (h.dsub x hx).1 h1
  · intro r hr
    rcases List.mem_append.mp hr with h1 | h1
    · refine ⟨List.mem_append_left _ (h.dsub r h1).1, ?_⟩
      intro hc
      rcases s.sub r hc with h2 | h2
      · exact (h.dsub r h1).2 h2
      · exact hdisj r (h.dsub r h1).1 h2
    · obtain ⟨h2, h3⟩ := s.done hn r h1
      refine ⟨?_, h3⟩
      rcases h2 with h2 | h2
      · exact List.mem_append_left _ (h.sub r h2)
      · exact List.mem_append_right _ h2

/-- The accounting along a history from a state with nothing pending.  `s`: one stimulus; `n x`: the requests
    stimulus `x` starts; `d e x`: the ones it answers at `e`; `N`, `D`: both collected along the history. -/
theorem Hist1.run {σ ι : Type} {p : σ → List Nat} {s : σ → ι → σ} {n : ι → List Nat} {d : σ → ι → List Nat}
    {N : List ι → List Nat} {D : σ → List ι → List Nat}
    (hN0 : N [] = []) (hN : ∀ x r, N (x :: r) = n x ++ N r)
    (hD0 : ∀ e, D e [] = []) (hD : ∀ e x r, D e (x :: r) = d e x ++ D (s e x) r)
    (hs : ∀ e x, Once1 (n x) (p e) (p (s e x)) (d e x)) (hn : ∀ x, (n x).Nodup)
    (ops : List ι) (e : σ) (hp : p e = []) (h : (N ops).Nodup) :
    (D e ops).Nodup ∧ ∀ r, r ∈ D e ops → r ∈ N ops := by
  have gen : ∀ (ops : List ι) (e : σ) (opened done : List Nat), Hist1 opened done (p e) → (opened ++ N ops).Nodup →
      (done ++ D e ops).Nodup ∧ ∀ r, r ∈ done ++ D e ops → r ∈ opened ++ N ops := by
    intro ops
    induction ops with
    | nil =>
      intro e opened done h _
      rw [hN0, hD0, List.append_nil, List.append_nil]
      exact ⟨h.dnd, fun r hr => (h.dsub r hr).1⟩
    | cons x rest ih =>
      intro e opened done h hnd
      rw [hN, ← List.append_assoc] at hnd
      rw [hN, hD, ← List.append_assoc, ← List.append_assoc]
      exact ih _ _ _ (h.step (hs e x) (hn x) (List.nodup_append.mp hnd).1) hnd
  simpa using gen ops e [] [] ⟨by rw [hp]; nofun, by rw [hp]; exact .nil, .nil, nofun⟩ (by simpa using h)

theorem pend_nil {e : EP} (h : pend e = []) : e.opens = [] ∧ e.doneq = [] := by
  have h := List.append_eq_nil_iff.mp h
  exact ⟨List.map_eq_nil_iff.mp h.1, List.map_eq_nil_iff.mp h.2⟩

structure Once (new : List Nat) (e e' : EP) (evs : List Ev) : Prop where
  sub : ∀ r, r ∈ pend e' → r ∈ pend e ∨ r ∈ new
  nd : (pend e ++ new).Nodup → (pend e').Nodup
  done : (pend e ++ new).Nodup → ∀ r, r ∈ doneReqs evs → (r ∈ pend e ∨ r ∈ new) ∧ r ∉ pend e'
  dnd : (pend e ++ new).Nodup → (doneReqs evs).Nodup

theorem Once.to1 {new : List Nat} {e e' : EP} {evs : List Ev} (s : Once new e e' evs) :
    Once1 new (pend e) (pend e') (doneReqs evs) := ⟨s.sub, s.nd, s.done, s.dnd⟩

theorem Once.of1 {new : List Nat} {e e' : EP} {evs : List Ev} (s : Once1 new (pend e) (pend e') (doneReqs evs)) :
    Once new e e' evs := ⟨s.sub, s.nd, s.done, s.dnd⟩

theorem pend_eq {e e' : EP} (ho : e'.opens = e.opens) (hd : e'.doneq = e.doneq) : pend e' = pend e := by
  unfold pend; rw [ho, hd]

theorem Once.silent {e e' : EP} {evs : List Ev} (ho : e'.opens = e.opens) (hd : e'.doneq = e.doneq)
    (hev : doneReqs evs = []) : Once [] e e' evs :=
  .of1 (by rw [pend_eq ho hd, hev]; exact .ignore _ _)

theorem Once.refl (e : EP) : Once [] e e [] := Once.silent rfl rfl rfl

theorem Once.trans {new : List Nat} {a b c : EP} {ev1 ev2 : List Ev} (s : Once new a b ev1) (t : Once [] b c ev2) :
    Once new a c (ev1 ++ ev2) := .of1 (by rw [doneReqs_append]; exact s.to1.trans t.to1)

theorem Once.after {new : List Nat} {a b c : EP} {ev1 ev2 : List Ev} (t : Once [] b c ev2) (s : Once new a b ev1) :
    Once new a c (ev1 ++ ev2) := s.trans t

/-- Nothing happens (a request number that is still pending is not started again). -/
theorem Once.ignore (new : List Nat) (e : EP) : Once new e e [] := .of1 (.ignore _ _)

theorem Once.weaken {e e' : EP} {evs : List Ev} (s : Once [] e e' evs) (new : List Nat) : Once new e e' evs :=
  .of1 (s.to1.weaken new)

/-! ### Primitives -/

theorem mem_pend_opens {e : EP} {r : OpenReq} (h : r ∈ e.opens) : r.req ∈ pend e :=
  List.mem_append_left _ (List.mem_map.mpr ⟨r, h, rfl⟩)

theorem filter_req_sub (l : List OpenReq) (req : Nat) :
    List.Sublist ((l.filter (·.req ≠ req)).map (·.req)) (l.map (·.req)) :=
  (List.filter_sublist (l := l)).map _

theorem not_mem_filter_req (l : List OpenReq) (req : Nat) : req ∉ (l.filter (·.req ≠ req)).map (·.req) := by
  intro h
  obtain ⟨x, hx, hxr⟩ := List.mem_map.mp h
  have := (List.mem_filter.mp hx).2
  simp [hxr] at this

theorem not_mem_doneq_of_nodup {e : EP} {new : List Nat} {req : Nat} (hn : (pend e ++ new).Nodup)
    (hin : req ∈ e.opens.map (·.req) ∨ req ∈ new) : req ∉ e.doneq.map (·.1) := by
  intro hd
  unfold pend at hn
  rcases hin with h | h
  · have := (List.nodup_append.mp (List.nodup_append.mp hn).1).2.2
    exact this req h req hd rfl
  · have := (List.nodup_append.mp hn).2.2
    exact this req (List.mem_append_right _ hd) req h rfl

theorem Once.answer {new : List Nat} (e : EP) (req : Nat) (r : OpenRes)
    (hin : req ∈ e.opens.map (·.req) ∨ req ∈ new) :
    Once new e { e with opens := e.opens.filter (·.req ≠ req) } [.openDone req r] := by
  have hsub : List.Sublist (pend ({ e with opens := e.opens.filter (·.req ≠ req) } : EP)) (pend e) :=
    (filter_req_sub e.opens req).append (List.Sublist.refl _)
  refine ⟨fun x h => Or.inl (hsub.subset h), ?_, ?_, fun _ => by simp [doneReqs]⟩
  · intro hn
    exact (List.nodup_append.mp hn).1.sublist hsub
  · intro hn x hx
    simp only [doneReqs, List.mem_singleton] at hx
    subst hx
    refine ⟨hin.imp (fun h => List.mem_append_left _ h) id, ?_⟩
    intro hc
    rcases List.mem_append.mp hc with h1 | h1
    · exact not_mem_filter_req _ _ h1
    · exact not_mem_doneq_of_nodup hn hin h1

theorem Once.replace {new : List Nat} (e : EP) (r' : OpenReq)
    (hin : r'.req ∈ e.opens.map (·.req) ∨ r'.req ∈ new) :
    Once new e { e with opens := r' :: e.opens.filter (·.req ≠ r'.req) } [] := by
  refine ⟨?_, ?_, fun _ x hx => (by cases hx), fun _ => List.nodup_nil⟩
  · intro x hx
    show x ∈ pend e ∨ x ∈ new
    unfold pend at hx
    simp only [List.map_cons, List.cons_append, List.mem_cons] at hx
    rcases hx with rfl | hx
    · exact hin.imp (fun h => List.mem_append_left _ h) id
    · rcases List.mem_append.mp hx with h | h
      · exact Or.inl (List.mem_append_left _ ((filter_req_sub _ _).subset h))
      · exact Or.inl (List.mem_append_right _ h)
  · intro hn
    show (pend ({ e with opens := r' :: e.opens.filter (·.req ≠ r'.req) } : EP)).Nodup
    unfold pend
    simp only [List.map_cons, List.cons_append]
    refine List.nodup_cons.mpr ⟨?_, ?_⟩
    · intro hc
      rcases List.mem_append.mp hc with h1 | h1
      · exact not_mem_filter_req _ _ h1
      · exact not_mem_doneq_of_nodup hn hin h1
    · exact (List.nodup_append.mp hn).1.sublist ((filter_req_sub e.opens r'.req).append (List.Sublist.refl _))

/-- A request is dropped from `opens` without an answer (the application gave up). -/
theorem Once.forget (e : EP) (req : Nat) :
    Once [] e { e with opens := e.opens.filter (·.req ≠ req) } [] := by
  have hsub : List.Sublist (pend ({ e with opens := e.opens.filter (·.req ≠ req) } : EP)) (pend e) :=
    (filter_req_sub e.opens req).append (List.Sublist.refl _)
  exact ⟨fun x h => Or.inl (hsub.subset h), fun hn => (List.nodup_append.mp hn).1.sublist hsub,
    fun _ x hx => (by cases hx), fun _ => List.nodup_nil⟩

theorem Once.toDone (e : EP) (req i : Nat) (hin : req ∈ e.opens.map (·.req)) :
    Once [] e { e with doneq := e.doneq ++ [(req, i)], opens := e.opens.filter (·.req ≠ req) } [] := by
  refine ⟨?_, ?_, fun _ x hx => (by cases hx), fun _ => List.nodup_nil⟩
  · intro x hx
    unfold pend at hx
    simp only [List.map_append, List.map_cons, List.map_nil, List.mem_append, List.mem_singleton] at hx
    rcases hx with h | h | rfl
    · exact Or.inl (List.mem_append_left _ ((filter_req_sub _ _).subset h))
    · exact Or.inl (List.mem_append_right _ h)
    · exact Or.inl (List.mem_append_left _ hin)
  · intro hn
    have hn' : (pend e).Nodup := by simpa using hn
    unfold pend at hn' ⊢
    simp only [List.map_append, List.map_cons, List.map_nil]
    rw [← List.append_assoc]
    refine List.nodup_append.mpr ⟨hn'.sublist ((filter_req_sub e.opens req).append (List.Sublist.refl _)), by simp, ?_⟩
    intro x hx y hy hxy
    simp only [List.mem_singleton] at hy
    subst hy; subst hxy
    rcases List.mem_append.mp hx with h1 | h1
    · exact not_mem_filter_req _ _ h1
    · exact not_mem_doneq_of_nodup (new := []) hn (Or.inl hin) h1

theorem Once.congr {new : List Nat} {e e' a a' : EP} {evs : List Ev} (s : Once new e e' evs)
    (h1 : pend a = pend e) (h2 : pend a' = pend e') : Once new a a' evs :=
  ⟨by rw [h1, h2]; exact s.sub, by rw [h1, h2]; exact s.nd, by rw [h1, h2]; exact s.done, by rw [h1]; exact s.dnd⟩

theorem doneReqs_map_openDone (l : List OpenReq) (c : OpenRes) :
    doneReqs (l.map (fun r => Ev.openDone r.req c)) = l.map (·.req) := by
  induction l with
  | nil => rfl
  | cons x rest ih => simp [doneReqs, ih]

/-- The requests for which `p` is false are answered, the others stay. -/
theorem Once.leftover (e : EP) (p : Nat → Bool) (c : OpenRes) :
    Once [] e { e with opens := e.opens.filter (fun r => p r.req) }
      ((e.opens.filter (fun r => !p r.req)).map (fun r => Ev.openDone r.req c)) := by
  have hsub : List.Sublist (pend ({ e with opens := e.opens.filter (fun r => p r.req) } : EP)) (pend e) :=
    ((List.filter_sublist (l := e.opens)).map _).append (List.Sublist.refl _)
  refine ⟨fun x h => Or.inl (hsub.subset h), fun hn => (List.nodup_append.mp hn).1.sublist hsub, ?_, ?_⟩
  · intro hn x hx
    rw [doneReqs_map_openDone] at hx
    obtain ⟨y, hy, hyx⟩ := List.mem_map.mp hx
    obtain ⟨hy1, hy2⟩ := List.mem_filter.mp hy
    have hin : x ∈ e.opens.map (·.req) := List.mem_map.mpr ⟨y, hy1, hyx⟩
    refine ⟨Or.inl (List.mem_append_left _ hin), ?_⟩
    intro hc
    rcases List.mem_append.mp hc with h1 | h1
    · obtain ⟨z, hz, hzx⟩ := List.mem_map.mp h1
      have hz2 := (List.mem_filter.mp hz).2
      rw [hzx] at hz2; rw [hyx] at hy2
      simp [hz2] at hy2
    · exact not_mem_doneq_of_nodup hn (Or.inl hin) h1
  · intro hn
    rw [doneReqs_map_openDone]
    have h1 : (e.opens.map (·.req)).Nodup := (List.nodup_append.mp (List.nodup_append.mp hn).1).1
    exact h1.sublist ((List.filter_sublist (l := e.opens)).map _)

/-- The future of an answered request runs: the request is answered with its stream and leaves `doneq`. -/
theorem Once.handOver (e : EP) (req i : Nat) (h : (req, i) ∈ e.doneq) :
    Once [] e { e with handles := e.handles ++ [i], doneq := e.doneq.erase (req, i) }
      [.openDone req (.ok e.handles.length)] := by
  have hsub : List.Sublist (pend ({ e with handles := e.handles ++ [i], doneq := e.doneq.erase (req, i) } : EP)) (pend e) :=
    (List.Sublist.refl _).append (List.erase_sublist.map _)
  refine ⟨fun x hx => Or.inl (hsub.subset hx), fun hn => (List.nodup_append.mp hn).1.sublist hsub, ?_,
    fun _ => by simp [doneReqs]⟩
  intro hn x hx
  simp only [doneReqs, List.mem_singleton] at hx
  subst hx
  have hd : x ∈ e.doneq.map (·.1) := List.mem_map.mpr ⟨_, h, rfl⟩
  refine ⟨Or.inl (List.mem_append_right _ hd), fun hc => ?_⟩
  have hnd : (e.opens.map (·.req) ++ e.doneq.map (·.1)).Nodup := by simpa [pend] using hn
  rcases List.mem_append.mp hc with h1 | h1
  · exact (List.nodup_append.mp hnd).2.2 x h1 x hd rfl
  · have := ((List.perm_cons_erase h).map (·.1)).nodup_iff.mp (List.nodup_append.mp hnd).2.1
    exact (List.nodup_cons.mp this).1 h1

/-- The kinds of step across which it fails: a new request, and the answer `runDone` gives on a list that is not
    `doneq`. -/
def Once.bad : Kinds := .of [.startOpen, .handOut]

theorem Once.of_upd {k : Kind} {e e' : EP} {x : List Ev} (hk : k ∉ Once.bad) (u : Upd k e x e') : Once [] e e' x := by
  cases u with
  | req r =>
    cases r with
    | startOpen | handOut => exact absurd (by decide +kernel) hk
    | retryOpen _ r h => exact Once.replace e r (.inl h)
    | dropOpen _ req => exact Once.forget e req
    | answerOpen _ req r h => exact Once.answer e req r (.inl h)
    | ackOpen _ req i h => exact Once.toDone e req i h
    | handOver _ req i h => exact Once.handOver e req i h
    | answerRest _ p => exact Once.leftover e p .closed
  | enq _ _ m => exact Once.silent (enq_opens e m) (enq_doneq e m) rfl
  | send =>
    exact Once.silent ((Upd.send e).frame .opens) ((Upd.send e).frame .doneq)
      (doneReqs_sendSome e)
  | queue q => exact Once.silent (q.frame .opens) (q.frame .doneq) rfl
  | ctl c => exact Once.silent (c.frame .opens) (c.frame .doneq) rfl
  | _ => exact Once.silent rfl rfl rfl

theorem Once.of_path {A : Kinds} {e e' : EP} {x : List Ev} (p : Path A e x e')
    (hA : A.disj Once.bad = true := by decide +kernel) : Once [] e e' x :=
  p.rel (R := fun e x e' => Once [] e e' x) Once.refl Once.trans fun hk u => .of_upd (Kinds.not_mem_of_disj hA hk) u

theorem Once.openRound {new : List Nat} (e : EP) (r : OpenReq)
    (hin : r.req ∈ e.opens.map (·.req) ∨ r.req ∈ new) : Once new e (openRound e r).1 (openRound e r).2 := by
  fun_cases Mux.openRound e r
  case case4 =>
    exact (Once.replace e { r with retriesLeft := r.retriesLeft - 1 } hin).congr rfl
      (pend_eq (by simp +zetaDelta) (by simp +zetaDelta))
  all_goals exact (Once.answer e r.req _ hin).congr rfl (pend_eq rfl rfl)

theorem Once.closeFlow (e : EP) (fid : Nat) (inh : Bool) :
    Once [] e (closeFlow e fid inh).1 (closeFlow e fid inh).2 := .of_path (.closeFlow e fid inh)

theorem pend_of_path {A : Kinds} {e e' : EP} {x : List Ev} (p : Path A e x e')
    (hA : A.disj (Field.opens.writers ∪ Field.doneq.writers) = true := by decide +kernel) : pend e' = pend e :=
  pend_eq (p.frame .opens (Kinds.disj_mono hA (by decide +kernel))) (p.frame .doneq (Kinds.disj_mono hA (by decide +kernel)))

theorem offerAccept_pend (e : EP) (i : Nat) : pend (offerAccept e i) = pend e := pend_of_path (.offerAccept e i)
theorem offerBind_pend (e : EP) (b : BindIn) : pend (offerBind e b) = pend e := pend_of_path (.offerBind e b)
theorem runDone_pend (e : EP) (l : List (Nat × Nat)) : pend (runDone e l).1 = pend e := pend_of_path (.runDone e l)

theorem runDone_done (e : EP) (l : List (Nat × Nat)) : doneReqs (runDone e l).2 = l.map (·.1) := by
  induction l generalizing e with
  | nil => rfl
  | cons x rest ih =>
    obtain ⟨req, i⟩ := x
    unfold Mux.runDone
    simp only [doneReqs, List.map_cons, ih]

theorem Once.processFrame (e : EP) (f : Frame) (ig : Bool) :
    Once [] e (processFrame e f ig).1 (processFrame e f ig).2.1 := .of_path (.processFrame e f ig)

/-! ### The open futures -/

theorem openRound_keeps_others (e : EP) (r : OpenReq) (x : Nat) (hx : x ≠ r.req) (h : x ∈ e.opens.map (·.req)) :
    x ∈ (openRound e r).1.opens.map (·.req) := by
  have hf : x ∈ (e.opens.filter (·.req ≠ r.req)).map (·.req) := by
    obtain ⟨y, hy, hyx⟩ := List.mem_map.mp h
    exact List.mem_map.mpr ⟨y, List.mem_filter.mpr ⟨hy, by simpa [hyx] using hx⟩, hyx⟩
  unfold Mux.openRound
  split
  · exact hf
  · split
    · exact hf
    · simp only
      split
      · exact hf
      · simp only [enqFrame_opens, List.map_cons]
        exact List.mem_cons_of_mem _ hf

theorem Once.evsD {new : List Nat} {e e' : EP} {evs evs' : List Ev} (s : Once new e e' evs)
    (h : doneReqs evs' = doneReqs evs) : Once new e e' evs' :=
  ⟨s.sub, s.nd, by rw [h]; exact s.done, by rw [h]; exact s.dnd⟩

theorem disallowAll_pend (e : EP) (l : List (Nat × Slot)) : pend (disallowAll e l) = pend e := pend_of_path (.disallowAll e l)
theorem sendSome_pend (e : EP) : pend (sendSome e).1 = pend e := pend_of_path (.sendSome e)
theorem unpark_pend (e : EP) : pend (unpark e) = pend e := pend_of_path (.unpark e)

theorem Once.windDownTail (e1 : EP) (flushed : List Ev) (srcEnded : Bool) (res : ExitRes)
    (hf : doneReqs flushed = []) :
    Once [] e1 (windDownTail e1 flushed srcEnded res).1 (windDownTail e1 flushed srcEnded res).2 := by
  obtain ⟨evs, h, p⟩ := Path.windDownTail e1 flushed srcEnded res
  exact (Once.of_path p).evsD (by rw [h, doneReqs_append, hf]; rfl)

theorem Once.windDown (e : EP) (drain : Bool) (res : ExitRes) :
    Once [] e (windDown e drain res).1 (windDown e drain res).2 := .of_path (.windDown e drain res)

theorem Once.settleLoop (fuel : Nat) (e : EP) (acc : List Ev) :
    ∃ evs, (settleLoop fuel e acc).2 = acc ++ evs ∧ Once [] e (settleLoop fuel e acc).1 evs :=
  let ⟨evs, h, p⟩ := Path.settleLoop fuel e acc; ⟨evs, h, .of_path p⟩

theorem Once.runRetries (e : EP) (l : List Nat) : Once [] e (runRetries e l).1 (runRetries e l).2 :=
  .of_path (.runRetries e l)

theorem Once.settle (e : EP) : Once [] e (settle e).1 (settle e).2 := .of_path (.settle e)

/-! ### Application calls -/

def newOf : Op → List Nat
  | .open req _ _ => [req]
  | _ => []

/-- Only `open` starts a request; the path of every other call avoids the two kinds across which `Once []` fails. -/
theorem Once.opStep (e : EP) (op : Op) : Once (newOf op) e (opStep e op).1 (opStep e op).2.2 := by
  cases op
  case «open» req host port =>
    simp only [Mux.opStep, newOf]
    split
    · exact Once.ignore _ e
    · exact Once.openRound (new := [req]) e _ (Or.inr (by simp))
  all_goals exact (Once.of_path (.opStep e _) (by dsimp only [K.opStep]; decide +kernel)).weaken _

theorem Once.applyOp (e : EP) (op : Op) : Once (newOf op) e (applyOp e op).1 (applyOp e op).2.2 := by
  rw [applyOp_fst, applyOp_evs]
  exact (Once.opStep e op).trans (Once.settle _)

/-! ### Histories -/

def runOpsEv (e : EP) : List Op → EP × List Ev
  | [] => (e, [])
  | op :: rest => ((runOpsEv (applyOp e op).1 rest).1, (applyOp e op).2.2 ++ (runOpsEv (applyOp e op).1 rest).2)

theorem runOpsEv_fst (e : EP) (ops : List Op) : (runOpsEv e ops).1 = runOps e ops := by
  induction ops generalizing e with
  | nil => rfl
  | cons op rest ih => simp only [runOpsEv, runOps, List.foldl_cons]; exact ih _

def opensOf : List Op → List Nat
  | [] => []
  | op :: rest => newOf op ++ opensOf rest

abbrev Hist (opened done : List Nat) (e : EP) : Prop := Hist1 opened done (pend e)

theorem Hist.sub {opened done : List Nat} {e : EP} (self : Hist opened done e) : ∀ r, r ∈ pend e → r ∈ opened := Hist1.sub self
theorem Hist.nd {opened done : List Nat} {e : EP} (self : Hist opened done e) : (pend e).Nodup := Hist1.nd self
theorem Hist.dnd {opened done : List Nat} {e : EP} (self : Hist opened done e) : done.Nodup := Hist1.dnd self
theorem Hist.dsub {opened done : List Nat} {e : EP} (self : Hist opened done e) :
    ∀ r, r ∈ done → r ∈ opened ∧ r ∉ pend e := Hist1.dsub self

theorem newOf_nodup (op : Op) : (newOf op).Nodup := by
  cases op <;> simp [newOf]

/-- Every open request is answered at most once, and only requests that were started are answered:
    for every history of stimuli (request numbers used once) and any peer. -/
theorem answered_at_most_once (o : Opts) (ops : List Op) (h : (opensOf ops).Nodup) :
    (doneReqs (runOpsEv { opts := o } ops).2).Nodup ∧
    ∀ r, r ∈ doneReqs (runOpsEv { opts := o } ops).2 → r ∈ opensOf ops := by
  exact Hist1.run (p := pend) (s := fun e op => (applyOp e op).1) (n := newOf)
    (d := fun e op => doneReqs (applyOp e op).2.2) (N := opensOf) (D := fun e ops => doneReqs (runOpsEv e ops).2)
    rfl (fun _ _ => rfl) (fun _ => rfl) (fun _ _ _ => doneReqs_append _ _) (fun e op => (Once.applyOp e op).to1)
    newOf_nodup ops _ rfl h

end Penguin.Mux
