/-
`settle` as a chain of its five stages: the task's loop, the send loop, the finished open calls, the due
retries, the send loop again.  The definition threads the state through pattern-matching `let (e, evs) := f x`;
a proof that states a stage with projections `(f x).1`, `(f x).2` and lets `exact` compare the two makes the
unifier evaluate `f x`, the whole model function.  `settle_eq` names each `let` once (the `generalize` of the
loop's result is the step that avoids the comparison); a relation that holds across the stages and composes
holds across `settle` (`settle_chain`, `settle_rel`) without meeting the `let`s again.
Core Lean only.
-/
import Penguin.Lemmas.MuxBasic

namespace Penguin.Mux

/-- The send loop hands the queue to the sink unless the task is gone or parked in the wind-down. -/
def holdSend (e : EP) : EP × List Ev := if e.dead || e.draining.isSome then (e, []) else sendSome e

/-- The finished open calls are reported to their callers, in the order of their requests. -/
def runDoneq (e : EP) : EP × List Ev := runDone { e with doneq := [] } (e.doneq.foldr insertDone [])

/-- The retries that are due are sent, in the order of their requests. -/
def runRetryq (e : EP) : EP × List Ev := runRetries { e with retryq := [] } (sortNat e.retryq)

def thenRun (r : EP × List Ev) (f : EP → EP × List Ev) : EP × List Ev := ((f r.1).1, r.2 ++ (f r.1).2)

/-- `protected`: `Penguin.Pair.settle_eq` (`Lemmas/MuxIdle.lean`) is opened under this name in files of this
    namespace. -/
protected theorem settle_eq (e : EP) :
    settle e =
      thenRun (thenRun (thenRun (settleLoop (2 * e.inbox.length + e.droppedq.length + 2) e []) holdSend)
        (fun e => thenRun (runDoneq e) runRetryq)) holdSend := by
  unfold Mux.settle thenRun holdSend runDoneq runRetryq
  generalize settleLoop _ e [] = r1
  obtain ⟨e1, evs1⟩ := r1
  simp only []

theorem thenRun_chain {A B : EP → EP → List Ev → Prop} (ab : ∀ {a b c x y}, A a b x → B b c y → A a c (x ++ y))
    {e : EP} {r : EP × List Ev} {f : EP → EP × List Ev} (h : A e r.1 r.2) (hf : B r.1 (f r.1).1 (f r.1).2) :
    A e (thenRun r f).1 (thenRun r f).2 := ab h hf

/-- `P` (from the state before `settle`, across the task's loop) followed by `Q` (across each later stage), both
    with the events emitted: if they compose, `P` holds across `settle`.  For a relation with a ghost log that
    only the task's loop writes, `P` carries the log and `Q` the empty one. -/
theorem settle_chain {P Q : EP → EP → List Ev → Prop} {e : EP}
    (pq : ∀ {a b c x y}, P a b x → Q b c y → P a c (x ++ y))
    (qq : ∀ {a b c x y}, Q a b x → Q b c y → Q a c (x ++ y))
    (loop : P e (settleLoop (2 * e.inbox.length + e.droppedq.length + 2) e []).1
      (settleLoop (2 * e.inbox.length + e.droppedq.length + 2) e []).2)
    (hold : ∀ a, Q a (holdSend a).1 (holdSend a).2) (done : ∀ a, Q a (runDoneq a).1 (runDoneq a).2)
    (retry : ∀ a, Q a (runRetryq a).1 (runRetryq a).2) : P e (settle e).1 (settle e).2 := by
  rw [Mux.settle_eq]
  exact thenRun_chain pq (thenRun_chain pq (thenRun_chain pq loop (hold _)) (thenRun_chain qq (done _) (retry _))) (hold _)

theorem settle_rel {P Q : EP → EP → Prop} {e : EP}
    (pq : ∀ {a b c}, P a b → Q b c → P a c) (qq : ∀ {a b c}, Q a b → Q b c → Q a c)
    (loop : P e (settleLoop (2 * e.inbox.length + e.droppedq.length + 2) e []).1)
    (hold : ∀ a, Q a (holdSend a).1) (done : ∀ a, Q a (runDoneq a).1) (retry : ∀ a, Q a (runRetryq a).1) :
    P e (settle e).1 :=
  settle_chain (P := fun a b _ => P a b) (Q := fun a b _ => Q a b) pq qq loop hold done retry

end Penguin.Mux
