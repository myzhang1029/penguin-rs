/-
Slots of the flow table never come back for an old stream object.

`Grow e e'` relates an endpoint state to a later one: objects are only appended and keep their flow
id, and every `Established` slot of the later state either was there before or refers to an object
created in between, created *for that id*.  Every primitive update is a `Grow` step
(`Lemmas/MuxTrace.lean`), hence so is every function of the endpoint model — frames from any peer
(well-behaved or not), application calls, the dropped-handle loop, the whole wind-down — every stimulus
(`applyOp`) and every history (`runOps`).

Consequences (restated in Props C06):
 * `SlotFidE`: an `Established` slot under id `x` refers to an object whose id is `x`, in every
   reachable state (so a dropped-handle notification, which carries the object's id, addresses the
   slot of that object);
 * once no slot refers to stream object `i`, none ever does again, whatever happens next —
   including the peer reusing the flow id (`no_slot_forever`).
Core Lean only.
-/
import Penguin.Lemmas.MuxReach
import Penguin.Lemmas.MuxTrace

namespace Penguin.Mux

/-- An `Established` slot under id `x` refers to an object of id `x`. -/
def SlotFidE (e : EP) : Prop :=
  ∀ (fid i : Nat) (o : Obj), lookup e.flows fid = some (.established i) → e.objs[i]? = some o → o.fid = fid

/-- No slot of the flow table refers to stream object `i`. -/
def NoSlotTo (e : EP) (i : Nat) : Prop := ∀ fid, lookup e.flows fid ≠ some (.established i)

structure Grow (e e' : EP) : Prop where
  len : e.objs.length ≤ e'.objs.length
  fid : ∀ (i : Nat) (o : Obj), e.objs[i]? = some o → ∃ o' : Obj, e'.objs[i]? = some o' ∧ o'.fid = o.fid
  slots : ∀ (fid i : Nat), lookup e'.flows fid = some (.established i) →
    lookup e.flows fid = some (.established i) ∨
      (e.objs.length ≤ i ∧ ∃ o' : Obj, e'.objs[i]? = some o' ∧ o'.fid = fid)

theorem Grow.refl (e : EP) : Grow e e :=
  ⟨Nat.le_refl _, fun _ o h => ⟨o, h, rfl⟩, fun _ _ h => Or.inl h⟩

theorem Grow.trans {a b c : EP} (s : Grow a b) (t : Grow b c) : Grow a c := by
  refine ⟨Nat.le_trans s.len t.len, ?_, ?_⟩
  · intro i o h
    obtain ⟨o1, h1, f1⟩ := s.fid i o h
    obtain ⟨o2, h2, f2⟩ := t.fid i o1 h1
    exact ⟨o2, h2, by rw [f2, f1]⟩
  · intro fid i h
    rcases t.slots fid i h with h1 | ⟨hl, o', ho', hf'⟩
    · rcases s.slots fid i h1 with h2 | ⟨hl, o', ho', hf'⟩
      · exact Or.inl h2
      · obtain ⟨o2, h2, f2⟩ := t.fid i o' ho'
        exact Or.inr ⟨hl, o2, h2, by rw [f2, hf']⟩
    · exact Or.inr ⟨Nat.le_trans s.len hl, o', ho', hf'⟩

theorem Grow.slotFid {e e' : EP} (g : Grow e e') (hr : WF e) (h : SlotFidE e) : SlotFidE e' := by
  intro fid i o hs ho
  rcases g.slots fid i hs with h1 | ⟨_, o', ho', hf'⟩
  · have hlt : i < e.objs.length := hr.range fid i h1
    obtain ⟨o0, ho0⟩ : ∃ o0, e.objs[i]? = some o0 := ⟨e.objs[i], List.getElem?_eq_getElem hlt⟩
    obtain ⟨o1, ho1, hf1⟩ := g.fid i o0 ho0
    rw [ho] at ho1; cases ho1
    rw [hf1]; exact h fid i o0 h1 ho0
  · rw [ho] at ho'; cases ho'; exact hf'

theorem Grow.noSlot {e e' : EP} (g : Grow e e') {i : Nat} (hi : i < e.objs.length) (h : NoSlotTo e i) :
    NoSlotTo e' i := by
  intro fid hs
  rcases g.slots fid i hs with h1 | ⟨hl, _⟩
  · exact h fid h1
  · omega

/-! ### Building blocks -/

/-- Same objects; every `Established` slot was there before (slots erased, pending slots inserted). -/
theorem Grow.sub {e e' : EP} (ho : e'.objs = e.objs)
    (hs : ∀ fid i, lookup e'.flows fid = some (.established i) → lookup e.flows fid = some (.established i)) :
    Grow e e' :=
  ⟨by rw [ho]; exact Nat.le_refl _, fun i o h => ⟨o, by rw [ho]; exact h, rfl⟩, fun fid i h => Or.inl (hs fid i h)⟩

theorem Grow.same {e e' : EP} (hf : e'.flows = e.flows) (ho : e'.objs = e.objs) : Grow e e' :=
  .sub ho fun _ _ h => hf ▸ h

theorem Grow.modObj (e : EP) (i : Nat) (f : Obj → Obj) (hf : ∀ o, e.objs[i]? = some o → (f o).fid = o.fid) :
    Grow e (e.modObj i f) := by
  exact ⟨by simp, modObj_rel hf (fun _ _ h => h) fun _ => rfl, fun fid j h => Or.inl h⟩

theorem Grow.erase (e : EP) (fid : Nat) : Grow e { e with flows := erase e.flows fid } :=
  Grow.sub rfl (fun _ _ h => lookup_erase_some h)

theorem Grow.insertPending (e : EP) (fid : Nat) (s : Slot) (hs : ∀ i, s ≠ .established i) :
    Grow e { e with flows := insert e.flows fid s } :=
  Grow.sub rfl fun _ i => lookup_insert_other (hs i).symm

theorem Grow.newStream (e : EP) (fid : Nat) (o : Obj) (hf : o.fid = fid) :
    Grow e { e with objs := e.objs ++ [o], flows := insert e.flows fid (.established e.objs.length) } := by
  refine ⟨by simp, fun _ x h => ⟨x, getElem?_append_keep o h, rfl⟩, fun y i h => ?_⟩
  rcases lookup_insert_some h with ⟨rfl, h1⟩ | ⟨-, h1⟩
  · cases h1
    exact Or.inr ⟨Nat.le_refl _, o, by show (e.objs ++ [o])[e.objs.length]? = some o; simp, hf⟩
  · exact Or.inl h1

/-- A table of bind requests has no `Established` slot. -/
theorem Grow.binds {e e' : EP} (ho : e'.objs = e.objs) (hb : ∀ p ∈ e'.flows, p.2.isBind = true) : Grow e e' :=
  Grow.sub ho fun _ _ h => nomatch hb _ (lookup_mem _ _ _ h)

theorem Grow.of_upd {k : Kind} {e e' : EP} {x : List Ev} (u : Upd k e x e') : Grow e e' := by
  cases u with
  | obj ok _ i f hf => exact Grow.modObj e i f (fun o ho => (hf o ho).fixed.1)
  | erase _ fid | acceptBind _ fid | refuseBind _ fid => exact Grow.erase e fid
  | rejectSlot _ fid => exact Grow.sub rfl (fun _ _ h => lookup_erase_some h)
  | reqSlot _ fid | startBind _ fid => exact Grow.insertPending e fid _ nofun
  | newStream _ fid rwnd host port => exact Grow.newStream e fid _ rfl
  | dropSlots => exact Grow.binds rfl fun p hp => (List.mem_filter.mp hp).2
  | drainBind _ fid req rest hfl hb => exact Grow.binds rfl hb
  | enq _ _ m => exact .same (enq_flows e m) (enq_objs e m)
  | send => exact .same ((Upd.send e).frame .flows) ((Upd.send e).frame .objs)
  | queue q => exact .same (q.frame .flows) (q.frame .objs)
  | ctl c => exact .same (c.frame .flows) (c.frame .objs)
  | req r => exact .same (r.frame .flows) (r.frame .objs)
  | _ => exact .same rfl rfl

theorem Grow.of_path {A : Kinds} {e e' : EP} {x : List Ev} (p : Path A e x e') : Grow e e' :=
  p.rel0 Grow.refl Grow.trans fun _ u => .of_upd u

/-! ### Function by function, every stimulus, every history -/

theorem Grow.openRound (e : EP) (r : OpenReq) : Grow e (openRound e r).1 := .of_path (.openRoundAny e r)
theorem Grow.closeFlow (e : EP) (fid : Nat) (inh : Bool) : Grow e (closeFlow e fid inh).1 :=
  .of_path (.closeFlow e fid inh)
theorem Grow.processFrame (e : EP) (f : Frame) (ig : Bool) : Grow e (processFrame e f ig).1 :=
  .of_path (.processFrame e f ig)
theorem Grow.processIn (e : EP) (w : WsIn) (ig : Bool) : Grow e (processIn e w ig).1 := .of_path (.processIn e w ig)
theorem Grow.disallowAll (e : EP) (l : List (Nat × Slot)) : Grow e (disallowAll e l) := .of_path (.disallowAll e l)
theorem Grow.windDownInbox (e : EP) (l : List WsIn) : Grow e (windDownInbox e l).1 := .of_path (.windDownInbox e l)
theorem Grow.windDownFinish (e : EP) (res : ExitRes) : Grow e (windDownFinish e res).1 :=
  .of_path (.windDownFinish e res)
theorem Grow.windDownTail (e1 : EP) (flushed : List Ev) (srcEnded : Bool) (res : ExitRes) :
    Grow e1 (windDownTail e1 flushed srcEnded res).1 := let ⟨_, _, p⟩ := Path.windDownTail e1 flushed srcEnded res; .of_path p

theorem Grow.sendSome (e : EP) : Grow e (sendSome e).1 := .of_path (.sendSome e)
theorem Grow.dropPrep (e : EP) : Grow e (dropPrep e) := .of_path (.dropPrep e)
theorem Grow.windDown (e : EP) (drain : Bool) (res : ExitRes) : Grow e (windDown e drain res).1 :=
  .of_path (.windDown e drain res)
theorem Grow.unpark (e : EP) : Grow e (unpark e) := .of_path (.unpark e)
theorem Grow.recvOne (e : EP) (w : WsIn) (rest : List WsIn) : Grow e (recvOne e w rest).1 :=
  .of_path (.recvOne e w rest)
theorem Grow.settleLoop (fuel : Nat) (e : EP) (acc : List Ev) : Grow e (settleLoop fuel e acc).1 :=
  let ⟨_, _, p⟩ := Path.settleLoop fuel e acc; .of_path p
theorem Grow.runRetries (e : EP) (l : List Nat) : Grow e (runRetries e l).1 := .of_path (.runRetries e l)
theorem Grow.runDone (e : EP) (l : List (Nat × Nat)) : Grow e (runDone e l).1 := .of_path (.runDone e l)
theorem Grow.hold (e : EP) (c : Bool) : Grow e (if c then (e, ([] : List Ev)) else Mux.sendSome e).1 :=
  .of_path (.hold e c)
theorem Grow.settle (e : EP) : Grow e (settle e).1 := .of_path (.settle e)
theorem Grow.appWrite (e : EP) (h : Nat) (d : Bytes) : Grow e (appWrite e h d).1 := .of_path (.appWrite e h d)
theorem Grow.fillBuf (fuel : Nat) (e : EP) (i : Nat) : Grow e (fillBuf fuel e i).1 := .of_path (.fillBuf fuel e i)
theorem Grow.appRead (e : EP) (h n : Nat) : Grow e (appRead e h n).1 := .of_path (.appRead e h n)
theorem Grow.appShutdown (e : EP) (h : Nat) : Grow e (appShutdown e h).1 := .of_path (.appShutdown e h)
theorem Grow.appDropStream (e : EP) (h : Nat) : Grow e (appDropStream e h).1 := .of_path (.appDropStream e h)
theorem Grow.appBindReq (e : EP) (req : Nat) (bt : BindType) (host : Bytes) (port : Nat) :
    Grow e (appBindReq e req bt host port).1 :=
  .of_path (.appBindReq e req bt host port)
theorem Grow.appBindNext (e : EP) : Grow e (appBindNext e).1 := .of_path (.appBindNext e)
theorem Grow.appBindReply (e : EP) (k : Nat) (a : Bool) : Grow e (appBindReply e k a).1 :=
  .of_path (.appBindReply e k a)
theorem Grow.appBindDrop (e : EP) (k : Nat) : Grow e (appBindDrop e k).1 := .of_path (.appBindDrop e k)
theorem Grow.opStep (e : EP) (op : Op) : Grow e (opStep e op).1 := .of_path (.opStep e op)
theorem Grow.applyOp (e : EP) (op : Op) : Grow e (applyOp e op).1 := .of_path (.applyOp e op)
theorem Grow.runOps (e : EP) (ops : List Op) : Grow e (runOps e ops) := let ⟨_, p⟩ := Path.runOps e ops; .of_path p

theorem applyOp_slotFid (e : EP) (op : Op) (h : WF e) (hs : SlotFidE e) : SlotFidE (applyOp e op).1 :=
  (Grow.applyOp e op).slotFid h hs

theorem runOps_slotFid (e : EP) (ops : List Op) (h : WF e) (hs : SlotFidE e) : SlotFidE (runOps e ops) :=
  (Grow.runOps e ops).slotFid h hs

theorem init_slotFid (o : Opts) : SlotFidE { opts := o } := fun _ _ _ h => nomatch h

theorem reachable_slotFid (o : Opts) (ops : List Op) : SlotFidE (runOps { opts := o } ops) :=
  runOps_slotFid _ ops (init_inv o).1 (init_slotFid o)

/-- Once no slot refers to stream object `i`, none ever does again — whatever the application and
    the peer do next, including a new `Connect` that reuses the flow id. -/
theorem no_slot_forever (e : EP) (i : Nat) (hi : i < e.objs.length) (h : NoSlotTo e i) (ops : List Op) :
    NoSlotTo (runOps e ops) i :=
  (Grow.runOps e ops).noSlot hi h

end Penguin.Mux
