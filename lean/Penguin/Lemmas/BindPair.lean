/-
The bind-request pair (`Model/BindPair`): each action of the pair is, for each of the two directions,
one of the moves of `Lemmas/BindDir` (or leaves that direction as it is); hence `DirInv` holds for
both directions of every reachable state.  Core Lean only.
-/
import Penguin.Lemmas.BindInj

namespace Penguin.BindPair
open Penguin.Mux

def bindIn? : Msg → Option BindIn
  | .frame (.bind x bt port host) => some { fid := x, bt := bt, host := host, port := port }
  | _ => none

def ans? : Msg → Option (Nat × Bool)
  | .frame (.finish x) => some (x, true)
  | .frame (.reset x) => some (x, false)
  | _ => none

def parkB : Option Park → Option BindIn
  | some (.bind b) => some b
  | _ => none

/-- The direction in which `p.a` asks and `p.b` answers. -/
def dirOf (p : PS) : Dir :=
  { flows := p.a.flows, reqs := (p.ab ++ p.a.outq).filterMap bindIn?, park := parkB p.b.park,
    bindq := p.b.bindq, held := p.b.held, anss := (p.ba ++ p.b.outq).filterMap ans?,
    cap := p.b.opts.bindCap, asked := p.ga.asked, results := p.ga.results,
    links := p.gb.links, accepted := p.gb.accepted, rejected := p.gb.rejected }

def isBF : Msg → Bool
  | .frame (.bind ..) => true
  | .frame (.finish _) => true
  | .frame (.reset _) => true
  | _ => false

/-- Nothing is left for the connection task to do on its own, and the transport takes everything:
    the state in which the correspondence harness hands an endpoint its next stimulus. -/
def idleB (e : EP) : Bool :=
  e.inbox.isEmpty && e.droppedq.isEmpty && e.doneq.isEmpty && e.retryq.isEmpty && e.closing.isNone &&
  e.draining.isNone && !e.dead && e.sinkRoom.isNone && !e.srcEnded

structure Run (e : EP) : Prop where
  out : e.outClosed = false
  alive : e.muxAlive = true
  slots : ∀ x s, lookup e.flows x = some s → ∃ r, s = .bindRequested r
  park : ∀ i, e.park ≠ some (.accept i)
  idle : idleB e = true

structure PInv (oa ob : Opts) (p : PS) : Prop where
  d1 : DirInv (dirOf p)
  d2 : DirInv (dirOf p.swap)
  ra : Run p.a
  rb : Run p.b
  wa : ∀ m ∈ p.ab ++ p.a.outq, isBF m = true
  wb : ∀ m ∈ p.ba ++ p.b.outq, isBF m = true
  oa : p.a.opts = oa
  ob : p.b.opts = ob

theorem PInv.swap {oa ob : Opts} {p : PS} (h : PInv oa ob p) : PInv ob oa p.swap :=
  ⟨h.d2, h.d1, h.rb, h.ra, h.wb, h.wa, h.ob, h.oa⟩

theorem swap_swap (p : PS) : p.swap.swap = p := rfl

theorem ownerF_lookup {m : List (Nat × Slot)} {x r : Nat} (h : ownerF m x = some r) : lookup m x = some (.bindRequested r) := by
  unfold ownerF at h
  split at h
  · rename_i r' hl; cases h; exact hl
  · cases h

theorem enqFrame_open (e : EP) (h : e.outClosed = false) (f : Frame) :
    e.enqFrame f = { e with outq := e.outq ++ [.frame f] } := by
  unfold EP.enqFrame EP.enq; rw [h]; rfl

theorem Run.enqFrame {e : EP} (h : Run e) (f : Frame) : (e.enqFrame f).outq = e.outq ++ [.frame f] := by
  rw [enqFrame_open e h.out]

/-- `Run` reads five things of an endpoint: a state that agrees on them (and is not parked on the accept queue) runs too. -/
theorem Run.same {e e' : EP} (h : Run e) (ho : e'.outClosed = e.outClosed) (ha : e'.muxAlive = e.muxAlive)
    (hf : e'.flows = e.flows) (hp : ∀ i, e'.park ≠ some (.accept i)) (hi : idleB e' = idleB e) : Run e' :=
  ⟨ho.trans h.out, ha.trans h.alive, hf ▸ h.slots, hp, hi.trans h.idle⟩

theorem PInv.wa_snoc {oa ob : Opts} {p : PS} (h : PInv oa ob p) {m : Msg} (hm : isBF m = true) :
    ∀ m' ∈ p.ab ++ (p.a.outq ++ [m]), isBF m' = true := by
  intro m' hm'
  simp only [List.mem_append, List.mem_singleton] at hm'
  rcases hm' with hm' | (hm' | rfl)
  · exact h.wa m' (List.mem_append_left _ hm')
  · exact h.wa m' (List.mem_append_right _ hm')
  · exact hm

theorem init_inv (oa ob : Opts) (ra rb : List Nat) : PInv oa ob (init oa ob ra rb) := by
  have hd : ∀ c, DirInv ({ flows := [], cap := c } : Dir) := by
    intro c
    refine ⟨⟨?_, ?_, ?_, ?_, ?_, ?_, ?_, ?_, ?_⟩, ⟨?_, ?_, by simp, by simp⟩⟩
    · intro x; simp [Dir.toks, parkL, pendHeld, ownerF]
    · intro c hc; simp [parkL] at hc
    · intro k b hk; simp at hk
    · intro r k hl; simp at hl
    · intro k hk; simp at hk
    · intro x acc hx; simp at hx
    · intro r; simp
    · simp
    · intro x r hr; simp [ownerF] at hr
    · intro x y r hx; simp [ownerF] at hx
    · intro r k hl; simp at hl
  have hr : ∀ (o : Opts) (r : List Nat), Run ({ opts := o, rng := r } : EP) :=
    fun o r => ⟨rfl, rfl, by intro x s hs; simp at hs, by intro i; simp, rfl⟩
  exact ⟨hd _, hd _, hr _ _, hr _ _, by simp [init], by simp [init], rfl, rfl⟩

theorem step_xmit {oa ob : Opts} {p q : PS} (h : PInv oa ob p) (hs : stepL p .xmit = some q) : PInv oa ob q := by
  simp only [stepL] at hs
  split at hs
  · cases hs
  · rename_i m rest hq
    cases hs
    have e1 : (p.ab ++ [m]) ++ rest = p.ab ++ p.a.outq := by rw [hq]; simp
    refine ⟨?_, ?_, h.ra.same rfl rfl rfl h.ra.park rfl, h.rb, ?_, h.wb, h.oa, h.ob⟩
    · exact h.d1.of_eq (by simp only [dirOf, e1])
    · exact h.d2.of_eq (by simp only [dirOf, PS.swap, e1])
    · intro m' hm'
      simp only [e1] at hm'
      exact h.wa m' hm'

theorem step_unpark {oa ob : Opts} {p q : PS} (h : PInv oa ob p) (hs : stepL p .unpark = some q) : PInv oa ob q := by
  simp only [stepL] at hs
  cases hs
  cases hpk : p.a.park with
  | none =>
    have : Mux.unpark p.a = p.a := by unfold Mux.unpark; rw [hpk]
    rw [this]; exact h
  | some pk =>
    cases pk with
    | accept i => exact absurd hpk (h.ra.park i)
    | bind b =>
      by_cases hroom : p.a.bindq.length < p.a.opts.bindCap
      · have hu : Mux.unpark p.a = { p.a with bindq := p.a.bindq ++ [b], park := none } := by
          unfold Mux.unpark; rw [hpk]; simp [h.ra.alive, hroom]
        rw [hu]
        refine ⟨?_, ?_, h.ra.same rfl rfl rfl (by intro i; simp) rfl, h.rb, h.wa, h.wb, h.oa, h.ob⟩
        · exact h.d1
        · exact h.d2.unpark.of_eq (by simp only [dirOf, PS.swap, Dir.unpark, hpk, parkB, hroom, if_true])
      · have hu : Mux.unpark p.a = p.a := by
          unfold Mux.unpark; rw [hpk]; simp [h.ra.alive, hroom]
        rw [hu]; exact h

theorem step_bindNext {oa ob : Opts} {p q : PS} (h : PInv oa ob p) (hs : stepL p .bindNext = some q) : PInv oa ob q := by
  by_cases hc : p.a.opts.bindCap = 0
  · have hn : appBindNext p.a = (p.a, .unsupported) := by unfold appBindNext; simp [hc]
    simp only [stepL, hn] at hs
    cases hs; exact h
  · cases hq : p.a.bindq with
    | nil =>
      have hn : (appBindNext p.a).1 = p.a ∧ ((appBindNext p.a).2 = .closed ∨ (appBindNext p.a).2 = .pending) := by
        unfold appBindNext; simp only [hc, if_false, hq]; split <;> simp
      simp only [stepL] at hs
      cases hs
      rcases hn with ⟨h1, h2 | h2⟩ <;> (rw [h1, h2]; exact h)
    | cons b rest =>
      have hn : appBindNext p.a = ({ p.a with bindq := rest, held := p.a.held ++ [b] }, .bindReq p.a.held.length b.fid b.bt b.host b.port) := by
        unfold appBindNext; simp [hc, hq]
      simp only [stepL, hn] at hs
      cases hs
      refine ⟨?_, ?_, h.ra.same rfl rfl rfl h.ra.park rfl, h.rb, h.wa, h.wb, h.oa, h.ob⟩
      · refine h.d1.of_eq ?_
        simp only [dirOf]
        split <;> rfl
      · refine h.d2.next.of_eq ?_
        simp only [dirOf, PS.swap, Dir.next, hq, owner_eq]
        split <;> simp_all

theorem step_bindReq {oa ob : Opts} {p q : PS} {req : Nat} {bt : BindType} {host : Bytes} {port : Nat} (h : PInv oa ob p)
    (hs : stepL p (.bindReq req bt host port) = some q) : PInv oa ob q := by
  simp only [stepL] at hs
  split at hs
  · cases hs
  · rename_i hg
    have hreq : req ∉ (dirOf p).asked.map (·.req) := by
      intro hm
      obtain ⟨a, ha, hae⟩ := List.mem_map.mp hm
      apply hg
      simp only [Bool.or_eq_true, List.any_eq_true, beq_iff_eq]
      exact Or.inl ⟨a, ha, hae⟩
    cases hd : drawId p.a.flows p.a.rng p.a.fallback 64 with
    | none =>
      have hr : appBindReq p.a req bt host port = (p.a, [.bindDone req .closed]) := by
        unfold appBindReq; rw [hd]
      simp only [hr, hd] at hs
      cases hs
      refine ⟨?_, ?_, h.ra, h.rb, h.wa, h.wb, h.oa, h.ob⟩
      · exact (h.d1.askClosed req).of_eq (by simp [dirOf, Dir.askClosed, resultsOf])
      · exact h.d2.of_eq (by simp [dirOf, PS.swap])
    | some t =>
      obtain ⟨fid, rng', fb'⟩ := t
      have hspec := drawId_spec _ _ _ _ _ _ _ hd
      have hr : appBindReq p.a req bt host port =
          ({ p.a with rng := rng', fallback := fb', flows := insert p.a.flows fid (.bindRequested req),
                      outq := p.a.outq ++ [.frame (.bind fid bt port host)] }, []) := by
        unfold appBindReq; rw [hd]
        simp only [h.ra.out, Bool.false_eq_true, if_false]
        unfold EP.enqFrame EP.enq
        simp
      simp only [hr, hd, h.ra.out, Bool.false_eq_true, if_false] at hs
      cases hs
      refine ⟨?_, ?_, ⟨by first | exact h.ra.out | rfl, h.ra.alive, ?_, h.ra.park, h.ra.idle⟩, h.rb, ?_, h.wb, h.oa, h.ob⟩
      · refine (h.d1.ask req fid bt host port hspec.2 hreq).of_eq ?_
        simp [dirOf, Dir.ask, resultsOf, List.filterMap_append, bindIn?]
      · refine h.d2.of_eq ?_
        simp [dirOf, PS.swap, List.filterMap_append, ans?]
      · intro x s hx
        by_cases hxf : x = fid
        · subst hxf; rw [lookup_insert_self] at hx; cases hx; exact ⟨req, rfl⟩
        · rw [lookup_insert_ne _ _ _ _ hxf] at hx; exact h.ra.slots x s hx
      · exact h.wa_snoc rfl

theorem step_bindReply {oa ob : Opts} {p q : PS} {k : Nat} {acc : Bool} (h : PInv oa ob p)
    (hs : stepL p (.bindReply k acc) = some q) : PInv oa ob q := by
  simp only [stepL] at hs
  cases hk : p.a.held[k]? with
  | none => simp only [hk] at hs; cases hs
  | some b =>
    simp only [hk] at hs
    split at hs
    · cases hs
    · rename_i hg
      have hal : b.alive = true ∧ b.replied = false := by
        cases ha : b.alive <;> cases hr : b.replied <;> simp_all
      have hr : appBindReply p.a k acc =
          ({ p.a with outq := p.a.outq ++ [.frame (if acc then .finish b.fid else .reset b.fid)],
                      held := p.a.held.modify k (fun b => { b with replied := true }) }, .unit) := by
        unfold appBindReply; simp [hk, hal.1, h.ra.out, EP.enqFrame, EP.enq]
      simp only [hr] at hs
      cases hs
      have hp : b.pending = true := by simp [BindIn.pending, hal.1, hal.2]
      refine ⟨?_, ?_, h.ra.same rfl rfl rfl h.ra.park rfl, h.rb, ?_, h.wb, h.oa, h.ob⟩
      · refine h.d1.of_eq ?_
        cases acc <;> simp [dirOf, List.filterMap_append, bindIn?]
      · refine (h.d2.decide k b (fun b => { b with replied := true }) acc hk hp (by simp [BindIn.pending]) (fun r => rfl)).of_eq ?_
        cases acc <;> simp [dirOf, PS.swap, Dir.decide, List.filterMap_append, ans?]
      · exact h.wa_snoc (by cases acc <;> rfl)

theorem step_bindDrop {oa ob : Opts} {p q : PS} {k : Nat} (h : PInv oa ob p) (hs : stepL p (.bindDrop k) = some q) : PInv oa ob q := by
  simp only [stepL] at hs
  cases hk : p.a.held[k]? with
  | none => simp only [hk] at hs; cases hs
  | some b =>
    simp only [hk] at hs
    split at hs
    · cases hs
    · rename_i hg
      have hal : b.alive = true := by cases ha : b.alive <;> simp_all
      cases hrep : b.replied with
      | true =>
        have hr : appBindDrop p.a k = ({ p.a with held := p.a.held.modify k (fun b => { b with alive := false }) }, .unit) := by
          unfold appBindDrop; simp [hk, hal, hrep]
        simp only [hr, hrep, if_true] at hs
        cases hs
        have hp : b.pending = false := by simp [BindIn.pending, hrep]
        refine ⟨?_, ?_, h.ra.same rfl rfl rfl h.ra.park rfl, h.rb, h.wa, h.wb, h.oa, h.ob⟩
        · exact h.d1
        · exact (h.d2.touch k b (fun b => { b with alive := false }) hk hp (by simp [BindIn.pending]) (fun r => rfl)).of_eq
            (by simp [dirOf, PS.swap, Dir.touch])
      | false =>
        have hr : appBindDrop p.a k =
            ({ p.a with outq := p.a.outq ++ [.frame (.reset b.fid)],
                        held := p.a.held.modify k (fun b => { b with alive := false }) }, .unit) := by
          unfold appBindDrop; simp [hk, hal, hrep, h.ra.out, EP.enqFrame, EP.enq]
        simp only [hr, hrep, Bool.false_eq_true, if_false] at hs
        cases hs
        have hp : b.pending = true := by simp [BindIn.pending, hal, hrep]
        refine ⟨?_, ?_, h.ra.same rfl rfl rfl h.ra.park rfl, h.rb, ?_, h.wb, h.oa, h.ob⟩
        · refine h.d1.of_eq ?_
          simp [dirOf, List.filterMap_append, bindIn?]
        · refine (h.d2.decide k b (fun b => { b with alive := false }) false hk hp (by simp [BindIn.pending]) (fun r => rfl)).of_eq ?_
          simp [dirOf, PS.swap, Dir.decide, List.filterMap_append, ans?]
        · exact h.wa_snoc rfl

theorem Run.erase {e : EP} (h : Run e) (x : Nat) : Run { e with flows := erase e.flows x } := by
  refine ⟨h.out, h.alive, ?_, h.park, h.idle⟩
  intro y s hy
  by_cases hyx : y = x
  · subst hyx; simp only [lookup_erase_self] at hy; cases hy
  · simp only [lookup_erase_ne _ _ _ hyx] at hy; exact h.slots y s hy

theorem mem_tail_append {m : Msg} {rest l : List Msg} {m' : Msg} (h : m' ∈ rest ++ l) : m' ∈ (m :: rest) ++ l := by
  simp only [List.cons_append, List.mem_cons]; exact Or.inr h

theorem fm_ans_bind (x : Nat) (bt : BindType) (port : Nat) (host : Bytes) (l : List Msg) :
    List.filterMap ans? (.frame (.bind x bt port host) :: l) = List.filterMap ans? l := List.filterMap_cons_none rfl
theorem fm_bind_finish (x : Nat) (l : List Msg) :
    List.filterMap bindIn? (.frame (.finish x) :: l) = List.filterMap bindIn? l := List.filterMap_cons_none rfl
theorem fm_bind_reset (x : Nat) (l : List Msg) :
    List.filterMap bindIn? (.frame (.reset x) :: l) = List.filterMap bindIn? l := List.filterMap_cons_none rfl

theorem step_recv {oa ob : Opts} {p q : PS} (h : PInv oa ob p) (hs : stepL p .recv = some q) : PInv oa ob q := by
  simp only [stepL] at hs
  split at hs
  · cases hs
  · rename_i hnp
    have hpark : p.a.park = none := by cases hh : p.a.park <;> simp_all
    cases hba : p.ba with
    | nil => simp [hba] at hs
    | cons m rest =>
      have hbf := h.wb m (by rw [hba]; simp)
      have hwb' : ∀ m' ∈ rest ++ p.b.outq, isBF m' = true := fun m' hm' => h.wb m' (by rw [hba]; exact mem_tail_append hm')
      cases m with
      | frame f =>
        cases f with
        | bind x bt port host =>
          by_cases hc0 : p.a.opts.bindCap = 0
          · have hpf : processFrame p.a (.bind x bt port host) false =
                ({ p.a with outq := p.a.outq ++ [.frame (.reset x)] }, [], none) := by
              unfold processFrame; simp [hc0, EP.enqFrame, EP.enq, h.ra.out]
            simp only [hba, hpf] at hs
            cases hs
            refine ⟨?_, ?_, h.ra.same rfl rfl rfl h.ra.park rfl, h.rb, ?_, hwb', h.oa, h.ob⟩
            · refine h.d1.of_eq ?_
              simp [dirOf, hba, List.filterMap_append, bindIn?, fm_ans_bind, resultsOf]
            · refine (h.d2.recvBind (by simp [dirOf, PS.swap, hpark, parkB])).of_eq ?_
              simp [dirOf, PS.swap, Dir.recvBind, hba, List.filterMap_append, bindIn?, ans?, hc0]
            · exact h.wa_snoc rfl
          · by_cases hroom : p.a.bindq.length < p.a.opts.bindCap
            · have hpf : processFrame p.a (.bind x bt port host) false =
                  ({ p.a with bindq := p.a.bindq ++ [{ fid := x, bt := bt, host := host, port := port }] }, [], none) := by
                unfold processFrame; simp [hc0, h.ra.alive, offerBind, hroom]
              simp only [hba, hpf] at hs
              cases hs
              refine ⟨?_, ?_, h.ra.same rfl rfl rfl h.ra.park rfl, h.rb, h.wa, hwb', h.oa, h.ob⟩
              · refine h.d1.of_eq ?_
                simp [dirOf, hba, List.filterMap_append, fm_ans_bind, resultsOf]
              · refine (h.d2.recvBind (by simp [dirOf, PS.swap, hpark, parkB])).of_eq ?_
                simp [dirOf, PS.swap, Dir.recvBind, hba, List.filterMap_append, bindIn?, hc0, hroom]
            · have hpf : processFrame p.a (.bind x bt port host) false =
                  ({ p.a with park := some (.bind { fid := x, bt := bt, host := host, port := port }) }, [], none) := by
                unfold processFrame; simp [hc0, h.ra.alive, offerBind, hroom]
              simp only [hba, hpf] at hs
              cases hs
              refine ⟨?_, ?_, h.ra.same rfl rfl rfl (by intro i; simp) rfl, h.rb, h.wa, hwb', h.oa, h.ob⟩
              · refine h.d1.of_eq ?_
                simp [dirOf, hba, List.filterMap_append, fm_ans_bind, resultsOf]
              · refine (h.d2.recvBind (by simp [dirOf, PS.swap, hpark, parkB])).of_eq ?_
                simp [dirOf, PS.swap, Dir.recvBind, hba, List.filterMap_append, bindIn?, hc0, hroom, parkB]
        -- an answer: the request that owns `x` is resolved and its slot released
        | finish x | reset x =>
          obtain ⟨acc, hmem⟩ : ∃ acc, (x, acc) ∈ (dirOf p).anss := by simp [dirOf, hba, ans?]
          obtain ⟨r, hr⟩ := h.d1.owner_of_mem (Dir.mem_toks_ans hmem)
          have hr' : ownerF p.a.flows x = some r := hr
          simp only [hba, processFrame, closeFlow, closeLocal, ownerF_lookup hr'] at hs
          cases hs
          refine ⟨?_, ?_, h.ra.erase x, h.rb, h.wa, hwb', h.oa, h.ob⟩
          · refine h.d1.recvAns.of_eq ?_
            simp [dirOf, Dir.recvAns, hba, ans?, hr', resultsOf]
          · refine h.d2.of_eq ?_
            simp [dirOf, PS.swap, hba, List.filterMap_append, fm_bind_finish, fm_bind_reset]
        | connect _ _ _ _ => simp [isBF] at hbf
        | acknowledge _ _ => simp [isBF] at hbf
        | push _ _ => simp [isBF] at hbf
        | datagram _ _ _ _ => simp [isBF] at hbf
      | ping => simp [isBF] at hbf
      | pong => simp [isBF] at hbf
      | close => simp [isBF] at hbf

theorem stepL_inv {oa ob : Opts} {p q : PS} (h : PInv oa ob p) (a : Act) (hs : stepL p a = some q) : PInv oa ob q := by
  cases a with
  | bindReq req bt host port => exact step_bindReq h hs
  | bindNext => exact step_bindNext h hs
  | bindReply k acc => exact step_bindReply h hs
  | bindDrop k => exact step_bindDrop h hs
  | xmit => exact step_xmit h hs
  | recv => exact step_recv h hs
  | unpark => exact step_unpark h hs

theorem step_inv {oa ob : Opts} {p q : PS} (h : PInv oa ob p) (s : Side) (a : Act) (hs : step p s a = some q) : PInv oa ob q := by
  cases s with
  | A => exact stepL_inv h a hs
  | B =>
    simp only [step, Option.map_eq_some_iff] at hs
    obtain ⟨q', hq', rfl⟩ := hs
    exact (stepL_inv h.swap a hq').swap

theorem run_inv {oa ob : Opts} (l : List (Side × Act)) (p : PS) (h : PInv oa ob p) : PInv oa ob (run p l) := by
  induction l generalizing p with
  | nil => exact h
  | cons sa rest ih =>
    obtain ⟨s, a⟩ := sa
    simp only [run]
    cases hs : step p s a with
    | none => simpa using ih p h
    | some q => simpa using ih q (step_inv h s a hs)

theorem reachable_inv (oa ob : Opts) (ra rb : List Nat) (l : List (Side × Act)) :
    PInv oa ob (run (init oa ob ra rb) l) :=
  run_inv l _ (init_inv oa ob ra rb)

/-! ### What the invariant says, in the terms of the applications -/

def Ghost.askedOf (g : Ghost) (req : Nat) : Option Asked := g.asked.find? (·.req == req)

/-- `request_bind` call `req` of side A resolved `true`: side B's application was shown a
    `BindRequest` with exactly the asked type, host and port under the flow id A chose, that
    `BindRequest` is linked to `req` and to no other request, and B's application accepted it
    (and did not also reject or drop it unanswered). -/
theorem accepted_means_peer_accepted {oa ob : Opts} {p : PS} (h : PInv oa ob p) (req : Nat)
    (hr : (req, BindRes.accepted) ∈ p.ga.results) :
    ∃ k b, (req, k) ∈ p.gb.links ∧ p.b.held[k]? = some b ∧ recOf req b ∈ p.ga.asked ∧
           k ∈ p.gb.accepted ∧ k ∉ p.gb.rejected := by
  have := (h.d1.core.res req).1 hr
  unfold AnsOk at this
  simp only [if_true] at this
  obtain ⟨k, hl, hk⟩ := this
  obtain ⟨b, hb, ha⟩ := h.d1.core.lkf req k hl
  exact ⟨k, b, hl, hb, ha, hk, h.d1.core.dec.2.2.1 k hk⟩

/-- … resolved `false`: B does not accept binds at all, or B's application rejected (or dropped
    unanswered) the `BindRequest` linked to `req`, and did not accept it. -/
theorem refused_means_peer_refused {oa ob : Opts} {p : PS} (h : PInv oa ob p) (req : Nat)
    (hr : (req, BindRes.refused) ∈ p.ga.results) :
    ob.bindCap = 0 ∨ ∃ k b, (req, k) ∈ p.gb.links ∧ p.b.held[k]? = some b ∧ recOf req b ∈ p.ga.asked ∧
           k ∈ p.gb.rejected ∧ k ∉ p.gb.accepted := by
  have := (h.d1.core.res req).2 hr
  unfold AnsOk at this
  simp only [Bool.false_eq_true, if_false] at this
  rcases this with h0 | ⟨k, hl, hk⟩
  · left; rw [← h.ob]; exact h0
  · right
    obtain ⟨b, hb, ha⟩ := h.d1.core.lkf req k hl
    exact ⟨k, b, hl, hb, ha, hk, fun hka => h.d1.core.dec.2.2.1 k hka hk⟩

/-- Everything B's application is ever shown is a request A's application made, field for field,
    under the flow id A chose. -/
theorem shown_is_asked {oa ob : Opts} {p : PS} (h : PInv oa ob p) (k : Nat) (b : BindIn)
    (hb : p.b.held[k]? = some b) : ∃ req, (req, k) ∈ p.gb.links ∧ recOf req b ∈ p.ga.asked := by
  have hk : k < p.b.held.length := by
    rcases Nat.lt_or_ge k p.b.held.length with hlt | hge
    · exact hlt
    · rw [List.getElem?_eq_none hge] at hb; cases hb
  obtain ⟨req, hl⟩ := h.d1.core.lka k hk
  obtain ⟨b', hb', ha⟩ := h.d1.core.lkf req k hl
  have : p.b.held[k]? = some b' := hb'
  rw [hb] at this; cases this
  exact ⟨req, hl, ha⟩

/-- The links are one-to-one: a request is shown to the peer application at most once, and a
    `BindRequest` stands for one request. -/
theorem links_one_to_one {oa ob : Opts} {p : PS} (h : PInv oa ob p) :
    (p.gb.links.map (·.1)).Nodup ∧ (p.gb.links.map (·.2)).Nodup :=
  ⟨h.d1.inj.injR, h.d1.inj.injK⟩

/-- A resolved request holds no flow id any more, and nothing about it is left anywhere between the
    endpoints: its id can be drawn again. -/
theorem resolved_id_is_free {oa ob : Opts} {p : PS} (h : PInv oa ob p) (x : Nat)
    (hx : lookup p.a.flows x = none) :
    (.frame (.finish x)) ∉ p.ba ++ p.b.outq ∧ (.frame (.reset x)) ∉ p.ba ++ p.b.outq ∧
    (∀ c ∈ p.b.bindq, c.fid ≠ x) ∧ (∀ (k : Nat) (b : BindIn), p.b.held[k]? = some b → b.pending = true → b.fid ≠ x) := by
  have hno : x ∉ (dirOf p).toks := h.d1.core.not_mem_of_no_owner (ownerF_none_of_lookup hx)
  refine ⟨?_, ?_, ?_, ?_⟩
  · intro hm
    apply hno
    apply Dir.mem_toks_ans (acc := true)
    exact List.mem_filterMap.mpr ⟨_, hm, rfl⟩
  · intro hm
    apply hno
    apply Dir.mem_toks_ans (acc := false)
    exact List.mem_filterMap.mpr ⟨_, hm, rfl⟩
  · intro c hc hcx
    apply hno
    rw [← hcx]
    apply Dir.mem_toks_carrier
    simp only [dirOf, List.mem_append]
    exact Or.inr hc
  · intro k b hb hp hbx
    apply hno
    rw [← hbx]
    exact Dir.mem_toks_held (d := dirOf p) hb hp

end Penguin.BindPair
