/-
Helper lemmas for Props/C19, part C: the request bookkeeping of the connected loop
(`getSendStreamChan`, `mainLoop`, `onConnected`, `clientRun`): nothing is lost, duplicated or
reordered; the parked request goes first.
-/
import Penguin.Model.Client

namespace Penguin.Lemmas.ClientReqs
open Penguin Penguin.Client Penguin.Constants

/-- Every request the client knows about, in the order in which it will be / was handed to the
    multiplexor: served ones, the one in flight, the parked one, the queued ones. -/
def ledger (rs : Reqs) : List Req :=
  rs.served.map (·.1) ++ rs.inflight.toList ++ rs.parked.toList ++ rs.queue

/-- The local connections that arrive during a list of events. -/
def evArrivals : List ConnEvent → List Req
  | [] => []
  | .arrive r :: evs => r :: evArrivals evs
  | _ :: evs => evArrivals evs

def cancels : ConnEvent → Bool
  | .serveNext (.cancelled _) => true
  | _ => false

def isCancel : StreamRes → Bool
  | .cancelled _ => true
  | _ => false

theorem drainArrivals_eq (rs : Reqs) (evs : List ConnEvent) :
    drainArrivals rs evs = rs.enqueue (evArrivals evs) := by
  induction evs generalizing rs with
  | nil => simp [drainArrivals, evArrivals, Reqs.enqueue]
  | cons ev evs ih =>
    cases ev <;> simp [drainArrivals, evArrivals, ih, Reqs.enqueue, List.append_assoc]

theorem ledger_enqueue (rs : Reqs) (l : List Req) : ledger (rs.enqueue l) = ledger rs ++ l := by
  simp [ledger, Reqs.enqueue, List.append_assoc]

structure Keeps (rs rs' : Reqs) (arr : List Req) (out : ConnOut) : Prop where
  ledger : ledger rs' = ledger rs ++ arr
  lost : rs'.lost = rs.lost
  dropped : rs'.dropped = rs.dropped
  gen : rs'.gen = rs.gen
  served : ∃ more, rs'.served = rs.served ++ more
  inflight : rs'.inflight = none ∨ out = .running

theorem keeps_enqueue (rs : Reqs) (l : List Req) (out : ConnOut) (hi : rs.inflight = none) :
    Keeps rs (rs.enqueue l) l out :=
  ⟨ledger_enqueue rs l, rfl, rfl, rfl, ⟨[], by simp [Reqs.enqueue]⟩, Or.inl hi⟩

theorem keeps_after {rs rs1 rs' : Reqs} {a b : List Req} {o : ConnOut}
    (h1 : ledger rs1 = ledger rs ++ a) (hl : rs1.lost = rs.lost) (hd : rs1.dropped = rs.dropped)
    (hg : rs1.gen = rs.gen) (hs : ∃ more, rs1.served = rs.served ++ more)
    (h2 : Keeps rs1 rs' b o) : Keeps rs rs' (a ++ b) o := by
  obtain ⟨m1, hm1⟩ := hs
  obtain ⟨m2, hm2⟩ := h2.served
  exact ⟨by rw [h2.ledger, h1, List.append_assoc], h2.lost.trans hl, h2.dropped.trans hd,
    h2.gen.trans hg, ⟨m1 ++ m2, by rw [hm2, hm1, List.append_assoc]⟩, h2.inflight⟩

/-- What both loops do with the answer to a stream request (`oc`: how a cancelled request ends the loop). -/
def afterServe (oc : Except ClientErr Unit) (evs : List ConnEvent) :
    Reqs × Option (Except ClientErr Unit) → Reqs × ConnOut
  | (rs', some (.ok ())) => mainLoop rs' evs
  | (rs', some (.error .cancelled)) => (drainArrivals rs' evs, .exit oc)
  | (rs', some (.error e)) => (drainArrivals rs' evs, .exit (.error e))
  | (rs', none) => (drainArrivals rs' evs, .running)

/-- `rs0`: the state without the request that was taken out of the queue or the parking slot; `hml` is the main loop
    that follows a served request. -/
theorem serve_keeps (oc : Except ClientErr Unit) (evs : List ConnEvent)
    (hml : ∀ rs', rs'.parked = none → rs'.inflight = none →
      Keeps rs' (mainLoop rs' evs).1 (evArrivals evs) (mainLoop rs' evs).2)
    (rs rs0 : Reqs) (r : Req) (res : StreamRes)
    (hl : ledger rs = rs0.served.map (·.1) ++ r :: rs0.queue) (h1 : rs0.lost = rs.lost)
    (h2 : rs0.dropped = rs.dropped) (h3 : rs0.gen = rs.gen) (h4 : rs0.served = rs.served)
    (hp : rs0.parked = none) (hi : rs0.inflight = none) (hc : isCancel res = false) :
    Keeps rs (afterServe oc evs (getSendStreamChan rs0 r res)).1 (evArrivals evs)
      (afterServe oc evs (getSendStreamChan rs0 r res)).2 := by
  cases res with
  | cancelled t => simp [isCancel] at hc
  | ok =>
    simp only [getSendStreamChan, afterServe]
    refine keeps_after (a := []) (rs1 := { rs0 with served := rs0.served ++ [(r, rs0.gen)] }) ?_ h1 h2 h3
      ⟨[(r, rs0.gen)], by rw [h4]⟩ (hml _ hp hi)
    rw [hl]; simp [ledger, hp, hi, List.append_assoc]
  | timeout | muxErr _ =>
    simp only [getSendStreamChan, afterServe, drainArrivals_eq]
    refine keeps_after (a := []) (rs1 := rs0.park r) ?_ ?_ h2 h3
      ⟨[], by simp [Reqs.park, h4]⟩ (keeps_enqueue _ _ _ (by simpa [Reqs.park] using hi))
    · rw [hl]; simp [ledger, Reqs.park, hp, hi]
    · simp [Reqs.park, hp, h1]
  | never =>
    simp only [getSendStreamChan, afterServe, drainArrivals_eq]
    refine ⟨?_, h1, h2, h3, ⟨[], by simp [Reqs.enqueue, h4]⟩, Or.inr rfl⟩
    rw [hl]; simp [ledger, Reqs.enqueue, hp, List.append_assoc]

theorem mainLoop_keeps (evs : List ConnEvent) :
    ∀ rs : Reqs, rs.parked = none → rs.inflight = none → (∀ ev ∈ evs, cancels ev = false) →
      Keeps rs (mainLoop rs evs).1 (evArrivals evs) (mainLoop rs evs).2 := by
  induction evs with
  | nil =>
    intro rs _ hi _
    exact ⟨by simp [mainLoop, evArrivals], rfl, rfl, rfl, ⟨[], by simp [mainLoop]⟩, Or.inl hi⟩
  | cons ev evs ih =>
    intro rs hp hi hc
    have hc' : ∀ ev ∈ evs, cancels ev = false := fun e he => hc e (List.mem_cons_of_mem _ he)
    have exitCase : ∀ (o : ConnOut),
        Keeps rs (drainArrivals rs evs) (evArrivals evs) o := by
      intro o; rw [drainArrivals_eq]; exact keeps_enqueue rs _ o hi
    cases ev with
    | arrive r =>
      simp only [mainLoop, evArrivals]
      have := ih (rs.enqueue [r]) (by simpa [Reqs.enqueue] using hp) (by simpa [Reqs.enqueue] using hi) hc'
      exact keeps_after (a := [r]) (ledger_enqueue rs [r]) rfl rfl rfl ⟨[], by simp [Reqs.enqueue]⟩ this
    | datagram => simpa [mainLoop, evArrivals] using ih rs hp hi hc'
    | allClosed | ctrlC t => simpa [mainLoop, evArrivals] using exitCase _
    | muxEnded r =>
      cases r with
      | some e => simpa [mainLoop, evArrivals] using exitCase _
      | none =>
        simp only [mainLoop, evArrivals]
        split
        · exact exitCase _
        · exact ih rs hp hi hc'
    | serveNext res =>
      simp only [mainLoop, evArrivals]
      cases hq : rs.queue with
      | nil => simpa using ih rs hp hi hc'
      | cons r q =>
        have hres : isCancel res = false := by
          cases res with
          | cancelled t => exact absurd (hc _ List.mem_cons_self) (by simp [cancels])
          | _ => rfl
        simp only
        exact serve_keeps _ evs (fun rs' a b => ih rs' a b hc') rs { rs with queue := q } r res
          (by simp [ledger, hq, hp, hi]) rfl rfl rfl rfl hp hi hres

theorem onConnected_keeps (rs : Reqs) (pr : StreamRes) (evs : List ConnEvent)
    (hi : rs.inflight = none) (hpr : isCancel pr = false) (hc : ∀ ev ∈ evs, cancels ev = false) :
    Keeps rs (onConnected rs pr evs).1 (evArrivals evs) (onConnected rs pr evs).2 := by
  unfold onConnected
  cases hp : rs.parked with
  | none => simpa using mainLoop_keeps evs rs hp hi hc
  | some r =>
    exact serve_keeps (.ok ()) evs (fun rs' a b => mainLoop_keeps evs rs' a b hc) rs { rs with parked := none } r pr
      (by simp [ledger, hp, hi]) rfl rfl rfl rfl rfl hi hpr

def attemptArrivals : Attempt → List Req
  | .down _ arr => arr
  | .hang arr => arr
  | .up _ evs => evArrivals evs

/-- No Ctrl-C while a stream request is being made (the only way a request is given up). -/
def noCancel : Attempt → Prop
  | .up pr evs => isCancel pr = false ∧ ∀ ev ∈ evs, cancels ev = false
  | _ => True

theorem attemptOutcome_keeps (rs : Reqs) (a : Attempt) (hi : rs.inflight = none) (hn : noCancel a) :
    ledger (attemptOutcome rs a).1 = ledger rs ++ attemptArrivals a ∧
    (attemptOutcome rs a).1.lost = rs.lost ∧ (attemptOutcome rs a).1.dropped = rs.dropped ∧
    (attemptOutcome rs a).1.gen = rs.gen ∧
    ((attemptOutcome rs a).1.inflight = none ∨ (attemptOutcome rs a).2 = .never) := by
  cases a with
  | down e arr | hang arr => exact ⟨ledger_enqueue rs arr, rfl, rfl, rfl, Or.inl hi⟩
  | up pr evs =>
    have k := onConnected_keeps rs pr evs hi hn.1 hn.2
    simp only [attemptOutcome, attemptArrivals]
    rcases h : onConnected rs pr evs with ⟨rs', out⟩
    rw [h] at k
    cases out with
    | running => exact ⟨k.ledger, k.lost, k.dropped, k.gen, Or.inr rfl⟩
    | exit r =>
      have hi' : rs'.inflight = none := by
        rcases k.inflight with h | h
        · exact h
        · cases h
      cases r with
      | ok u | error e => exact ⟨k.ledger, k.lost, k.dropped, k.gen, Or.inl hi'⟩

theorem stepLoop_inr_not_never {b b' : Backoff} {o : Outcome} {c : Bool} {d : Nat}
    (h : stepLoop b o c = .inr (b', d)) : o ≠ .never := by
  intro ho; subst ho; simp [stepLoop] at h

theorem clientRun_keeps (script : List (Attempt × Bool)) :
    ∀ (b : Backoff) (rs : Reqs), rs.inflight = none → (∀ a ∈ script, noCancel a.1) →
      ledger (clientRun b rs script).reqs =
        ledger rs ++ ((script.take (clientRun b rs script).attempts).map (fun a => attemptArrivals a.1)).flatten ∧
      (clientRun b rs script).reqs.lost = rs.lost ∧ (clientRun b rs script).reqs.dropped = rs.dropped := by
  induction script with
  | nil => intro b rs _ _; simp [clientRun]
  | cons ac rest ih =>
    intro b rs hi hn
    obtain ⟨a, c⟩ := ac
    have hk := attemptOutcome_keeps rs a hi (hn (a, c) (by simp))
    simp only [clientRun]
    rcases hs : stepLoop b (attemptOutcome rs a).2 c with f | ⟨b', d⟩
    · simp only [List.take_succ_cons, List.take_zero, List.map_cons, List.map_nil, List.flatten_cons,
        List.flatten_nil, List.append_nil]
      exact ⟨hk.1, hk.2.1, hk.2.2.1⟩
    · simp only
      have hnev := stepLoop_inr_not_never hs
      have hi' : (attemptOutcome rs a).1.inflight = none := by
        rcases hk.2.2.2.2 with h | h
        · exact h
        · exact absurd h hnev
      have := ih b' { (attemptOutcome rs a).1 with gen := (attemptOutcome rs a).1.gen + 1 } hi'
        (fun x hx => hn x (List.mem_cons_of_mem _ hx))
      obtain ⟨h1, h2, h3⟩ := this
      refine ⟨?_, h2.trans hk.2.1, h3.trans hk.2.2.1⟩
      rw [h1]
      have : ledger { (attemptOutcome rs a).1 with gen := (attemptOutcome rs a).1.gen + 1 } =
          ledger (attemptOutcome rs a).1 := rfl
      rw [this, hk.1]
      simp [List.append_assoc]

/-- Parking into an empty slot overwrites nothing.  (The loops park only when the slot is empty — that is how
    `serve_keeps` gets `lost` kept; the statement over whole scripts is `clientRun_keeps`.  Stated for its own sake.) -/
theorem park_when_empty (rs : Reqs) (r : Req) (hp : rs.parked = none) : (rs.park r).lost = rs.lost := by
  simp [Reqs.park, hp]

theorem drain_served (rs : Reqs) (evs : List ConnEvent) : (drainArrivals rs evs).served = rs.served := by
  rw [drainArrivals_eq]; rfl

theorem mainLoop_served (evs : List ConnEvent) :
    ∀ rs : Reqs, ∃ more, (mainLoop rs evs).1.served = rs.served ++ more := by
  induction evs with
  | nil => intro rs; exact ⟨[], by simp [mainLoop]⟩
  | cons ev evs ih =>
    intro rs
    cases ev with
    | arrive r => simpa [mainLoop, Reqs.enqueue] using ih (rs.enqueue [r])
    | datagram => simpa [mainLoop] using ih rs
    | allClosed | ctrlC t => exact ⟨[], by simp [mainLoop, drain_served]⟩
    | muxEnded r =>
      cases r with
      | some e => exact ⟨[], by simp [mainLoop, drain_served]⟩
      | none =>
        simp only [mainLoop]
        split
        · exact ⟨[], by simp [drain_served]⟩
        · exact ih rs
    | serveNext res =>
      simp only [mainLoop]
      cases hq : rs.queue with
      | nil => simpa using ih rs
      | cons r q =>
        simp only
        cases res with
        | ok =>
          simp only [getSendStreamChan]
          obtain ⟨more, hm⟩ := ih { rs with queue := q, served := rs.served ++ [(r, rs.gen)] }
          exact ⟨(r, rs.gen) :: more, by rw [hm]; simp⟩
        | timeout | muxErr _ | cancelled _ | never => exact ⟨[], by simp [getSendStreamChan, drain_served, Reqs.park]⟩

/-- Events that never end the connected loop. -/
def quiet : ConnEvent → Bool
  | .arrive _ | .datagram | .serveNext .ok => true
  | _ => false

/-- The error `on_connected` returns when the multiplexor task has ended with `r`. -/
def muxEndError : Option MuxErr → ClientErr
  | none => .serverDisconnected
  | some e => .mux e

theorem mainLoop_muxEnded (h : muxTaskOkExits = true) (pre post : List ConnEvent) (r : Option MuxErr)
    (hq : ∀ ev ∈ pre, quiet ev = true) :
    ∀ rs : Reqs, (mainLoop rs (pre ++ .muxEnded r :: post)).2 = .exit (.error (muxEndError r)) := by
  induction pre with
  | nil =>
    intro rs
    cases r <;> simp [mainLoop, muxEndError, h]
  | cons ev pre ih =>
    intro rs
    have hq' : ∀ ev ∈ pre, quiet ev = true := fun e he => hq e (List.mem_cons_of_mem _ he)
    have hev := hq ev (by simp)
    cases ev with
    | arrive r' | datagram => simpa [mainLoop] using ih hq' _
    | serveNext res =>
      cases res with
      | ok =>
        simp only [List.cons_append, mainLoop]
        cases rs.queue with
        | nil => simpa using ih hq' rs
        | cons r' q => simpa [getSendStreamChan] using ih hq' _
      | _ => simp [quiet] at hev
    | _ => simp [quiet] at hev

theorem mainLoop_serveAll (rest : List ConnEvent) (q : List Req) :
    ∀ rs : Reqs, rs.queue = q →
      mainLoop rs (serveAll q.length ++ rest) =
        mainLoop { rs with queue := [], served := rs.served ++ q.map (·, rs.gen) } rest := by
  induction q with
  | nil =>
    intro rs hq
    cases rs
    simp_all [serveAll]
  | cons r q ih =>
    intro rs hq
    simp only [serveAll, List.length_cons, List.replicate_succ, List.cons_append, mainLoop, hq,
      getSendStreamChan]
    have := ih { rs with queue := q, served := rs.served ++ [(r, rs.gen)] } rfl
    simp only [serveAll] at this
    rw [this]
    simp [List.append_assoc]

end Penguin.Lemmas.ClientReqs
