/-
The accounting of `Lemmas/MuxAccount.lean` as a number: the justifications of `Established` slots are
injective (distinct slots have distinct ids and distinct stream objects), so there are no more such
slots than handles held + streams waiting to be accepted + the parked hand-over + answered requests
whose future has not run + queued dropped-handle notifications.  `Requested` / `BindRequested` slots
are the requests the peer has not answered.  Also: between stimuli `doneq` is empty.
Core Lean only.
-/
import Penguin.Lemmas.MuxAccount

namespace Penguin.Mux

theorem lookup_of_mem {m : List (Nat × Slot)} (hn : (m.map (·.1)).Nodup) {k : Nat} {v : Slot}
    (h : (k, v) ∈ m) : lookup m k = some v := by
  induction m with
  | nil => cases h
  | cons p m ih =>
    obtain ⟨k', v'⟩ := p
    simp only [List.map_cons, List.nodup_cons] at hn
    rw [lookup_cons]
    rcases List.mem_cons.mp h with h | h
    · cases h; simp
    · have hne : k' ≠ k := by
        intro hc; subst hc
        exact hn.1 (List.mem_map.mpr ⟨(k', v), h, rfl⟩)
      rw [if_neg hne]; exact ih hn.2 h

/-- Counting by injection: the slots that satisfy `p` are no more than the members of `t` when `f` maps them into
    `t` and maps slots under different ids to different members. -/
theorem slots_le {β : Type} {m : List (Nat × Slot)} (hk : (m.map (·.1)).Nodup) (p : Slot → Bool) (f : Nat → Slot → β)
    (t : List β)
    (inj : ∀ k1 s1 k2 s2, lookup m k1 = some s1 → lookup m k2 = some s2 → p s1 = true → p s2 = true →
      f k1 s1 = f k2 s2 → k1 = k2)
    (sub : ∀ k s, lookup m k = some s → p s = true → f k s ∈ t) :
    m.countP (fun x => p x.2) ≤ t.length := by
  have hm : m.Nodup := List.Pairwise.of_map (fun x : Nat × Slot => x.1) (fun a b h hab => h (by rw [hab])) hk
  have hnd : ((m.filter (fun x => p x.2)).map (fun x => f x.1 x.2)).Nodup := by
    refine List.pairwise_map.mpr (List.Pairwise.imp_of_mem ?_ (List.Pairwise.filter _ hm))
    intro ⟨k1, s1⟩ ⟨k2, s2⟩ ha hb hne heq
    obtain ⟨ha1, ha2⟩ := List.mem_filter.mp ha
    obtain ⟨hb1, hb2⟩ := List.mem_filter.mp hb
    have hl := lookup_of_mem hk ha1
    obtain rfl := inj k1 s1 k2 s2 hl (lookup_of_mem hk hb1) ha2 hb2 heq
    exact hne (congrArg _ (Option.some.inj (hl.symm.trans (lookup_of_mem hk hb1))))
  have hsub : (m.filter (fun x => p x.2)).map (fun x => f x.1 x.2) ⊆ t := by
    intro y hy
    obtain ⟨a, ha, rfl⟩ := List.mem_map.mp hy
    obtain ⟨ha1, ha2⟩ := List.mem_filter.mp ha
    exact sub a.1 a.2 (lookup_of_mem hk (k := a.1) (v := a.2) ha1) ha2
  have := List.Nodup.length_le_of_subset hnd hsub
  rw [List.length_map] at this
  rw [List.countP_eq_length_filter]
  exact this

theorem length_by_kind (m : List (Nat × Slot)) :
    m.length = m.countP (fun p => p.2.isEst) + m.countP (fun p => p.2.isRequested) +
      m.countP (fun p => p.2.isBindRequested) := by
  induction m with
  | nil => rfl
  | cons p m ih =>
    obtain ⟨k, v⟩ := p
    cases v <;>
      simp [Slot.isEst, Slot.isRequested, Slot.isBindRequested, ih] <;> omega

theorem requested_by_caller (m : List (Nat × Slot)) (opens : List OpenReq) :
    m.countP (fun p => p.2.isRequested) =
      m.countP (fun p => p.2.pendingIn opens) + m.countP (fun p => p.2.abandonedIn opens) := by
  induction m with
  | nil => rfl
  | cons p m ih =>
    obtain ⟨k, v⟩ := p
    rw [List.countP_cons, List.countP_cons, List.countP_cons, ih]
    cases v with
    | requested req =>
      show _ + (if true = true then 1 else 0) =
        (_ + if (opens.any (·.req == req)) = true then 1 else 0) +
          (_ + if (!opens.any (·.req == req)) = true then 1 else 0)
      cases opens.any (·.req == req) <;> simp <;> omega
    | bindRequested req =>
      show _ + (if false = true then 1 else 0) =
        (_ + if false = true then 1 else 0) + (_ + if false = true then 1 else 0)
      simp
    | established i =>
      show _ + (if false = true then 1 else 0) =
        (_ + if false = true then 1 else 0) + (_ + if false = true then 1 else 0)
      simp

theorem flows_by_kind (e : EP) :
    e.flows.length = establishedCount e + pendingOpens e + cancelledAwaiting e + pendingBinds e := by
  have h1 := length_by_kind e.flows
  have h2 := requested_by_caller e.flows e.opens
  unfold establishedCount pendingOpens cancelledAwaiting pendingBinds
  omega

theorem awaitingOpen_split (e : EP) : awaitingOpen e = pendingOpens e + cancelledAwaiting e :=
  requested_by_caller e.flows e.opens

/-! ### `Established` slots: an injection into what still exists -/

def parkL (e : EP) : List Nat :=
  match e.park with
  | some (.accept i) => [i]
  | _ => []

theorem parkL_length (e : EP) : (parkL e).length = parkedCount e := by
  cases h : e.park with
  | none => simp [parkL, parkedCount, h]
  | some p => cases p <;> simp [parkL, parkedCount, h]

/-- What justifies an `Established` slot: the queued notification for its id if there is one,
    otherwise its stream object (held, waiting to be accepted, parked, or just answered). -/
def tok (e : EP) (p : Nat × Slot) : Nat ⊕ Nat :=
  if p.1 ∈ e.droppedq then .inr p.1
  else .inl (match p.2 with
    | .established i => i
    | _ => 0)

def tokens (e : EP) (D : List Nat) : List (Nat ⊕ Nat) :=
  ((heldList e D).map (fun h => e.handles.getD h 0) ++ e.acceptq ++ parkL e ++ e.doneq.map (·.2)).map Sum.inl ++
    e.droppedq.map Sum.inr

theorem tokens_length (e : EP) (D : List Nat) :
    (tokens e D).length =
      liveHandles e D + e.acceptq.length + parkedCount e + e.doneq.length + e.droppedq.length := by
  simp [tokens, liveHandles, parkL_length]
  omega

theorem established_le (e : EP) (D : List Nat) (hw : WF e) (a : Acc e D) :
    establishedCount e ≤
      liveHandles e D + e.acceptq.length + parkedCount e + e.doneq.length + e.droppedq.length := by
  rw [← tokens_length e D]
  refine slots_le a.keys Slot.isEst (fun k s => tok e (k, s)) (tokens e D) ?_ ?_
  · -- a slot with a queued notification is known by its id, any other by its stream object
    intro k1 s1 k2 s2 h1 h2 p1 p2 ht
    cases s1 <;> cases s2 <;> simp only [Slot.isEst, Bool.false_eq_true] at p1 p2
    rename_i i j
    unfold tok at ht
    dsimp only at ht
    split at ht <;> split at ht <;> cases ht
    · rfl
    · exact hw.inj k1 k2 i h1 h2
  · intro k s hl ps
    cases s <;> simp only [Slot.isEst, Bool.false_eq_true] at ps
    rename_i i
    unfold tok tokens
    dsimp only
    split
    · rename_i hq
      exact List.mem_append_right _ (List.mem_map.mpr ⟨k, hq, rfl⟩)
    · rename_i hq
      refine List.mem_append_left _ (List.mem_map.mpr ⟨i, ?_, rfl⟩)
      simp only [List.mem_append]
      rcases a.just k i hl with h | h | h | h | ⟨n, hn, hD⟩
      · exact Or.inl (Or.inl (Or.inr h))
      · exact Or.inl (Or.inr (by unfold parkL; rw [h]; simp))
      · exact Or.inr h
      · exact absurd h hq
      · refine Or.inl (Or.inl (Or.inl (List.mem_map.mpr ⟨n, ?_, by simp [hn]⟩)))
        unfold heldList
        simp only [List.mem_filter, List.mem_range]
        exact ⟨(List.getElem?_eq_some_iff.mp hn).1, by simpa using hD⟩

/-- The number: the flow table is no larger than what justifies its slots. -/
theorem slot_bound (e : EP) (D : List Nat) (hw : WF e) (a : Acc e D) :
    e.flows.length ≤
      liveHandles e D + e.acceptq.length + parkedCount e + e.doneq.length + e.droppedq.length +
        pendingOpens e + cancelledAwaiting e + pendingBinds e := by
  have h1 := flows_by_kind e
  have h2 := established_le e D hw a
  omega

theorem sendSome_doneq (e : EP) : (sendSome e).1.doneq = e.doneq := (Path.sendSome e).frame .doneq
theorem openRound_doneq (e : EP) (r : OpenReq) : (openRound e r).1.doneq = e.doneq := (Path.openRoundAny e r).frame .doneq
theorem runRetries_doneq (e : EP) (l : List Nat) : (runRetries e l).1.doneq = e.doneq := (Path.runRetries e l).frame .doneq

theorem settle_doneq (e : EP) : (settle e).1.doneq = [] := by
  rw [Mux.settle_eq]
  dsimp only [thenRun]
  -- the answers are handed out (`runDoneq` empties `doneq`); the retries and the send loop leave it alone
  exact ((Path.holdSend _).frame .doneq).trans (((Path.runRetryq _).frame .doneq).trans (runDoneq_doneq _))

theorem applyOp_doneq (e : EP) (op : Op) : (applyOp e op).1.doneq = [] := by
  rw [applyOp_fst]
  exact settle_doneq _

theorem runOps_doneq (e : EP) (ops : List Op) (h : e.doneq = []) : (runOps e ops).doneq = [] :=
  runOps_ind (P := fun e => e.doneq = []) (fun e op _ => applyOp_doneq e op) e ops h

/-- Every reachable state that is in service: the size of the flow table is bounded by what still
    exists at the endpoint. -/
theorem reachable_slot_bound (o : Opts) (ops : List Op) (hs : Serving (runOps { opts := o } ops)) :
    (runOps { opts := o } ops).flows.length ≤
      liveHandles (runOps { opts := o } ops) (dropsOf { opts := o } ops) +
        (runOps { opts := o } ops).acceptq.length + parkedCount (runOps { opts := o } ops) +
        (runOps { opts := o } ops).droppedq.length + pendingOpens (runOps { opts := o } ops) +
        cancelledAwaiting (runOps { opts := o } ops) + pendingBinds (runOps { opts := o } ops) := by
  have hb := slot_bound _ _ (reachable_inv o ops).1 (reachable_accounted o ops hs)
  have hd := runOps_doneq { opts := o } ops rfl
  rw [hd] at hb
  simpa using hb

end Penguin.Mux
