/-
`tcp_forwarder_on_channel` in closed form: the candidate loop as `find?` / `takeWhile`, the whole trace as a table of
four rows (`tcpForwarder_cases`) whose last row ends in one of four tails (`connectAndBridge_cases`).
-/
import Penguin.Model.ServerForward

namespace Penguin.ServerForward
open Penguin

theorem outgoingFor_eq (a : Addr) : outgoingFor a = a.family := by
  unfold outgoingFor
  cases a.family <;> simp

/-- What the bind errors leave in `last_err`. -/
def lastBindErr (as : List Addr) (last : Option Err) : Err :=
  (as.getLast?.map (fun b => Err.bind b.family)).getD (last.getD .noAddress)

/-- The candidate loop in closed form: the chosen candidate is `find?` of "its bind succeeds", every candidate
    before it was tried and failed, none after it was touched. -/
theorem tryCandidates_eq (bindOk : Family → Bool) (as : List Addr) (last : Option Err) :
    tryCandidates bindOk as last =
      match as.find? (fun b => bindOk b.family) with
      | some a => ((as.takeWhile (fun b => !bindOk b.family)).map (fun b => Event.bindFailed b.family b) ++
                    [.bound a.family a], .ok (a.family, a))
      | none => (as.map (fun b => Event.bindFailed b.family b), .error (lastBindErr as last)) := by
  induction as generalizing last with
  | nil => simp [tryCandidates, lastBindErr]
  | cons a rest ih =>
    by_cases h : bindOk a.family = true
    · simp [tryCandidates, outgoingFor_eq, h]
    · simp only [Bool.not_eq_true] at h
      simp only [tryCandidates, outgoingFor_eq, h, List.find?_cons, List.takeWhile_cons, ih]
      cases hf : rest.find? (fun b => bindOk b.family) with
      | some c => simp
      | none =>
        cases rest with
        | nil => simp [lastBindErr]
        | cons b r =>
          simp only [lastBindErr, List.getLast?_cons_cons]
          rw [List.getLast?_eq_some_getLast (List.cons_ne_nil b r)]
          simp

theorem getLast?_cons_append_append {α : Type} (x : α) (l m n : List α) (h : n ≠ []) :
    (x :: (l ++ (m ++ n))).getLast? = n.getLast? := by
  rw [← List.append_assoc, ← List.cons_append, List.getLast?_append]
  cases n with
  | nil => exact absurd rfl h
  | cons a r => simp [List.getLast?_cons]

theorem getLast?_cons_append_singleton {α : Type} (x : α) (l : List α) (y : α) :
    (x :: (l ++ [y])).getLast? = some y := by
  rw [← List.cons_append, List.getLast?_concat]

theorem tcpForwarder_eq (env : Env) (host : Bytes) (port : Nat) :
    tcpForwarder env host port =
      if env.utf8Ok host = false then [.dropped .invalidHost]
      else match env.resolve host port with
        | .error c => [.dropped (.resolve c)]
        | .ok as =>
          match as.find? (fun b => env.bindOk b.family) with
          | some a => Event.resolved host port as ::
              ((as.takeWhile (fun b => !env.bindOk b.family)).map (fun b => Event.bindFailed b.family b) ++
                ([.bound a.family a] ++ connectAndBridge env a))
          | none => Event.resolved host port as ::
              (as.map (fun b => Event.bindFailed b.family b) ++ [.dropped (lastBindErr as none)]) := by
  simp only [tcpForwarder, bindForTarget]
  cases env.utf8Ok host
  · simp
  · cases env.resolve host port with
    | error c => simp
    | ok as =>
      simp only [tryCandidates_eq]
      cases as.find? (fun b => env.bindOk b.family) <;> simp

theorem connectAndBridge_cases (env : Env) (a : Addr) :
    (env.connectOk a = false ∧ connectAndBridge env a = [.connectTried a, .dropped .connect]) ∨
    (env.connectOk a = true ∧ env.peerAddrOk a = false ∧
      connectAndBridge env a = [.connectTried a, .connected a, .dropped .peerAddr]) ∨
    (env.connectOk a = true ∧ env.peerAddrOk a = true ∧ env.bridgeOk = false ∧
      connectAndBridge env a = [.connectTried a, .connected a, .bridged a, .dropped .bridge]) ∨
    (env.connectOk a = true ∧ env.peerAddrOk a = true ∧ env.bridgeOk = true ∧
      connectAndBridge env a = [.connectTried a, .connected a, .bridged a, .finished]) := by
  unfold connectAndBridge
  cases env.connectOk a <;> cases env.peerAddrOk a <;> cases env.bridgeOk <;> simp

theorem mem_connectAndBridge {env : Env} {a : Addr} {e : Event} (h : e ∈ connectAndBridge env a) :
    e = .connectTried a ∨ e = .connected a ∨ e = .bridged a ∨ e = .finished ∨ ∃ x, e = .dropped x := by
  rcases connectAndBridge_cases env a with ⟨_, hc⟩ | ⟨_, _, hc⟩ | ⟨_, _, _, hc⟩ | ⟨_, _, _, hc⟩ <;>
    (rw [hc] at h
     simp only [List.mem_cons, List.not_mem_nil, or_false] at h
     rcases h with rfl | rfl | rfl | rfl <;> simp)

theorem countP_connectTry_connectAndBridge (env : Env) (a : Addr) :
    (connectAndBridge env a).countP Event.isConnectTry = 1 := by
  rcases connectAndBridge_cases env a with ⟨_, hc⟩ | ⟨_, _, hc⟩ | ⟨_, _, _, hc⟩ | ⟨_, _, _, hc⟩ <;> rw [hc] <;> rfl

theorem bound_not_mem_connectAndBridge (env : Env) (a : Addr) (f : Family) (b : Addr) :
    Event.bound f b ∉ connectAndBridge env a := fun h => by
  rcases mem_connectAndBridge h with h | h | h | h | ⟨_, h⟩ <;> cases h

theorem bindFailed_not_mem_connectAndBridge (env : Env) (a : Addr) (f : Family) (b : Addr) :
    Event.bindFailed f b ∉ connectAndBridge env a := fun h => by
  rcases mem_connectAndBridge h with h | h | h | h | ⟨_, h⟩ <;> cases h

/-- Stated in the form `simp` gives the count over a mapped list. -/
theorem countP_connectTry_bindFailed (l : List Addr) :
    l.countP (Event.isConnectTry ∘ fun b => Event.bindFailed b.family b) = 0 := by
  rw [List.countP_eq_zero]; intro b _; simp [Event.isConnectTry]

/-- `tcp_forwarder_on_channel` as a table: the conditions of the four rows exclude one another and together cover
    every environment; each row gives the whole trace (the last one up to the tail, `connectAndBridge_cases`). -/
theorem tcpForwarder_cases (env : Env) (host : Bytes) (port : Nat) :
    (env.utf8Ok host = false ∧ tcpForwarder env host port = [.dropped .invalidHost]) ∨
    (env.utf8Ok host = true ∧ ∃ c, env.resolve host port = .error c ∧
      tcpForwarder env host port = [.dropped (.resolve c)]) ∨
    (env.utf8Ok host = true ∧ ∃ as, env.resolve host port = .ok as ∧ (∀ b ∈ as, env.bindOk b.family = false) ∧
      as.find? (fun b => env.bindOk b.family) = none ∧
      tcpForwarder env host port = .resolved host port as ::
        (as.map (fun b => Event.bindFailed b.family b) ++ [.dropped (lastBindErr as none)])) ∨
    (env.utf8Ok host = true ∧ ∃ pre a post, env.resolve host port = .ok (pre ++ a :: post) ∧
      (∀ b ∈ pre, env.bindOk b.family = false) ∧ env.bindOk a.family = true ∧
      (pre ++ a :: post).find? (fun b => env.bindOk b.family) = some a ∧
      tcpForwarder env host port = .resolved host port (pre ++ a :: post) ::
        (pre.map (fun b => Event.bindFailed b.family b) ++ ([.bound a.family a] ++ connectAndBridge env a))) := by
  rw [tcpForwarder_eq]
  cases hu : env.utf8Ok host
  · exact .inl ⟨rfl, rfl⟩
  cases hr : env.resolve host port with
  | error c => exact .inr (.inl ⟨rfl, c, rfl, rfl⟩)
  | ok as =>
    cases hf : as.find? (fun b => env.bindOk b.family) with
    | none => exact .inr (.inr (.inl ⟨rfl, as, rfl, by simpa using hf, hf, by simp [hf]⟩))
    | some a =>
      simp only [hf]
      obtain ⟨hpa, pre, post, rfl, hpre⟩ := List.find?_eq_some_iff_append.mp hf
      refine .inr (.inr (.inr ⟨trivial, pre, a, post, rfl, by simpa using hpre, by simpa using hpa, hf, ?_⟩))
      have htw : (pre ++ a :: post).takeWhile (fun b => !env.bindOk b.family) = pre := by
        rw [List.takeWhile_append_of_pos (by simpa using hpre)]
        simp [hpa]
      simp [htw]

end Penguin.ServerForward
