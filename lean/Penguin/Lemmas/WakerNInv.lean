/-
Lemmas/WakerNInv — the inductive invariant of `Model/WakerN` over whole states: every writer satisfies
`WInv` and `WOk` (for the state's view of the shared cells), credit conservation over the sum of all
writers' takes, the grants still to come, and the closed flag.
-/
import Penguin.Lemmas.WakerN

namespace Penguin.Lemmas.WakerN
open Penguin.Waker (PollResult ActorKind APc Actor WPc)
open Penguin.WakerN
open Penguin.Lemmas.Waker (pCloserMid pCloserDone pAckerMid countP_map_write closers_pos_iff
  count_some_results counts_ack_write counts_close_write counts_wake)

def View (s : State) (w : Writer) : Prop :=
  WOk s.wakeLog.length s.registered.isSome (s.actors.countP pCloserDone) (s.actors.countP pAckerMid) s.credit w

structure Inv (sc : Scenario) (s : State) : Prop where
  winv : ∀ (j : Nat) (w : Writer), s.writers[j]? = some w → WInv w
  view : ∀ (j : Nat) (w : Writer), s.writers[j]? = some w → View s w
  conservation : s.credit + totalTakes s = sc.credit + s.grants
  grants : s.grants + grantsToCome s = sc.ackTotal
  closed_iff : s.closed = true ↔
    0 < s.actors.countP pCloserMid + s.actors.countP pCloserDone + s.shutdownsDone
  shutdowns : s.shutdownsLeft + s.shutdownsDone = sc.shutdowns

theorem init_inv (sc : Scenario) : Inv sc (init sc) := by
  have h1 := countP_map_write pCloserMid (by intro k; simp [pCloserMid]) sc.actors
  have h2 := countP_map_write pCloserDone (by intro k; simp [pCloserDone]) sc.actors
  refine ⟨?_, ?_, ?_, ?_, ?_, by simp [init]⟩
  · intro j w h
    obtain ⟨n, rfl⟩ := init_writers h
    exact initWriter_winv n
  · intro j w h
    obtain ⟨n, rfl⟩ := init_writers h
    exact initWriter_wok n _ _ _ _
  · simp only [init, totalTakes]
    have : ∀ l : List Nat, ((l.map initWriter).map (·.takes.length)).sum = 0 := by
      intro l; induction l <;> simp_all [initWriter]
    rw [this]
  · simp only [init, Scenario.ackTotal, grantsToCome]
    generalize sc.actors = l
    induction l with
    | nil => simp
    | cons a l ih => simp_all [grantToCome]
  · simp [init, h1, h2]

theorem finishPoll_takes (w : Writer) (r : PollResult) : (w.finishPoll r).takes = w.takes := by
  unfold Writer.finishPoll; split <;> rfl

theorem next_takes (w : Writer) (closed : Bool) (credit wakes : Nat) :
    (w.next closed credit wakes).takes.length = w.takes.length + (if w.pc = .cas credit then 1 else 0) := by
  cases hpc : w.pc <;> simp only [Writer.next, hpc, reduceCtorEq, ↓reduceIte, Nat.add_zero]
  case cas o =>
    by_cases e : credit = o
    · simp [e]
    · simp [e, Ne.symm e]
  all_goals (try split) <;> simp only [finishPoll_takes]

theorem writer_inv {sc : Scenario} {s : State} (h : Inv sc s) (i : Nat) : Inv sc (writerStep s i) := by
  cases hw : s.writers[i]? with
  | none => rw [writerStep_none hw]; exact h
  | some w0 =>
    rw [writerStep_some hw]
    obtain ⟨h1, h2, h3, h4, h5, h6⟩ := h
    have hw0 := h1 i w0 hw
    have hv0 := h2 i w0 hw
    refine ⟨?_, ?_, ?_, h4, h5, h6⟩
    · exact forall_set (fun j w _ => h1 j w) (next_winv hw0 _ _ _)
    · have hcl : s.closed = false → s.actors.countP pCloserDone = 0 := by
        intro hc
        have := mt h5.mpr (by simp [hc])
        omega
      have hslot (e : s.registered.isSome = true ∨ w0.pc = .register) :
          (if w0.pc = .register then some (i, w0.cur) else s.registered).isSome = true := by
        split
        · rfl
        · exact e.resolve_right ‹_›
      have hcr : (if w0.pc = .cas s.credit then s.credit - 1 else s.credit) ≤ s.credit := by split <;> omega
      exact forall_set (fun j w _ hj => wok_mono (h2 j w hj) (fun e => hslot (.inl e)) hcr)
        (next_wok hv0 s.closed hcl hslot hcr)
    · have hs := sum_map_set (fun w : Writer => w.takes.length) s.writers i w0
        (w0.next s.closed s.credit s.wakeLog.length) hw
      simp only [totalTakes] at h3 ⊢
      rw [next_takes] at hs
      split
      · next hc =>
        have := hw0.cas_pos _ hc
        simp only [hc, if_true] at hs
        omega
      · next hc =>
        simp only [hc, if_false] at hs
        omega

theorem actor_ack_write {sc : Scenario} {s : State} (h : Inv sc s) (i n : Nat)
    (ha : s.actors[i]? = some ⟨.ack n, .write⟩) :
    Inv sc { s with credit := s.credit + n, grants := s.grants + n,
                    actors := s.actors.set i ⟨.ack n, .wake⟩ } := by
  obtain ⟨hm, hd, hk⟩ := counts_ack_write ha
  have hg := sum_map_set grantToCome s.actors i _ ⟨.ack n, .wake⟩ ha
  have e1 : grantToCome ⟨.ack n, .write⟩ = n := rfl
  have e2 : grantToCome ⟨.ack n, .wake⟩ = 0 := rfl
  rw [e1, e2] at hg
  obtain ⟨h1, h2, h3, h4, h5, h6⟩ := h
  refine ⟨h1, ?_, ?_, ?_, ?_, h6⟩
  · intro j w hj
    have := wok_ack (h2 j w hj) n
    simpa [View, hd, hk] using this
  · simp only [totalTakes] at h3 ⊢; omega
  · simp only [grantsToCome] at h4 ⊢; omega
  · simp only [hm, hd]; exact h5

theorem actor_close_write {sc : Scenario} {s : State} (h : Inv sc s) (i : Nat)
    (ha : s.actors[i]? = some ⟨.close, .write⟩) :
    Inv sc { s with closed := true, actors := s.actors.set i ⟨.close, .wake⟩ } := by
  obtain ⟨hm, hd, hk⟩ := counts_close_write ha
  have hg := sum_map_set grantToCome s.actors i _ ⟨.close, .wake⟩ ha
  have e1 : grantToCome ⟨.close, .write⟩ = 0 := rfl
  have e2 : grantToCome ⟨.close, .wake⟩ = 0 := rfl
  rw [e1, e2] at hg
  obtain ⟨h1, h2, h3, h4, h5, h6⟩ := h
  refine ⟨h1, ?_, h3, ?_, ?_, h6⟩
  · intro j w hj
    have := h2 j w hj
    simpa [View, hd, hk] using this
  · simp only [grantsToCome] at h4 ⊢; omega
  · simp only [hm, hd]; constructor
    · intro _; omega
    · intro _; trivial

theorem actor_wake {sc : Scenario} {s : State} (h : Inv sc s) (i : Nat) (k : ActorKind)
    (ha : s.actors[i]? = some ⟨k, .wake⟩) :
    Inv sc (doWake { s with actors := s.actors.set i ⟨k, .done⟩ }) := by
  have hc := counts_wake ha
  have hg := sum_map_set grantToCome s.actors i _ ⟨k, .done⟩ ha
  obtain ⟨h1, h2, h3, h4, h5, h6⟩ := h
  have h5' : s.closed = true ↔
      0 < (s.actors.set i ⟨k, .done⟩).countP pCloserMid + (s.actors.set i ⟨k, .done⟩).countP pCloserDone
        + s.shutdownsDone := by
    rw [h5]; omega
  have h4' : s.grants + ((s.actors.set i ⟨k, .done⟩).map grantToCome).sum = sc.ackTotal := by
    simp only [grantsToCome] at h4
    have e1 : grantToCome ⟨k, .wake⟩ = 0 := rfl
    have e2 : grantToCome ⟨k, .done⟩ = 0 := rfl
    rw [e1, e2] at hg; omega
  unfold doWake
  cases hr : s.registered with
  | none =>
    refine ⟨h1, ?_, h3, h4', h5', h6⟩
    intro j w hj
    have := h2 j w hj
    simp only [View, hr, Option.isSome_none] at this ⊢
    exact wok_wake_none this
  | some x =>
    refine ⟨h1, ?_, h3, h4', h5', h6⟩
    intro j w hj
    have := h2 j w hj
    simp only [View, List.length_cons, Option.isSome_none]
    exact wok_wake_some this

theorem actor_inv {sc : Scenario} {s : State} (h : Inv sc s) (i : Nat) : Inv sc (actorStep s i) := by
  unfold actorStep
  split
  · exact h
  · next a ha =>
    obtain ⟨kind, pc⟩ := a
    cases pc with
    | write =>
      cases kind with
      | ack n => exact actor_ack_write h i n ha
      | close => exact actor_close_write h i ha
    | wake => exact actor_wake h i kind ha
    | done => exact h

theorem spurious_inv {sc : Scenario} {s : State} (h : Inv sc s) (i : Nat) : Inv sc (spuriousStep s i) := by
  unfold spuriousStep
  split
  · exact h
  · next w0 hw =>
    split
    · next orig hpc =>
      obtain ⟨h1, h2, h3, h4, h5, h6⟩ := h
      have hw0 := h1 i w0 hw
      have hv0 := h2 i w0 hw
      refine ⟨?_, ?_, ?_, h4, h5, h6⟩
      · exact forall_set (fun j w _ => h1 j w) (hw0.move (by simp [hpc]) nofun nofun nofun
          (hw0.mid_start (by simp [hpc]) (by simp [hpc])) (by simp))
      · exact forall_set (fun j w _ => h2 j w) (.of_not_postReg hv0.mark_le (not_postReg ⟨nofun, nofun, nofun⟩))
      · have hs := sum_map_set (fun w : Writer => w.takes.length) s.writers i w0
          { w0 with pc := .loadCredit } hw
        simp only [totalTakes] at h3 ⊢
        simp only [] at hs
        omega
    · exact h

/-- A foreign `do_shutdown()`: the flag is set, nothing in the wake-up accounting moves (no `wake()` is
    owed by it and none is performed). -/
theorem shutdown_inv {sc : Scenario} {s : State} (h : Inv sc s) : Inv sc (shutdownStep s) := by
  unfold shutdownStep
  split
  · exact h
  · next n hn =>
    obtain ⟨h1, h2, h3, h4, h5, h6⟩ := h
    refine ⟨h1, h2, h3, h4, ?_, ?_⟩
    · simp only []; constructor
      · intro _; omega
      · intro _; trivial
    · simp only []; omega

theorem step_inv {sc : Scenario} {s : State} (h : Inv sc s) (l : Label) : Inv sc (step s l) := by
  cases l with
  | writer i => exact writer_inv h i
  | casSpurious i => exact spurious_inv h i
  | actor i => exact actor_inv h i
  | shutdown => exact shutdown_inv h

theorem run_inv (sc : Scenario) (ls : List Label) : Inv sc (run sc ls) :=
  Waker.foldl_keeps (P := Inv sc) (fun _ l h => step_inv h l) ls _ (init_inv sc)

theorem winv_of_mem {sc : Scenario} {s : State} (h : Inv sc s) {w : Writer} (hw : w ∈ s.writers) : WInv w := by
  obtain ⟨j, hj⟩ := List.mem_iff_getElem?.mp hw
  exact h.winv j w hj

theorem view_of_mem {sc : Scenario} {s : State} (h : Inv sc s) {w : Writer} (hw : w ∈ s.writers) : View s w := by
  obtain ⟨j, hj⟩ := List.mem_iff_getElem?.mp hw
  exact h.view j w hj

/-- A parked writer: no wake-up has been delivered since it registered — then the view vouches for it as for the
    single writer — or one has. -/
theorem View.parked_cases {s : State} {w : Writer} (hv : View s w) (hp : w.parked = true) :
    (s.actors.countP pCloserDone = 0 ∧ (0 < s.credit → 0 < s.actors.countP pAckerMid)) ∨ 0 < wakesSinceReg s w := by
  by_cases hm : w.regMark = s.wakeLog.length
  · exact .inl (hv.parked_ok hp hm)
  · have := hv.mark_le
    exact .inr (by simp only [wakesSinceReg]; omega)

/-- frames sent + units held by writers about to send = successful decrements, summed over all writers -/
theorem sent_inflight_takes (ws : List Writer) (h : ∀ w ∈ ws, WInv w) :
    (ws.map (·.sent)).sum + ws.countP (·.pc == .send) = (ws.map (·.takes.length)).sum := by
  induction ws with
  | nil => rfl
  | cons w ws ih =>
    have hw := (h w (by simp)).sent_takes
    have := ih (fun v hv => h v (by simp [hv]))
    simp only [List.map_cons, List.sum_cons, List.countP_cons]
    by_cases e : w.pc = .send <;> simp [e] at hw ⊢ <;> omega

theorem results_count_some (w : Writer) (h : WInv w) : w.results.count .some = w.sent := by
  rw [← h.log_some]; exact count_some_results w.log

theorem totalSome_eq_totalSent {sc : Scenario} {s : State} (h : Inv sc s) : totalSome s = totalSent s := by
  simp only [totalSome, totalSent]
  have : ∀ ws : List Writer, (∀ w ∈ ws, WInv w) →
      (ws.map fun w => w.results.count .some).sum = (ws.map (·.sent)).sum := by
    intro ws hws
    induction ws with
    | nil => rfl
    | cons w ws ih =>
      simp only [List.map_cons, List.sum_cons]
      rw [results_count_some w (hws w (by simp)), ih (fun v hv => hws v (by simp [hv]))]
  exact this _ (fun w hw => winv_of_mem h hw)

theorem totals {sc : Scenario} {s : State} (h : Inv sc s) : totalSent s + inFlight s = totalTakes s :=
  sent_inflight_takes s.writers (fun _ hw => winv_of_mem h hw)

/-- Conservation in terms of frames: a unit is in the counter, in a frame sent, or held by a writer about to send. -/
theorem Inv.sent_conservation {sc : Scenario} {s : State} (h : Inv sc s) :
    s.credit + totalSent s + inFlight s = sc.credit + s.grants := by
  have h1 := h.conservation
  have h2 := totals h
  omega

theorem taskClosed_iff (s : State) :
    taskClosed s = true ↔ 0 < s.actors.countP pCloserMid + s.actors.countP pCloserDone := by
  rw [closers_pos_iff]
  simp only [taskClosed, List.any_eq_true, Bool.and_eq_true, bne_iff_ne, ne_eq]

theorem taskCloseCompleted_iff (s : State) :
    taskCloseCompleted s = true ↔ 0 < s.actors.countP pCloserDone := by
  simp only [taskCloseCompleted, List.any_eq_true, List.countP_pos_iff, pCloserDone]

theorem closed_eq_taskClosed {sc : Scenario} {s : State} (h : Inv sc s) (hs : sc.shutdowns = 0) :
    s.closed = taskClosed s := by
  have h6 := h.shutdowns
  have h5 := h.closed_iff
  have ht := taskClosed_iff s
  have hd : s.shutdownsDone = 0 := by omega
  rw [hd, Nat.add_zero, ← ht] at h5
  cases hc : s.closed <;> cases htc : taskClosed s <;> simp_all

theorem finished_inFlight {s : State} (hf : allWritersFinished s = true) : inFlight s = 0 := by
  simp only [allWritersFinished, List.all_eq_true] at hf
  simp only [inFlight, List.countP_eq_zero]
  intro w hw
  have := hf w hw
  simp at this
  simp [this]

end Penguin.Lemmas.WakerN
