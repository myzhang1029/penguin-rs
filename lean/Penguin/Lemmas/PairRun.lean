/-
What an enabled action of the left endpoint is (`StepL`, `stepL_shape`: one case per action kind, with
the guard `stepL` has checked and the state it returns), and from the left endpoint to both sides and to
runs: a property of pair states that the left endpoint's actions keep and that does not care which side is
called left is kept by every action of either side (`step_keeps`) and by every run (`run_keeps`).
-/
import Penguin.Model.Pair
import Penguin.Lemmas.MuxTrace

namespace Penguin.Pair

open Penguin.Mux

/-- `stepL p a = some p'`, read off the definition of `stepL`. -/
inductive StepL (p : PS) : Act → PS → Prop
  | open (req : Nat) (host : Bytes) (port : Nat) (hnew : p.a.opens.any (·.req == req) = false)
      (hr : (appOpen p.a req host port).1.rng ≠ []) :
      StepL p (.open req host port) { p with a := (appOpen p.a req host port).1 }
  | cancelOpen (req : Nat) :
      StepL p (.cancelOpen req) { p with a := { p.a with opens := p.a.opens.filter (·.req ≠ req) } }
  | accept : StepL p .accept { p with a := (appAccept p.a).1 }
  | write (h : Nat) (d : Bytes) (hl : liveHandle p.a p.ga h = true) :
      StepL p (.write h d)
        { p with a := (appWrite p.a h d).1,
                 ga := match (appWrite p.a h d).2, p.a.handles[h]? with
                   | .wrote _, some i => p.ga.addW i d
                   | _, _ => p.ga }
  | read (h n : Nat) (hl : liveHandle p.a p.ga h = true) :
      StepL p (.read h n)
        { p with a := (appRead p.a h n).1,
                 ga := match (appRead p.a h n).2, p.a.handles[h]? with
                   | .data bs, some i => p.ga.addR i bs
                   | .eof, some i => p.ga.noteEof p.a i
                   | _, _ => p.ga }
  | shutdown (h : Nat) (hl : liveHandle p.a p.ga h = true) :
      StepL p (.shutdown h) { p with a := (appShutdown p.a h).1 }
  | dropStream (h : Nat) (hl : liveHandle p.a p.ga h = true) :
      StepL p (.dropStream h) { p with a := (appDropStream p.a h).1, ga := { p.ga with dropped := h :: p.ga.dropped } }
  | sendDgram (d : Dgram) :
      StepL p (.sendDgram d)
        { p with a := (appSendDgram p.a d).1,
                 ga := match (appSendDgram p.a d).2 with
                   | .unit => { p.ga with dsent := p.ga.dsent ++ [d] }
                   | _ => p.ga }
  | recvDgram :
      StepL p .recvDgram
        { p with a := (appRecvDgram p.a).1,
                 ga := match (appRecvDgram p.a).2 with
                   | .dgram d => { p.ga with drecv := p.ga.drecv ++ [d] }
                   | _ => p.ga }
  | xmit (m : Msg) (rest : List Msg) (hq : p.a.outq = m :: rest) :
      StepL p .xmit { p with a := { p.a with outq := rest }, ab := p.ab ++ [m] }
  | recv (f : Frame) (rest : List Msg) (e : EP) (evs : List Ev) (hp : p.a.park = none) (hba : p.ba = .frame f :: rest)
      (hpf : processFrame p.a f false = (e, evs, none)) :
      StepL p .recv
        { p with a := e, ba := rest,
                 linked := match completes p f with | some x => x :: p.linked | none => p.linked }
  | notif (fid : Nat) (rest : List Nat) (hq : p.a.droppedq = fid :: rest) (h0 : fid ≠ 0) :
      StepL p .notif { p with a := (closeFlow { p.a with droppedq := rest } fid false).1 }
  | unpark : StepL p .unpark { p with a := Mux.unpark p.a }
  | runDone :
      StepL p .runDone { p with a := (Mux.runDone { p.a with doneq := [] } (p.a.doneq.foldr insertDone [])).1 }
  | runRetries (hr : (Mux.runRetries { p.a with retryq := [] } (sortNat p.a.retryq)).1.rng ≠ []) :
      StepL p .runRetries { p with a := (Mux.runRetries { p.a with retryq := [] } (sortNat p.a.retryq)).1 }
  | bindReq (req : Nat) (bt : BindType) (host : Bytes) (port : Nat)
      (hr : (appBindReq p.a req bt host port).1.rng ≠ []) :
      StepL p (.bindReq req bt host port) { p with a := (appBindReq p.a req bt host port).1 }
  | bindNext : StepL p .bindNext { p with a := (appBindNext p.a).1 }
  | bindReply (k : Nat) (acc : Bool) : StepL p (.bindReply k acc) { p with a := (appBindReply p.a k acc).1 }
  | bindDrop (k : Nat) : StepL p (.bindDrop k) { p with a := (appBindDrop p.a k).1 }

theorem stepL_shape {p p' : PS} {a : Act} (hs : stepL p a = some p') : StepL p a p' := by
  cases a with
  | «open» req host port =>
    simp only [stepL] at hs
    split at hs
    · cases hs
    · rename_i hnew
      split at hs
      · cases hs
      · rename_i hr
        cases hs
        exact .open req host port (by simpa using hnew) (by simpa using hr)
  | cancelOpen req => cases hs; exact .cancelOpen req
  | accept => cases hs; exact .accept
  | write h d =>
    simp only [stepL] at hs
    split at hs
    · cases hs
    · rename_i hl; cases hs; exact .write h d (by simpa using hl)
  | read h n =>
    simp only [stepL] at hs
    split at hs
    · cases hs
    · rename_i hl; cases hs; exact .read h n (by simpa using hl)
  | shutdown h =>
    simp only [stepL] at hs
    split at hs
    · cases hs
    · rename_i hl; cases hs; exact .shutdown h (by simpa using hl)
  | dropStream h =>
    simp only [stepL] at hs
    split at hs
    · cases hs
    · rename_i hl; cases hs; exact .dropStream h (by simpa using hl)
  | sendDgram d => cases hs; exact .sendDgram d
  | recvDgram => cases hs; exact .recvDgram
  | xmit =>
    simp only [stepL] at hs
    split at hs
    · cases hs
    · rename_i m rest hq; cases hs; exact .xmit m rest hq
  | recv =>
    simp only [stepL] at hs
    split at hs
    · cases hs
    · rename_i hp
      split at hs
      · rename_i f rest hba
        split at hs
        · rename_i e evs hpf
          cases hs
          exact .recv f rest e evs (by simpa using hp) hba hpf
        · cases hs
      · cases hs
  | notif =>
    simp only [stepL] at hs
    split at hs
    · rename_i fid rest hq
      split at hs
      · cases hs
      · rename_i h0; cases hs; exact .notif fid rest hq h0
    · cases hs
  | unpark => cases hs; exact .unpark
  | runDone => cases hs; exact .runDone
  | runRetries =>
    simp only [stepL] at hs
    split at hs
    · cases hs
    · rename_i hr; cases hs; exact .runRetries (by simpa using hr)
  | bindReq req bt host port =>
    simp only [stepL] at hs
    split at hs
    · cases hs
    · rename_i hr; cases hs; exact .bindReq req bt host port (by simpa using hr)
  | bindNext => cases hs; exact .bindNext
  | bindReply k acc => cases hs; exact .bindReply k acc
  | bindDrop k => cases hs; exact .bindDrop k

/-- The converse of the `recv` case. -/
theorem stepL_recv_eq (p : PS) (f : Frame) (rest : List Msg) (hba : p.ba = .frame f :: rest)
    (hpark : p.a.park = none) (hcont : (processFrame p.a f false).2.2 = none) :
    stepL p .recv = some { p with a := (processFrame p.a f false).1, ba := rest, linked := (match completes p f with | some x => x :: p.linked | none => p.linked) } := by
  generalize hpf : processFrame p.a f false = r at hcont
  obtain ⟨e, evs, res⟩ := r
  simp only at hcont
  subst hcont
  simp only [stepL, hpark, hba, hpf, Option.isSome_none, Bool.false_eq_true, if_false]
  rfl

/-- No action changes the options of the acting endpoint: no step of the paths of the functions involved writes them. -/
theorem StepL.opts {p p' : PS} {a : Act} (h : StepL p a p') : p'.a.opts = p.a.opts := by
  cases h with
  | «open» => exact (Path.openRoundAny _ _).frame .opts
  | cancelOpen | xmit => rfl
  | accept => exact (Path.appAccept _).frame .opts
  | write => exact (Path.appWrite _ _ _).frame .opts
  | read => exact (Path.appRead _ _ _).frame .opts
  | shutdown => exact (Path.appShutdown _ _).frame .opts
  | dropStream => exact (Path.appDropStream _ _).frame .opts
  | sendDgram => exact (Path.appSendDgram _ _).frame .opts
  | recvDgram => exact (Path.appRecvDgram _).frame .opts
  | recv f rest e evs hp hba hpf => exact (congrArg (·.1.opts) hpf).symm.trans ((Path.processFrame p.a f false).frame .opts)
  | notif => exact (Path.closeFlow _ _ _).frame .opts
  | unpark => exact (Path.unpark _).frame .opts
  | runDone => exact (Path.runDone _ _).frame .opts
  | runRetries => exact (Path.runRetries _ _).frame .opts
  | bindReq => exact (Path.appBindReq _ _ _ _ _).frame .opts
  | bindNext => exact (Path.appBindNext _).frame .opts
  | bindReply => exact (Path.appBindReply _ _ _).frame .opts
  | bindDrop => exact (Path.appBindDrop _ _).frame .opts

theorem StepL.b {p p' : PS} {a : Act} (h : StepL p a p') : p'.b = p.b ∧ p'.gb = p.gb := by
  cases h <;> exact ⟨rfl, rfl⟩

theorem run_cons (p : PS) (sa : Side × Act) (l : List (Side × Act)) : run p (sa :: l) = run (run p [sa]) l := by
  obtain ⟨s, a⟩ := sa
  simp only [run]

theorem run_append (p : PS) (l1 l2 : List (Side × Act)) : run p (l1 ++ l2) = run (run p l1) l2 := by
  induction l1 generalizing p with
  | nil => rfl
  | cons sa rest ih => rw [List.cons_append, run_cons, ih, ← run_cons]

theorem swap_swap (p : PS) : p.swap.swap = p := rfl

theorem stepR_eq {p p' : PS} {a : Act} (hs : step p .B a = some p') : ∃ q, stepL p.swap a = some q ∧ p' = q.swap := by
  simp only [step, Option.map_eq_some_iff] at hs
  obtain ⟨q, hq, rfl⟩ := hs
  exact ⟨q, hq, rfl⟩

theorem run_swap (p : PS) (l : List Act) : run p.swap (l.map (fun a => (Side.A, a))) = (run p (l.map (fun a => (Side.B, a)))).swap := by
  induction l generalizing p with
  | nil => rfl
  | cons a rest ih =>
    simp only [List.map_cons, run, step]
    cases hs : stepL p.swap a with
    | none => simp only [Option.map_none, Option.getD_none]; exact ih p
    | some q =>
      simp only [Option.map_some, Option.getD_some]
      have := ih q.swap
      rw [swap_swap] at this
      exact this

theorem step_keeps {P : PS → Prop} (hswap : ∀ p, P p → P p.swap) {a : Act}
    (hL : ∀ p p', P p → stepL p a = some p' → P p') {p p' : PS} (s : Side) (h : P p) (hs : step p s a = some p') :
    P p' := by
  cases s with
  | A => exact hL p p' h hs
  | B =>
    obtain ⟨q, hq, rfl⟩ := stepR_eq hs
    exact hswap q (hL p.swap q (hswap p h) hq)

theorem run_keeps {P : PS → Prop} (hswap : ∀ p, P p → P p.swap) (p : PS) (as : List (Side × Act))
    (hL : ∀ sa ∈ as, ∀ p p', P p → stepL p sa.2 = some p' → P p') (h : P p) : P (run p as) := by
  induction as generalizing p with
  | nil => exact h
  | cons sa rest ih =>
    obtain ⟨s, a⟩ := sa
    unfold run
    have hL' : ∀ sa ∈ rest, ∀ p p', P p → stepL p sa.2 = some p' → P p' := fun x hx => hL x (List.mem_cons_of_mem _ hx)
    cases hs : step p s a with
    | none => exact ih p hL' h
    | some p' => exact ih p' hL' (step_keeps hswap (hL (s, a) List.mem_cons_self) s h hs)

end Penguin.Pair
