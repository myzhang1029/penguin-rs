/-
`Sim` / `SimX` (see `Lemmas/PairAllView.lean`) for the connection task of the endpoint model.  The steps the task is
made of are proved here (one transport item, the pieces of the wind-down, the open futures); the loops and case
distinctions around them are `Mux.Walk`'s (`Lemmas/MuxLeaves.lean`): `SimL.walk` gives the steps to it.  The functions that process frames are
stated as `SimX`, with the `.fin` records of their end-event mirror (`Lemmas/MuxEof.lean`): one record for every
`Finish x` processed while the slot of `x` was `Established j`; the others record nothing (`Sim`).  The inbox is an
argument of `Sim`; `windDownInbox`, which walks over a list of transport items without updating the `inbox` field, is
stated with that list.
Core Lean only.
-/
import Penguin.Lemmas.PairAllSimFrame

namespace Penguin.PairAll
open Penguin.Mux

variable {x j : Nat}

theorem finsOf_slotEnds_ne (e : EP) (s : Slot) (c : EndCause) (hc : c ≠ .peerFinish x) :
    finsOf x j (slotEnds e s c) = [] := by
  cases s <;> simp only [slotEnds, finsOf_nil]
  split
  · simp [finsOf, hc]
  · rfl

/-- `process_message`: the item is the head of the inbox before, and gone after (an item that ends the
    source is taken by `recvOne` / left in place by the wind-down). -/
theorem SimX.processIn {l : List WsIn} (e : EP) (w : WsIn) (ig : Bool) (hsf : SF e) (hj : J x j (processIn e w ig).1)
    (hend : isEnd w = false) :
    SimX x j (w :: l) e l (processIn e w ig).1 (processIn e w ig).2.1 (processInLog e w)
      (finsOf x j (processInEnds e w)) := by
  cases w with
  | msg m =>
    cases m with
    | frame f => exact Sim.processFrame e f ig hsf hj
    | ping => exact (Sim.pop e _ (by intro m hm; cases hm; exact ⟨rfl, rfl, rfl, rfl, rfl⟩) rfl).toX
    | pong => exact (Sim.pop e _ (by intro m hm; cases hm; exact ⟨rfl, rfl, rfl, rfl, rfl⟩) rfl).toX
    | close => exact (Sim.pop e _ (by intro m hm; cases hm; exact ⟨rfl, rfl, rfl, rfl, rfl⟩) rfl).toX
  | bad b => exact (Sim.pop e _ (by intro m hm; cases hm) rfl).toX
  | err => simp [isEnd] at hend
  | eof => simp [isEnd] at hend

theorem SimX.recvOne {rest : List WsIn} (e : EP) (w : WsIn) (hsf : SF e) (hj : J x j (recvOne e w rest).1) :
    SimX x j (w :: rest) e rest (recvOne e w rest).1 (recvOne e w rest).2.1 (recvOneLog e w rest)
      (finsOf x j (recvOneEnds e w rest)) := by
  cases w with
  | eof =>
    refine Sim.toX (Sim.one (AStep.pop (view x j e (.eof :: rest)) .eof rest rfl (by intro m hm; cases hm)) ?_ rfl rfl)
    simp [Mux.recvOne, Mux.processIn, view, canAcc, isEnd, bindHeld]
  | err =>
    refine Sim.toX (Sim.one (AStep.pop (view x j e (.err :: rest)) .err rest rfl (by intro m hm; cases hm)) ?_ rfl rfl)
    simp [Mux.recvOne, Mux.processIn, view, canAcc, isEnd, bindHeld]
  | msg m =>
    simp only [Mux.recvOne, recvOneLog, recvOneEnds, reduceCtorEq, or_self, if_false] at hj ⊢
    exact (SimX.processIn (l := rest) { e with inbox := rest } (.msg m) false hsf hj rfl).congr rfl rfl
  | bad b =>
    simp only [Mux.recvOne, recvOneLog, recvOneEnds, reduceCtorEq, or_self, if_false] at hj ⊢
    exact (SimX.processIn (l := rest) { e with inbox := rest } (.bad b) false hsf hj rfl).congr rfl rfl

theorem Sim.disallowAll {l : List WsIn} (e : EP) (fl : List (Nat × Slot)) : Sim x j l e l (disallowAll e fl) [] [] := by
  induction fl generalizing e with
  | nil => exact Sim.refl l e
  | cons p fl ih =>
    obtain ⟨fid, s⟩ := p
    cases s with
    | established i =>
      simp only [Mux.disallowAll]
      exact (Sim.modObj e i Obj.disallowWrite (by sim_side) (by sim_side)).tr0 (ih _)
    | requested r => simp only [Mux.disallowAll]; exact ih e
    | bindRequested r => simp only [Mux.disallowAll]; exact ih e

theorem closeLocal_flows_nil (e : EP) (s : Slot) (fid : Nat) (inh final : Bool) (h : e.flows = []) :
    (closeLocal e s fid inh final).1.flows = [] := by
  unfold Mux.closeLocal Mux.openRejected
  repeat' split
  all_goals simp [EP.modObj, EP.enqFrame, EP.enq, h]
  all_goals split <;> simp

theorem canAcc_flows_nil (e : EP) (h : e.flows = []) : canAcc x j e = false := by
  simp [canAcc, canAccF, h]

/-- The flow table was emptied before: no slot is left that could be object `j`'s. -/
theorem Sim.drainFlows {l : List WsIn} (e : EP) (fl : List (Nat × Slot)) (h : e.flows = []) :
    Sim x j l e l (drainFlows e fl).1 (drainFlows e fl).2 [] := by
  induction fl generalizing e with
  | nil => exact Sim.refl l e
  | cons p fl ih =>
    obtain ⟨fid, s⟩ := p
    simp only [Mux.drainFlows]
    exact (Sim.closeLocal e s fid true true (by intro hc; rw [canAcc_flows_nil e h] at hc; cases hc)).tr
      (ih _ (closeLocal_flows_nil e s fid true true h))

theorem finsOf_drainFlowsEnds (e : EP) (res : ExitRes) (fl : List (Nat × Slot)) :
    finsOf x j (drainFlowsEnds e res fl) = [] := by
  induction fl generalizing e with
  | nil => rfl
  | cons p fl ih =>
    obtain ⟨fid, s⟩ := p
    simp only [drainFlowsEnds, finsOf_append, ih, List.append_nil]
    exact finsOf_slotEnds_ne e s _ (by intro h; cases h)

theorem finsOf_windDownFinishEnds (e : EP) (res : ExitRes) : finsOf x j (windDownFinishEnds e res) = [] :=
  finsOf_drainFlowsEnds _ res _

theorem Star.emits (n : Nat) (v : View) : Star x j v { v with outq := v.outq.drop n } (v.outq.take n) [] [] := by
  induction n generalizing v with
  | zero => exact (Star.refl v).cast (by rw [List.drop_zero]) (by simp) rfl
  | succ n ih =>
    cases h : v.outq with
    | nil => exact (Star.refl v).cast (by cases v; simp_all) (by simp) rfl
    | cons m r =>
      exact (Star.step (AStep.emit v m r h) (ih { v with outq := r })).cast (by simp) (by simp) rfl

theorem Sim.sendSome {l : List WsIn} (e : EP) : Sim x j l e l (sendSome e).1 (sendSome e).2 [] := by
  unfold Mux.sendSome
  split
  · exact (Star.emits e.outq.length (view x j e l)).cast (by simp [view, canAcc, bindHeld]) (by rw [wireMsgs_wires]; simp [view]) rfl
  · rename_i n _
    exact (Star.emits n (view x j e l)).cast (by simp [view, canAcc, bindHeld]) (by rw [wireMsgs_wires]; simp [view]) rfl

theorem Sim.dropPrep {l : List WsIn} (e : EP) : Sim x j l e l (dropPrep e) [] [] :=
  ((Sim.disallowAll e e.flows).tr0
    (Sim.one (e' := { Mux.disallowAll e e.flows with outClosed := true })
      (AStep.closeOut (view x j (Mux.disallowAll e e.flows) l)) rfl rfl rfl)).tr0
    ((Sim.parkGone _).congr rfl rfl)

theorem Sim.windDownPrep {l : List WsIn} (e : EP) : Sim x j l e l (windDownPrep e) [] [] :=
  ((Sim.disallowAll e e.flows).tr0
    (Sim.one (e' := { Mux.disallowAll e e.flows with outClosed := true, outq := [] })
      (AStep.clearOutq (view x j (Mux.disallowAll e e.flows) l)) rfl rfl rfl)).tr0
    ((Sim.parkGone _).congr rfl rfl)

theorem Sim.unpark {l : List WsIn} (e : EP) : Sim x j l e l (unpark e) [] [] := by
  unfold Mux.unpark
  split
  · exact Sim.refl l e
  · split
    · split
      · exact (Sim.modObj e _ (fun o => { o with rxOpen := false }) (by sim_side) (by sim_side)).tr0
          ((Sim.parkGone _).congr rfl rfl)
      · exact Sim.parkGone e
    · split
      · exact (Sim.parkGone e).congr rfl rfl
      · exact Sim.refl l e
  · rename_i b hp
    split
    · exact (Sim.parkGone e).tr0 (Sim.enqFrame _ _ rfl rfl rfl)
    · split
      · -- the parked bind request moves to the bind queue: it stays held
        refine Sim.bhDrop e _ rfl ?_
        simp only [bindHeld, hp, List.any_append, List.any_cons, List.any_nil, Bool.or_false]
        cases e.bindq.any (fun b => b.fid == x) <;> cases e.held.any (fun b => b.fid == x) <;> simp
      · exact Sim.refl l e

theorem windDownInbox_ended (e : EP) (l : List WsIn) (h : (windDownInbox e l).2.2 = true) : endRest l ≠ [] := by
  induction l generalizing e with
  | nil => simp [Mux.windDownInbox] at h
  | cons w l ih =>
    cases w with
    | err => simp [endRest]
    | eof => simp [endRest]
    | msg m => simp only [Mux.windDownInbox] at h; simp only [endRest]; exact ih _ h
    | bad b => simp only [Mux.windDownInbox] at h; simp only [endRest]; exact ih _ h

/-- The wind-down reads on until the source ends (the item that ends it stays) or nothing is buffered. -/
theorem SimX.windDownInbox (e : EP) (l : List WsIn) (hsf : SF e) (hj : J x j (windDownInbox e l).1) :
    SimX x j l e (endRest l) (windDownInbox e l).1 (windDownInbox e l).2.1 (windDownInboxLog e l)
      (finsOf x j (windDownInboxEnds e l)) := by
  induction l generalizing e with
  | nil => exact (Sim.refl [] e).toX
  | cons w l ih =>
    cases w with
    | err => exact (Sim.refl _ e).toX
    | eof => exact (Sim.refl _ e).toX
    | msg m =>
      simp only [Mux.windDownInbox, windDownInboxLog, windDownInboxEnds, endRest, finsOf_append] at hj ⊢
      have hsf1 : SF { (Mux.processIn e (.msg m) true).1 with park := none } :=
        SF.grow ((Grow.processIn e (.msg m) true).trans (Grow.same rfl rfl)) hsf
      have hj1 : J x j (Mux.processIn e (.msg m) true).1 :=
        J.back ((Grow.same rfl rfl : Grow (Mux.processIn e (.msg m) true).1 { (Mux.processIn e (.msg m) true).1 with park := none }).trans
          (Grow.windDownInbox _ l)) hj
      exact ((SimX.processIn (l := l) e (.msg m) true hsf hj1 rfl).tr1 (Sim.parkGone _)).trans (ih _ hsf1 hj)
    | bad b =>
      simp only [Mux.windDownInbox, windDownInboxLog, windDownInboxEnds, endRest, finsOf_append] at hj ⊢
      have hsf1 : SF { (Mux.processIn e (.bad b) true).1 with park := none } :=
        SF.grow ((Grow.processIn e (.bad b) true).trans (Grow.same rfl rfl)) hsf
      have hj1 : J x j (Mux.processIn e (.bad b) true).1 :=
        J.back ((Grow.same rfl rfl : Grow (Mux.processIn e (.bad b) true).1 { (Mux.processIn e (.bad b) true).1 with park := none }).trans
          (Grow.windDownInbox _ l)) hj
      exact ((SimX.processIn (l := l) e (.bad b) true hsf hj1 rfl).tr1 (Sim.parkGone _)).trans (ih _ hsf1 hj)

theorem Sim.windDownFinish {l : List WsIn} (e : EP) (res : ExitRes) :
    Sim x j l e [] (windDownFinish e res).1 (windDownFinish e res).2 [] := by
  have g0 : Sim x j l e [] { e with flows := [] } [] [] :=
    Sim.one (AStep.clearInbox (view x j e l)) rfl rfl rfl
  have g1 := (g0.tr0 (Sim.drainFlows (l := []) { e with flows := [] } e.flows rfl)).tr1
    (Sim.parkGone (l := []) (Mux.drainFlows { e with flows := [] } e.flows).1)
  simp only [Mux.windDownFinish]
  refine (g1.congr rfl rfl).lbl ?_ rfl
  simp [wireMsgs_append, wireMsgs_map_openDone, wireMsgs]

theorem Sim.runRetries {l : List WsIn} (e : EP) (rs : List Nat) :
    Sim x j l e l (runRetries e rs).1 (runRetries e rs).2 [] := by
  induction rs generalizing e with
  | nil => exact Sim.refl l e
  | cons req rest ih =>
    unfold Mux.runRetries
    split
    · exact ih e
    · rename_i r _
      exact (Sim.openRound e r).tr (ih _)

theorem Sim.runDone {l : List WsIn} (e : EP) (ds : List (Nat × Nat)) :
    Sim x j l e l (runDone e ds).1 (runDone e ds).2 [] := by
  induction ds generalizing e with
  | nil => exact Sim.refl l e
  | cons p rest ih =>
    obtain ⟨req, i⟩ := p
    unfold Mux.runDone
    have g : Sim x j l e l { e with handles := e.handles ++ [i] } [Ev.openDone req (.ok e.handles.length)] [] :=
      Sim.same rfl rfl rfl
    exact (g.tr (ih _)).evs rfl

/-! ### The task's run, through the one walk of its loops (`Mux.Walk`, Lemmas/MuxLeaves.lean) -/

/-- `SimX` as a relation on (state, later state, events, leaves): the inbox is the state's; the labels are what the
    leaves note (`Leaf.rx`, `Leaf.ends`); `SF` of the state before and `J` of the state after are premises, which `Grow`
    carries forwards and backwards across a composition. -/
def SimL (x j : Nat) (e e' : EP) (evs : List Ev) (Lv : List Leaf) : Prop :=
  Grow e e' ∧ (SF e → J x j e' →
    SimX x j e.inbox e e'.inbox e' evs (Lv.flatMap Leaf.rx) (finsOf x j (Lv.flatMap Leaf.ends)))

theorem SimL.sil {e e' : EP} {evs : List Ev} (g : Grow e e') (hi : e'.inbox = e.inbox)
    (s : Sim x j e.inbox e e.inbox e' evs []) : SimL x j e e' evs [] :=
  ⟨g, fun _ _ => (s.inb rfl hi).toX⟩

theorem SimL.walk : Walk (SimL x j) where
  refl e := ⟨Grow.refl e, fun _ _ => (Sim.refl _ e).toX⟩
  trans s t := ⟨s.1.trans t.1, fun hsf hj => by
    rw [List.flatMap_append, List.flatMap_append, finsOf_append]
    exact (s.2 hsf (J.back t.1 hj)).trans (t.2 (SF.grow s.1 hsf) hj)⟩
  ctl e c d := SimL.sil (Grow.same rfl rfl) rfl (Sim.same rfl rfl rfl)
  recv e w rest hi := ⟨Grow.recvOne e w rest, fun hsf hj => by
    rw [← recvOneLog_eq, ← recvOneEnds_eq]
    exact (SimX.recvOne (rest := rest) e w hsf hj).inb hi (recvOne_inbox e w rest)⟩
  pass e := ⟨(Grow.windDownInbox e e.inbox).trans (Grow.same rfl rfl), fun hsf hj => by
    rw [← windDownInboxLog_eq, ← windDownInboxEnds_eq]
    exact (SimX.windDownInbox e e.inbox hsf hj).congr rfl rfl⟩
  -- the wind-down finishes from whatever the source still had: `AStep.clearInbox` drops it with the slots
  finish e res := ⟨(Grow.same rfl rfl : Grow e { e with inbox := [] }).trans (Grow.windDownFinish _ res), fun _ _ => by
    rw [List.flatMap_singleton, List.flatMap_singleton]
    refine (((Sim.windDownFinish (l := e.inbox) { e with inbox := [] } res).congr (a := e) rfl rfl).inb rfl
      (windDownFinish_inbox _ res)).toX.rec ?_
    exact finsOf_windDownFinishEnds _ res⟩
  dropMux e rest _ := SimL.sil (Grow.same rfl rfl) rfl (Sim.same rfl rfl rfl)
  dropped e fid rest _ _ :=
    ⟨(Grow.same rfl rfl : Grow e { e with droppedq := rest }).trans (Grow.closeFlow _ fid false), fun hsf hj => by
      rw [List.flatMap_singleton, List.flatMap_singleton]
      show SimX x j e.inbox e _ _ _ [] (finsOf x j (closeFlowEnds { e with droppedq := rest } fid (.dropped fid)))
      rw [finsOf_closeFlowEnds_ne _ fid (.dropped fid) (by intro h; cases h)]
      exact (((Sim.closeFlow { e with droppedq := rest } fid false (SF.grow (Grow.same rfl rfl) hsf)
        (J.back (Grow.closeFlow _ fid false) hj)).congr (a := e) rfl rfl).inb rfl
        (closeFlow_inbox { e with droppedq := rest } fid false)).toX⟩
  unpark e := SimL.sil (Grow.unpark e) (unpark_inbox' e) (Sim.unpark e)
  send e := SimL.sil (Grow.sendSome e) (sendSome_inbox e) (Sim.sendSome e)
  wireClose e := SimL.sil (Grow.refl e) rfl (Sim.one (AStep.sendClose (view x j e e.inbox)) rfl rfl rfl)
  dropPrep e := SimL.sil (Grow.dropPrep e) ((Path.disallowAll e e.flows).frame .inbox) (Sim.dropPrep e)
  windDownPrep e := SimL.sil ((Grow.disallowAll e e.flows).trans (Grow.same rfl rfl)) ((Path.disallowAll e e.flows).frame .inbox)
    (Sim.windDownPrep e)
  done e := SimL.sil ((Grow.same rfl rfl : Grow e { e with doneq := [] }).trans (Grow.runDone _ _)) (runDone_inbox _ _)
    ((Sim.runDone { e with doneq := [] } _).congr rfl rfl)
  retry e := SimL.sil ((Grow.same rfl rfl : Grow e { e with retryq := [] }).trans (Grow.runRetries _ _))
    (runRetries_inbox _ _) ((Sim.runRetries { e with retryq := [] } _).congr rfl rfl)

theorem SimX.windDown (e : EP) (drain : Bool) (res : ExitRes) (hsf : SF e) (hj : J x j (windDown e drain res).1) :
    SimX x j e.inbox e (windDown e drain res).1.inbox (windDown e drain res).1 (windDown e drain res).2
      (windDownLog e drain) (finsOf x j (windDownEnds e drain res)) := by
  rw [windDownLog_eq e drain res, windDownEnds_eq]
  exact (SimL.walk.windDown e drain res).2 hsf hj

theorem SimX.settleLoop (fuel : Nat) (e : EP) (acc : List Ev) (hsf : SF e) :
    J x j (settleLoop fuel e acc).1 →
    ∃ evs, (settleLoop fuel e acc).2 = acc ++ evs ∧
      SimX x j e.inbox e (settleLoop fuel e acc).1.inbox (settleLoop fuel e acc).1 evs (settleLoopLog fuel e)
        (finsOf x j (settleLoopEnds fuel e)) := by
  intro hj
  obtain ⟨evs, h1, h2⟩ := (SimL.walk (x := x) (j := j)).settleLoop fuel e acc
  rw [settleLoopLog_eq, settleLoopEnds_eq]
  exact ⟨evs, h1, h2.2 hsf hj⟩

theorem SimX.settle (e : EP) (hsf : SF e) (hj : J x j (settle e).1) :
    SimX x j e.inbox e (settle e).1.inbox (settle e).1 (settle e).2 (settleLog e) (finsOf x j (settleEnds e)) := by
  rw [settleLog_eq, settleEnds_eq]
  exact (SimL.walk.settle e).2 hsf hj

end Penguin.PairAll
