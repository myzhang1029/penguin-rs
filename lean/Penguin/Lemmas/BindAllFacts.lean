/-
Facts about ONE small step of a bind view (`BStep`): what it queues or hands to the transport and where that
comes from (`out_new`, `out_seq`), why it records what it records, where the queued, parked and held requests
come from, what stays (`bindCap`), what only grows (`dead`, `outClosed`, the ids of the stream objects), that
it drops no answer frame of a pending bind request from the inbox, and that the source is marked ended only
if an end item was in the inbox.
Core Lean only.
-/
import Penguin.Lemmas.BindAllSteps
import Penguin.Lemmas.MuxBasic
import Penguin.Lemmas.ListFacts

namespace Penguin.BindAll
open Penguin.Mux
open Penguin.PairAll (inMsgs inMsgs_append)

variable {v v' : BV} {ws : List Msg} {gs : List BEv}

theorem not_mem_refusals_replied (fl : List (Nat × Slot)) (k : Nat) (acc : Bool) :
    BEv.replied k acc ∉ fl.filterMap (fun p => match p.2 with | .bindRequested r => some (BEv.done r .refused) | _ => none) :=
  fun hm => by obtain ⟨_, h⟩ := mem_refusals hm; cases h

theorem BStep.inbox_suffix (st : BStep v v' ws gs) : v'.inbox <:+ v.inbox := by
  cases st with
  | shrink v' hs => exact hs.inbox
  | connNew y w p hh r hi hf => simp only; rw [hi]; exact List.suffix_cons _ _
  | ackNew y n q r hi hs => simp only; rw [hi]; exact List.suffix_cons _ _
  | offerQ b r hi => simp only; rw [hi]; exact List.suffix_cons _ _
  | offerPark b r hi => simp only; rw [hi]; exact List.suffix_cons _ _
  | _ => exact List.suffix_refl _

theorem BStep.rng_suffix (st : BStep v v' ws gs) : v'.rng <:+ v.rng := by
  cases st <;> first | exact List.suffix_refl _ | skip
  · rename_i h; exact h.rng
  all_goals
    rename_i hs _ _
    rcases hs with hs | hs
    · exact (List.suffix_cons _ _).trans hs
    · rw [hs]; exact List.nil_suffix

/-- A message the step queues or hands to the transport was queued before, or is new: a Close, a message of a
    stream or datagram (`OkEnq`), the `Connect` or `Bind` of a drawn id (the `Bind` comes with the record of the
    request), the answer of a `reply`, the `Reset` by which a dropped held or queued request rejects itself. -/
theorem BStep.out_new (st : BStep v v' ws gs) {m : Msg} (hm : m ∈ ws ++ v'.outq) :
    m ∈ v.outq ∨ m = .close ∨ OkEnq v m ∨ (∃ y w p h, m = .frame (.connect y w p h)) ∨
    (∃ req y bt h p, m = .frame (.bind y bt p h) ∧ BEv.asked req y bt h p ∈ gs) ∨
    (∃ k b acc, v.held[k]? = some b ∧ m = .frame (if acc then .finish b.fid else .reset b.fid) ∧ BEv.replied k acc ∈ gs) ∨
    (∃ k b, v.held[k]? = some b ∧ b.replied = false ∧ m = .frame (.reset b.fid) ∧ BEv.dropped k ∈ gs) ∨
    (∃ b ∈ v.bindq, m = .frame (.reset b.fid) ∧ BEv.muxDropped ∈ gs) := by
  have app : ∀ {l : List Msg}, m ∈ [] ++ (v.outq ++ l) → m ∈ v.outq ∨ m ∈ l := fun h => by simpa using h
  cases st with
  | emit m' r ho => left; rw [ho]; simpa using hm
  | sendClose => rcases List.mem_append.mp hm with h | h; exact Or.inr (Or.inl (by simpa using h)); exact Or.inl h
  | shrink v' hs =>
    rcases hs.outq with h1 | ⟨h1, _⟩
    · left; simpa [h1] using hm
    · simp [h1] at hm
  | enq m' hc ok =>
    rcases app hm with h | h
    · exact Or.inl h
    · rw [List.mem_singleton.mp h]; exact Or.inr (Or.inr (Or.inl ok))
  | drawOpen y q r' w p hh hs hf ho =>
    rcases app hm with h | h
    · exact Or.inl h
    · exact Or.inr (Or.inr (Or.inr (Or.inl ⟨y, w, p, hh, List.mem_singleton.mp h⟩)))
  | drawBind y req bt host port r' hs hf ho =>
    rcases app hm with h | h
    · exact Or.inl h
    · exact Or.inr (Or.inr (Or.inr (Or.inr (Or.inl ⟨req, y, bt, host, port, List.mem_singleton.mp h, by simp⟩))))
  | reply k b acc hk hal ho =>
    rcases app hm with h | h
    · exact Or.inl h
    · exact Or.inr (Or.inr (Or.inr (Or.inr (Or.inr (Or.inl ⟨k, b, acc, hk, List.mem_singleton.mp h, by simp⟩)))))
  | dropReq k b hk =>
    simp only at hm
    split at hm
    · left; simpa using hm
    · rename_i hc
      rcases app hm with h | h
      · exact Or.inl h
      · refine Or.inr (Or.inr (Or.inr (Or.inr (Or.inr (Or.inr (Or.inl ⟨k, b, hk, ?_, List.mem_singleton.mp h, by simp⟩))))))
        cases hr : b.replied with
        | false => rfl
        | true => simp [hr] at hc
  | dropMux =>
    simp only at hm
    split at hm
    · left; simpa using hm
    · rcases app hm with h | h
      · exact Or.inl h
      · obtain ⟨b, hb, rfl⟩ := List.mem_map.mp h
        exact Or.inr (Or.inr (Or.inr (Or.inr (Or.inr (Or.inr (Or.inr ⟨b, hb, rfl, by simp⟩))))))
  | _ => left; simpa using hm

theorem BStep.bind_out (st : BStep v v' ws gs) (y : Nat) (bt : BindType) (p : Nat) (h : Bytes)
    (hm : Msg.frame (.bind y bt p h) ∈ ws ++ v'.outq) :
    Msg.frame (.bind y bt p h) ∈ v.outq ∨ ∃ req, BEv.asked req y bt h p ∈ gs := by
  rcases st.out_new hm with h1 | h1 | ok | ⟨_, _, _, _, h1⟩ | ⟨req, _, _, _, _, h1, h2⟩ | ⟨_, _, acc, _, h1, _⟩ |
    ⟨_, _, _, _, h1, _⟩ | ⟨_, _, h1, _⟩
  · exact Or.inl h1
  · cases h1
  · exact absurd ok (by simp [OkEnq])
  · cases h1
  · cases h1; exact Or.inr ⟨req, h2⟩
  · cases acc <;> cases h1
  · cases h1
  · cases h1

theorem BStep.asked_drawn (st : BStep v v' ws gs) (req y : Nat) (bt : BindType) (h : Bytes) (p : Nat)
    (hm : BEv.asked req y bt h p ∈ gs) : (y :: v'.rng) <:+ v.rng ∨ v'.rng = [] := by
  cases st with
  | drawBind y' req' bt' host port r' hs hf ho =>
    simp only [List.mem_singleton, BEv.asked.injEq] at hm
    obtain ⟨_, rfl, _⟩ := hm
    exact hs
  | finishAll => obtain ⟨_, h⟩ := mem_refusals hm; cases h
  | _ => simp at hm

theorem BStep.asked_count (st : BStep v v' ws gs) (hn : v'.rng ≠ []) {req y : Nat} {bt : BindType} {h : Bytes} {p : Nat}
    (hm : BEv.asked req y bt h p ∈ gs) : 1 ≤ v.rng.count y := by
  have := count_lt_of_cons_suffix ((st.asked_drawn req y bt h p hm).resolve_right hn); omega

theorem BStep.accepted_why (st : BStep v v' ws gs) (req : Nat) (hm : BEv.done req .accepted ∈ gs) :
    ∃ y r, v.inbox = .msg (.frame (.finish y)) :: r ∧ (y, Slot.bindRequested req) ∈ v.flows := by
  cases st with
  | finBind y req' r hi hs =>
    simp only [List.mem_singleton, BEv.done.injEq, and_true] at hm
    subst hm
    exact ⟨y, r, hi, hs⟩
  | finishAll => obtain ⟨_, h⟩ := mem_refusals hm; cases h
  | _ => simp at hm

theorem BStep.bindq_from (st : BStep v v' ws gs) (b : BindIn) (hm : b ∈ v'.bindq) :
    b ∈ v.bindq ∨ v.park = some b ∨ ∃ r, v.inbox = .msg (.frame (.bind b.fid b.bt b.port b.host)) :: r := by
  cases st with
  | shrink v' hs => exact Or.inl (hs.bindq.subset hm)
  | offerQ b' r hi =>
    simp only [List.mem_append, List.mem_singleton] at hm
    rcases hm with hm | hm
    · exact Or.inl hm
    · subst hm; exact Or.inr (Or.inr ⟨r, hi⟩)
  | unparkQ b' hp =>
    simp only [List.mem_append, List.mem_singleton] at hm
    rcases hm with hm | hm
    · exact Or.inl hm
    · subst hm; exact Or.inr (Or.inl hp)
  | bindNext b' r hq => left; rw [hq]; exact List.mem_cons_of_mem _ hm
  | dropMux => simp at hm
  | _ => exact Or.inl hm

theorem BStep.park_from (st : BStep v v' ws gs) (b : BindIn) (hm : v'.park = some b) :
    v.park = some b ∨ ∃ r, v.inbox = .msg (.frame (.bind b.fid b.bt b.port b.host)) :: r := by
  cases st with
  | shrink v' hs =>
    rcases hs.park with h1 | h1
    · left; rw [← h1]; exact hm
    · rw [h1] at hm; cases hm
  | offerPark b' r hi =>
    simp only [Option.some.injEq] at hm
    subst hm; exact Or.inr ⟨r, hi⟩
  | unparkQ b' hp => cases hm
  | _ => exact Or.inl hm

/-- A recorded `shown`: the step is that `next_bind_request`, of the oldest queued request, and records nothing else. -/
theorem BStep.shown_inv (st : BStep v v' ws gs) (k y : Nat) (bt : BindType) (h : Bytes) (p : Nat)
    (hm : BEv.shown k y bt h p ∈ gs) :
    ∃ b r, v.bindq = b :: r ∧ b.fid = y ∧ b.bt = bt ∧ b.host = h ∧ b.port = p ∧ k = v.held.length ∧
      gs = [.shown k y bt h p] := by
  cases st with
  | bindNext b r hq =>
    simp only [List.mem_singleton, BEv.shown.injEq] at hm
    obtain ⟨rfl, rfl, rfl, rfl, rfl⟩ := hm
    exact ⟨b, r, hq, rfl, rfl, rfl, rfl, rfl, rfl⟩
  | finishAll => obtain ⟨_, h⟩ := mem_refusals hm; cases h
  | _ => simp at hm

theorem BStep.shown_from (st : BStep v v' ws gs) (k y : Nat) (bt : BindType) (h : Bytes) (p : Nat)
    (hm : BEv.shown k y bt h p ∈ gs) : ∃ b ∈ v.bindq, b.fid = y ∧ b.bt = bt ∧ b.host = h ∧ b.port = p :=
  let ⟨b, _, hq, e1, e2, e3, e4, _⟩ := st.shown_inv k y bt h p hm
  ⟨b, by rw [hq]; exact List.mem_cons_self, e1, e2, e3, e4⟩

/-- A `Finish` the step queues or hands to the transport was queued before, or its id is carried by a
    stream object, or it is the `reply(true)` on a held request of that id. -/
theorem BStep.finish_out (st : BStep v v' ws gs) (y : Nat) (hm : Msg.frame (.finish y) ∈ ws ++ v'.outq) :
    Msg.frame (.finish y) ∈ v.outq ∨ y ∈ v.fids ∨ ∃ k b, v.held[k]? = some b ∧ b.fid = y ∧ BEv.replied k true ∈ gs := by
  rcases st.out_new hm with h1 | h1 | ok | ⟨_, _, _, _, h1⟩ | ⟨_, _, _, _, _, h1, _⟩ | ⟨k, b, acc, hk, h1, h2⟩ |
    ⟨_, _, _, _, h1, _⟩ | ⟨_, _, h1, _⟩
  · exact Or.inl h1
  · cases h1
  · exact Or.inr (Or.inl ok)
  · cases h1
  · cases h1
  · cases acc
    · cases h1
    · cases h1; exact Or.inr (Or.inr ⟨k, b, hk, rfl, h2⟩)
  · cases h1
  · cases h1

theorem BStep.bindCap_eq (st : BStep v v' ws gs) : v'.bindCap = v.bindCap := by
  cases st with
  | shrink v' hs => exact hs.bindCap
  | _ => rfl

theorem BStep.dead_mono (st : BStep v v' ws gs) (h : v.dead = true) : v'.dead = true := by
  cases st with
  | shrink v' hs => exact hs.dead h
  | finishAll => rfl
  | _ => exact h

theorem BStep.fids_mono (st : BStep v v' ws gs) {y : Nat} (h : y ∈ v.fids) : y ∈ v'.fids := by
  cases st with
  | shrink v' hs => rw [hs.fids]; exact h
  | connNew y' w p hh r hi hf => exact List.mem_append_left _ h
  | ackNew y' n q r hi hs => exact List.mem_append_left _ h
  | _ => exact h

/-- A `Reset` the step queues or hands to the transport was queued before, or has one of the reasons of
    `RstOk`, or is a `reply(false)` / the drop of an unanswered held request of that id, or a queued request
    of that id rejecting itself when the `Multiplexor` is dropped. -/
theorem BStep.reset_out (st : BStep v v' ws gs) (y : Nat) (hm : Msg.frame (.reset y) ∈ ws ++ v'.outq) :
    Msg.frame (.reset y) ∈ v.outq ∨ RstOk v y ∨
    (∃ k b, v.held[k]? = some b ∧ b.fid = y ∧ (BEv.replied k false ∈ gs ∨ (BEv.dropped k ∈ gs ∧ b.replied = false))) ∨
    ((∃ b ∈ v.bindq, b.fid = y) ∧ BEv.muxDropped ∈ gs) := by
  rcases st.out_new hm with h1 | h1 | ok | ⟨_, _, _, _, h1⟩ | ⟨_, _, _, _, _, h1, _⟩ | ⟨k, b, acc, hk, h1, h2⟩ |
    ⟨k, b, hk, hr, h1, h2⟩ | ⟨b, hb, h1, h2⟩
  · exact Or.inl h1
  · cases h1
  · exact Or.inr (Or.inl ok)
  · cases h1
  · cases h1
  · cases acc
    · cases h1; exact Or.inr (Or.inr (Or.inl ⟨k, b, hk, rfl, Or.inl h2⟩))
    · cases h1
  · cases h1; exact Or.inr (Or.inr (Or.inl ⟨k, b, hk, rfl, Or.inr ⟨h2, hr⟩⟩))
  · cases h1; exact Or.inr (Or.inr (Or.inr ⟨⟨b, hb, rfl⟩, h2⟩))

/-- `refused` is recorded only for a request holding a slot: on the `Reset` of that id at the head of the
    inbox, on a dropped-handle notification for that id, or when the task finishes. -/
theorem BStep.refused_why (st : BStep v v' ws gs) (req : Nat) (hm : BEv.done req .refused ∈ gs) :
    ∃ y, (y, Slot.bindRequested req) ∈ v.flows ∧
      ((∃ r, v.inbox = .msg (.frame (.reset y)) :: r) ∨ (y ≠ 0 ∧ y ∈ v.dq) ∨ v'.dead = true) := by
  cases st with
  | refuse y req' hs why =>
    simp only [List.mem_singleton, BEv.done.injEq, and_true] at hm
    subst hm
    rcases why with w | w
    · exact ⟨y, hs, Or.inl w⟩
    · exact ⟨y, hs, Or.inr (Or.inl w)⟩
  | finishAll =>
    simp only [List.mem_filterMap] at hm
    obtain ⟨p, hp, hq⟩ := hm
    obtain ⟨y, s⟩ := p
    cases s with
    | bindRequested r =>
      simp only [Option.some.injEq, BEv.done.injEq, and_true] at hq
      subst hq
      exact ⟨y, hp, Or.inr (Or.inr rfl)⟩
    | requested r => cases hq
    | established i => cases hq
  | _ => simp at hm

theorem BStep.dropped_why (st : BStep v v' ws gs) (k : Nat) (hm : BEv.dropped k ∈ gs) : ∃ b, v.held[k]? = some b := by
  cases st with
  | dropReq k' b hk =>
    simp only [List.mem_singleton, BEv.dropped.injEq] at hm
    subst hm
    exact ⟨b, hk⟩
  | finishAll => obtain ⟨_, h⟩ := mem_refusals hm; cases h
  | _ => simp at hm

theorem BStep.srcEnded_back (st : BStep v v' ws gs) (h : v'.srcEnded = true) :
    v.srcEnded = true ∨ ∃ w ∈ v.inbox, (w == .eof || w == .err) = true := by
  cases st with
  | shrink v' hs => exact hs.srcEnded h
  | _ => exact Or.inl h

theorem BStep.deaf_back (st : BStep v v' ws gs) (h : deafV v' = true) : deafV v = true := by
  simp only [deafV, Bool.or_eq_true, List.any_eq_true] at h ⊢
  rcases h with h | ⟨w, hw, he⟩
  · rcases st.srcEnded_back h with h1 | ⟨w, hw, he⟩
    · exact Or.inl h1
    · exact Or.inr ⟨w, hw, by simpa using he⟩
  · exact Or.inr ⟨w, st.inbox_suffix.subset hw, he⟩

theorem BStep.outClosed_mono (st : BStep v v' ws gs) (h : v.outClosed = true) : v'.outClosed = true := by
  cases st with
  | shrink v' hs => exact hs.outClosed h
  | _ => exact h

theorem ans_inMsgs_frame_cons (y : Nat) (f : Frame) (r : List WsIn) (h : ansOf y (.frame f) = none) :
    ans y (inMsgs r) = ans y (inMsgs (.msg (.frame f) :: r)) := by
  simp [inMsgs, ans, h]

theorem BStep.pop_guard (st : BStep v v' ws gs) (y r : Nat) (hl : lookup v.flows y = some (.bindRequested r)) :
    ans y (inMsgs v'.inbox) = ans y (inMsgs v.inbox) := by
  cases st with
  | shrink v' hs => exact hs.pops y r hl
  | connNew y' w p hh r' hi hf => simp only; rw [hi]; exact ans_inMsgs_frame_cons y _ r' rfl
  | ackNew y' n q r' hi hs => simp only; rw [hi]; exact ans_inMsgs_frame_cons y _ r' rfl
  | offerQ b r' hi => simp only; rw [hi]; exact ans_inMsgs_frame_cons y _ r' rfl
  | offerPark b r' hi => simp only; rw [hi]; exact ans_inMsgs_frame_cons y _ r' rfl
  | _ => rfl

theorem mem_insert {fl : List (Nat × Slot)} {y : Nat} {s : Slot} {p : Nat × Slot} (h : p ∈ Mux.insert fl y s) :
    p = (y, s) ∨ p ∈ fl := Mux.mem_insert h

theorem BStep.pending_back (st : BStep v v' ws gs) (x r : Nat) (hm : (x, Slot.bindRequested r) ∈ v'.flows) :
    (x, Slot.bindRequested r) ∈ v.flows ∨ ∃ bt h p, BEv.asked r x bt h p ∈ gs := by
  cases st with
  | shrink v' hs => exact Or.inl (hs.flows.subset hm)
  | drawOpen y' q r' w p hh hs hf ho =>
    rcases mem_insert hm with h1 | h1
    · cases h1
    · exact Or.inl h1
  | drawBind y' req bt host port r' hs hf ho =>
    rcases mem_insert hm with h1 | h1
    · simp only [Prod.mk.injEq, Slot.bindRequested.injEq] at h1
      obtain ⟨rfl, rfl⟩ := h1
      exact Or.inr ⟨bt, host, port, by simp⟩
    · exact Or.inl h1
  | connNew y' w p hh r' hi hf =>
    rcases mem_insert hm with h1 | h1
    · cases h1
    · exact Or.inl h1
  | ackNew y' n q r' hi hs =>
    rcases mem_insert hm with h1 | h1
    · cases h1
    · exact Or.inl h1
  | finishAll => simp at hm
  | _ => exact Or.inl hm

/-- What the step hands to the transport, followed by what it leaves queued, is (after Close messages) what
    was queued followed by something new — nothing new if the queue is closed; or the queue was dropped and
    closed and nothing was sent. -/
theorem BStep.out_seq (st : BStep v v' ws gs) :
    (∃ pre new, ws ++ v'.outq = pre ++ v.outq ++ new ∧ (∀ m ∈ pre, m = Msg.close) ∧ (v.outClosed = true → new = [])) ∨
    (ws = [] ∧ v'.outq = [] ∧ v'.outClosed = true) := by
  have same : v'.outq = v.outq → ws = [] →
      (∃ pre new, ws ++ v'.outq = pre ++ v.outq ++ new ∧ (∀ m ∈ pre, m = Msg.close) ∧ (v.outClosed = true → new = [])) ∨
      (ws = [] ∧ v'.outq = [] ∧ v'.outClosed = true) := fun h1 h2 =>
    Or.inl ⟨[], [], by simp [h1, h2], by simp, fun _ => rfl⟩
  cases st with
  | emit m r ho => exact Or.inl ⟨[], [], by simp [ho], by simp, fun _ => rfl⟩
  | sendClose => exact Or.inl ⟨[.close], [], by simp, by simp, fun _ => rfl⟩
  | shrink v' hs =>
    rcases hs.outq with h1 | ⟨h1, h2⟩
    · exact same h1 rfl
    · exact Or.inr ⟨rfl, h1, h2⟩
  | enq m hc ok => exact Or.inl ⟨[], [m], rfl, by simp, fun h => by rw [hc] at h; cases h⟩
  | drawOpen y q r' w p hh hs hf ho => exact Or.inl ⟨[], [_], rfl, by simp, fun h => by rw [ho] at h; cases h⟩
  | drawBind y req bt host port r' hs hf ho => exact Or.inl ⟨[], [_], rfl, by simp, fun h => by rw [ho] at h; cases h⟩
  | reply k b acc hk hal ho => exact Or.inl ⟨[], [_], rfl, by simp, fun h => by rw [ho] at h; cases h⟩
  | dropReq k b hk =>
    by_cases hc : (b.replied || v.outClosed) = true
    · exact Or.inl ⟨[], [], by simp [hc], by simp, fun _ => rfl⟩
    · refine Or.inl ⟨[], [Msg.frame (.reset b.fid)], by simp [hc], by simp, fun h => ?_⟩
      simp [h] at hc
  | dropMux =>
    by_cases hc : v.outClosed = true
    · exact Or.inl ⟨[], [], by simp [hc], by simp, fun _ => rfl⟩
    · exact Or.inl ⟨[], v.bindq.map (fun b => Msg.frame (.reset b.fid)), by simp [hc], by simp, fun h => absurd h hc⟩
  | _ => exact same rfl rfl

theorem BStep.reply_out (st : BStep v v' ws gs) (k : Nat) (acc : Bool) (hm : BEv.replied k acc ∈ gs) :
    ∃ b, v.held[k]? = some b ∧ b.alive = true ∧ v.outClosed = false ∧ ws = [] ∧
      v'.outq = v.outq ++ [.frame (if acc then .finish b.fid else .reset b.fid)] := by
  cases st with
  | reply k' b acc' hk hal ho =>
    simp only [List.mem_singleton, BEv.replied.injEq] at hm
    obtain ⟨rfl, rfl⟩ := hm
    exact ⟨b, hk, hal, ho, rfl, rfl⟩
  | finishAll => obtain ⟨_, h⟩ := mem_refusals hm; cases h
  | _ => simp at hm

theorem BStep.shown_k (st : BStep v v' ws gs) (k y : Nat) (bt : BindType) (h : Bytes) (p : Nat)
    (hm : BEv.shown k y bt h p ∈ gs) : k = v.held.length ∧ ∀ k' acc, BEv.replied k' acc ∉ gs :=
  let ⟨_, _, _, _, _, _, _, hk, hg⟩ := st.shown_inv k y bt h p hm
  ⟨hk, by rw [hg]; simp⟩

end Penguin.BindAll
