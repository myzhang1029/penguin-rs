/-
Datagrams never disturb anything else — part 1: the connection task.

`strip e q` is the state `e` with another datagram queue `q` and with every not yet processed `Datagram`
frame in the inbox replaced by a `Ping` (`neutral`; the task reads a `Ping` and ignores it).  This file
proves, for EVERY function of the connection task (`processFrame` … `settleLoop`, `settle`, the wind-down
in all its forms), that it commutes with `strip`: run on the stripped state — fed `Ping`s where the real
run is fed `Datagram` frames — it produces the stripped result, the same events and the same verdict.
In other words: nothing the task does, except appending to `dgramq`, depends on the datagram queue or on
the contents, size or number of `Datagram` frames.  A lemma that is applied to states written as record
updates is stated as `e' = strip e q → f e' … = stripR (f e …) q`, the others on `strip e q` itself.
The statement compares two runs of the model, from `e` and from `strip e q`; a `Walk R` (`Lemmas/MuxLeaves`)
speaks of one run, `R e (f e).1 …`, so this file goes through the task's loop itself.
Core Lean only.
-/
import Penguin.Lemmas.MuxDgramHist
import Penguin.Lemmas.MuxSettle
import Penguin.Lemmas.MuxStep

namespace Penguin.Mux

/-- A `Datagram` frame read from the transport is replaced by a `Ping` (which the task reads and
    ignores); everything else stays. -/
def neutral : WsIn → WsIn
  | .msg (.frame (.datagram _ _ _ _)) => .msg .ping
  | w => w

def neutralOp : Op → Op
  | .deliver w => .deliver (neutral w)
  | op => op

def strip (e : EP) (q : List Dgram) : EP := { e with dgramq := q, inbox := e.inbox.map neutral }

def stripR {α : Type} (r : EP × α) (q : List Dgram) : EP × α := (strip r.1 q, r.2)

@[simp] theorem strip_opts (e : EP) (q : List Dgram) : (strip e q).opts = e.opts := rfl
@[simp] theorem strip_flows (e : EP) (q : List Dgram) : (strip e q).flows = e.flows := rfl
@[simp] theorem strip_objs (e : EP) (q : List Dgram) : (strip e q).objs = e.objs := rfl
@[simp] theorem strip_handles (e : EP) (q : List Dgram) : (strip e q).handles = e.handles := rfl
@[simp] theorem strip_outq (e : EP) (q : List Dgram) : (strip e q).outq = e.outq := rfl
@[simp] theorem strip_outClosed (e : EP) (q : List Dgram) : (strip e q).outClosed = e.outClosed := rfl
@[simp] theorem strip_acceptq (e : EP) (q : List Dgram) : (strip e q).acceptq = e.acceptq := rfl
@[simp] theorem strip_bindq (e : EP) (q : List Dgram) : (strip e q).bindq = e.bindq := rfl
@[simp] theorem strip_held (e : EP) (q : List Dgram) : (strip e q).held = e.held := rfl
@[simp] theorem strip_droppedq (e : EP) (q : List Dgram) : (strip e q).droppedq = e.droppedq := rfl
@[simp] theorem strip_opens (e : EP) (q : List Dgram) : (strip e q).opens = e.opens := rfl
@[simp] theorem strip_rng (e : EP) (q : List Dgram) : (strip e q).rng = e.rng := rfl
@[simp] theorem strip_fallback (e : EP) (q : List Dgram) : (strip e q).fallback = e.fallback := rfl
@[simp] theorem strip_park (e : EP) (q : List Dgram) : (strip e q).park = e.park := rfl
@[simp] theorem strip_closing (e : EP) (q : List Dgram) : (strip e q).closing = e.closing := rfl
@[simp] theorem strip_srcEnded (e : EP) (q : List Dgram) : (strip e q).srcEnded = e.srcEnded := rfl
@[simp] theorem strip_retryq (e : EP) (q : List Dgram) : (strip e q).retryq = e.retryq := rfl
@[simp] theorem strip_doneq (e : EP) (q : List Dgram) : (strip e q).doneq = e.doneq := rfl
@[simp] theorem strip_sinkRoom (e : EP) (q : List Dgram) : (strip e q).sinkRoom = e.sinkRoom := rfl
@[simp] theorem strip_draining (e : EP) (q : List Dgram) : (strip e q).draining = e.draining := rfl
@[simp] theorem strip_muxAlive (e : EP) (q : List Dgram) : (strip e q).muxAlive = e.muxAlive := rfl
@[simp] theorem strip_dead (e : EP) (q : List Dgram) : (strip e q).dead = e.dead := rfl
@[simp] theorem strip_dgramq (e : EP) (q : List Dgram) : (strip e q).dgramq = q := rfl
@[simp] theorem strip_inbox (e : EP) (q : List Dgram) : (strip e q).inbox = e.inbox.map neutral := rfl
@[simp] theorem stripR_fst {α : Type} (r : EP × α) (q : List Dgram) : (stripR r q).1 = strip r.1 q := rfl
@[simp] theorem stripR_snd {α : Type} (r : EP × α) (q : List Dgram) : (stripR r q).2 = r.2 := rfl

theorem enq_strip {e e' : EP} {q : List Dgram} (h : e' = strip e q) (m : Msg) : e'.enq m = strip (e.enq m) q := by
  subst h
  unfold EP.enq strip
  dsimp only
  split <;> rfl

theorem openRound_strip {e e' : EP} {q : List Dgram} (h : e' = strip e q) (r : OpenReq) :
    openRound e' r = stripR (openRound e r) q := by
  subst h
  unfold Mux.openRound EP.enqFrame EP.enq strip stripR
  dsimp only
  repeat' split
  all_goals rfl

theorem openRejected_strip {e e' : EP} {q : List Dgram} (h : e' = strip e q) (req : Nat) (final : Bool) :
    openRejected e' req final = stripR (openRejected e req final) q := by
  subst h
  unfold Mux.openRejected strip stripR
  dsimp only
  repeat' split
  all_goals rfl

theorem closeLocal_strip {e e' : EP} {q : List Dgram} (h : e' = strip e q) (s : Slot) (fid : Nat) (inh final : Bool) :
    closeLocal e' s fid inh final = stripR (closeLocal e s fid inh final) q := by
  subst h
  unfold Mux.closeLocal Mux.openRejected EP.enqFrame EP.enq EP.modObj EP.obj? strip stripR
  dsimp only
  repeat' split
  all_goals rfl

theorem closeFlow_strip {e e' : EP} {q : List Dgram} (h : e' = strip e q) (fid : Nat) (inh : Bool) :
    closeFlow e' fid inh = stripR (closeFlow e fid inh) q := by
  subst h
  unfold Mux.closeFlow
  rw [show (strip e q).flows = e.flows from rfl]
  split
  · rfl
  · exact closeLocal_strip (by rfl) _ _ _ _

theorem offerAccept_strip {e e' : EP} {q : List Dgram} (h : e' = strip e q) (i : Nat) :
    offerAccept e' i = strip (offerAccept e i) q := by
  subst h
  unfold Mux.offerAccept strip
  dsimp only
  split <;> rfl

theorem offerBind_strip {e e' : EP} {q : List Dgram} (h : e' = strip e q) (b : BindIn) :
    offerBind e' b = strip (offerBind e b) q := by
  subst h
  unfold Mux.offerBind strip
  dsimp only
  split <;> rfl

theorem enqFrame_strip {e e' : EP} {q : List Dgram} (h : e' = strip e q) (f : Frame) :
    e'.enqFrame f = strip (e.enqFrame f) q := enq_strip h _

/-- A conditional whose test does not look at the datagrams commutes with `strip` if its branches do.  Applied
    with `refine`, the two tests are compared by unfolding `strip` once, and the branches are never traversed. -/
theorem ite_stripR {α : Type} {c : Prop} [Decidable c] {q : List Dgram} {a' b' a b : EP × α}
    (ha : a' = stripR a q) (hb : b' = stripR b q) : (if c then a' else b') = stripR (if c then a else b) q := by
  split
  · exact ha
  · exact hb

/-- The end of `con_recv_new_stream`: the new stream is offered to `accept`, or dropped when nobody can accept. -/
theorem offerNew_strip {e e' : EP} {q : List Dgram} (h : e' = strip e q) (i fid : Nat) :
    (if !e'.muxAlive then
        (({ (e'.modObj i (fun o => { o with rxOpen := false })) with droppedq := e'.droppedq ++ [fid] } : EP),
          ([] : List Ev), (none : Option ExitRes))
      else (offerAccept e' i, [], none)) =
    stripR (if !e.muxAlive then
        ({ (e.modObj i (fun o => { o with rxOpen := false })) with droppedq := e.droppedq ++ [fid] }, [], none)
      else (offerAccept e i, [], none)) q := by
  subst h
  exact ite_stripR rfl (congrArg (·, [], none) (offerAccept_strip rfl _))

/-- `process_frame` on anything but a `Datagram` frame neither reads nor writes the datagram queue. -/
theorem processFrame_strip {e e' : EP} {q : List Dgram} (h : e' = strip e q) (f : Frame) (ig : Bool)
    (hf : dgOfFrame f = none) : processFrame e' f ig = stripR (processFrame e f ig) q := by
  subst h
  cases f with
  | datagram fid port host d => simp [dgOfFrame] at hf
  | connect fid rwnd port host =>
    unfold Mux.processFrame
    refine ite_stripR (congrArg (·, [], none) (enqFrame_strip rfl _)) (ite_stripR rfl (offerNew_strip ?_ _ _))
    exact enqFrame_strip (by rfl) _
  | acknowledge fid n =>
    unfold Mux.processFrame EP.enqFrame EP.enq EP.modObj strip stripR
    dsimp only
    repeat' split
    all_goals rfl
  | finish fid =>
    unfold Mux.processFrame EP.enqFrame EP.enq EP.modObj strip stripR
    dsimp only
    repeat' split
    all_goals rfl
  | reset fid =>
    simp only [Mux.processFrame]
    rw [closeFlow_strip rfl]
    rfl
  | push fid d =>
    simp only [Mux.processFrame]
    rw [closeFlow_strip (e := e) (q := q) rfl]
    unfold EP.enqFrame EP.enq EP.modObj EP.obj? strip stripR
    dsimp only
    repeat' split
    all_goals rfl
  | bind fid bt port host =>
    unfold Mux.processFrame
    exact ite_stripR (congrArg (·, [], none) (enqFrame_strip rfl _)) (ite_stripR rfl
      (ite_stripR (congrArg (·, [], none) (enqFrame_strip rfl _)) (congrArg (·, [], none) (offerBind_strip rfl _))))

/-- `neutral` moves nothing onto and nothing off an item that it leaves alone, other than `Ping`. -/
theorem neutral_eq_iff {c : WsIn} (hc : neutral c = c) (hp : c ≠ .msg .ping) (w : WsIn) : neutral w = c ↔ w = c := by
  have hw : neutral w = w ∨ neutral w = .msg .ping := by
    cases w with
    | msg m => cases m with
      | frame f => cases f <;> first | exact .inl rfl | exact .inr rfl
      | _ => exact .inl rfl
    | _ => exact .inl rfl
  rcases hw with h | h
  · rw [h]
  · rw [h]
    exact ⟨fun hh => absurd hh.symm hp, fun hh => absurd (hc ▸ hh ▸ h) hp⟩

theorem neutral_ne_err (w : WsIn) : neutral w = .err ↔ w = .err := neutral_eq_iff (c := .err) rfl nofun w

theorem neutral_ne_eof (w : WsIn) : neutral w = .eof ↔ w = .eof := neutral_eq_iff (c := .eof) rfl nofun w

theorem neutral_ne_close (w : WsIn) : neutral w = .msg .close ↔ w = .msg .close :=
  neutral_eq_iff (c := .msg .close) rfl nofun w

/-- One item read from the transport: a `Datagram` frame on one side, a `Ping` on the other. -/
theorem processIn_strip {e e' : EP} {q : List Dgram} (h : e' = strip e q) (w : WsIn) (ig : Bool) :
    processIn e' (neutral w) ig = stripR (processIn e w ig) q := by
  subst h
  cases w with
  | msg m =>
    cases m with
    | frame f =>
      cases f with
      | datagram fid port host d =>
        simp only [neutral, Mux.processIn, Mux.processFrame]
        unfold strip stripR
        repeat' split
        all_goals rfl
      | _ => simp only [neutral, Mux.processIn]; exact processFrame_strip rfl _ ig rfl
    | _ => rfl
  | _ => rfl

/-! ### Wind-down -/

theorem drainFlows_strip (l : List (Nat × Slot)) {e e' : EP} {q : List Dgram} (h : e' = strip e q) :
    drainFlows e' l = stripR (drainFlows e l) q := by
  induction l generalizing e e' with
  | nil => subst h; rfl
  | cons p l ih =>
    obtain ⟨fid, s⟩ := p
    simp only [Mux.drainFlows]
    rw [closeLocal_strip h]
    simp only [stripR]
    rw [ih (e := (closeLocal e s fid true true).1) rfl]
    rfl

theorem windDownFinish_strip {e e' : EP} {q : List Dgram} (h : e' = strip e q) (res : ExitRes) :
    windDownFinish e' res = stripR (windDownFinish e res) q := by
  subst h
  simp only [Mux.windDownFinish]
  rw (transparency := .default) [drainFlows_strip (e := { e with flows := [] }) (q := q) (strip e q).flows rfl]
  rfl

theorem windDownInbox_cons (e : EP) (w : WsIn) (rest : List WsIn) (h1 : w ≠ .err) (h2 : w ≠ .eof) :
    windDownInbox e (w :: rest) =
      ((windDownInbox { (processIn e w true).1 with park := none } rest).1,
       (processIn e w true).2.1 ++ (windDownInbox { (processIn e w true).1 with park := none } rest).2.1,
       (windDownInbox { (processIn e w true).1 with park := none } rest).2.2) := by
  cases w with
  | err => exact absurd rfl h1
  | eof => exact absurd rfl h2
  | msg m => simp only [Mux.windDownInbox]
  | bad b => simp only [Mux.windDownInbox]

theorem windDownInbox_strip (l : List WsIn) {e e' : EP} {q : List Dgram} (h : e' = strip e q) :
    windDownInbox e' (l.map neutral) = stripR (windDownInbox e l) q := by
  induction l generalizing e e' with
  | nil => subst h; rfl
  | cons w l ih =>
    by_cases h1 : w = .err
    · subst h1 h; rfl
    · by_cases h2 : w = .eof
      · subst h2 h; rfl
      · rw [List.map_cons, windDownInbox_cons _ _ _ (fun hh => h1 ((neutral_ne_err w).mp hh))
          (fun hh => h2 ((neutral_ne_eof w).mp hh)), windDownInbox_cons _ _ _ h1 h2, processIn_strip h]
        simp only [stripR]
        rw (transparency := .default) [ih (e := { (processIn e w true).1 with park := none }) rfl]
        rfl

theorem windDownInbox_strip_self (e : EP) (q : List Dgram) :
    windDownInbox (strip e q) (strip e q).inbox = stripR (windDownInbox e e.inbox) q :=
  windDownInbox_strip e.inbox rfl

theorem disallowAll_strip (l : List (Nat × Slot)) {e e' : EP} {q : List Dgram} (h : e' = strip e q) :
    disallowAll e' l = strip (disallowAll e l) q := by
  induction l generalizing e e' with
  | nil => subst h; rfl
  | cons p l ih =>
    obtain ⟨fid, s⟩ := p
    cases s with
    | established i =>
      simp only [Mux.disallowAll]
      exact ih (by subst h; rfl)
    | requested r => simp only [Mux.disallowAll]; exact ih h
    | bindRequested r => simp only [Mux.disallowAll]; exact ih h

theorem windDownPrep_strip {e e' : EP} {q : List Dgram} (h : e' = strip e q) :
    windDownPrep e' = strip (windDownPrep e) q := by
  subst h
  simp only [Mux.windDownPrep]
  rw [disallowAll_strip (e := e) (q := q) (strip e q).flows rfl]
  rfl

theorem dropPrep_strip {e e' : EP} {q : List Dgram} (h : e' = strip e q) :
    dropPrep e' = strip (dropPrep e) q := by
  subst h
  simp only [Mux.dropPrep]
  rw [disallowAll_strip (e := e) (q := q) (strip e q).flows rfl]
  rfl

theorem sendSome_strip {e e' : EP} {q : List Dgram} (h : e' = strip e q) :
    sendSome e' = stripR (sendSome e) q := by
  subst h
  unfold Mux.sendSome strip stripR
  dsimp only
  split <;> rfl

theorem windDownTail_strip {e e' : EP} {q : List Dgram} (h : e' = strip e q) (flushed : List Ev) (se : Bool)
    (res : ExitRes) : windDownTail e' flushed se res = stripR (windDownTail e flushed se res) q := by
  subst h
  simp only [Mux.windDownTail, windDownInbox_strip_self]
  simp only [stripR]
  rw (transparency := .default) [windDownFinish_strip (e := { (windDownInbox e e.inbox).1 with inbox := [] }) (q := q) rfl]
  by_cases hc : ((windDownInbox e e.inbox).2.2 || se || res != .ok) = true
  · simp only [hc, if_true]; rfl
  · simp only [hc]; rfl

theorem windDown_strip {e e' : EP} {q : List Dgram} (h : e' = strip e q) (drain : Bool) (res : ExitRes) :
    windDown e' drain res = stripR (windDown e drain res) q := by
  subst h
  simp only [Mux.windDown]
  rw [dropPrep_strip (e := e) (q := q) rfl, sendSome_strip (e := dropPrep e) (q := q) rfl,
    windDownPrep_strip (e := e) (q := q) rfl]
  simp only [stripR_fst, stripR_snd, strip_outq, strip_srcEnded]
  rw [windDownTail_strip (e := (sendSome (dropPrep e)).1) (q := q) rfl,
    windDownTail_strip (e := windDownPrep e) (q := q) rfl]
  cases drain with
  | false => simp only [Bool.false_eq_true, if_false]
  | true =>
    simp only [if_true]
    by_cases hc : (sendSome (dropPrep e)).1.outq.isEmpty = true
    · simp only [hc, if_true]
    · simp only [hc]; rfl

/-! ### The task's loops -/

theorem unpark_strip {e e' : EP} {q : List Dgram} (h : e' = strip e q) : unpark e' = strip (unpark e) q := by
  subst h
  unfold Mux.unpark EP.enqFrame EP.enq EP.modObj strip
  dsimp only
  repeat' split
  all_goals rfl

theorem drainStep_strip {e e' : EP} {q : List Dgram} (h : e' = strip e q) (res : ExitRes) :
    drainStep e' res = stripR (drainStep e res) q := by
  subst h
  simp only [Mux.drainStep]
  rw [sendSome_strip (e := e) (q := q) rfl]
  simp only [stripR_fst, stripR_snd, strip_outq, strip_srcEnded]
  rw (transparency := .default) [windDownTail_strip (e := { (sendSome e).1 with draining := none }) (q := q) rfl]
  by_cases hc : (sendSome e).1.outq.isEmpty = true
  · simp only [hc, if_true]
  · simp only [hc]; rfl

theorem closingStep_strip {e e' : EP} {q : List Dgram} (h : e' = strip e q) (res : ExitRes) :
    closingStep e' res = stripR (closingStep e res) q := by
  subst h
  simp only [Mux.closingStep, windDownInbox_strip_self]
  simp only [stripR_fst, stripR_snd]
  rw (transparency := .default) [windDownFinish_strip (e := { (windDownInbox e e.inbox).1 with inbox := [] }) (q := q) rfl]
  by_cases hc : (windDownInbox e e.inbox).2.2 = true
  · simp only [hc, if_true]; rfl
  · simp only [hc]; rfl

theorem recvOne_strip {e e' : EP} {q : List Dgram} (h : e' = strip e q) (w : WsIn) (rest : List WsIn) :
    recvOne e' (neutral w) (rest.map neutral) = stripR (recvOne e w rest) q := by
  subst h
  simp only [Mux.recvOne, neutral_ne_eof, neutral_ne_err]
  exact processIn_strip (by split <;> rfl) w false

theorem recvCase_strip {α : Type} (u : EP) (q : List Dgram) (A A' : WsIn → List WsIn → EP × α) (B B' : EP × α)
    (hA : ∀ w rest, A' (neutral w) (rest.map neutral) = stripR (A w rest) q) (hB : B' = stripR B q) :
    recvCase (strip u q).park (strip u q).inbox A' B' = stripR (recvCase u.park u.inbox A B) q := by
  rw [strip_park, strip_inbox]
  cases hp : u.park with
  | some p => exact hB
  | none =>
    cases hi : u.inbox with
    | nil => exact hB
    | cons w rest => exact hA w rest

theorem settleLoop_strip (fuel : Nat) {e e' : EP} {q : List Dgram} (h : e' = strip e q) (acc : List Ev) :
    settleLoop fuel e' acc = stripR (settleLoop fuel e acc) q := by
  induction fuel generalizing e e' acc with
  | zero => subst h; rfl
  | succ n ih =>
    subst h
    rw [settleLoop_succ, settleLoop_succ]
    simp only [strip_dead, strip_draining, strip_closing]
    by_cases hd : e.dead = true
    · simp only [hd, if_true]; rfl
    · simp only [hd]
      cases hdr : e.draining with
      | some res =>
        simp only []
        rw [drainStep_strip (e := e) (q := q) rfl]; rfl
      | none =>
        simp only []
        cases hcl : e.closing with
        | some res =>
          simp only []
          rw [closingStep_strip (e := e) (q := q) rfl]; rfl
        | none =>
          simp only []
          rw [unpark_strip (e := e) (q := q) rfl]
          refine recvCase_strip (unpark e) q _ _ _ _ (fun w rest => ?_) ?_
          · unfold recvBranch
            rw [recvOne_strip (e := unpark e) (q := q) rfl]
            simp only [stripR_fst, stripR_snd]
            cases hr : (recvOne (unpark e) w rest).2.2 with
            | some r =>
              simp only []
              rw [windDown_strip (e := (recvOne (unpark e) w rest).1) (q := q) rfl]; rfl
            | none =>
              simp only []
              exact ih rfl _
          · unfold notifBranch
            rw [strip_droppedq]
            cases hq : (unpark e).droppedq with
            | nil => rfl
            | cons fid rest =>
              cases fid with
              | zero =>
                simp only []
                rw (transparency := .default) [windDown_strip (e := { unpark e with droppedq := rest }) (q := q) rfl]; rfl
              | succ k =>
                simp only []
                rw (transparency := .default) [closeFlow_strip (e := { unpark e with droppedq := rest }) (q := q) rfl]
                exact ih rfl _

theorem runRetries_strip (l : List Nat) {e e' : EP} {q : List Dgram} (h : e' = strip e q) :
    runRetries e' l = stripR (runRetries e l) q := by
  induction l generalizing e e' with
  | nil => subst h; rfl
  | cons req rest ih =>
    subst h
    rw [Mux.runRetries, Mux.runRetries, strip_opens]
    cases hf : e.opens.find? (·.req = req) with
    | none => simp only []; exact ih rfl
    | some r =>
      simp only []
      rw [openRound_strip (e := e) (q := q) rfl, stripR_fst, stripR_snd, ih (e := (openRound e r).1) rfl]
      rfl

theorem runDone_strip (l : List (Nat × Nat)) {e e' : EP} {q : List Dgram} (h : e' = strip e q) :
    runDone e' l = stripR (runDone e l) q := by
  induction l generalizing e e' with
  | nil => subst h; rfl
  | cons x rest ih =>
    obtain ⟨req, i⟩ := x
    subst h
    rw [Mux.runDone, Mux.runDone]
    simp only [strip_handles]
    rw (transparency := .default) [ih (e := { e with handles := e.handles ++ [i] }) rfl]
    rfl

theorem holdSend_strip (q : List Dgram) (e : EP) : holdSend (strip e q) = stripR (holdSend e) q := by
  unfold holdSend
  rw [strip_dead, strip_draining]
  cases e.dead || e.draining.isSome
  · exact sendSome_strip rfl
  · rfl

theorem runDoneq_strip (q : List Dgram) (e : EP) : runDoneq (strip e q) = stripR (runDoneq e) q :=
  runDone_strip _ rfl

theorem runRetryq_strip (q : List Dgram) (e : EP) : runRetryq (strip e q) = stripR (runRetryq e) q :=
  runRetries_strip _ rfl

theorem thenRun_strip {f : EP → EP × List Ev} {q : List Dgram} (hf : ∀ e, f (strip e q) = stripR (f e) q)
    (r : EP × List Ev) : thenRun (stripR r q) f = stripR (thenRun r f) q := by
  unfold thenRun
  rw [stripR_fst, hf]
  rfl

theorem settle_strip {e e' : EP} {q : List Dgram} (h : e' = strip e q) : settle e' = stripR (settle e) q := by
  subst h
  rw [Mux.settle_eq, Mux.settle_eq, strip_inbox, List.length_map, strip_droppedq, settleLoop_strip _ (e := e) (q := q) rfl]
  iterate 3 rw [thenRun_strip]
  · exact holdSend_strip q
  · intro e1
    rw [runDoneq_strip]
    exact thenRun_strip (runRetryq_strip q) _
  · exact holdSend_strip q

end Penguin.Mux
