/-
`Display` then `from_str` on a well-formed `Remote` (C01 glue): the side conditions, and the proof
that they suffice.  (That each of them is needed is shown by the examples next to the theorem in
`Props/C01.lean`.)
-/
import Penguin.Lemmas.RemoteSpecParse

namespace Penguin.RemoteSpec
open Penguin.Constants

/-- What a host must satisfy to survive `Display` followed by `from_str`:
    * not empty (an empty host is displayed as nothing: `:80:…` is an empty segment);
    * with a `:` in it (displayed in brackets) it contains no `]` (the tokenizer stops at the first);
    * without a `:` (displayed bare) it does not start with `[`;
    * `idna::domain_to_ascii` leaves it alone (the parser stores idna's answer, not the text). -/
def HostOK (o : Oracle) (h : Str) : Prop :=
  h ≠ [] ∧ (':' ∈ h → ']' ∉ h) ∧ (':' ∉ h → h.head? ≠ some '[') ∧ o.idna h = some h

/-- `to_lowercase` leaves `tcp` and `udp` alone. -/
def OracleOK (o : Oracle) : Prop := o.lower kwTcp = kwTcp ∧ o.lower kwUdp = kwUdp

/-- The well-formed remotes: ports are `u16`s; hosts as above; a socket path contains no `]`; the
    combination is one the parser lets through (no `socks`/`http` with udp, no unix socket with udp
    or `tproxy`, no `stdio` with `tproxy`); and a local HOST called `stdio` has a fixed target
    (`stdio:80:socks` is read as the stdio form with host `80` and port `socks`). -/
def Remote.WF (o : Oracle) (r : Remote) : Prop :=
  (match r.localAddr with
    | .inet h p => HostOK o h ∧ p ≤ u16Max ∧ (h = kwStdio → ∃ rh rp, r.remoteAddr = .inet rh rp)
    | .stdio => r.remoteAddr ≠ .tproxy
    | .domainSocket path => ']' ∉ path ∧ r.protocol = .tcp ∧ r.remoteAddr ≠ .tproxy) ∧
  (match r.remoteAddr with
    | .inet h p => HostOK o h ∧ p ≤ u16Max
    | .socks => r.protocol = .tcp
    | .http => r.protocol = .tcp
    | .tproxy => True)

/-! ### Tokens of a displayed remote -/

def hostTok (h : Str) : Tok := ⟨h, decide (':' ∈ h)⟩
def portTok (n : Nat) : Tok := ⟨showPort n, false⟩
def bareTok (t : Str) : Tok := ⟨t, false⟩
def unixTok (path : Str) : Tok := ⟨unixPrefix ++ path, true⟩

theorem hostTok_render (h : Str) : (hostTok h).render = addBrackets h := by
  unfold hostTok Tok.render addBrackets
  by_cases hc : ':' ∈ h <;> simp [hc]

theorem hostTok_wf {o : Oracle} {h : Str} (hh : HostOK o h) : (hostTok h).WF := by
  obtain ⟨h1, h2, h3, _⟩ := hh
  refine ⟨h1, ?_⟩
  unfold hostTok
  by_cases hc : ':' ∈ h
  · have hd : decide (':' ∈ h) = true := by simp [hc]
    simp only [hd, if_true]; exact h2 hc
  · have hd : decide (':' ∈ h) = false := by simp [hc]
    simp only [hd, Bool.false_eq_true, if_false]; exact ⟨hc, h3 hc⟩

theorem allDigits_not_mem {ds : Str} {c : Char} (hd : AllDigits ds) (hc : c.isDigit = false) : c ∉ ds :=
  fun hm => by rw [hd c hm] at hc; cases hc

theorem allDigits_head {ds : Str} {c : Char} (hd : AllDigits ds) (hc : c.isDigit = false) : ds.head? ≠ some c := by
  cases ds with
  | nil => simp
  | cons x xs =>
    simp; intro e
    have := hd x (by simp)
    rw [e] at this; rw [this] at hc; cases hc

theorem portTok_wf (n : Nat) : (portTok n).WF :=
  ⟨showPort_ne_nil n, by
    simp only [portTok, Bool.false_eq_true, if_false]
    exact ⟨allDigits_not_mem (showPort_allDigits n) (by decide), allDigits_head (showPort_allDigits n) (by decide)⟩⟩

theorem portTok_render (n : Nat) : (portTok n).render = showPort n := by simp [portTok, Tok.render]

theorem unixTok_wf {path : Str} (h : ']' ∉ path) : (unixTok path).WF := by
  refine ⟨by simp [unixTok, unixPrefix_eq], ?_⟩
  simp only [unixTok, if_true]
  simp [unixPrefix_eq, h]

theorem bareTok_render (t : Str) : (bareTok t).render = t := by simp [bareTok, Tok.render]

theorem unixTok_render (path : Str) : (unixTok path).render = '[' :: unixPrefix ++ path ++ [']'] := by
  simp [unixTok, Tok.render]

theorem digits_not_special {t : Str} (hd : AllDigits t) (hne : t ≠ []) :
    isSpecial t = false ∧ t ≠ kwStdio ∧ isUnix t = false := by
  obtain ⟨c, cs, rfl⟩ := List.exists_cons_of_ne_nil hne
  have hc : c.isDigit = true := hd c (by simp)
  have hs : c ≠ 's' := by intro e; subst e; simp [Char.isDigit] at hc
  have hh : c ≠ 'h' := by intro e; subst e; simp [Char.isDigit] at hc
  have ht : c ≠ 't' := by intro e; subst e; simp [Char.isDigit] at hc
  have hu : c ≠ 'u' := by intro e; subst e; simp [Char.isDigit] at hc
  refine ⟨?_, ?_, ?_⟩
  · simp [isSpecial, kwSocks_eq, kwHttp_eq, kwTproxy_eq, hs, hh, ht]
  · simp [kwStdio_eq, hs]
  · simp [isUnix, unixPrefix_eq, List.isPrefixOf]
    intro e; exact absurd e.symm hu

theorem portOrBail_showPort {n : Nat} (h : n ≤ u16Max) : portOrBail (showPort n) = .ok n := by
  simp [portOrBail, parseU16_showPort h]

theorem domainOrBail_of {o : Oracle} {h a : Str} (hi : o.idna h = some a) : domainOrBail o h = .ok a := by
  simp [domainOrBail, hi]

theorem isUnix_unix (path : Str) : isUnix (unixPrefix ++ path) = true := by
  simp [isUnix, unixPrefix_eq, List.isPrefixOf]

theorem udsPath_unix (path : Str) : udsPath (unixPrefix ++ path) = path := by
  simp [udsPath]

theorem unix_ne_stdio (path : Str) : unixPrefix ++ path ≠ kwStdio := by
  simp [unixPrefix_eq, kwStdio_eq]

theorem proto_display_facts (p : Protocol) : '/' ∉ p.display ∧ ':' ∉ p.display := by
  cases p <;> simp [Protocol.display, kwTcp_eq, kwUdp_eq]

theorem parseProtocol_display {o : Oracle} (ho : OracleOK o) (p : Protocol) : parseProtocol o p.display = .ok p := by
  cases p
  · exact parseProtocol_tcp ho.1
  · exact parseProtocol_udp ho.2

theorem keywordTok_wf {k : Str} (h : k = kwSocks ∨ k = kwHttp ∨ k = kwTproxy ∨ k = kwStdio) (b : Bool) :
    Tok.WF ⟨k, b⟩ := by
  rcases h with rfl | rfl | rfl | rfl <;> cases b <;>
    exact ⟨by decide, by simp only [Bool.false_eq_true, if_false, if_true]; decide⟩

/-- The text of a displayed remote, as tokens. -/
def displayToks (r : Remote) : List Tok :=
  (match r.localAddr with
    | .inet h p => [hostTok h, portTok p]
    | .stdio => [bareTok kwStdio]
    | .domainSocket path => [unixTok path]) ++
  (match r.remoteAddr with
    | .inet h p => [hostTok h, portTok p]
    | .socks => [bareTok kwSocks]
    | .http => [bareTok kwHttp]
    | .tproxy => [bareTok kwTproxy])

theorem display_eq (r : Remote) : r.display = joinToks (displayToks r) ++ '/' :: r.protocol.display := by
  obtain ⟨l, rm, p⟩ := r
  cases l <;> cases rm <;>
    simp [Remote.display, LocalSpec.display, RemoteSpec.display, displayToks, joinToks, hostTok_render,
      portTok_render, unixTok_render, bareTok_render]

theorem displayToks_wf {o : Oracle} {r : Remote} (h : r.WF o) : ∀ t ∈ displayToks r, t.WF := by
  obtain ⟨l, rm, p⟩ := r
  obtain ⟨hl, hr⟩ := h
  intro t ht
  simp only [displayToks, List.mem_append] at ht
  rcases ht with ht | ht
  · cases l with
    | inet h n => simp at ht; rcases ht with rfl | rfl; exact hostTok_wf hl.1; exact portTok_wf n
    | stdio => simp at ht; subst ht; exact keywordTok_wf (by simp) false
    | domainSocket path => simp at ht; subst ht; exact unixTok_wf hl.1
  · cases rm with
    | inet h n => simp at ht; rcases ht with rfl | rfl; exact hostTok_wf hr.1; exact portTok_wf n
    | socks | http | tproxy => simp at ht; subst ht; exact keywordTok_wf (by simp) false

theorem displayToks_len (r : Remote) : displayToks r ≠ [] ∧ (displayToks r).length ≤ 4 := by
  obtain ⟨l, rm, p⟩ := r
  cases l <;> cases rm <;> simp [displayToks]

attribute [local simp] finish selectArm evalArm bind Except.bind postChecks LocalSpec.isDomainSocket displayToks
    hostTok portTok bareTok unixTok unix_ne_stdio isUnix_unix udsPath_unix remoteSpecial_socks remoteSpecial_http
    remoteSpecial_tproxy in
theorem finish_display {o : Oracle} {r : Remote} (h : r.WF o) :
    finish o r.protocol ((displayToks r).map (·.text)) = .ok r := by
  obtain ⟨l, rm, p⟩ := r
  obtain ⟨hl, hr⟩ := h
  cases l with
  | inet lh lp =>
    obtain ⟨hlh, hlp, hstd⟩ := hl
    have hne : (∀ rh rp, rm ≠ .inet rh rp) → lh ≠ kwStdio := fun hn e => by
      obtain ⟨rh, rp, h⟩ := hstd e; exact hn rh rp h
    cases rm with
    | inet rh rp =>
      obtain ⟨hrh, hrp⟩ := hr
      simp [domainOrBail_of hlh.2.2.2, domainOrBail_of hrh.2.2.2, portOrBail_showPort hlp, portOrBail_showPort hrp]
    | socks =>
      simp only at hr
      simp [hne nofun, show isSpecial kwSocks = true by decide, domainOrBail_of hlh.2.2.2, portOrBail_showPort hlp, hr]
    | http =>
      simp only at hr
      simp [hne nofun, show isSpecial kwHttp = true by decide, domainOrBail_of hlh.2.2.2, portOrBail_showPort hlp, hr]
    | tproxy =>
      simp [hne nofun, show isSpecial kwTproxy = true by decide, domainOrBail_of hlh.2.2.2, portOrBail_showPort hlp]
  | stdio =>
    cases rm with
    | inet rh rp =>
      obtain ⟨hrh, hrp⟩ := hr
      simp [domainOrBail_of hrh.2.2.2, portOrBail_showPort hrp]
    | socks =>
      simp only at hr
      simp [hr]
    | http =>
      simp only at hr
      simp [hr]
    | tproxy => exact absurd rfl hl
  | domainSocket path =>
    obtain ⟨hpath, hp, hnt⟩ := hl
    simp only at hp
    subst hp
    cases rm with
    | inet rh rp =>
      obtain ⟨hrh, hrp⟩ := hr
      have hd := digits_not_special (showPort_allDigits rp) (showPort_ne_nil rp)
      simp [hd.1, domainOrBail_of hrh.2.2.2, portOrBail_showPort hrp]
    | socks =>
      simp [show isSpecial kwSocks = true by decide]
    | http =>
      simp [show isSpecial kwHttp = true by decide]
    | tproxy => exact absurd rfl hnt

/-- `Display` followed by `from_str` is the identity on well-formed remotes. -/
theorem display_parse_roundtrip (o : Oracle) (ho : OracleOK o) (r : Remote) (h : r.WF o) :
    parse o r.display = .ok r := by
  rw [display_eq]
  have hp := proto_display_facts r.protocol
  rw [parse_join_suffix o (displayToks_wf h) (displayToks_len r).1 (displayToks_len r).2 hp.1 hp.2
    (parseProtocol_display ho r.protocol)]
  exact finish_display h

end Penguin.RemoteSpec
