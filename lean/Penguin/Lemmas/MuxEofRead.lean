/-
What a read returns is a function of the receive side of the stream object alone (C05).

`Obj.readRes o`: buffered bytes if there are any, else the first non-empty queued frame, else — nothing
is queued — "pending" while the channel sender exists and end-of-stream once it is gone.  `fillBuf`
and `appRead` return exactly that (`appRead_res`), whatever the rest of the endpoint looks like.
Consequences, for every state:
 * end-of-stream is returned only when the sender is gone and no byte is queued;
 * a `Push` that fits the window changes the flags of no stream object, and an empty one changes the
   result of no read;
 * `appShutdown` leaves the receive side of every object alone, and any sequence of reads returns
   the same results with and without it (`RecvEq`).
Core Lean only.
-/
import Penguin.Lemmas.MuxEof

namespace Penguin.Mux

/-! ### The result of a read -/

/-- What one poll of `poll_fill_buf` yields, from the receive side of the object alone. -/
def Obj.readRes (o : Obj) : Res :=
  if !o.buf.isEmpty then .data o.buf
  else match o.rxq.find? (fun f => !f.isEmpty) with
    | some f => .data f
    | none => if o.senderAlive then .pending else .eof

/-- `poll_read` hands out at most `n` bytes of what `poll_fill_buf` yields. -/
def readOut (n : Nat) : Res → Res
  | .data b => .data (b.take n)
  | r => r

theorem fillBuf_res (k : Nat) (e : EP) (i : Nat) (o : Obj) (ho : e.objs[i]? = some o)
    (hk : o.rxq.length < k) : (fillBuf k e i).2 = o.readRes := by
  induction k generalizing e o with
  | zero => omega
  | succ k ih =>
    unfold fillBuf Obj.readRes
    simp only [ho]
    split
    · rfl
    · rename_i hb
      cases hq : o.rxq with
      | nil => simp only [List.find?_nil]; split <;> rfl
      | cons f rest =>
        simp only
        split
        · rename_i hf
          have hlen : rest.length < k := by rw [hq] at hk; simp at hk; omega
          have hx : (e.modObj i fun o => { o with rxq := rest, buf := f }).objs[i]? =
              some { o with rxq := rest, buf := f } := by simp [modObj_get_self, ho]
          obtain ⟨x2, h1, h2, h3, h4, _⟩ := ackStep_obj _ i { o with rxq := rest, buf := f } _ hx
          rw [ih _ x2 h1 (by rw [h3]; exact hlen)]
          unfold Obj.readRes
          rw [h2, h3, h4]
          simp only [List.find?_cons, hf, Bool.not_true, Bool.false_eq_true, if_false]
        · rename_i hf
          simp only [List.find?_cons]
          simp only [Bool.not_eq_true] at hf
          simp [hf]

theorem appRead_res (e : EP) (h i n : Nat) (o : Obj) (hh : e.handles[h]? = some i) (ho : e.objs[i]? = some o) :
    (appRead e h n).2 = readOut n o.readRes := by
  have hobj := handleObj_of hh ho
  have hf := fillBuf_res (o.rxq.length + 2) e i o ho (by omega)
  simp only [appRead, hobj]
  generalize fillBuf (o.rxq.length + 2) e i = r at hf
  obtain ⟨e', res⟩ := r
  simp only at hf
  subst hf
  cases hr : o.readRes <;> simp [readOut]

theorem appRead_bad (e : EP) (h n : Nat) (hh : e.handleObj h = none) : (appRead e h n).2 = .badHandle := by
  simp [appRead, hh]

theorem handleObj_eq_some {e : EP} {h i : Nat} {o : Obj} (hh : e.handleObj h = some (i, o)) :
    e.handles[h]? = some i ∧ e.objs[i]? = some o := ⟨handleObj_handle hh, handleObj_some hh⟩

theorem appRead_eof_handle {e : EP} {h n : Nat} (he : (appRead e h n).2 = .eof) :
    ∃ i o, e.handles[h]? = some i ∧ e.objs[i]? = some o := by
  cases hh : e.handleObj h with
  | none => rw [appRead_bad e h n hh] at he; cases he
  | some p => obtain ⟨i, o⟩ := p; exact ⟨i, o, handleObj_eq_some hh⟩

theorem readRes_eof_iff (o : Obj) :
    o.readRes = .eof ↔ o.senderAlive = false ∧ o.buf = [] ∧ ∀ f ∈ o.rxq, f = [] := by
  unfold Obj.readRes
  constructor
  · intro h
    split at h
    · cases h
    · rename_i hb
      split at h
      · cases h
      · rename_i hnone
        split at h
        · cases h
        · rename_i hs
          refine ⟨by simpa using hs, by simpa using hb, ?_⟩
          intro f hf
          have := List.find?_eq_none.mp hnone f hf
          simpa using this
  · rintro ⟨hs, hb, hq⟩
    have hnone : o.rxq.find? (fun f => !f.isEmpty) = none := by
      apply List.find?_eq_none.mpr
      intro f hf; simp [hq f hf]
    simp [hb, hnone, hs]

theorem readOut_eof {n : Nat} {r : Res} : readOut n r = .eof ↔ r = .eof := by
  cases r <;> simp [readOut]

theorem appRead_eof {e : EP} {h n : Nat} (he : (appRead e h n).2 = .eof) :
    ∃ i ob, e.handles[h]? = some i ∧ e.objs[i]? = some ob ∧
      ob.senderAlive = false ∧ ob.buf = [] ∧ ∀ f ∈ ob.rxq, f = [] := by
  obtain ⟨i, ob, hh, ho⟩ := appRead_eof_handle he
  rw [appRead_res _ h i n ob hh ho, readOut_eof] at he
  exact ⟨i, ob, hh, ho, (readRes_eof_iff ob).mp he⟩

theorem readOut_pending {n : Nat} {r : Res} : readOut n r = .pending ↔ r = .pending := by
  cases r <;> simp [readOut]

theorem readRes_alive_ne_eof (o : Obj) (h : o.senderAlive = true) : o.readRes ≠ .eof := by
  intro he; rw [(readRes_eof_iff o).mp he |>.1] at h; cases h

theorem readRes_gone_ne_pending (o : Obj) (h : o.senderAlive = false) : o.readRes ≠ .pending := by
  unfold Obj.readRes
  split
  · simp
  · split
    · simp
    · simp [h]

theorem readRes_data_of_queued (o : Obj) (h : o.buf ≠ [] ∨ ∃ f ∈ o.rxq, f ≠ []) :
    ∃ b, b ≠ [] ∧ o.readRes = .data b := by
  unfold Obj.readRes
  by_cases hb : o.buf = []
  · rcases h with h | ⟨f, hf, hne⟩
    · exact absurd hb h
    · cases hfind : o.rxq.find? (fun f => !f.isEmpty) with
      | none =>
        have := List.find?_eq_none.mp hfind f hf
        simp at this
        exact absurd this hne
      | some g =>
        have hg := List.find?_some hfind
        refine ⟨g, ?_, by simp [hb]⟩
        intro hc; subst hc; simp at hg
  · refine ⟨o.buf, hb, ?_⟩
    have : o.buf.isEmpty = false := by cases hbb : o.buf <;> simp_all
    simp [this]

/-- Empty frames at the end of the queue are invisible to the reader. -/
theorem readRes_push_empty (o : Obj) : ({ o with rxq := o.rxq ++ [[]] } : Obj).readRes = o.readRes := by
  unfold Obj.readRes
  simp only [List.find?_append, List.find?_cons, List.find?_nil, List.isEmpty_nil, Bool.not_true,
    Option.or_none]

/-! ### A `Push` that fits the window -/

/-- Processing a `Push` that does not overrun the window changes the flags of no stream object (and
    creates none): at most one receive queue grows by the payload. -/
theorem push_keeps_halves (e : EP) (fid : Nat) (d : Bytes) (ig : Bool) (hno : overruns e fid = false) (j : Nat) :
    (processFrame e (.push fid d) ig).1.objs[j]? = e.objs[j]? ∨
    ∃ o, e.objs[j]? = some o ∧ lookup e.flows fid = some (.established j) ∧ o.senderAlive = true ∧ o.rxOpen = true ∧
      (processFrame e (.push fid d) ig).1.objs[j]? = some { o with rxq := o.rxq ++ [d] } := by
  simp only [Mux.processFrame]
  split
  · rename_i i hl
    split
    · exact Or.inl rfl
    · rename_i o ho
      split
      · exact Or.inl (by simp [EP.enqFrame])
      · rename_i hsa
        split
        · exact Or.inl rfl
        · rename_i hro
          split
          · by_cases hj : j = i
            · subst hj
              have ho' : e.objs[j]? = some o := ho
              refine Or.inr ⟨o, ho', hl, by simpa using hsa, by simpa using hro, ?_⟩
              rw [modObj_get_self, ho']; rfl
            · exact Or.inl (modObj_get_ne _ _ _ _ hj)
          · rename_i hfull
            exfalso
            unfold overruns at hno
            simp only [hl, ho] at hno
            simp_all
            omega
  · exact Or.inl (by simp [EP.enqFrame])

/-! ### Shutting down the write side leaves the read side alone -/

/-- The receive side of a stream object: what reading looks at and changes. -/
def Obj.recvSide (o : Obj) : List Bytes × Bytes × Bool × Bool × Nat × Nat :=
  (o.rxq, o.buf, o.senderAlive, o.rxOpen, o.recvdSince, o.threshold)

structure RecvEq (e e' : EP) : Prop where
  handles : e'.handles = e.handles
  objs : ∀ j : Nat, (e'.objs[j]?).map Obj.recvSide = (e.objs[j]?).map Obj.recvSide

theorem RecvEq.refl (e : EP) : RecvEq e e := ⟨rfl, fun _ => rfl⟩

theorem RecvEq.trans {a b c : EP} (s : RecvEq a b) (t : RecvEq b c) : RecvEq a c :=
  ⟨by rw [t.handles, s.handles], fun j => by rw [t.objs j, s.objs j]⟩

theorem RecvEq.get {e e' : EP} (r : RecvEq e e') {j : Nat} {o : Obj} (ho : e.objs[j]? = some o) :
    ∃ o', e'.objs[j]? = some o' ∧ o'.recvSide = o.recvSide := by
  have := r.objs j
  rw [ho] at this
  cases ho' : e'.objs[j]? with
  | none => rw [ho'] at this; cases this
  | some o' => rw [ho'] at this; exact ⟨o', rfl, by simpa using this⟩

theorem RecvEq.get_none {e e' : EP} (r : RecvEq e e') {j : Nat} (ho : e.objs[j]? = none) : e'.objs[j]? = none := by
  have := r.objs j
  rw [ho] at this
  cases ho' : e'.objs[j]? with
  | none => rfl
  | some o' => rw [ho'] at this; cases this

theorem recvSide_readRes {o o' : Obj} (h : o'.recvSide = o.recvSide) : o'.readRes = o.readRes := by
  simp only [Obj.recvSide, Prod.mk.injEq] at h
  obtain ⟨h1, h2, h3, _⟩ := h
  unfold Obj.readRes
  rw [h1, h2, h3]

/-- Side condition of `RecvEq.modObj`: both updates set the same receive-side fields. -/
macro "rside" : tactic => `(tactic| (
  intro a a' ha
  simp only [Obj.recvSide, Prod.mk.injEq] at ha ⊢
  obtain ⟨a1, a2, a3, a4, a5, a6⟩ := ha
  simp [*]))

theorem RecvEq.modObj {e e' : EP} (r : RecvEq e e') (i : Nat) (f f' : Obj → Obj)
    (hf : ∀ o o', o'.recvSide = o.recvSide → (f' o').recvSide = (f o).recvSide) :
    RecvEq (e.modObj i f) (e'.modObj i f') := by
  refine ⟨r.handles, ?_⟩
  intro j
  by_cases hj : j = i
  · subst hj
    rw [modObj_get_self, modObj_get_self]
    cases ho : e.objs[j]? with
    | none => rw [r.get_none ho]; rfl
    | some o =>
      obtain ⟨o', ho', hs⟩ := r.get ho
      rw [ho']
      simp only [Option.map_some, Option.some.injEq]
      exact hf o o' hs
  · rw [modObj_get_ne _ _ _ _ hj, modObj_get_ne _ _ _ _ hj]; exact r.objs j

theorem RecvEq.of_same {e e1 e' e1' : EP} (r : RecvEq e e') (h1 : e1.handles = e.handles) (o1 : e1.objs = e.objs)
    (h1' : e1'.handles = e'.handles) (o1' : e1'.objs = e'.objs) : RecvEq e1 e1' :=
  ⟨by rw [h1', h1, r.handles], fun j => by rw [o1', o1]; exact r.objs j⟩

theorem RecvEq.enqFrame {e e' : EP} (r : RecvEq e e') (f f' : Frame) : RecvEq (e.enqFrame f) (e'.enqFrame f') :=
  r.of_same (enq_handles_eof _ _) (by simp [EP.enqFrame])
    (enq_handles_eof _ _) (by simp [EP.enqFrame])

theorem RecvEq.ackStep {e e' : EP} (r : RecvEq e e') (i : Nat) (o o' : Obj) (h : o'.recvSide = o.recvSide) :
    RecvEq (ackStep e i o) (ackStep e' i o') := by
  simp only [Obj.recvSide, Prod.mk.injEq] at h
  obtain ⟨_, _, _, _, h5, h6⟩ := h
  unfold Mux.ackStep
  rw [h5, h6]
  split
  · refine RecvEq.enqFrame (r.modObj i _ _ ?_) _ _
    rside
  · refine r.modObj i _ _ ?_
    rside

theorem RecvEq.fillBuf {e e' : EP} (r : RecvEq e e') (k i : Nat) :
    (fillBuf k e' i).2 = (fillBuf k e i).2 ∧ RecvEq (fillBuf k e i).1 (fillBuf k e' i).1 := by
  induction k generalizing e e' with
  | zero => exact ⟨rfl, r⟩
  | succ k ih =>
    unfold Mux.fillBuf
    cases ho : e.objs[i]? with
    | none => rw [r.get_none ho]; exact ⟨rfl, r⟩
    | some o =>
      obtain ⟨o', ho', hs⟩ := r.get ho
      rw [ho']
      have hs' := hs
      simp only [Obj.recvSide, Prod.mk.injEq] at hs'
      obtain ⟨h1, h2, h3, h4, h5, h6⟩ := hs'
      simp only [h1, h2, h3]
      split
      · exact ⟨rfl, r⟩
      · cases hq : o.rxq with
        | nil =>
          simp only
          split
          · exact ⟨rfl, r⟩
          · refine ⟨rfl, r.modObj i _ _ ?_⟩
            rside
        | cons f rest =>
          simp only
          have r1 : RecvEq (e.modObj i fun o => { o with rxq := rest, buf := f })
              (e'.modObj i fun o => { o with rxq := rest, buf := f }) := by
            refine r.modObj i _ _ ?_
            rside
          have r2 := r1.ackStep i { o with rxq := rest, buf := f } { o' with rxq := rest, buf := f }
            (by simp only [Obj.recvSide, Prod.mk.injEq]; simp [*])
          split
          · exact ih r2
          · exact ⟨rfl, r2⟩

theorem RecvEq.appRead {e e' : EP} (r : RecvEq e e') (h n : Nat) :
    (appRead e' h n).2 = (appRead e h n).2 ∧ RecvEq (appRead e h n).1 (appRead e' h n).1 := by
  unfold Mux.appRead EP.handleObj
  rw [r.handles]
  cases hh : e.handles[h]? with
  | none => exact ⟨rfl, r⟩
  | some i =>
    simp only
    cases ho : e.objs[i]? with
    | none => rw [r.get_none ho]; exact ⟨rfl, r⟩
    | some o =>
      obtain ⟨o', ho', hs⟩ := r.get ho
      rw [ho']
      simp only [or_true, if_true]
      have hq : o'.rxq = o.rxq := by
        simp only [Obj.recvSide, Prod.mk.injEq] at hs; exact hs.1
      rw [hq]
      obtain ⟨g1, g2⟩ := r.fillBuf (o.rxq.length + 2) i
      generalize Mux.fillBuf (o.rxq.length + 2) e i = x at g1 g2
      generalize Mux.fillBuf (o.rxq.length + 2) e' i = x' at g1 g2
      obtain ⟨e1, res⟩ := x
      obtain ⟨e1', res'⟩ := x'
      simp only at g1 g2
      subst g1
      cases res' with
      | data b =>
        simp only
        refine ⟨trivial, g2.modObj i _ _ ?_⟩
        rside
      | _ => exact ⟨by simp, g2⟩

theorem appShutdown_sets (e : EP) (h i : Nat) (o : Obj) (hh : e.handles[h]? = some i) (ho : e.objs[i]? = some o) :
    ∃ o', (appShutdown e h).1.objs[i]? = some o' ∧ o'.finishSent = true := by
  have hobj := handleObj_of hh ho
  simp only [appShutdown, hobj]
  split
  · rename_i hf
    exact ⟨{ o with parked := false }, by rw [modObj_get_self, ho]; rfl, hf⟩
  · exact ⟨{ o with finishSent := true, parked := false }, by simp [EP.enqFrame, modObj_get_self, ho], rfl⟩

theorem appShutdown_recvEq (e : EP) (h : Nat) : RecvEq e (appShutdown e h).1 := by
  unfold Mux.appShutdown
  split
  · exact RecvEq.refl e
  · have g : ∀ f : Obj → Obj, (∀ o, (f o).recvSide = o.recvSide) → ∀ i, RecvEq e (e.modObj i f) := by
      intro f hf i
      have := (RecvEq.refl e).modObj i id f (by intro o o' ho; rw [hf]; exact ho)
      refine RecvEq.trans ?_ this
      refine ⟨rfl, fun j => ?_⟩
      by_cases hj : j = i
      · subst hj; rw [modObj_get_self]; cases e.objs[j]? <;> rfl
      · rw [modObj_get_ne _ _ _ _ hj]
    rename_i i o _
    split
    · exact g (fun o => { o with parked := false }) (fun _ => rfl) i
    · refine RecvEq.trans (g (fun o => { o with finishSent := true, parked := false }) (fun _ => rfl) i) ?_
      exact (RecvEq.refl _).of_same rfl rfl (enq_handles_eof _ _) (by simp [EP.enqFrame])

/-- The results of a sequence of reads `(handle, buffer size)`, one after the other. -/
def readsRes (e : EP) : List (Nat × Nat) → List Res
  | [] => []
  | (h, n) :: rest => (appRead e h n).2 :: readsRes (appRead e h n).1 rest

theorem RecvEq.readsRes {e e' : EP} (r : RecvEq e e') (rs : List (Nat × Nat)) :
    Mux.readsRes e' rs = Mux.readsRes e rs := by
  induction rs generalizing e e' with
  | nil => rfl
  | cons p rest ih =>
    obtain ⟨h, n⟩ := p
    simp only [Mux.readsRes]
    obtain ⟨g1, g2⟩ := r.appRead h n
    rw [g1, ih g2]

/-! ### An empty `Push` and the reader -/

/-- After an empty `Push` that fits the window every read returns what it would have returned
    without it. -/
theorem push_empty_read (e : EP) (fid : Nat) (ig : Bool) (hno : overruns e fid = false) (h n : Nat) :
    (appRead (processFrame e (.push fid []) ig).1 h n).2 = (appRead e h n).2 := by
  have hh : (processFrame e (.push fid []) ig).1.handles = e.handles := (Path.processFrame e _ ig).frame .handles
  cases hi : e.handles[h]? with
  | none =>
    have h1 : e.handleObj h = none := by simp [EP.handleObj, hi]
    have h2 : (processFrame e (.push fid []) ig).1.handleObj h = none := by simp [EP.handleObj, hh, hi]
    rw [appRead_bad _ _ _ h1, appRead_bad _ _ _ h2]
  | some i =>
    have hi' : (processFrame e (.push fid []) ig).1.handles[h]? = some i := by rw [hh]; exact hi
    rcases push_keeps_halves e fid [] ig hno i with hsame | ⟨o, ho, _, _, _, ho'⟩
    · cases ho : e.objs[i]? with
      | none =>
        have h1 : e.handleObj h = none := by simp [EP.handleObj, hi, ho]
        have h2 : (processFrame e (.push fid []) ig).1.handleObj h = none := by
          simp [EP.handleObj, hi', hsame, ho]
        rw [appRead_bad _ _ _ h1, appRead_bad _ _ _ h2]
      | some o =>
        rw [appRead_res _ h i n o hi' (by rw [hsame]; exact ho), appRead_res _ h i n o hi ho]
    · rw [appRead_res _ h i n _ hi' ho', appRead_res _ h i n o hi ho, readRes_push_empty]

end Penguin.Mux
