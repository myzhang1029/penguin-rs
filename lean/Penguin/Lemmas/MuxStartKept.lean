/-
No request is dropped silently by the connection task or by the open futures.

`Kept e e' evs` relates a state, a later state and the events emitted in between:
* every open request pending at `e` (`pend`: the `new_stream_channel` futures still waiting and the
  answered ones whose future has not run yet) is still pending at `e'` or has an `openDone` event in
  `evs`;
* every `BindRequested` slot of `e`'s flow table is still in `e'`'s table (same id, same request) or
  the request has a `bindDone` event in `evs`.
(`Once` / `OnceB` of Lemmas/MuxOnce, MuxOnceB are the converse: an answer is given at most once and
only to a pending request.)  It is shown for every function of the endpoint model the task and the
futures consist of — frames from any peer, `close_flow`, the wind-down, the task's loop, the futures'
rounds, `settle` — and for the three functions of `Model/MuxStart.lean`.  An application that gives a
request up (`cancelOpen`) is the only way a request leaves without an answer; that is `opStep`, which
is not part of these functions.
Core Lean only.
-/
import Penguin.Model.MuxStart
import Penguin.Lemmas.MuxOnceB

namespace Penguin.Mux

structure Kept (e e' : EP) (evs : List Ev) : Prop where
  opens : ∀ r, r ∈ pend e → r ∈ pend e' ∨ r ∈ doneReqs evs
  binds : ∀ fid r, lookup e.flows fid = some (.bindRequested r) →
    lookup e'.flows fid = some (.bindRequested r) ∨ r ∈ doneB evs

theorem Kept.keeps {e e' : EP} {evs : List Ev} (hp : ∀ r, r ∈ pend e → r ∈ pend e') (hf : e'.flows = e.flows) :
    Kept e e' evs :=
  ⟨fun r h => Or.inl (hp r h), fun fid r h => Or.inl (by rw [hf]; exact h)⟩

theorem Kept.silent {e e' : EP} {evs : List Ev} (hp : pend e' = pend e) (hf : e'.flows = e.flows) : Kept e e' evs :=
  .keeps (fun r h => by rw [hp]; exact h) hf

theorem Kept.refl (e : EP) : Kept e e [] := Kept.silent rfl rfl

theorem Kept.trans {a b c : EP} {ev1 ev2 : List Ev} (s : Kept a b ev1) (t : Kept b c ev2) : Kept a c (ev1 ++ ev2) := by
  refine ⟨?_, ?_⟩
  · intro r h
    rw [doneReqs_append]
    rcases s.opens r h with h1 | h1
    · rcases t.opens r h1 with h2 | h2
      · exact Or.inl h2
      · exact Or.inr (List.mem_append_right _ h2)
    · exact Or.inr (List.mem_append_left _ h1)
  · intro fid r h
    rw [doneB_append]
    rcases s.binds fid r h with h1 | h1
    · rcases t.binds fid r h1 with h2 | h2
      · exact Or.inl h2
      · exact Or.inr (List.mem_append_right _ h2)
    · exact Or.inr (List.mem_append_left _ h1)

theorem Kept.after {a b c : EP} {ev1 ev2 : List Ev} (t : Kept b c ev2) (s : Kept a b ev1) : Kept a c (ev1 ++ ev2) :=
  s.trans t

/-! ### Primitives -/

theorem Kept.answer (e : EP) (req : Nat) (c : OpenRes) :
    Kept e { e with opens := e.opens.filter (·.req ≠ req) } [.openDone req c] := by
  refine ⟨fun r hr => ?_, fun fid r hl => Or.inl hl⟩
  rcases List.mem_append.mp hr with h1 | h1
  · obtain ⟨x, hx, hxr⟩ := List.mem_map.mp h1
    by_cases hq : x.req = req
    · exact .inr (by simp [doneReqs, ← hxr, hq])
    · exact .inl (List.mem_append_left _ (List.mem_map.mpr ⟨x, List.mem_filter.mpr ⟨hx, by simpa using hq⟩, hxr⟩))
  · exact .inl (List.mem_append_right _ h1)

theorem Kept.insertOver (e : EP) (fid : Nat) (s : Slot) (evs : List Ev)
    (hno : ∀ r, lookup e.flows fid ≠ some (.bindRequested r)) (e' : EP)
    (hp : ∀ r, r ∈ pend e → r ∈ pend e') (hf : e'.flows = insert e.flows fid s) : Kept e e' evs := by
  refine ⟨fun r h => Or.inl (hp r h), ?_⟩
  intro fid' r h
  have hne : fid' ≠ fid := by
    intro hc; subst hc; exact hno r h
  left
  rw [hf, lookup_insert_ne _ _ _ _ hne]; exact h

theorem Kept.eraseSlot (e : EP) (fid : Nat) (evs : List Ev)
    (hb : ∀ r, lookup e.flows fid = some (.bindRequested r) → r ∈ doneB evs) (e' : EP)
    (hp : ∀ r, r ∈ pend e → r ∈ pend e' ∨ r ∈ doneReqs evs) (hf : e'.flows = erase e.flows fid) : Kept e e' evs := by
  refine ⟨hp, ?_⟩
  intro fid' r h
  by_cases hc : fid' = fid
  · subst hc; exact Or.inr (hb r h)
  · left; rw [hf, lookup_erase_ne _ _ _ hc]; exact h

theorem Kept.popBind (e : EP) (fid req : Nat) (rest : List (Nat × Slot)) (evs : List Ev)
    (h : e.flows = (fid, .bindRequested req) :: rest) (hev : req ∈ doneB evs) : Kept e { e with flows := rest } evs := by
  refine ⟨fun r hr => Or.inl hr, fun fid' r hl => ?_⟩
  rw [h, lookup_cons] at hl
  split at hl
  · cases hl; exact Or.inr hev
  · exact Or.inl hl

theorem lookup_filter_binds {m : List (Nat × Slot)} {fid r : Nat} (h : lookup m fid = some (.bindRequested r)) :
    lookup (m.filter (·.2.isBind)) fid = some (.bindRequested r) := by
  induction m with
  | nil => cases h
  | cons p m ih =>
    obtain ⟨k, s⟩ := p
    rw [lookup_cons] at h
    split at h
    · cases h; rename_i hk; simp [Slot.isBind, lookup_cons, hk]
    · rename_i hk
      rw [List.filter_cons]
      split
      · rw [lookup_cons, if_neg hk]; exact ih h
      · exact ih h

/-- The kind of step across which it fails: the application gives a request up. -/
def Kept.bad : Kinds := .of [.dropOpen]

theorem Kept.of_upd {k : Kind} {e e' : EP} {x : List Ev} (hk : k ∉ Kept.bad) (u : Upd k e x e') : Kept e e' x := by
  cases u with
  | erase _ fid hb => exact Kept.eraseSlot e fid _ (fun r h => absurd h (hb r)) _ (fun r h => Or.inl h) rfl
  | rejectSlot _ fid req h =>
    exact Kept.eraseSlot e fid _ (fun r hr => by rw [h] at hr; cases hr) _ (fun r h => Or.inl h) rfl
  | reqSlot _ fid req _ hfree | startBind _ fid req _ hfree =>
    exact Kept.insertOver e fid _ _ (fun r hc => by rw [hfree] at hc; cases hc) _ (fun r h => h) rfl
  | newStream _ fid _ _ _ hslot =>
    refine Kept.insertOver e fid _ _ (fun r hc => ?_) _ (fun r h => h) rfl
    rcases hslot with ⟨_, hf⟩ | ⟨q, hq⟩ <;> simp_all
  | acceptBind _ fid req h | refuseBind _ fid req h =>
    exact Kept.eraseSlot e fid _ (fun r hr => by rw [h] at hr; cases hr; simp [doneB]) _ (fun r h => Or.inl h) rfl
  | dropSlots => exact ⟨fun r h => Or.inl h, fun fid r h => Or.inl (lookup_filter_binds h)⟩
  | drainBind _ fid req rest h => exact Kept.popBind e fid req rest _ h (by simp [doneB])
  | enq _ _ m => exact Kept.silent (pend_eq (enq_opens e m) (enq_doneq e m)) (enq_flows e m)
  | send =>
    have u := Upd.send e
    exact Kept.silent (pend_eq (u.frame .opens) (u.frame .doneq)) (u.frame .flows)
  | queue q => exact Kept.silent (pend_eq (q.frame .opens) (q.frame .doneq)) (q.frame .flows)
  | ctl c => exact Kept.silent (pend_eq (c.frame .opens) (c.frame .doneq)) (c.frame .flows)
  | req r =>
    cases r with
    | dropOpen => exact absurd (by decide +kernel) hk
    | startOpen _ r => exact Kept.keeps (fun q hq => by simp only [pend, List.map_cons, List.cons_append]; exact List.mem_cons_of_mem _ hq) rfl
    | retryOpen _ r h =>
      refine Kept.keeps (fun q hq => ?_) rfl
      rcases List.mem_append.mp hq with h1 | h1
      · obtain ⟨y, hy, hyq⟩ := List.mem_map.mp h1
        apply List.mem_append_left
        by_cases hc : y.req = r.req
        · exact List.mem_map.mpr ⟨r, List.mem_cons_self .., by rw [← hyq, hc]⟩
        · exact List.mem_map.mpr ⟨y, List.mem_cons_of_mem _ (List.mem_filter.mpr ⟨hy, by simpa using hc⟩), hyq⟩
      · exact List.mem_append_right _ h1
    | answerOpen _ req r => exact Kept.answer e req r
    | ackOpen _ req i =>
      refine Kept.keeps (fun q hq => ?_) rfl
      simp only [pend, List.map_append, List.map_cons, List.map_nil, List.mem_append, List.mem_singleton] at hq ⊢
      rcases hq with h1 | h1
      · obtain ⟨y, hy, hyq⟩ := List.mem_map.mp h1
        by_cases hc : y.req = req
        · exact .inr (.inr (by rw [← hyq, hc]))
        · exact .inl (List.mem_map.mpr ⟨y, List.mem_filter.mpr ⟨hy, by simpa using hc⟩, hyq⟩)
      · exact .inr (.inl h1)
    | handOver _ req i h =>
      refine ⟨fun q hq => ?_, fun fid r h => Or.inl h⟩
      rcases List.mem_append.mp hq with h1 | h1
      · exact .inl (List.mem_append_left _ h1)
      · obtain ⟨y, hy, hyq⟩ := List.mem_map.mp h1
        by_cases hc : y = (req, i)
        · exact .inr (by simp [doneReqs, ← hyq, hc])
        · exact .inl (List.mem_append_right _ (List.mem_map.mpr ⟨y, (List.mem_erase_of_ne hc).mpr hy, hyq⟩))
    | handOut => exact Kept.silent rfl rfl
    | answerRest _ p =>
      refine ⟨fun q hq => ?_, fun fid r h => Or.inl h⟩
      rcases List.mem_append.mp hq with h1 | h1
      · obtain ⟨y, hy, hyq⟩ := List.mem_map.mp h1
        cases hp : p y.req with
        | true => exact .inl (List.mem_append_left _ (List.mem_map.mpr ⟨y, List.mem_filter.mpr ⟨hy, hp⟩, hyq⟩))
        | false =>
          right; rw [doneReqs_map_openDone]
          exact List.mem_map.mpr ⟨y, List.mem_filter.mpr ⟨hy, by rw [hp]; rfl⟩, hyq⟩
      · exact .inl (List.mem_append_right _ h1)
  | _ => exact Kept.silent rfl rfl

theorem Kept.of_path {A : Kinds} {e e' : EP} {x : List Ev} (p : Path A e x e')
    (hA : A.disj Kept.bad = true := by decide +kernel) : Kept e e' x :=
  p.rel (R := fun e x e' => Kept e e' x) Kept.refl Kept.trans fun hk u => .of_upd (Kinds.not_mem_of_disj hA hk) u

theorem Kept.closeFlow (e : EP) (fid : Nat) (inh : Bool) :
    Kept e (closeFlow e fid inh).1 (closeFlow e fid inh).2 := .of_path (.closeFlow e fid inh)

theorem offerAccept_pend' (e : EP) (i : Nat) : pend (offerAccept e i) = pend e := offerAccept_pend e i

theorem Kept.processFrame (e : EP) (f : Frame) (ig : Bool) :
    Kept e (processFrame e f ig).1 (processFrame e f ig).2.1 := .of_path (.processFrame e f ig)

theorem Kept.openRound (e : EP) (r : OpenReq) : Kept e (openRound e r).1 (openRound e r).2 := .of_path (.openRoundAny e r)

/-! ### The wind-down, the task's loop, `settle`, the three functions of `Model/MuxStart.lean` -/

theorem Kept.dropPrep (e : EP) (evs : List Ev) : Kept e (dropPrep e) evs :=
  Kept.silent (pend_of_path (.dropPrep e)) ((Path.dropPrep e).frame .flows)

theorem Kept.unpark (e : EP) (evs : List Ev) : Kept e (unpark e) evs :=
  Kept.silent (pend_of_path (.unpark e)) ((Path.unpark e).frame .flows)

theorem Kept.windDown (e : EP) (drain : Bool) (res : ExitRes) :
    Kept e (windDown e drain res).1 (windDown e drain res).2 := .of_path (.windDown e drain res)

theorem Kept.settleLoop (fuel : Nat) (e : EP) (acc : List Ev) :
    ∃ evs, (settleLoop fuel e acc).2 = acc ++ evs ∧ Kept e (settleLoop fuel e acc).1 evs :=
  let ⟨evs, h, p⟩ := Path.settleLoop fuel e acc; ⟨evs, h, .of_path p⟩

theorem Kept.runRetries (e : EP) (l : List Nat) : Kept e (runRetries e l).1 (runRetries e l).2 :=
  .of_path (.runRetries e l)

theorem Kept.settle (e : EP) : Kept e (settle e).1 (settle e).2 := .of_path (.settle e)

theorem Kept.taskPollSinkFailed (e : EP) : Kept e (taskPollSinkFailed e).1 (taskPollSinkFailed e).2 :=
  .of_path (.taskPollSinkFailed e)

theorem Kept.applySinkFail (e : EP) : Kept e (applySinkFail e).1 (applySinkFail e).2.2 :=
  .of_path (.applySinkFail e)

theorem Kept.applyStart (e : EP) (sf : Bool) : Kept e (applyStart e sf).1 (applyStart e sf).2.2 :=
  .of_path (.applyStart e sf)

end Penguin.Mux
