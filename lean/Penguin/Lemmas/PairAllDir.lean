/-
The byte part of the invariant of the pair of views, for the direction left → right and one stream object
`j` of the right side: the payloads accepted into `j` (`R`), followed by the `Push x` payloads delivered and
not yet processed and those on the wire, are exactly the `Push x` payloads the left side's sink has taken
(`S`) — as long as `j` accepts and the wire is intact; a prefix of them otherwise (`Dir`).  With it the wires and
deafness (`Wires`), whether the right side may still create an object for `x` (`Pot`), and the invariant about the
END of the direction (`Fin`), which `Lemmas/PairAllFinA.lean`, `PairAllFinB.lean` preserve.
Core Lean only.
-/
import Penguin.Lemmas.PairAllCoreStep
import Penguin.Lemmas.ListFacts

namespace Penguin.PairAll
open Penguin.Mux

variable {x j : Nat}

structure Wires (c : PC) : Prop where
  deafA : deaf c.a = true → c.baOpen = false
  deafB : deaf c.b = true → c.abOpen = false
  closedAB : c.abOpen = false → c.ab = []
  closedBA : c.baOpen = false → c.ba = []

theorem Wires.swap {c : PC} (h : Wires c) : Wires c.swap := ⟨h.deafB, h.deafA, h.closedBA, h.closedAB⟩

theorem AStep.deaf_mono {v v' : View} {ws : List Msg} {acc : List Bytes} {xl : List XL} (h : AStep x j v v' ws acc xl)
    (hd : deaf v' = true) : deaf v = true := by
  cases h with
  | pop w r h => simp only [deaf, h, List.any_cons] at hd ⊢; simpa [Bool.or_assoc] using hd
  | clearInbox => simp only [deaf, List.any_nil, Bool.or_false] at hd; simp only [deaf, hd, Bool.true_or]
  | popFin _ _ h | popBind _ _ _ h | connRej _ _ h | connNew _ _ _ h | ackNew _ _ _ h | ackOld _ _ h | pushAcc _ _ h
  | pushRej _ _ _ h => simp only [deaf, h, List.any_cons, isEnd, Bool.false_or] at hd ⊢; exact hd
  | _ => exact hd

theorem Wires.stepL {c c' : PC} {ws : List Msg} {acc : List Bytes} {xl : List XL} (h : Wires c) (st : CStepL x j c c' ws acc xl) :
    Wires c' := by
  cases st with
  | act v ws acc xl hs =>
    refine ⟨fun hd => h.deafA (hs.deaf_mono hd), h.deafB, fun ho => ?_, h.closedBA⟩
    simp only at ho ⊢
    rw [ho]; simp [h.closedAB ho]
  | dlv m rest hb hm =>
    refine ⟨fun hd => ?_, h.deafB, h.closedAB, fun ho => ?_⟩
    · apply h.deafA
      by_cases hdf : deaf c.a = true
      · exact hdf
      · rw [if_neg hdf] at hd
        simp only [deaf] at hd ⊢
        simpa [isEnd] using hd
    · have := h.closedBA ho; rw [hb] at this; cases this
  | dlvClose rest hb => exact ⟨fun _ => rfl, h.deafB, h.closedAB, fun _ => rfl⟩
  | cut w hw => exact ⟨fun _ => rfl, h.deafB, h.closedAB, fun _ => rfl⟩

theorem Wires.listening {c : PC} (hw : Wires c) {m : Msg} {rest : List Msg} (h : c.ab = m :: rest) :
    c.abOpen = true ∧ ¬ deaf c.b = true := by
  have ho : c.abOpen = true := by
    cases ho : c.abOpen with
    | true => rfl
    | false => have := hw.closedAB ho; rw [h] at this; cases this
  exact ⟨ho, fun hd => by have := hw.deafB hd; rw [ho] at this; cases this⟩

theorem hasConn_iff (x : Nat) (l : List Msg) : hasConn x l = true ↔ 1 ≤ cC x l := by
  simp [hasConn, cC]

theorem hasPush_le (x : Nat) (l : List Msg) (h : hasPush x l = true) : 1 ≤ cAP x l :=
  countP_pos_of_any h fun m hp => by simp [isAP, hp]

theorem hasAck_le (x : Nat) (l : List Msg) (h : hasAck x l = true) : 1 ≤ cAP x l :=
  countP_pos_of_any h fun m hp => by simp [isAP, hp]

theorem noPush_of_cAP (x : Nat) (l : List Msg) (h : cAP x l = 0) : hasPush x l = false := by
  cases hp : hasPush x l with
  | false => rfl
  | true => have := hasPush_le x l hp; omega

theorem noAck_of_cAP (x : Nat) (l : List Msg) (h : cAP x l = 0) : hasAck x l = false := by
  cases hp : hasAck x l with
  | false => rfl
  | true => have := hasAck_le x l hp; omega

theorem pX_of_cAP (x : Nat) (l : List Msg) (h : cAP x l = 0) : pX x l = [] := pX_of_noPush x l (noPush_of_cAP x l h)

theorem guarded_of_noAP (x : Nat) (l : List Msg) (h1 : hasAck x l = false) (h2 : hasPush x l = false) : guarded x l = true := by
  induction l with
  | nil => rfl
  | cons m r ih =>
    simp only [hasAck, hasPush, List.any_cons, Bool.or_eq_false_iff] at h1 h2
    simp only [guarded, h1.1, h2.1, Bool.false_eq_true, if_false]
    exact ih (by simpa [hasAck] using h1.2) (by simpa [hasPush] using h2.2)

theorem guarded_of_cAP (x : Nat) (l : List Msg) (h : cAP x l = 0) : guarded x l = true :=
  guarded_of_noAP x l (noAck_of_cAP x l h) (noPush_of_cAP x l h)

theorem guarded_snoc (x : Nat) (l : List Msg) (m : Msg) (h : guarded x l = true)
    (hm : isPush x m = false ∨ hasAck x l = true) : guarded x (l ++ [m]) = true := by
  rw [guarded_append]
  split
  · exact h
  · rename_i hn
    simp only [Bool.or_eq_true, not_or, Bool.not_eq_true] at hn
    rcases hm with hm | hm
    · simp [guarded, hm]
    · rw [hn.1] at hm; cases hm

theorem guarded_prefix (x : Nat) (l r : List Msg) (h : guarded x (l ++ r) = true) : guarded x l = true := by
  rw [guarded_append] at h
  split at h
  · exact h
  · rename_i hn
    simp only [Bool.or_eq_true, not_or, Bool.not_eq_true] at hn
    exact guarded_of_noAP x l hn.1 hn.2

theorem hasAck_append (x : Nat) (a b : List Msg) : hasAck x (a ++ b) = (hasAck x a || hasAck x b) := by simp [hasAck]
theorem hasConn_append (x : Nat) (a b : List Msg) : hasConn x (a ++ b) = (hasConn x a || hasConn x b) := by simp [hasConn]
theorem hasPush_append (x : Nat) (a b : List Msg) : hasPush x (a ++ b) = (hasPush x a || hasPush x b) := by simp [hasPush]

theorem hasAck_cons (x : Nat) (m : Msg) (r : List Msg) : hasAck x (m :: r) = (isAck x m || hasAck x r) := by
  simp [hasAck]
theorem hasPush_cons (x : Nat) (m : Msg) (r : List Msg) : hasPush x (m :: r) = (isPush x m || hasPush x r) := by
  simp [hasPush]
theorem hasConn_cons (x : Nat) (m : Msg) (r : List Msg) : hasConn x (m :: r) = (isConn x m || hasConn x r) := by
  simp [hasConn]

section
variable {ownA ownB : Prop}

theorem core_push (hex : ¬(ownA ∧ ownB)) {s : Sm} (h : CoreS ownA ownB s) (hp : 1 ≤ s.aP) :
    s.ca = 0 ∧ s.cb = 0 ∧ s.cP = 0 ∧ 1 ≤ s.na := by
  obtain ⟨⟨l1, l2, l3, l4, l5, l6, l7, l8, l9⟩, ⟨r1, r2, r3, r4, r5, r6, r7, r8, r9⟩⟩ := h
  simp only [Sm.swap] at r1 r2 r3 r4 r5 r6 r7 r8 r9
  grind

theorem core_fresh {s : Sm} (h : CoreS ownA ownB s) (hp : 1 ≤ s.ca ∨ 1 ≤ s.cb) :
    s.aP = 0 ∧ s.cP = 0 ∧ s.na = 0 ∧ s.sb = 0 ∧ s.sa = 0 := by
  obtain ⟨⟨l1, l2, l3, l4, l5, l6, l7, l8, l9⟩, ⟨r1, r2, r3, r4, r5, r6, r7, r8, r9⟩⟩ := h
  simp only [Sm.swap] at r1 r2 r3 r4 r5 r6 r7 r8 r9
  grind

theorem core_conn {s : Sm} (h : CoreS ownA ownB s) (hp : 1 ≤ s.cP) : s.aP = 0 ∧ s.na = 0 ∧ s.sb ≠ 1 ∨ (ownA ∧ ownB) := by
  by_cases hb : s.sb = 1
  · exact Or.inr ⟨h.l.ownConn hp, h.r.ownSlot (Or.inl hb)⟩
  · have hn : s.na = 0 := h.l.objs (h.l.ownConn hp) (h.l.connB hp)
    exact Or.inl ⟨h.l.noAP hn, hn, hb⟩

theorem core_req (hex : ¬(ownA ∧ ownB)) {s : Sm} (h : CoreS ownA ownB s) (ha : s.sa = 1) (hb : s.sb = 1) : False :=
  hex ⟨h.l.ownSlot (Or.inl ha), h.r.ownSlot (Or.inl hb)⟩

end

/-- The right side may still create a stream object for `x`. -/
def Pot (x : Nat) (c : PC) : Prop :=
  1 ≤ c.a.cnt ∨ 1 ≤ c.b.cnt ∨ (∃ q, c.b.slot = some (.requested q)) ∨ hasConn x c.path = true

/-- `S`: the `Push x` payloads the left sink has taken; `R`: the payloads accepted into object `j` on the right. -/
structure Dir (x j : Nat) (c : PC) (S R : List Bytes) : Prop where
  d0 : c.a.nobj = 0 → S = []
  d1 : c.b.len ≤ j → R = [] ∧ c.b.canJ = false
  d2 : c.b.len ≤ j → Pot x c →
    (c.abOpen = true → pX x (inMsgs c.b.inbox) ++ pX x c.ab = S) ∧ (c.abOpen = false → pX x (inMsgs c.b.inbox) <+: S)
  d3 : ∀ q, c.b.slot = some (.requested q) →
    guarded x c.live = true ∧ (1 ≤ c.a.nobj → c.abOpen = true → c.a.outClosed = false → hasAck x c.live = true)
  d4 : c.b.canJ = true →
    (c.abOpen = true → R ++ pX x (inMsgs c.b.inbox) ++ pX x c.ab = S) ∧ (c.abOpen = false → R ++ pX x (inMsgs c.b.inbox) <+: S)
  d5 : R <+: S

theorem Dir.of_eq {c c' : PC} {S R : List Bytes} (h : Dir x j c S R)
    (e1 : c'.a.nobj = c.a.nobj) (e2 : c'.a.cnt = c.a.cnt) (e3 : c'.a.outq = c.a.outq) (e4 : c'.a.outClosed = c.a.outClosed)
    (e5 : c'.b.len = c.b.len) (e6 : c'.b.canJ = c.b.canJ) (e7 : c'.b.cnt = c.b.cnt) (e8 : c'.b.slot = c.b.slot)
    (e9 : c'.b.inbox = c.b.inbox) (e10 : c'.ab = c.ab) (e11 : c'.abOpen = c.abOpen) : Dir x j c' S R := by
  have hp : c'.path = c.path := by simp only [PC.path, e3, e9, e10]
  have hl : c'.live = c.live := by simp only [PC.live, e3, e9, e10, e11]
  have hpot : Pot x c' ↔ Pot x c := by simp only [Pot, e2, e7, e8, hp]
  refine ⟨?_, ?_, ?_, ?_, ?_, h.d5⟩
  · rw [e1]; exact h.d0
  · rw [e5, e6]; exact h.d1
  · rw [e5, hpot, e11, e9, e10]; exact h.d2
  · rw [e8, hl, e1, e11, e4]; exact h.d3
  · rw [e6, e11, e9, e10]; exact h.d4

theorem Pot.mono {c c' : PC} (h1 : c'.a.cnt ≤ c.a.cnt) (h2 : c'.b.cnt ≤ c.b.cnt)
    (h3 : ∀ q, c'.b.slot = some (.requested q) → ∃ q', c.b.slot = some (.requested q'))
    (h4 : hasConn x c'.path = true → hasConn x c.path = true) (h : Pot x c') : Pot x c := by
  rcases h with h | h | ⟨q, h⟩ | h
  · exact Or.inl (Nat.le_trans h h1)
  · exact Or.inr (Or.inl (Nat.le_trans h h2))
  · exact Or.inr (Or.inr (Or.inl (h3 q h)))
  · exact Or.inr (Or.inr (Or.inr (h4 h)))

theorem Dir.silentA {c c' : PC} {S R : List Bytes} (d : Dir x j c S R) (eb : c'.b = c.b) (eab : c'.ab = c.ab)
    (eo : c'.abOpen = c.abOpen) (h0 : c'.a.nobj = 0 → c.a.nobj = 0) (hpot : Pot x c' → Pot x c)
    (h3 : ∀ q, c.b.slot = some (.requested q) →
      guarded x c.live = true ∧ (1 ≤ c.a.nobj → c.abOpen = true → c.a.outClosed = false → hasAck x c.live = true) →
      guarded x c'.live = true ∧ (1 ≤ c'.a.nobj → c.abOpen = true → c'.a.outClosed = false → hasAck x c'.live = true)) :
    Dir x j c' S R := by
  refine ⟨fun h => d.d0 (h0 h), ?_, ?_, ?_, ?_, d.d5⟩
  · rw [eb]; exact d.d1
  · rw [eb, eab, eo]; exact fun hl hp => d.d2 hl (hpot hp)
  · rw [eb, eo]; exact fun q hq => h3 q hq (d.d3 q hq)
  · rw [eb, eab, eo]; exact d.d4

theorem ab_nil (c : PC) : (if c.abOpen = true then c.ab ++ [] else c.ab) = c.ab := by simp

theorem dead_stepL {ownA ownB : Prop} {jj : Nat} {c c' : PC} {ws : List Msg} {acc : List Bytes} {xl : List XL}
    (hc : CoreS ownA ownB (sm x c)) (hd : (sm x c).dead) (st : CStepL x jj c c' ws acc xl) (hn : c'.a.rngNil = false) :
    (sm x c').dead :=
  Sm.dead_stepL hc.l hd (sm_stepL st hn)

theorem dead_stepR {ownA ownB : Prop} {jj : Nat} {c c'' : PC} {ws : List Msg} {acc : List Bytes} {xl : List XL}
    (hc : CoreS ownA ownB (sm x c)) (hd : (sm x c).dead) (st : CStepL x jj c.swap c'' ws acc xl)
    (hn : c''.a.rngNil = false) : (sm x c''.swap).dead := by
  have h1 : (sm x c'').dead :=
    Sm.dead_stepL (s := sm x c.swap) (by simpa [sm_swap] using hc.swap.l) (by simpa [sm_swap] using Sm.dead_swap hd)
      (sm_stepL st hn)
  simpa [sm_swap] using Sm.dead_swap h1

def hasFin (x : Nat) (l : List Msg) : Bool := l.any (isFin x)

/-- No `Push x` follows a `Finish x`. -/
def finLast (x : Nat) : List Msg → Bool
  | [] => true
  | m :: r => (if isFin x m then !hasPush x r else true) && finLast x r

theorem hasFin_append (x : Nat) (a b : List Msg) : hasFin x (a ++ b) = (hasFin x a || hasFin x b) := by simp [hasFin]

theorem hasFin_sublist {x : Nat} {l' l : List Msg} (h : List.Sublist l' l) (hf : hasFin x l' = true) : hasFin x l = true :=
  any_of_sublist h hf

theorem hasPush_sublist_false {x : Nat} {l' l : List Msg} (h : List.Sublist l' l) (hf : hasPush x l = false) :
    hasPush x l' = false :=
  any_false_of_sublist h hf

theorem finLast_cons (x : Nat) (m : Msg) (r : List Msg) :
    finLast x (m :: r) = ((if isFin x m then !hasPush x r else true) && finLast x r) := rfl

theorem finLast_sublist {x : Nat} {l' l : List Msg} (h : List.Sublist l' l) (hf : finLast x l = true) : finLast x l' = true := by
  induction h with
  | slnil => rfl
  | cons a _ ih =>
    rw [finLast_cons, Bool.and_eq_true] at hf
    exact ih hf.2
  | cons_cons a hs ih =>
    rw [finLast_cons, Bool.and_eq_true] at hf ⊢
    refine ⟨?_, ih hf.2⟩
    by_cases hm : isFin x a = true
    · have h1 := hf.1
      rw [if_pos hm] at h1 ⊢
      rw [Bool.not_eq_true'] at h1 ⊢
      exact hasPush_sublist_false hs h1
    · rw [if_neg hm]

theorem hasFin_cons (x : Nat) (m : Msg) (r : List Msg) : hasFin x (m :: r) = (isFin x m || hasFin x r) := by
  simp [hasFin]
theorem hasFin_single (x : Nat) (m : Msg) : hasFin x [m] = isFin x m := by simp [hasFin]
theorem hasPush_single (x : Nat) (m : Msg) : hasPush x [m] = isPush x m := by simp [hasPush]

theorem finLast_snoc (x : Nat) (l : List Msg) (m : Msg) (h : isPush x m = false) : finLast x (l ++ [m]) = finLast x l := by
  induction l with
  | nil => simp [finLast, hasPush]
  | cons a r ih => simp only [List.cons_append, finLast_cons, ih, hasPush_append, hasPush_single, h, Bool.or_false]

theorem finLast_append_noFin (x : Nat) (l r : List Msg) (h : hasFin x l = false) : finLast x (l ++ r) = finLast x r := by
  induction l with
  | nil => rfl
  | cons a l ih =>
    rw [hasFin_cons, Bool.or_eq_false_iff] at h
    rw [List.cons_append, finLast_cons, ih h.2, h.1]
    simp

theorem hasFin_insert (x : Nat) (l r : List Msg) (m : Msg) (h : isFin x m = false) :
    hasFin x (l ++ m :: r) = hasFin x (l ++ r) := by
  rw [hasFin_append, hasFin_append, hasFin_cons, h, Bool.false_or]

theorem hasPush_insert (x : Nat) (l r : List Msg) (m : Msg) (h : isPush x m = false) :
    hasPush x (l ++ m :: r) = hasPush x (l ++ r) := by
  rw [hasPush_append, hasPush_append, hasPush_cons, h, Bool.false_or]

theorem finLast_insert (x : Nat) (l r : List Msg) (m : Msg) (hp : isPush x m = false) (hf : isFin x m = false) :
    finLast x (l ++ m :: r) = finLast x (l ++ r) := by
  induction l with
  | nil => simp [finLast_cons, hf]
  | cons a l ih => rw [List.cons_append, List.cons_append, finLast_cons, finLast_cons, ih, hasPush_insert x l r m hp]

theorem finLast_append_fin (x : Nat) (A B : List Msg) (h : finLast x (A ++ B) = true) (hf : hasFin x A = true) :
    hasPush x B = false := by
  induction A with
  | nil => cases hf
  | cons m A ih =>
    rw [List.cons_append, finLast_cons, Bool.and_eq_true] at h
    cases hm : isFin x m with
    | true =>
      have h1 := h.1
      rw [hm] at h1
      simp only [if_true, Bool.not_eq_true', hasPush_append, Bool.or_eq_false_iff] at h1
      exact h1.2
    | false =>
      apply ih h.2
      simpa [hasFin, hm] using hf

theorem finLast_fin_tail {x : Nat} {p r : List Msg} {m : Msg} (h : finLast x (p ++ m :: r) = true) (hm : isFin x m = true) :
    hasPush x r = false :=
  finLast_append_fin x (p ++ [m]) r (by rw [List.append_assoc]; exact h) (by rw [hasFin_append, hasFin_single, hm, Bool.or_true])

theorem finLast_fin_cons (x : Nat) (r : List Msg) (h : finLast x (.frame (.finish x) :: r) = true) : hasPush x r = false :=
  finLast_fin_tail (p := []) h (isFin_fin x)

theorem inMsgs_tail_sublist (w : WsIn) (r : List WsIn) : List.Sublist (inMsgs r) (inMsgs (w :: r)) :=
  inMsgs_sublist (List.sublist_cons_self w r)

/-- The part of the invariant about the END of the direction left → right, for object `j` of the right side.
    `S`: the `Push x` payloads the left sink has taken; `R`: those accepted into `j`; `W`: the payloads the left
    side's writes queued as `Push x`; `P`: how many `Finish x` the right side processed while its slot of `x`
    was `Established j`. -/
structure Fin (x j : Nat) (c : PC) (S R W : List Bytes) (P : Nat) : Prop where
  /-- what was sent or is queued was written … -/
  f0 : S ++ pX x c.a.outq <+: W
  /-- … and is everything written, unless the queue was dropped -/
  f1 : S ++ pX x c.a.outq = W ∨ (c.a.outClosed = true ∧ c.a.outq = [])
  /-- a `Finish x` under way comes from a shut-down stream (or `x` is the id of a bind request): nothing can be
      written on `x` any more, and no `Push x` follows it -/
  f2 : hasFin x c.path = true → (sm x c).dead ∨ (1 ≤ c.a.nobj ∧ c.a.nw = 0 ∧ finLast x c.path = true)
  /-- once the `Finish x` has left the sender, everything written has -/
  f3 : hasFin x (inMsgs c.b.inbox ++ c.ab) = true → (sm x c).dead ∨ S = W
  /-- a cut after the `Finish x` was delivered lost no `Push x` -/
  f4 : c.abOpen = false → c.b.canJ = true → hasFin x (inMsgs c.b.inbox) = true →
    (sm x c).dead ∨ R ++ pX x (inMsgs c.b.inbox) = S
  /-- … also if object `j` does not exist yet -/
  f4p : c.abOpen = false → c.b.len ≤ j → Pot x c → hasFin x (inMsgs c.b.inbox) = true →
    (sm x c).dead ∨ pX x (inMsgs c.b.inbox) = S
  /-- object `j` holds the slot with an open receiver but no sender: a `Finish x` was processed for it -/
  f5 : c.b.slot = some (.established j) → c.b.rxJ = true → c.b.canJ = false → 1 ≤ P
  /-- after a `Finish x` processed for `j` (receiver still open): everything written was accepted -/
  f6 : 1 ≤ P → c.b.rxJ = true → R = W ∧ 1 ≤ c.a.nobj ∧ c.a.nw = 0 ∧ hasPush x c.path = false
  f7 : ∀ i, c.b.slot = some (.established i) → i < c.b.len
  f8 : 1 ≤ P → j < c.b.len

end Penguin.PairAll
