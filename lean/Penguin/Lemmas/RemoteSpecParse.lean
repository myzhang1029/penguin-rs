/-
Lemmas about `Penguin.RemoteSpec.parse` as a whole: the shape of a run, the panic sites, the
protocol split, which arm a token list selects.
-/
import Penguin.Lemmas.RemoteSpec

namespace Penguin.RemoteSpec
open Penguin.Constants

/-! ### Constants, spelled out

The key words are what the proofs compute with; the two default addresses are spelled out for the reader of `Props/C01`. -/

theorem kwSocks_eq : kwSocks = ['s', 'o', 'c', 'k', 's'] := by decide
theorem kwHttp_eq : kwHttp = ['h', 't', 't', 'p'] := by decide
theorem kwTproxy_eq : kwTproxy = ['t', 'p', 'r', 'o', 'x', 'y'] := by decide
theorem kwStdio_eq : kwStdio = ['s', 't', 'd', 'i', 'o'] := by decide
theorem kwTcp_eq : kwTcp = ['t', 'c', 'p'] := by decide
theorem kwUdp_eq : kwUdp = ['u', 'd', 'p'] := by decide
theorem unixPrefix_eq : unixPrefix = ['u', 'n', 'i', 'x', ':'] := by decide
theorem defaultLocal_eq : defaultLocal = "127.0.0.1".toList := by decide
theorem defaultUnspec_eq : defaultUnspec = "0.0.0.0".toList := by decide

/-! ### The shape of a run -/

def finish (o : Oracle) (proto : Protocol) (texts : List Str) : Except Fail Remote :=
  match evalArm o proto (selectArm texts) with
  | .error e => .error e
  | .ok r => postChecks r

theorem parse_eq (o : Oracle) (s : Str) :
    parse o s =
      match splitProto o s with
      | .error e => .error e
      | .ok (rest, proto) =>
        match tokenize rest with
        | .error e => .error e
        | .ok toks => finish o proto (toks.map (·.text)) := by
  unfold parse parseArm finish
  cases splitProto o s with
  | error e => rfl
  | ok v =>
    obtain ⟨rest, proto⟩ := v
    simp only []
    cases tokenize rest with
    | error e => rfl
    | ok toks => rfl

/-! ### The errors of the pieces -/

theorem portOrBail_error {t : Str} {e : Fail} (h : portOrBail t = .error e) :
    ∃ k, e = .err (.port t k) ∧ parseU16 t = .error k := by
  unfold portOrBail at h
  split at h
  · cases h
  · next k hk => cases h; exact ⟨k, rfl, hk⟩

theorem domainOrBail_error {o : Oracle} {t : Str} {e : Fail} (h : domainOrBail o t = .error e) :
    e = .err (.invalidDomain t) := by
  unfold domainOrBail at h
  split at h <;> cases h
  rfl

theorem remoteSpecial_socks : remoteSpecial kwSocks = .ok .socks := by decide
theorem remoteSpecial_http : remoteSpecial kwHttp = .ok .http := by decide
theorem remoteSpecial_tproxy : remoteSpecial kwTproxy = .ok .tproxy := by decide

theorem remoteSpecial_of_isSpecial {t : Str} (h : isSpecial t = true) : ∃ r, remoteSpecial t = .ok r := by
  simp only [isSpecial, Bool.or_eq_true, decide_eq_true_eq] at h
  rcases h with (rfl | rfl) | rfl
  · exact ⟨_, remoteSpecial_socks⟩
  · exact ⟨_, remoteSpecial_http⟩
  · exact ⟨_, remoteSpecial_tproxy⟩

/-- What `match tokens[..]` binds is what the arm bodies rely on: the sub-slice handed to
    `parse_remote_special!` is one of the three key words, and the wildcard arm is not taken. -/
def Matched.Good : Matched → Prop
  | .stdioSpecial2 s => s = kwSocks ∨ s = kwHttp
  | .unixSpecial2 _ s => isSpecial s = true
  | .portSpecial2 _ s => isSpecial s = true
  | .special3 _ _ s => isSpecial s = true
  | .wildcard => False
  | _ => True

/-- The slice patterns of `match tokens[..]` cover the lengths one to four. -/
theorem no_arm_matches {ts : List Str} (n1 : ∀ t0, ts = [t0] → False) (n2 : ∀ t0 t1, ts = [t0, t1] → False)
    (n3 : ∀ t0 t1 t2, ts = [t0, t1, t2] → False) (n4 : ∀ t0 t1 t2 t3, ts = [t0, t1, t2, t3] → False) :
    ts = [] ∨ 4 < ts.length := by
  rcases ts with _ | ⟨a, _ | ⟨b, _ | ⟨c, _ | ⟨d, _ | _⟩⟩⟩⟩
  · exact .inl rfl
  · exact absurd rfl (n1 a)
  · exact absurd rfl (n2 a b)
  · exact absurd rfl (n3 a b c)
  · exact absurd rfl (n4 a b c d)
  · exact .inr (by simp)

theorem selectArm_good (ts : List Str) (h1 : ts ≠ []) (h4 : ts.length ≤ 4) : (selectArm ts).Good := by
  fun_cases selectArm ts
  -- an arm that hands a sub-slice to `parse_remote_special!` is guarded by the test `Good` asks for
  all_goals try trivial
  next h => exact h.2
  next h => exact h.1
  next n1 n2 n3 n4 => exact (no_arm_matches n1 n2 n3 n4).elim h1 (Nat.not_lt.mpr h4)

theorem isSpecial_of_socks_or_http {s : Str} (h : s = kwSocks ∨ s = kwHttp) : isSpecial s = true := by
  rcases h with rfl | rfl <;> decide

/-- The one walk over the arm bodies: an arm fails only where `parse_port_or_bail!` fails on one of its sub-slices,
    where idna refuses a host, or with the `stdio`/`tproxy` refusal; `parse_remote_special!` does not fail on what
    `Good` arms hand it. -/
theorem evalArm_errIn {E : Fail → Prop} (o : Oracle) (proto : Protocol) {m : Matched} (hg : m.Good)
    (hport : ∀ t ∈ m.pieces, ErrIn E (portOrBail t)) (hdom : ∀ t, ErrIn E (domainOrBail o t))
    (hcomb : E (.err (.unsupportedCombination .stdioTproxy))) : ErrIn E (evalArm o proto m) := by
  have hsp : ∀ t, isSpecial t = true → ErrIn E (remoteSpecial t) := fun t ht => by
    obtain ⟨r, hr⟩ := remoteSpecial_of_isSpecial ht
    rw [hr]
    exact .ok r
  cases m <;> simp only [evalArm] <;>
    first
    | exact .ok _
    | exact .error hcomb
    | exact absurd hg id
    | (repeat' first
        | exact .ok _
        | apply ErrIn.bind
        | exact hport _ (by simp [Matched.pieces])
        | exact hdom _
        | exact hsp _ hg
        | exact hsp _ (isSpecial_of_socks_or_http hg)
        | intro _)

theorem postChecks_errIn {E : Fail → Prop} (h : ∀ c, E (.err (.unsupportedCombination c))) (r : Remote) :
    ErrIn E (postChecks r) := by
  unfold postChecks
  split
  · exact .error (h _)
  · split
    · exact .error (h _)
    · split
      · exact .error (h _)
      · exact .ok _

/-- What the post-checks have let pass (the converse is `postChecks_ok`, `Lemmas/RemoteSpecForms.lean`). -/
theorem of_postChecks_ok {r r' : Remote} (h : postChecks r = .ok r') :
    r' = r ∧ ¬ ((r.remoteAddr = .socks ∨ r.remoteAddr = .http) ∧ r.protocol = .udp) ∧
      ¬ (r.localAddr.isDomainSocket = true ∧ r.protocol = .udp) ∧
      ¬ (r.localAddr.isDomainSocket = true ∧ r.remoteAddr = .tproxy) := by
  unfold postChecks at h
  split at h
  · cases h
  · next h1 =>
    split at h
    · cases h
    · next h2 =>
      split at h
      · cases h
      · next h3 => simp at h; exact ⟨h.symm, h1, h2, h3⟩

theorem parseProtocol_errIn {E : Fail → Prop} (h : ∀ p, E (.err (.protocol p))) (o : Oracle) (s : Str) :
    ErrIn E (parseProtocol o s) := by
  unfold parseProtocol
  simp only
  split
  · exact .ok _
  · split
    · exact .ok _
    · exact .error (h _)

theorem splitProto_errIn {E : Fail → Prop} (h : ∀ p, E (.err (.protocol p))) (o : Oracle) (s : Str) :
    ErrIn E (splitProto o s) := by
  unfold splitProto
  split
  · split
    · exact .ok _
    · next rest ptxt _ _ =>
      split
      · exact .ok _
      · next e he => exact .error (parseProtocol_errIn h o ptxt e he)
  · exact .ok _

/-- The one walk over `Remote::from_str`: protocol split, tokenizer, arm, post-checks. -/
theorem parse_errIn {E : Fail → Prop} (o : Oracle) (s : Str) (hproto : ∀ p, E (.err (.protocol p)))
    (htok : ∀ rest, ErrIn E (tokenize rest))
    (harm : ∀ proto (toks : List Tok), toks ≠ [] → toks.length ≤ 4 → (∀ t ∈ toks, t.WF) →
      ErrIn E (evalArm o proto (selectArm (toks.map (·.text)))))
    (hcomb : ∀ c, E (.err (.unsupportedCombination c))) : ErrIn E (parse o s) := by
  rw [parse_eq]
  split
  · next e he => exact .error (splitProto_errIn hproto o s e he)
  · next rest proto _ =>
    split
    · next e he => exact .error (htok rest e he)
    · next toks ht =>
      obtain ⟨hne, hl, hw, _⟩ := tokenize_ok ht
      unfold finish
      split
      · next e he => exact .error (harm proto toks hne hl hw e he)
      · exact postChecks_errIn hcomb _

/-- The same walk over an accepted text. -/
theorem parse_ok {o : Oracle} {s : Str} {r : Remote} (h : parse o s = .ok r) :
    ∃ rest proto toks, splitProto o s = .ok (rest, proto) ∧ tokenize rest = .ok toks ∧
      (selectArm (toks.map (·.text))).Good ∧ evalArm o proto (selectArm (toks.map (·.text))) = .ok r ∧
      postChecks r = .ok r := by
  rw [parse_eq] at h
  split at h
  · cases h
  · next rest proto hsp =>
    split at h
    · cases h
    · next toks ht =>
      obtain ⟨hne, hl, _, _⟩ := tokenize_ok ht
      unfold finish at h
      split at h
      · cases h
      · next r0 he =>
        obtain ⟨rfl, _⟩ := of_postChecks_ok h
        exact ⟨rest, proto, toks, hsp, ht, selectArm_good _ (by simpa using hne) (by simpa using hl), he, h⟩

/-- Neither `unreachable!()` of `Remote::from_str` is reachable, and the unrolled tokenizer loop does
    not run out of iterations: for every text and every behaviour of the two library functions. -/
theorem parse_noPanic (o : Oracle) (s : Str) (p : PanicSite) : parse o s ≠ .error (.panic p) := fun h =>
  parse_errIn (E := fun e => ∀ p, e ≠ .panic p) o s (fun _ _ h => nomatch h)
    (fun rest _ he p hp => tokenize_no_panic rest p (hp ▸ he))
    (fun proto toks hne hl _ =>
      evalArm_errIn o proto (selectArm_good _ (by simpa using hne) (by simpa using hl))
        (fun t _ _ he p hp => by obtain ⟨_, rfl, _⟩ := portOrBail_error he; cases hp)
        (fun t _ he p hp => by cases domainOrBail_error he; cases hp) (fun _ h => nomatch h))
    (fun _ _ h => nomatch h) _ h p rfl

/-! ### The protocol split -/

theorem splitProto_suffix (o : Oracle) {rest ptxt : Str} (h1 : '/' ∉ ptxt) (h2 : ':' ∉ ptxt) :
    splitProto o (rest ++ '/' :: ptxt) =
      match parseProtocol o ptxt with
      | .ok p => .ok (rest, p)
      | .error e => .error e := by
  unfold splitProto
  rw [rsplitOnce_append h1]
  simp only [h2, if_false]
  cases parseProtocol o ptxt <;> rfl

/-- No protocol is split off when there is no `/`, or when a `:` follows the last `/`. -/
theorem splitProto_none (o : Oracle) {s : Str} (h : ∀ a b, rsplitOnce '/' s = some (a, b) → ':' ∈ b) :
    splitProto o s = .ok (s, .tcp) := by
  unfold splitProto
  split
  · next rest proto hs => simp [h rest proto hs]
  · rfl

theorem parseProtocol_tcp {o : Oracle} {p : Str} (h : o.lower p = kwTcp) : parseProtocol o p = .ok .tcp := by
  simp [parseProtocol, h]

theorem parseProtocol_udp {o : Oracle} {p : Str} (h : o.lower p = kwUdp) : parseProtocol o p = .ok .udp := by
  have : kwUdp ≠ kwTcp := by decide
  simp [parseProtocol, h, this]

theorem parseProtocol_other {o : Oracle} {p : Str} (h1 : o.lower p ≠ kwTcp) (h2 : o.lower p ≠ kwUdp) :
    parseProtocol o p = .error (.err (.protocol (o.lower p))) := by
  simp [parseProtocol, h1, h2]

theorem parse_join_suffix (o : Oracle) {toks : List Tok} (hw : ∀ t ∈ toks, t.WF) (hne : toks ≠ [])
    (hl : toks.length ≤ 4) {ptxt : Str} {proto : Protocol} (h1 : '/' ∉ ptxt) (h2 : ':' ∉ ptxt)
    (hp : parseProtocol o ptxt = .ok proto) :
    parse o (joinToks toks ++ '/' :: ptxt) = finish o proto (toks.map (·.text)) := by
  rw [parse_eq, splitProto_suffix o h1 h2, hp]
  simp only [tokenize_join hw hne hl]

theorem parse_join_plain (o : Oracle) {toks : List Tok} (hw : ∀ t ∈ toks, t.WF) (hne : toks ≠ [])
    (hl : toks.length ≤ 4) (hs : ∀ a b, rsplitOnce '/' (joinToks toks) = some (a, b) → ':' ∈ b) :
    parse o (joinToks toks) = finish o .tcp (toks.map (·.text)) := by
  rw [parse_eq, splitProto_none o hs]
  simp only [tokenize_join hw hne hl]

theorem joinToks_append_singleton (init : List Tok) (hi : init ≠ []) (last : Tok) :
    joinToks (init ++ [last]) = joinToks init ++ ':' :: last.render := by
  induction init with
  | nil => exact absurd rfl hi
  | cons t rest ih =>
    cases rest with
    | nil => simp [joinToks]
    | cons u us =>
      have := ih (by simp)
      simp only [List.cons_append] at this ⊢
      rw [joinToks_cons_cons, this, joinToks_cons_cons]
      simp

/-- When the last token contains no `/`, a `/` further left is followed by the `:` in front of the
    last token: such a text has no protocol suffix. -/
theorem no_suffix_of_last (init : List Tok) (last : Tok) (hlast : '/' ∉ last.render) :
    ∀ a b, rsplitOnce '/' (joinToks (init ++ [last])) = some (a, b) → ':' ∈ b := by
  intro a b h
  obtain ⟨e, hb⟩ := rsplitOnce_some.mp h
  cases init with
  | nil =>
    simp [joinToks] at e
    exact absurd (e ▸ (by simp : '/' ∈ a ++ '/' :: b)) hlast
  | cons t rest =>
    rw [joinToks_append_singleton _ (by simp)] at e
    rcases List.append_eq_append_iff.mp e with ⟨a', e1, e2⟩ | ⟨c', e1, e2⟩
    · cases a' with
      | nil => simp at e2
      | cons x xs =>
        simp at e2
        exact absurd (e2.2 ▸ (by simp : '/' ∈ xs ++ '/' :: b)) hlast
    · cases c' with
      | nil => simp at e2
      | cons x xs =>
        simp at e2
        rw [e2.2]; simp

end Penguin.RemoteSpec
