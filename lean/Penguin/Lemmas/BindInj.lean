/-
Second part of the invariant of one direction of bind traffic (`Lemmas/BindDir`): the links between a
request of the asking side and the `BindRequest` it became at the answering side are one-to-one, and a
linked request that is still unresolved is exactly there (awaiting the decision, or its answer is on
its way back).  `DirInv` bundles both parts; the moves preserve it.  Core Lean only.
-/
import Penguin.Lemmas.BindDir

namespace Penguin.BindPair
open Penguin.Mux

structure DirInj (d : Dir) : Prop where
  /-- a request owns at most one flow id -/
  uniq : ∀ x y r, ownerF d.flows x = some r → ownerF d.flows y = some r → x = y
  /-- a linked request that still owns an id: its `BindRequest` awaits the decision, or the answer travels -/
  lko : ∀ r k, (r, k) ∈ d.links → ∀ x, ownerF d.flows x = some r →
          ∃ b, d.held[k]? = some b ∧ b.fid = x ∧ (b.pending = true ∨ ∃ acc, (x, acc) ∈ d.anss)
  injR : (d.links.map (·.1)).Nodup
  injK : (d.links.map (·.2)).Nodup

structure DirInv (d : Dir) : Prop where
  core : DirCore d
  inj : DirInj d

theorem DirInv.of_eq {d d' : Dir} (h : DirInv d) (e : d' = d) : DirInv d' := e ▸ h

theorem DirInv.owner_of_mem {d : Dir} (h : DirInv d) {x : Nat} (hx : x ∈ d.toks) : ∃ req, ownerF d.flows x = some req :=
  h.core.owner_of_mem hx

theorem recOf_fid {r : Nat} {b b' : BindIn} (h : recOf r b' = recOf r b) : b'.fid = b.fid := by
  have := congrArg Asked.fid h
  exact this

theorem DirCore.link_req_asked {d : Dir} (h : DirCore d) {r k : Nat} (hl : (r, k) ∈ d.links) : r ∈ d.asked.map (·.req) := by
  obtain ⟨b, _, ha⟩ := h.lkf r k hl
  exact List.mem_map.mpr ⟨recOf r b, ha, rfl⟩

theorem DirInv.ask {d : Dir} (h : DirInv d) (req x : Nat) (bt : BindType) (host : Bytes) (port : Nat)
    (hx : lookup d.flows x = none) (hreq : req ∉ d.asked.map (·.req)) : DirInv (d.ask req x bt host port) := by
  refine ⟨h.core.ask req x bt host port hx, ?_⟩
  have hown := fun y r => ownerF_insert_some (m := d.flows) (x := x) (req := req) (y := y) (r := r)
  refine ⟨?_, ?_, h.inj.injR, h.inj.injK⟩
  · intro y z r hy hz
    rcases hown _ _ hy with ⟨hy1, hy2⟩ | ⟨_, hy2⟩ <;> rcases hown _ _ hz with ⟨hz1, hz2⟩ | ⟨_, hz2⟩
    · rw [hy1, hz1]
    · subst hy2; exact absurd (h.core.own z _ hz2) hreq
    · subst hz2; exact absurd (h.core.own y _ hy2) hreq
    · exact h.inj.uniq y z r hy2 hz2
  · intro r k hl y hy
    rcases hown _ _ hy with ⟨_, hy2⟩ | ⟨_, hy2⟩
    · subst hy2; exact absurd (h.core.link_req_asked hl) hreq
    · exact h.inj.lko r k hl y hy2

theorem DirInv.askClosed {d : Dir} (h : DirInv d) (req : Nat) : DirInv (d.askClosed req) :=
  ⟨h.core.askClosed req, ⟨h.inj.uniq, h.inj.lko, h.inj.injR, h.inj.injK⟩⟩

/-- `DirInj` only looks at the table, the held requests, the links and which ids have an answer under way. -/
theorem DirInj.shuffle {d d' : Dir} (h : DirInj d) (hf : d'.flows = d.flows) (hh : d'.held = d.held)
    (hlinks : d'.links = d.links) (hans : ∀ x acc, (x, acc) ∈ d.anss → (x, acc) ∈ d'.anss) : DirInj d' := by
  refine ⟨?_, ?_, ?_, ?_⟩
  · rw [hf]; exact h.uniq
  · intro r k hl x hx
    rw [hlinks] at hl; rw [hf] at hx
    obtain ⟨b, hb, hfx, hp⟩ := h.lko r k hl x hx
    refine ⟨b, by rw [hh]; exact hb, hfx, ?_⟩
    rcases hp with hp | ⟨acc, ha⟩
    · exact Or.inl hp
    · exact Or.inr ⟨acc, hans x acc ha⟩
  · rw [hlinks]; exact h.injR
  · rw [hlinks]; exact h.injK

theorem DirInv.recvBind {d : Dir} (h : DirInv d) (hp : d.park = none) : DirInv d.recvBind := by
  refine ⟨h.core.recvBind hp, ?_⟩
  unfold Dir.recvBind
  split
  · exact h.inj
  · split
    · exact h.inj.shuffle rfl rfl rfl (fun x acc ha => List.mem_append_left _ ha)
    · split
      · exact h.inj.shuffle rfl rfl rfl (fun x acc ha => ha)
      · exact h.inj.shuffle rfl rfl rfl (fun x acc ha => ha)

theorem DirInv.unpark {d : Dir} (h : DirInv d) : DirInv d.unpark := by
  refine ⟨h.core.unpark, ?_⟩
  unfold Dir.unpark
  split
  · exact h.inj
  · split
    · exact h.inj.shuffle rfl rfl rfl (fun x acc ha => ha)
    · exact h.inj

theorem count_two_le {l1 l2 : List Nat} {x : Nat} (h1 : x ∈ l1) (h2 : x ∈ l2) : 2 ≤ (l1 ++ l2).count x := by
  rw [List.count_append]
  have a := List.count_pos_iff.mpr h1
  have b := List.count_pos_iff.mpr h2
  omega

theorem DirInv.next {d : Dir} (h : DirInv d) : DirInv d.next := by
  refine ⟨h.core.next, ?_⟩
  unfold Dir.next
  split
  · exact h.inj
  · rename_i c rest hq
    obtain ⟨hcar, hcp, r, hr⟩ := h.core.bindq_head hq
    simp only [hr]
    -- the request is not linked yet: otherwise its id would be at two places
    have hnew : r ∉ d.links.map (·.1) := by
      intro hm
      obtain ⟨⟨r', k'⟩, hl, hr'⟩ := List.mem_map.mp hm
      simp only at hr'; subst hr'
      obtain ⟨b, hb, hfx, hp⟩ := h.inj.lko _ k' hl c.fid hr
      have hc1 := h.core.cnt c.fid
      rw [hr] at hc1
      simp only [Option.isSome_some, if_true] at hc1
      have hin1 : c.fid ∈ d.bindq.map (·.fid) := by rw [hq]; simp
      rcases hp with hp | ⟨acc, ha⟩
      · have hin2 : c.fid ∈ pendHeld d.held := hfx ▸ mem_pendHeld hb hp
        have := count_two_le hin1 hin2
        simp only [Dir.toks, List.count_append] at hc1 this
        omega
      · have hin2 : c.fid ∈ d.anss.map (·.1) := List.mem_map.mpr ⟨(c.fid, acc), ha, rfl⟩
        have h2a := List.count_pos_iff.mpr hin1
        have h2b := List.count_pos_iff.mpr hin2
        simp only [Dir.toks, List.count_append] at hc1
        omega
    have hklt : ∀ r' k', (r', k') ∈ d.links → k' < d.held.length := by
      intro r' k' hl
      obtain ⟨b, hb, _⟩ := h.core.lkf r' k' hl
      rcases Nat.lt_or_ge k' d.held.length with hlt | hge
      · exact hlt
      · rw [List.getElem?_eq_none hge] at hb; cases hb
    refine ⟨h.inj.uniq, ?_, ?_, ?_⟩
    · intro r' k' hl x hx
      simp only [List.mem_append, List.mem_singleton, Prod.mk.injEq] at hl
      rcases hl with hl | ⟨rfl, rfl⟩
      · obtain ⟨b, hb, hfx, hp⟩ := h.inj.lko r' k' hl x hx
        exact ⟨b, getElem?_append_some c hb, hfx, hp⟩
      · refine ⟨c, ?_, h.inj.uniq _ _ _ hr hx, Or.inl hcp⟩
        simp only [List.getElem?_append_right (Nat.le_refl _), Nat.sub_self, List.getElem?_cons_zero]
    · simp only [List.map_append, List.map_cons, List.map_nil]
      exact nodup_snoc h.inj.injR hnew
    · simp only [List.map_append, List.map_cons, List.map_nil]
      refine nodup_snoc h.inj.injK fun ha => ?_
      obtain ⟨⟨r', k'⟩, hl, hk'⟩ := List.mem_map.mp ha
      have := hklt r' k' hl
      simp only at hk'; omega

theorem DirInv.decide {d : Dir} (h : DirInv d) (k : Nat) (b : BindIn) (f : BindIn → BindIn) (acc : Bool)
    (hk : d.held[k]? = some b) (hp : b.pending = true) (hf : (f b).pending = false)
    (hsame : ∀ r, recOf r (f b) = recOf r b) : DirInv (d.decide k b f acc) := by
  refine ⟨h.core.decide k b f acc hk hp hf hsame, h.inj.uniq, ?_, h.inj.injR, h.inj.injK⟩
  intro r k' hl x hx
  obtain ⟨b', hb', hfx, hp'⟩ := h.inj.lko r k' hl x hx
  by_cases hkk : k = k'
  · subst hkk
    rw [hk] at hb'; cases hb'
    refine ⟨f b, getElem?_modify_self d.held k f b hk, (recOf_fid (hsame 0)).trans hfx, Or.inr ⟨acc, ?_⟩⟩
    simp only [Dir.decide, List.mem_append, List.mem_singleton]
    exact Or.inr (by rw [hfx])
  · refine ⟨b', by simp only [Dir.decide, getElem?_modify_other d.held k k' f hkk]; exact hb', hfx, ?_⟩
    rcases hp' with hp' | ⟨a, ha⟩
    · exact Or.inl hp'
    · exact Or.inr ⟨a, by simp only [Dir.decide, List.mem_append]; exact Or.inl ha⟩

theorem DirInv.touch {d : Dir} (h : DirInv d) (k : Nat) (b : BindIn) (f : BindIn → BindIn)
    (hk : d.held[k]? = some b) (hp : b.pending = false) (hf : (f b).pending = false)
    (hsame : ∀ r, recOf r (f b) = recOf r b) : DirInv (d.touch k f) := by
  refine ⟨h.core.touch k b f hk hp hf hsame, h.inj.uniq, ?_, h.inj.injR, h.inj.injK⟩
  intro r k' hl x hx
  obtain ⟨b', hb', hfx, hp'⟩ := h.inj.lko r k' hl x hx
  by_cases hkk : k = k'
  · subst hkk
    rw [hk] at hb'; cases hb'
    refine ⟨f b, getElem?_modify_self d.held k f b hk, (recOf_fid (hsame 0)).trans hfx, ?_⟩
    rcases hp' with hp' | hp'
    · rw [hp] at hp'; cases hp'
    · exact Or.inr hp'
  · exact ⟨b', by simp only [Dir.touch, getElem?_modify_other d.held k k' f hkk]; exact hb', hfx, hp'⟩

theorem DirInv.recvAns {d : Dir} (h : DirInv d) : DirInv d.recvAns := by
  refine ⟨h.core.recvAns, ?_⟩
  unfold Dir.recvAns
  split
  · exact h.inj
  · rename_i x acc rest hq
    have hmem : (x, acc) ∈ d.anss := by rw [hq]; simp
    obtain ⟨r, hr⟩ := h.core.owner_of_mem (Dir.mem_toks_ans hmem)
    simp only [hr]
    refine ⟨?_, ?_, h.inj.injR, h.inj.injK⟩
    · intro y z r' hy hz
      exact h.inj.uniq y z r' (ownerF_erase_some hy).2 (ownerF_erase_some hz).2
    · intro r' k hl y hy
      obtain ⟨hyx, hy'⟩ := ownerF_erase_some hy
      obtain ⟨b, hb, hfx, hp⟩ := h.inj.lko r' k hl y hy'
      refine ⟨b, hb, hfx, ?_⟩
      rcases hp with hp | ⟨a, ha⟩
      · exact Or.inl hp
      · rw [hq] at ha
        simp only [List.mem_cons, Prod.mk.injEq] at ha
        rcases ha with ⟨hyx', _⟩ | ha
        · exact absurd hyx' hyx
        · exact Or.inr ⟨a, ha⟩

end Penguin.BindPair
