/-
Every function of the endpoint model is a composition of a few primitive steps, and the trace of those steps
says which KINDS of step the function uses, what each step emits and which fields it writes.

`Upd k e evs e'`: one primitive step of kind `k` from `e` to `e'` emitting `evs`, with a guard (`pushRx`: the queue
has room; `reqSlot`: the id is free and non-zero, the outbound queue is open; `answerOpen`: the request is pending; …).
The guards are those of the model's tests that some relation reads, not all the model tests (`spend` does not say that
there is credit): a guard that one relation reads names it where it stands, one that none reads says so.  A relation
that needs a further test adds a hypothesis to the constructor and supplies it where the step is built (`grep` for
the kind, e.g. `.obj .spend`, in this file).  The steps on requests change the state and emit the answer at once, so
"every answer is for a pending request, which is not pending afterwards" holds across each of them.  The kind of a
step on a stream object tells the update (`obj ok`, `OUpd`), the kind of a queued message its sort (`enq t`,
`Msg.tag`).  The steps on the queues towards the application, on the book-keeping and on the open requests are three
families (`QUpd`, `CUpd`, `RUpd`) entered through `Upd.queue`, `Upd.ctl`, `Upd.req`: a relation that does not read
what a family writes has one case for it.

`Path A e evs e'`: a sequence of steps whose kinds are all in the set `A` (`Kinds`, a bit set), events appended.
For every function `f` of `Model/Mux.lean`, `Model/MuxStart.lean`, `Model/MuxHist.lean` that changes the state there is
a theorem `Path.f : Path A e (f e …).2 (f e …).1` (`closeLocal`, `openRejected` are covered by their callers'); the set
is named `K.f` where a user computes with it and is written out where it has one or two kinds; the functions of the
task's loops share `K.task`.  `K.processFrameOf f`, `K.opStep op`, `K.applyOpX op` give the set by the frame or the
call.  The functions that change the state are proved step by step (one block); the task's loops compose them:
`Path.walkLoop` makes `Path A` a relation the loops preserve (`Mux.WalkLoop`, Lemmas/MuxLeaves.lean), `Path.walk` adds
the open futures (`Mux.Walk`), and the paths of `windDownTail` … `settle` are read off these.

The path only has to END in the state the model computes, with the model's events in the model's order; where
that keeps an invariant true at every step it takes the field updates in another order than the model (a stream
object is closed before its slot is erased; the final drain closes the stream objects, removes the slots that are no
bind requests and then the bind requests one by one, each with its answer; the answered open calls are handed over
one by one; a bind request is held before it leaves its queue).

What follows from a path:
 * `Path.rel`: a relation on (state, events, later state) that is reflexive, composes, and holds across every
   step whose kind is in `A` holds along every path over `A`; a relation that fails across some kinds (`R.bad`) is
   still proved kind by kind (`R.of_upd`), and holds for every function whose set avoids them (`R.of_path`);
 * `Path.frame`: a field that no kind of `A` writes is unchanged;
 * `Path.emits`: an event of a sort that no kind of `A` emits does not occur.
The side conditions (`A ⊆ B`, `A` and `B` disjoint, `k ∉ A`) are computed: `by decide +kernel`, the default argument
(the kernel evaluates the bit sets, which the elaborator does dearly; neither takes a goal with a free variable: after a
`cases op`, `dsimp only [K.opStep]` first).  `K.opStep_sub`, `K.applyOpX_sub` use `decide`: their many small goals after
`cases op` would each pay for a declaration of its own.

Adding a kind: its constructor and its step's; for an `OKind` or `MTag` the constants of `Kind.idx` (not checked where
they are written: see there) and `Kinds.objs` / `Kinds.enqs`; `Field.writers`, `EvSort.emitters`, the family's set
(`Kinds.queue` / `.ctl` / `.req`); the `K.f` of each function that takes the step.  What is forgotten of the rest fails in
`Upd.frame`, `Upd.emits` or `Path.f`.
Core Lean only.
-/
import Penguin.Model.MuxHist
import Penguin.Lemmas.MuxLeaves

namespace Penguin.Mux

/-- The ways the model changes one stream object. -/
inductive OKind where
  | closeWrite | disallowWrite | closeRx | grant | senderGone | pushRx | popRx | dropRx | setBuf | recvd | park
  | unparkW | spend | shutdown

/-- The sort of a queued message: which frame it is, or no frame. -/
inductive MTag where
  | connect | acknowledge | reset | finish | push | bind | datagram | other

def Msg.tag : Msg → MTag
  | .frame (.connect ..) => .connect | .frame (.acknowledge ..) => .acknowledge | .frame (.reset _) => .reset
  | .frame (.finish _) => .finish | .frame (.push ..) => .push | .frame (.bind ..) => .bind
  | .frame (.datagram ..) => .datagram | _ => .other

/-- The kinds of step.  Two steps that some relation must tell apart have two kinds (`acceptBind` / `refuseBind` /
    `drainBind` / `failBind`: which answer a bind request gets; `clearOut` / `discardOut`; `bindPush` / `bindUnpark`;
    `park` / `parkBind`; `handOver` / `handOut`: the step where the task takes it, and the model's function on any
    argument). -/
inductive Kind where
  | obj (ok : OKind)
  | enq (t : MTag)
  | erase | reqSlot | startBind | failBind | newStream | acceptBind | refuseBind | dropSlots | drainBind
  | acceptPush | acceptPop | dgramPush | dgramPop | bindPush | bindUnpark | bindPop | dropQueues
  | closeOut | muxGone | die
  | rejectSlot | retryClear
  | send | clearOut | discardOut
  | inboxPush | inboxClear | inboxSet | srcEnded | sinkRoom
  | handle | heldPush | heldMod
  | droppedPush | droppedPop | droppedClear
  | park | parkBind | draw | closing | draining
  | wireClose | exit
  | startOpen | retryOpen | dropOpen | answerOpen | ackOpen | handOver | handOut | answerRest

inductive OUpd : OKind → Obj → Obj → Prop
  | closeWrite (o : Obj) : OUpd .closeWrite o { o.disallowWrite with senderAlive := false }
  | disallowWrite (o : Obj) : OUpd .disallowWrite o o.disallowWrite
  | closeRx (o : Obj) : OUpd .closeRx o { o with rxOpen := false }
  | grant (o : Obj) (n : Nat) : OUpd .grant o { o.wake with credit := (o.credit + n) % 4294967296 }
  | senderGone (o : Obj) : OUpd .senderGone o { o with senderAlive := false }
  /-- `h`: the bound of the queue (`KeepsB`, Lemmas/MuxBound.lean); `ho`: only an open receiver takes bytes (no relation
      reads it). -/
  | pushRx (o : Obj) (d : Bytes) (h : o.rxq.length < o.cap) (ho : o.rxOpen = true) : OUpd .pushRx o { o with rxq := o.rxq ++ [d] }
  /-- `hb`: the buffer that is overwritten is empty, so the readable bytes stay (`OUpd.rx_keeps`, Lemmas/MuxIntegrity.lean). -/
  | popRx (o : Obj) (f : Bytes) (rest : List Bytes) (h : o.rxq = f :: rest) (hb : o.buf = []) :
      OUpd .popRx o { o with rxq := rest, buf := f }
  | dropRx (o : Obj) : OUpd .dropRx o { o with rxOpen := false, rxq := [], parked := false }
  | setBuf (o : Obj) (b : Bytes) : OUpd .setBuf o { o with buf := b }
  | recvd (o : Obj) (k : Nat) : OUpd .recvd o { o with recvdSince := k }
  /-- `hc`, `hf`: a writer parks only without credit and before its `Finish` (`Keeps`, Lemmas/MuxWake.lean). -/
  | park (o : Obj) (hc : o.credit = 0) (hf : o.finishSent = false) : OUpd .park o { o with parked := true, woken := false }
  | unparkW (o : Obj) : OUpd .unparkW o { o with parked := false }
  | spend (o : Obj) : OUpd .spend o { o with credit := o.credit - 1, parked := false }
  | shutdown (o : Obj) : OUpd .shutdown o { o with finishSent := true, parked := false }

theorem OUpd.fixed {k : OKind} {o o' : Obj} (u : OUpd k o o') :
    o'.fid = o.fid ∧ o'.destHost = o.destHost ∧ o'.destPort = o.destPort := by
  cases u with
  | closeWrite | disallowWrite | grant => simp only [Obj.disallowWrite, Obj.wake]; split <;> exact ⟨rfl, rfl, rfl⟩
  | _ => exact ⟨rfl, rfl, rfl⟩

def Slot.isBind : Slot → Bool
  | .bindRequested _ => true
  | _ => false

def Slot.isEst : Slot → Bool
  | .established _ => true
  | _ => false

/-- Steps on the three bounded queues towards the application.  The guards of the pushes are the bounds (`KeepsB`,
    Lemmas/MuxBound.lean). -/
inductive QUpd : Kind → EP → EP → Prop
  | acceptPush (e : EP) (i : Nat) (h : e.acceptq.length < e.opts.acceptCap) :
      QUpd .acceptPush e { e with acceptq := e.acceptq ++ [i] }
  | acceptPop (e : EP) (i : Nat) (rest : List Nat) (h : e.acceptq = i :: rest) : QUpd .acceptPop e { e with acceptq := rest }
  | dgramPush (e : EP) (d : Dgram) (h : e.dgramq.length < e.opts.dgramCap) :
      QUpd .dgramPush e { e with dgramq := e.dgramq ++ [d] }
  | dgramPop (e : EP) (d : Dgram) (rest : List Dgram) (h : e.dgramq = d :: rest) : QUpd .dgramPop e { e with dgramq := rest }
  | bindPush (e : EP) (b : BindIn) (h : e.bindq.length < e.opts.bindCap) : QUpd .bindPush e { e with bindq := e.bindq ++ [b] }
  /-- The parked bind request is handed over at last (`hp`): no new request, unlike `bindPush` (`BSame`,
      Lemmas/PairBindEff.lean: the ids of the peer's bind requests, over `park`, `bindq` and `held`, do not grow). -/
  | bindUnpark (e : EP) (b : BindIn) (hp : e.park = some (.bind b)) (h : e.bindq.length < e.opts.bindCap) :
      QUpd .bindUnpark e { e with bindq := e.bindq ++ [b] }
  | bindPop (e : EP) (b : BindIn) (rest : List BindIn) (h : e.bindq = b :: rest) : QUpd .bindPop e { e with bindq := rest }
  /-- The `Multiplexor` is dropped: the application's ends of the three queues go with what they hold. -/
  | dropQueues (e : EP) : QUpd .dropQueues e { e with acceptq := [], dgramq := [], bindq := [] }

/-- Steps of the book-keeping of the task's loops, of the handles and of the transport's side; silent. -/
inductive CUpd : Kind → EP → EP → Prop
  | inboxPush (e : EP) (ws : List WsIn) : CUpd .inboxPush e { e with inbox := e.inbox ++ ws }
  | inboxClear (e : EP) : CUpd .inboxClear e { e with inbox := [] }
  /-- `recvOne` leaves `rest` (where the task calls it, the inbox less its head); `windDownTail` puts back what is left. -/
  | inboxSet (e : EP) (l : List WsIn) : CUpd .inboxSet e { e with inbox := l }
  | srcEnded (e : EP) : CUpd .srcEnded e { e with srcEnded := true }
  | sinkRoom (e : EP) (n : Option Nat) : CUpd .sinkRoom e { e with sinkRoom := n }
  | handle (e : EP) (i : Nat) : CUpd .handle e { e with handles := e.handles ++ [i] }
  /-- The application takes the oldest bind request: it is held before it leaves the queue (`h`: no new id, `BSame`). -/
  | heldPush (e : EP) (b : BindIn) (h : b ∈ e.bindq) : CUpd .heldPush e { e with held := e.held ++ [b] }
  /-- `hf`: a held request keeps its flow id (`BSame`). -/
  | heldMod (e : EP) (k : Nat) (f : BindIn → BindIn) (hf : ∀ b, (f b).fid = b.fid) :
      CUpd .heldMod e { e with held := e.held.modify k f }
  | droppedPush (e : EP) (fid : Nat) : CUpd .droppedPush e { e with droppedq := e.droppedq ++ [fid] }
  /-- `h`: no relation reads it. -/
  | droppedPop (e : EP) (fid : Nat) (rest : List Nat) (h : e.droppedq = fid :: rest) :
      CUpd .droppedPop e { e with droppedq := rest }
  | droppedClear (e : EP) : CUpd .droppedClear e { e with droppedq := [] }
  /-- `h`: only `parkBind` parks a bind request (`BSame`). -/
  | park (e : EP) (p : Option Park) (h : ∀ b, p ≠ some (.bind b)) : CUpd .park e { e with park := p }
  /-- A bind request from the wire finds the queue full. -/
  | parkBind (e : EP) (b : BindIn) : CUpd .parkBind e { e with park := some (.bind b) }
  | draw (e : EP) (rng : List Nat) (fb : Nat) : CUpd .draw e { e with rng := rng, fallback := fb }
  | closing (e : EP) (c : Option ExitRes) : CUpd .closing e { e with closing := c }
  | draining (e : EP) (d : Option ExitRes) : CUpd .draining e { e with draining := d }
  | retryClear (e : EP) : CUpd .retryClear e { e with retryq := [] }

/-- Steps on the open requests: each changes the pending requests and emits the answer at once.  The guards say that
    the request is pending: what `Once` (Lemmas/MuxOnce.lean) and `Kept` (Lemmas/MuxStartKept.lean) read. -/
inductive RUpd : Kind → EP → List Ev → EP → Prop
  /-- A new open request (`h`: no relation reads it). -/
  | startOpen (e : EP) (r : OpenReq) (h : r.req ∉ e.opens.map (·.req)) : RUpd .startOpen e [] { e with opens := r :: e.opens }
  /-- The request stays pending under a new record (one retry less). -/
  | retryOpen (e : EP) (r : OpenReq) (h : r.req ∈ e.opens.map (·.req)) :
      RUpd .retryOpen e [] { e with opens := r :: e.opens.filter (·.req ≠ r.req) }
  /-- A request goes without an answer: its future is gone, or there was none. -/
  | dropOpen (e : EP) (req : Nat) : RUpd .dropOpen e [] { e with opens := e.opens.filter (·.req ≠ req) }
  | answerOpen (e : EP) (req : Nat) (r : OpenRes) (h : req ∈ e.opens.map (·.req)) :
      RUpd .answerOpen e [.openDone req r] { e with opens := e.opens.filter (·.req ≠ req) }
  /-- The request is answered with stream `i`; its future has not run yet. -/
  | ackOpen (e : EP) (req i : Nat) (h : req ∈ e.opens.map (·.req)) :
      RUpd .ackOpen e [] { e with doneq := e.doneq ++ [(req, i)], opens := e.opens.filter (·.req ≠ req) }
  /-- The future of an answered request runs and returns the stream under the next handle. -/
  | handOver (e : EP) (req i : Nat) (h : (req, i) ∈ e.doneq) :
      RUpd .handOver e [.openDone req (.ok e.handles.length)]
        { e with handles := e.handles ++ [i], doneq := e.doneq.erase (req, i) }
  /-- `runDone` as a function of any list; on the answered requests (`runDoneq`) it is `handOver`. -/
  | handOut (e : EP) (req i : Nat) :
      RUpd .handOut e [.openDone req (.ok e.handles.length)] { e with handles := e.handles ++ [i] }
  /-- The end of the wind-down: every request for which `p` is false is answered `Closed`. -/
  | answerRest (e : EP) (p : Nat → Bool) :
      RUpd .answerRest e ((e.opens.filter (fun r => !p r.req)).map (fun r => Ev.openDone r.req .closed))
        { e with opens := e.opens.filter (fun r => p r.req) }

/-- The primitive steps.  `e` is the state before; the guards are those of the model's tests there that some relation reads.
    The steps on the queues, the book-keeping and the requests are three families of their own: a relation that does
    not read what a family writes treats it in one case (`QUpd.frame`, `CUpd.frame`, `RUpd.frame`). -/
inductive Upd : Kind → EP → List Ev → EP → Prop
  /-- `f` need be an object update only at the object it is applied to.  An invariant of every object crosses it by
      `modObj_get_self` / `modObj_get_ne` (Lemmas/MuxBasic.lean) and `h` at `i`: the `obj` case of `KeepsB.of_upd`
      (Lemmas/MuxBound.lean). -/
  | obj (ok : OKind) (e : EP) (i : Nat) (f : Obj → Obj) (h : ∀ o, e.objs[i]? = some o → OUpd ok o (f o)) :
      Upd (.obj ok) e [] (e.modObj i f)
  /-- `hb`: the slot is no bind request (that is `acceptBind`, `refuseBind`; `Kept`, Lemmas/MuxStartKept.lean, reads it);
      `hc`: a stream object it refers to has been closed (`WF_erase`, Lemmas/MuxWF.lean). -/
  | erase (e : EP) (fid : Nat) (hb : ∀ r, lookup e.flows fid ≠ some (.bindRequested r))
      (hc : ∀ i, lookup e.flows fid = some (.established i) → closedAt e i) :
      Upd .erase e [] { e with flows := erase e.flows fid }
  /-- `h0`: id 0 is the `Multiplexor`'s (`Bnd.zero`, Lemmas/MuxBound.lean); `hfree`: `WF_insert_pending`; `hoc`: with the
      outbound queue closed the table does not grow (`Still`, Lemmas/MuxEndedTable.lean). -/
  | reqSlot (e : EP) (fid req : Nat) (h0 : fid ≠ 0) (hfree : lookup e.flows fid = none) (hoc : e.outClosed = false) :
      Upd .reqSlot e [] { e with flows := insert e.flows fid (.requested req) }
  | startBind (e : EP) (fid req : Nat) (h0 : fid ≠ 0) (hfree : lookup e.flows fid = none) (hoc : e.outClosed = false) :
      Upd .startBind e [] { e with flows := insert e.flows fid (.bindRequested req) }
  | failBind (e : EP) (req : Nat) : Upd .failBind e [.bindDone req .closed] e
  /-- `Connect` under a free id, or `Acknowledge` for a `Requested` slot. -/
  | newStream (e : EP) (fid rwnd : Nat) (host : Bytes) (port : Nat)
      (hslot : (fid ≠ 0 ∧ lookup e.flows fid = none) ∨ ∃ req, lookup e.flows fid = some (.requested req)) :
      Upd .newStream e [] { e with objs := e.objs ++ [newObj e.opts fid rwnd host port],
                                   flows := insert e.flows fid (.established e.objs.length) }
  /-- The peer answers a bind request (`Finish`: accepted; `Reset`: refused) and its slot goes. -/
  | acceptBind (e : EP) (fid req : Nat) (h : lookup e.flows fid = some (.bindRequested req)) :
      Upd .acceptBind e [.bindDone req .accepted] { e with flows := erase e.flows fid }
  | refuseBind (e : EP) (fid req : Nat) (h : lookup e.flows fid = some (.bindRequested req)) :
      Upd .refuseBind e [.bindDone req .refused] { e with flows := erase e.flows fid }
  /-- The final drain has closed the stream objects (`hc`: `WF_dropSlots`, Lemmas/MuxWF.lean); every slot that is no bind
      request goes. -/
  | dropSlots (e : EP) (hc : ∀ fid i, (fid, .established i) ∈ e.flows → closedAt e i) :
      Upd .dropSlots e [] { e with flows := e.flows.filter (·.2.isBind) }
  /-- The final drain refuses the first of the bind requests that are left (`h`, `hb`: `OnceB.popBind`, `Kept.popBind`,
      `WF_drainBind`). -/
  | drainBind (e : EP) (fid req : Nat) (rest : List (Nat × Slot)) (h : e.flows = (fid, .bindRequested req) :: rest)
      (hb : ∀ p ∈ rest, p.2.isBind = true) : Upd .drainBind e [.bindDone req .refused] { e with flows := rest }
  | closeOut (e : EP) : Upd .closeOut e [] { e with outClosed := true }
  | muxGone (e : EP) : Upd .muxGone e [] { e with muxAlive := false }
  /-- The task finishes, after the final drain (`h`: no relation reads it). -/
  | die (e : EP) (h : e.flows = []) : Upd .die e [] { e with dead := true }
  /-- The peer rejects the id of a pending open request: the slot goes and the future runs its next round later.  Slot and
      retry in ONE step, `h`: `KeepsU.rejectSlot` (Lemmas/MuxAccountReq.lean); `hr`: no relation reads it. -/
  | rejectSlot (e : EP) (fid req : Nat) (h : lookup e.flows fid = some (.requested req)) (hr : req ∈ e.opens.map (·.req)) :
      Upd .rejectSlot e [] { e with flows := erase e.flows fid, retryq := e.retryq ++ [req] }
  /-- A message of sort `t` is queued (or not, if the queue is closed). -/
  | enq (t : MTag) (e : EP) (m : Msg) (ht : m.tag = t) : Upd (.enq t) e [] (e.enq m)
  | send (e : EP) : Upd .send e (sendSome e).2 (sendSome e).1
  /-- The wind-down throws away what is queued, after it has closed the queue (`h`: nothing thrown away was still to be
      sent, the logs of sent bytes, Lemmas/MuxIntegritySend.lean). -/
  | clearOut (e : EP) (h : e.outClosed = true) : Upd .clearOut e [] { e with outq := [] }
  /-- The sink has failed while the wind-down was draining the queue. -/
  | discardOut (e : EP) : Upd .discardOut e [] { e with outq := [] }
  | wireClose (e : EP) : Upd .wireClose e [.wireClose] e
  | exit (e : EP) (res : ExitRes) : Upd .exit e [.exit res] e
  | queue {k : Kind} {e e' : EP} (q : QUpd k e e') : Upd k e [] e'
  | ctl {k : Kind} {e e' : EP} (c : CUpd k e e') : Upd k e [] e'
  | req {k : Kind} {e e' : EP} {x : List Ev} (r : RUpd k e x e') : Upd k e x e'

/-- The objects after `e.modObj i f`: at every index the object that was there, or at `i` its image, which `h` relates to
    it (`h` of `Upd.obj` with `R := OUpd ok`). -/
theorem modObj_back {R : Obj → Obj → Prop} {e : EP} {i : Nat} {f : Obj → Obj} (h : ∀ o, e.objs[i]? = some o → R o (f o))
    {j : Nat} {o' : Obj} (hj : (e.modObj i f).objs[j]? = some o') : ∃ o, e.objs[j]? = some o ∧ (o' = o ∨ R o o') := by
  by_cases hji : j = i
  · subst hji
    rw [modObj_get_self] at hj
    cases ho : e.objs[j]? with
    | none => rw [ho] at hj; cases hj
    | some o => rw [ho] at hj; cases hj; exact ⟨o, rfl, .inr (h o ho)⟩
  · exact ⟨o', by rw [← modObj_get_ne _ _ _ _ hji]; exact hj, .inl rfl⟩

theorem modObj_fwd {R : Obj → Obj → Prop} {e : EP} {i : Nat} {f : Obj → Obj} (h : ∀ o, e.objs[i]? = some o → R o (f o))
    {j : Nat} {o : Obj} (hj : e.objs[j]? = some o) : ∃ o', (e.modObj i f).objs[j]? = some o' ∧ (o' = o ∨ R o o') := by
  by_cases hji : j = i
  · subst hji; exact ⟨f o, by rw [modObj_get_self, hj]; rfl, .inr (h o hj)⟩
  · exact ⟨o, by rw [modObj_get_ne _ _ _ _ hji]; exact hj, .inl rfl⟩

theorem modObj_all {R : Obj → Obj → Prop} {P : Obj → Prop} {e : EP} {i : Nat} {f : Obj → Obj}
    (h : ∀ o, e.objs[i]? = some o → R o (f o)) (hP : ∀ o o', R o o' → P o → P o')
    (hall : ∀ (j : Nat) (o : Obj), e.objs[j]? = some o → P o) :
    ∀ (j : Nat) (o : Obj), (e.modObj i f).objs[j]? = some o → P o := fun j _ hj =>
  let ⟨o, ho, hr⟩ := modObj_back h hj
  hr.elim (fun he => he ▸ hall j o ho) (fun r => hP _ _ r (hall j o ho))

/-- A property of every object holds after an object that has it is appended (a stream is created). -/
theorem append_all {P : Obj → Prop} {objs : List Obj} {o : Obj} (hn : P o)
    (hall : ∀ (j : Nat) (x : Obj), objs[j]? = some x → P x) :
    ∀ (j : Nat) (x : Obj), (objs ++ [o])[j]? = some x → P x := by
  intro j x hj
  rw [List.getElem?_append] at hj
  split at hj
  · exact hall j x hj
  · obtain rfl : o = x := by
      cases hk : j - objs.length with
      | zero => rw [hk] at hj; exact Option.some.inj hj
      | succ n => rw [hk] at hj; cases hj
    exact hn

theorem modObj_rel {R Q : Obj → Obj → Prop} {e : EP} {i : Nat} {f : Obj → Obj}
    (h : ∀ o, e.objs[i]? = some o → R o (f o)) (hQ : ∀ o o', R o o' → Q o o') (hr : ∀ o, Q o o) :
    ∀ (j : Nat) (o : Obj), e.objs[j]? = some o → ∃ o', (e.modObj i f).objs[j]? = some o' ∧ Q o o' := fun _ o hj =>
  let ⟨o', ho', r⟩ := modObj_fwd h hj
  ⟨o', ho', r.elim (fun he => he ▸ hr o) (hQ _ _)⟩

/-- The bit of a kind: the 14 `OKind`s, then the 8 `MTag`s, then the other kinds (`Kind.ctorIdx` of the first of them
    is 2).  Nothing needs it injective: two kinds on one bit are one kind to every set, so a check `sub` / `disj` that
    should pass may fail, and nothing false passes. -/
def Kind.idx : Kind → Nat
  | .obj ok => ok.ctorIdx
  | .enq t => 14 + t.ctorIdx
  | k => 20 + k.ctorIdx

/-- A set of kinds, as the number whose bit `k.idx` says whether `k` is in it: membership, inclusion and
    disjointness, the side conditions of this file, are computations on numbers whatever the size of the sets. -/
structure Kinds where
  bits : Nat

namespace Kinds

def has (A : Kinds) (k : Kind) : Bool := A.bits.testBit k.idx

instance : Membership Kind Kinds := ⟨fun A k => A.has k = true⟩

instance (A : Kinds) (k : Kind) : Decidable (k ∈ A) := inferInstanceAs (Decidable (A.has k = true))

def of (l : List Kind) : Kinds := ⟨l.foldr (fun k n => 2 ^ k.idx ||| n) 0⟩

instance : Union Kinds := ⟨fun A B => ⟨A.bits ||| B.bits⟩⟩

/-- `A ⊆ B`. -/
def sub (A B : Kinds) : Bool := A.bits &&& B.bits == A.bits

/-- `A` and `B` have no kind in common. -/
def disj (A B : Kinds) : Bool := A.bits &&& B.bits == 0

theorem mem_of_self (k : Kind) : k ∈ of [k] := by
  show (2 ^ k.idx ||| 0).testBit k.idx = true
  rw [Nat.testBit_or, Nat.testBit_two_pow, decide_eq_true rfl]; rfl

theorem mem_union {A B : Kinds} {k : Kind} (h : k ∈ A ∨ k ∈ B) : k ∈ A ∪ B := by
  show (A.bits ||| B.bits).testBit k.idx = true
  rw [Nat.testBit_or, Bool.or_eq_true]; exact h

theorem mem_union_self {A : Kinds} {k : Kind} (h : k ∈ A ∪ A) : k ∈ A := by
  have : (A.bits ||| A.bits).testBit k.idx = true := h
  rw [Nat.testBit_or, Bool.or_self] at this; exact this

theorem mem_of_sub {A B : Kinds} {k : Kind} (h : A.sub B = true) (hk : k ∈ A) : k ∈ B := by
  have h1 : (A.bits &&& B.bits).testBit k.idx = true := by rw [eq_of_beq h]; exact hk
  rw [Nat.testBit_and, Bool.and_eq_true] at h1
  exact h1.2

theorem not_mem_of_sub {A B : Kinds} {k : Kind} (hk : k ∉ B) (h : A.sub B = true := by decide +kernel) : k ∉ A :=
  fun hm => hk (mem_of_sub h hm)

theorem not_mem_of_disj {A B : Kinds} {k : Kind} (h : A.disj B = true) (hk : k ∈ A) : k ∉ B := by
  intro hb
  have h1 : (A.bits &&& B.bits).testBit k.idx = false := by rw [eq_of_beq h]; exact Nat.zero_testBit _
  rw [Nat.testBit_and, show A.bits.testBit k.idx = true from hk, show B.bits.testBit k.idx = true from hb] at h1
  cases h1

/-- What has nothing in common with `B` has nothing in common with a part of `B`: one computed check `A.disj B` serves
    several frames. -/
theorem disj_mono {A B C : Kinds} (h : A.disj B = true) (hs : C.sub B = true) : A.disj C = true := by
  have h1 : A.bits &&& B.bits = 0 := eq_of_beq h
  have h2 : C.bits &&& B.bits = C.bits := eq_of_beq hs
  show (A.bits &&& C.bits == 0) = true
  rw [← h2, Nat.and_comm C.bits, ← Nat.and_assoc, h1, Nat.zero_and]; rfl

end Kinds

inductive Path (A : Kinds) : EP → List Ev → EP → Prop
  | refl (e : EP) : Path A e [] e
  | step {k : Kind} {a b c : EP} {x y : List Ev} (hk : k ∈ A) (u : Upd k a x b) (p : Path A b y c) : Path A a (x ++ y) c

namespace Path

variable {A B : Kinds} {a b c : EP} {x y : List Ev}

theorem cast (p : Path A a x b) (h : y = x) : Path A a y b := h ▸ p

theorem weaken (p : Path A a x b) (h : ∀ k, k ∈ A → k ∈ B) : Path B a x b := by
  induction p with
  | refl => exact .refl _
  | step hk u _ ih => exact .step (h _ hk) u ih

/-- The same path seen over a larger set; the inclusion is computed.  Paths are built over the union of the kinds of
    their steps (`one`, `trans`) and brought to the set of the statement by one `mono` at the end. -/
theorem mono (p : Path A a x b) (h : A.sub B = true := by decide +kernel) : Path B a x b :=
  p.weaken fun _ => Kinds.mem_of_sub h

theorem one {k : Kind} (u : Upd k a x b) : Path (.of [k]) a x b :=
  (step (Kinds.mem_of_self k) u (refl b)).cast (List.append_nil x).symm

theorem trans (p : Path A a x b) (q : Path B b y c) : Path (A ∪ B) a (x ++ y) c := by
  induction p with
  | refl => exact q.weaken fun _ h => Kinds.mem_union (.inr h)
  | step hk u _ ih => exact (step (Kinds.mem_union (.inl hk)) u (ih q)).cast (List.append_assoc ..)

/-- A path followed by a silent one (`x ++ []` is not `x` by computation; `[] ++ x` is, so `trans` serves for a
    silent path followed by another). -/
theorem sil (p : Path A a x b) (q : Path B b [] c) : Path (A ∪ B) a x c := (p.trans q).cast (List.append_nil x).symm

theorem rel {R : EP → List Ev → EP → Prop} (refl : ∀ e, R e [] e)
    (trans : ∀ {a b c x y}, R a x b → R b y c → R a (x ++ y) c)
    (upd : ∀ {k e x e'}, k ∈ A → Upd k e x e' → R e x e') (p : Path A a x b) : R a x b := by
  induction p with
  | refl e => exact refl e
  | step hk u _ ih => exact trans (upd hk u) ih

theorem rel0 {R : EP → EP → Prop} (refl : ∀ e, R e e) (trans : ∀ {a b c}, R a b → R b c → R a c)
    (upd : ∀ {k e x e'}, k ∈ A → Upd k e x e' → R e e') (p : Path A a x b) : R a b :=
  p.rel (R := fun e _ e' => R e e') refl trans upd

end Path

inductive Field where
  | opts | flows | objs | handles | outq | outClosed | inbox | acceptq | dgramq | bindq | held | droppedq | opens | rng
  | fallback | park | closing | srcEnded | retryq | doneq | sinkRoom | draining | muxAlive | dead

@[reducible] def Field.type : Field → Type
  | .opts => Opts | .flows => List (Nat × Slot) | .objs => List Obj | .handles => List Nat | .outq => List Msg
  | .outClosed => Bool | .inbox => List WsIn | .acceptq => List Nat | .dgramq => List Dgram | .bindq => List BindIn
  | .held => List BindIn | .droppedq => List Nat | .opens => List OpenReq | .rng => List Nat | .fallback => Nat
  | .park => Option Park | .closing => Option ExitRes | .srcEnded => Bool | .retryq => List Nat
  | .doneq => List (Nat × Nat) | .sinkRoom => Option Nat | .draining => Option ExitRes | .muxAlive => Bool | .dead => Bool

@[reducible] def Field.get : (X : Field) → EP → X.type
  | .opts, e => e.opts | .flows, e => e.flows | .objs, e => e.objs | .handles, e => e.handles | .outq, e => e.outq
  | .outClosed, e => e.outClosed | .inbox, e => e.inbox | .acceptq, e => e.acceptq | .dgramq, e => e.dgramq
  | .bindq, e => e.bindq | .held, e => e.held | .droppedq, e => e.droppedq | .opens, e => e.opens | .rng, e => e.rng
  | .fallback, e => e.fallback | .park, e => e.park | .closing, e => e.closing | .srcEnded, e => e.srcEnded
  | .retryq, e => e.retryq | .doneq, e => e.doneq | .sinkRoom, e => e.sinkRoom | .draining, e => e.draining
  | .muxAlive, e => e.muxAlive | .dead, e => e.dead

def Kinds.objs : Kinds :=
  .of [.obj .closeWrite, .obj .disallowWrite, .obj .closeRx, .obj .grant, .obj .senderGone, .obj .pushRx, .obj .popRx,
    .obj .dropRx, .obj .setBuf, .obj .recvd, .obj .park, .obj .unparkW, .obj .spend, .obj .shutdown]

def Kinds.enqs : Kinds :=
  .of [.enq .connect, .enq .acknowledge, .enq .reset, .enq .finish, .enq .push, .enq .bind, .enq .datagram, .enq .other]

def Field.writers : Field → Kinds
  | .opts => .of []
  | .flows => .of [.erase, .reqSlot, .startBind, .newStream, .acceptBind, .refuseBind, .dropSlots, .drainBind, .rejectSlot]
  | .objs => .of [.newStream] ∪ .objs
  | .handles => .of [.handle, .handOver, .handOut]
  | .outq => .of [.send, .clearOut, .discardOut] ∪ .enqs
  | .outClosed => .of [.closeOut]
  | .inbox => .of [.inboxPush, .inboxClear, .inboxSet]
  | .acceptq => .of [.acceptPush, .acceptPop, .dropQueues]
  | .dgramq => .of [.dgramPush, .dgramPop, .dropQueues]
  | .bindq => .of [.bindPush, .bindUnpark, .bindPop, .dropQueues]
  | .held => .of [.heldPush, .heldMod]
  | .droppedq => .of [.droppedPush, .droppedPop, .droppedClear]
  | .opens => .of [.startOpen, .retryOpen, .dropOpen, .answerOpen, .ackOpen, .answerRest]
  | .rng | .fallback => .of [.draw]
  | .park => .of [.park, .parkBind]
  | .closing => .of [.closing]
  | .srcEnded => .of [.srcEnded]
  | .retryq => .of [.rejectSlot, .retryClear]
  | .doneq => .of [.ackOpen, .handOver]
  | .sinkRoom => .of [.sinkRoom, .send]
  | .draining => .of [.draining]
  | .muxAlive => .of [.muxGone]
  | .dead => .of [.die]

/-- `e'` on the fields that kind `k` writes, `e` on the others. -/
def EP.patch (k : Kind) (e e' : EP) : EP where
  opts := if k ∈ Field.opts.writers then e'.opts else e.opts
  flows := if k ∈ Field.flows.writers then e'.flows else e.flows
  objs := if k ∈ Field.objs.writers then e'.objs else e.objs
  handles := if k ∈ Field.handles.writers then e'.handles else e.handles
  outq := if k ∈ Field.outq.writers then e'.outq else e.outq
  outClosed := if k ∈ Field.outClosed.writers then e'.outClosed else e.outClosed
  inbox := if k ∈ Field.inbox.writers then e'.inbox else e.inbox
  acceptq := if k ∈ Field.acceptq.writers then e'.acceptq else e.acceptq
  dgramq := if k ∈ Field.dgramq.writers then e'.dgramq else e.dgramq
  bindq := if k ∈ Field.bindq.writers then e'.bindq else e.bindq
  held := if k ∈ Field.held.writers then e'.held else e.held
  droppedq := if k ∈ Field.droppedq.writers then e'.droppedq else e.droppedq
  opens := if k ∈ Field.opens.writers then e'.opens else e.opens
  rng := if k ∈ Field.rng.writers then e'.rng else e.rng
  fallback := if k ∈ Field.fallback.writers then e'.fallback else e.fallback
  park := if k ∈ Field.park.writers then e'.park else e.park
  closing := if k ∈ Field.closing.writers then e'.closing else e.closing
  srcEnded := if k ∈ Field.srcEnded.writers then e'.srcEnded else e.srcEnded
  retryq := if k ∈ Field.retryq.writers then e'.retryq else e.retryq
  doneq := if k ∈ Field.doneq.writers then e'.doneq else e.doneq
  sinkRoom := if k ∈ Field.sinkRoom.writers then e'.sinkRoom else e.sinkRoom
  draining := if k ∈ Field.draining.writers then e'.draining else e.draining
  muxAlive := if k ∈ Field.muxAlive.writers then e'.muxAlive else e.muxAlive
  dead := if k ∈ Field.dead.writers then e'.dead else e.dead

theorem EP.patch_get (k : Kind) (e e' : EP) (X : Field) (h : k ∉ X.writers) : X.get (EP.patch k e e') = X.get e := by
  cases X <;> exact if_neg h

/-- Kind by kind, `e'` is `EP.patch k e e'` by computation of the tests `k ∈ X.writers`: one equation per kind, where
    field by field it would be kinds × fields cases. -/
theorem Upd.frame {k : Kind} {e e' : EP} {evs : List Ev} (u : Upd k e evs e') (X : Field)
    (h : k ∉ X.writers := by decide +kernel) : X.get e' = X.get e := by
  have of_patch : ∀ {e'}, e' = EP.patch k e e' → X.get e' = X.get e := fun hp => hp ▸ EP.patch_get _ _ _ _ h
  cases u with
  | obj ok => cases X <;> first | rfl | exact absurd (by cases ok <;> decide +kernel) h
  | enq t =>
    unfold EP.enq; split <;> cases X <;> first | rfl | exact absurd (by cases t <;> decide +kernel) h
  | send => unfold sendSome; split <;> exact of_patch rfl
  | queue q => cases q <;> exact of_patch rfl
  | ctl c => cases c <;> exact of_patch rfl
  | req r => cases r <;> exact of_patch rfl
  | _ => exact of_patch rfl

def Kinds.queue : Kinds :=
  .of [.acceptPush, .acceptPop, .dgramPush, .dgramPop, .bindPush, .bindUnpark, .bindPop, .dropQueues]
def Kinds.ctl : Kinds :=
  .of [.inboxPush, .inboxClear, .inboxSet, .srcEnded, .sinkRoom, .handle, .heldPush, .heldMod, .droppedPush,
    .droppedPop, .droppedClear, .park, .parkBind, .draw, .closing, .draining, .retryClear]
def Kinds.req : Kinds := .of [.startOpen, .retryOpen, .dropOpen, .answerOpen, .ackOpen, .handOver, .handOut, .answerRest]

/-- A field that no step of the family writes is unchanged: the one case of a family in a relation that does not
    read what the family writes. -/
theorem QUpd.frame {k : Kind} {e e' : EP} (q : QUpd k e e') (X : Field)
    (h : Kinds.queue.disj X.writers = true := by decide +kernel) : X.get e' = X.get e :=
  (Upd.queue q).frame X (Kinds.not_mem_of_disj h (by cases q <;> decide +kernel))

theorem CUpd.frame {k : Kind} {e e' : EP} (c : CUpd k e e') (X : Field)
    (h : Kinds.ctl.disj X.writers = true := by decide +kernel) : X.get e' = X.get e :=
  (Upd.ctl c).frame X (Kinds.not_mem_of_disj h (by cases c <;> decide +kernel))

theorem RUpd.frame {k : Kind} {e e' : EP} {x : List Ev} (r : RUpd k e x e') (X : Field)
    (h : Kinds.req.disj X.writers = true := by decide +kernel) : X.get e' = X.get e :=
  (Upd.req r).frame X (Kinds.not_mem_of_disj h (by cases r <;> decide +kernel))

/-- Queueing a message, whatever its sort: the one case of `enq` in a relation that does not read the queue.  (For
    `send`: `(Upd.send e).frame X`.) -/
theorem enq_frame (e : EP) (m : Msg) (X : Field) (h : Kinds.enqs.disj X.writers = true := by decide +kernel) :
    X.get (e.enq m) = X.get e :=
  (Upd.enq _ e m rfl).frame X (Kinds.not_mem_of_disj h (by cases m.tag <;> decide +kernel))

theorem Path.frame {A : Kinds} {e e' : EP} {evs : List Ev} (p : Path A e evs e') (X : Field)
    (h : A.disj X.writers = true := by decide +kernel) : X.get e' = X.get e :=
  p.rel0 (R := fun e e' => X.get e' = X.get e) (fun _ => rfl) (fun s t => t.trans s)
    (fun hk u => u.frame X (Kinds.not_mem_of_disj h hk))

/-- The sorts of event; a bind answer by its result (only `failBind` answers `closed`: `nc_of_path`,
    Lemmas/BindAllClosed.lean). -/
inductive EvSort where
  | wire | wireClose | openDone | bindDone (r : BindRes) | exit

def Ev.sort : Ev → EvSort
  | .wire _ => .wire | .wireClose => .wireClose | .openDone _ _ => .openDone | .bindDone _ r => .bindDone r | .exit _ => .exit

def EvSort.emitters : EvSort → Kinds
  | .wire => .of [.send]
  | .wireClose => .of [.wireClose]
  | .openDone => .of [.answerOpen, .handOver, .handOut, .answerRest]
  | .bindDone .accepted => .of [.acceptBind]
  | .bindDone .refused => .of [.refuseBind, .drainBind]
  | .bindDone .closed => .of [.failBind]
  | .exit => .of [.exit]

theorem Upd.emits {k : Kind} {e e' : EP} {evs : List Ev} (u : Upd k e evs e') : ∀ ev ∈ evs, k ∈ ev.sort.emitters := by
  have single : ∀ {ev : Ev}, k ∈ ev.sort.emitters → ∀ ev' ∈ [ev], k ∈ ev'.sort.emitters :=
    fun h ev' hev => List.mem_singleton.mp hev ▸ h
  cases u with
  | send =>
    intro ev hev
    obtain ⟨sent, hs, _⟩ := sendSome_split e
    rw [hs] at hev
    obtain ⟨m, _, rfl⟩ := List.mem_map.mp hev
    exact (by decide +kernel : Kind.send ∈ EvSort.wire.emitters)
  | failBind | acceptBind | refuseBind | drainBind | wireClose | exit => exact single (by dsimp only [Ev.sort]; decide +kernel)
  | req r =>
    cases r with
    | answerRest p =>
      intro ev hev
      obtain ⟨r, _, rfl⟩ := List.mem_map.mp hev
      exact (by decide +kernel : Kind.answerRest ∈ EvSort.openDone.emitters)
    | answerOpen | handOver | handOut => exact single (by dsimp only [Ev.sort]; decide +kernel)
    | _ => exact List.forall_mem_nil _
  | _ => exact List.forall_mem_nil _

theorem Path.emits {A : Kinds} {e e' : EP} {evs : List Ev} (p : Path A e evs e') (S : EvSort)
    (h : A.disj S.emitters = true := by decide +kernel) : ∀ ev ∈ evs, ev.sort ≠ S :=
  p.rel (R := fun _ evs _ => ∀ ev ∈ evs, ev.sort ≠ S) (fun _ _ h => nomatch h)
    (fun s t ev hev => (List.mem_append.mp hev).elim (s ev) (t ev))
    (fun hk u ev hev hS => Kinds.not_mem_of_disj h hk (hS ▸ u.emits ev hev))

theorem dropWireClose_map {α : Type} (l : List α) (f : α → Ev) (hf : ∀ z, f z ≠ .wireClose) :
    dropWireClose (l.map f) = l.map f := by
  unfold dropWireClose
  refine List.filter_eq_self.mpr fun ev h => ?_
  obtain ⟨z, _, rfl⟩ := List.mem_map.mp h
  have := hf z
  split <;> first | rfl | contradiction

/-- With a failed sink the same steps are taken, less the closing of the sink (`Model/MuxStart.lean`). -/
theorem Path.dropWireClose {A : Kinds} {e e' : EP} {evs : List Ev} (p : Path A e evs e') :
    Path A e (Mux.dropWireClose evs) e' := by
  induction p with
  | refl e => exact .refl e
  | @step k a b c x y hk u _ ih =>
    rw [show Mux.dropWireClose (x ++ y) = Mux.dropWireClose x ++ Mux.dropWireClose y from List.filter_append ..]
    -- the step is the closing of the sink, which changes nothing, or none of its events is dropped
    have hx : (a = b ∧ x = [.wireClose]) ∨ Mux.dropWireClose x = x := by
      cases u with
      | wireClose => exact .inl ⟨rfl, rfl⟩
      | send => obtain ⟨sent, hs, _⟩ := sendSome_split a; rw [hs]; exact .inr (dropWireClose_map sent _ nofun)
      | req r =>
        cases r with
        | answerRest p => exact .inr (dropWireClose_map _ _ nofun)
        | _ => exact .inr rfl
      | _ => exact .inr rfl
    rcases hx with ⟨rfl, rfl⟩ | hx
    · exact ih
    · rw [hx]; exact .step hk u ih

namespace K

def openRound : Kinds := .of [.answerOpen, .draw, .reqSlot, .retryOpen, .enq .connect]
def appOpen : Kinds := .of [.startOpen] ∪ openRound
def closeFlow : Kinds := .of [.obj .closeWrite, .erase, .enq .reset, .rejectSlot, .refuseBind]
def offerAccept : Kinds := .of [.acceptPush, .park]
def offerBind : Kinds := .of [.bindPush, .parkBind]
def connectFrame : Kinds := .of [.enq .reset, .enq .acknowledge, .newStream, .obj .closeRx, .droppedPush] ∪ offerAccept
def ackFrame : Kinds := .of [.enq .reset, .obj .grant, .newStream, .ackOpen, .obj .closeRx, .droppedPush]
def finishFrame : Kinds := .of [.enq .reset, .acceptBind, .erase, .answerOpen, .obj .senderGone]
def pushFrame : Kinds := .of [.enq .reset, .obj .pushRx] ∪ closeFlow
def bindFrame : Kinds := .of [.enq .reset] ∪ offerBind

def processFrameOf : Frame → Kinds
  | .connect .. => connectFrame
  | .acknowledge .. => ackFrame
  | .finish _ => finishFrame
  | .reset _ => closeFlow
  | .push .. => pushFrame
  | .bind .. => bindFrame
  | .datagram .. => .of [.dgramPush]

def processFrame : Kinds := connectFrame ∪ ackFrame ∪ finishFrame ∪ pushFrame ∪ bindFrame ∪ .of [.dgramPush]

theorem processFrameOf_sub (f : Frame) : (processFrameOf f).sub processFrame = true := by
  cases f <;> (dsimp only [processFrameOf]; decide +kernel)

def disallowAll : Kinds := .of [.obj .disallowWrite]
def windDownInbox : Kinds := .of [.park] ∪ processFrame
def drainFlows : Kinds := .of [.obj .closeWrite, .answerOpen, .drainBind]
def windDownFinish : Kinds := .of [.dropSlots, .droppedClear, .die, .closing, .park, .answerRest, .exit] ∪ drainFlows
def dropPrep : Kinds := .of [.closeOut, .park] ∪ disallowAll
def windDownPrep : Kinds := .of [.clearOut] ∪ dropPrep
/-- A parked hand-over is tried again while the `Multiplexor` exists. -/
def unparkAlive : Kinds := .of [.acceptPush, .bindUnpark, .park]
def unpark : Kinds := .of [.obj .closeRx, .droppedPush, .enq .reset] ∪ unparkAlive
def closingStep : Kinds := .of [.inboxClear] ∪ windDownInbox ∪ windDownFinish
def recvOne : Kinds := .of [.srcEnded, .inboxSet] ∪ processFrame
/-- The steps of the task's loops: the fields of `Mux.WalkLoop` (Lemmas/MuxLeaves.lean). -/
def task : Kinds :=
  .of [.closing, .draining, .inboxSet, .inboxClear, .droppedPop, .send, .wireClose] ∪ recvOne ∪ windDownInbox ∪
    windDownFinish ∪ closeFlow ∪ unpark ∪ windDownPrep
/-- What `settle` does after the task's loop: the send loop and the open futures. -/
def settleTail : Kinds := .of [.send, .handOver, .retryClear] ∪ openRound
def settle : Kinds := task ∪ settleTail
def fillBuf : Kinds := .of [.obj .popRx, .obj .recvd, .enq .acknowledge, .obj .closeRx]
def appAccept : Kinds := .of [.acceptPop, .handle]
def appWrite : Kinds := .of [.obj .unparkW, .obj .park, .obj .spend, .enq .push]
def appRead : Kinds := .of [.obj .setBuf] ∪ fillBuf
def appShutdown : Kinds := .of [.obj .unparkW, .obj .shutdown, .enq .finish]
def appDropStream : Kinds := .of [.obj .dropRx, .droppedPush]
def appBindReq : Kinds := .of [.failBind, .startBind, .draw, .enq .bind]
def appBindNext : Kinds := .of [.bindPop, .heldPush]
def appBindReply : Kinds := .of [.enq .finish, .enq .reset, .heldMod]
def appBindDrop : Kinds := .of [.enq .reset, .heldMod]
def appDropMux : Kinds := .of [.muxGone, .droppedPush, .enq .reset, .dropQueues]

def opStep : Op → Kinds
  | .open .. => appOpen
  | .accept => appAccept
  | .write .. => appWrite
  | .read .. => appRead
  | .shutdown _ => appShutdown
  | .dropStream _ => appDropStream
  | .sendDgram _ => .of [.enq .datagram]
  | .recvDgram => .of [.dgramPop]
  | .bindReq .. => appBindReq
  | .bindNext => appBindNext
  | .bindReply .. => appBindReply
  | .bindDrop _ => appBindDrop
  | .dropMux => appDropMux
  | .deliver _ => .of [.inboxPush]
  | .sinkRoom _ => .of [.sinkRoom]
  | .cancelOpen _ => .of [.dropOpen]

def anyOp : Kinds :=
  .of [.enq .datagram, .dgramPop, .inboxPush, .sinkRoom, .dropOpen] ∪ appOpen ∪ appAccept ∪ appWrite ∪ appRead ∪ appShutdown ∪
    appDropStream ∪ appBindReq ∪ appBindNext ∪ appBindReply ∪ appDropMux

theorem opStep_sub (op : Op) : (opStep op).sub anyOp = true := by cases op <;> (dsimp only [opStep]; decide)

def applyOp (op : Op) : Kinds := opStep op ∪ settle
def run : Kinds := anyOp ∪ settle
def taskPollSinkFailed : Kinds := .of [.droppedClear, .discardOut] ∪ task
def applySinkFail : Kinds := taskPollSinkFailed ∪ settle

def applyOpX : OpX → Kinds
  | .op o => applyOp o
  | .sinkfail => applySinkFail
  | .start _ => applySinkFail
  | .pre o => opStep o
  | .preDeliver _ => .of [.inboxPush]

def runX : Kinds := run ∪ taskPollSinkFailed

theorem applyOpX_sub (op : OpX) : (applyOpX op).sub runX = true := by
  cases op with
  | op o => cases o <;> (dsimp only [applyOpX, applyOp, opStep]; decide)
  | pre o => cases o <;> (dsimp only [applyOpX, opStep]; decide)
  | _ => dsimp only [applyOpX]; decide

end K

/-! ### What the paths rest on: `closeLocal` does not look at the flow table; requests; the order of the answered
    calls -/

theorem openRejected_setFlows (e : EP) (m : List (Nat × Slot)) (req : Nat) (final : Bool) :
    openRejected { e with flows := m } req final =
      ({ (openRejected e req final).1 with flows := m }, (openRejected e req final).2) := by
  unfold openRejected; dsimp only; repeat' split
  all_goals rfl

theorem closeLocal_setFlows (e : EP) (m : List (Nat × Slot)) (s : Slot) (fid : Nat) (inh final : Bool) :
    closeLocal { e with flows := m } s fid inh final =
      ({ (closeLocal e s fid inh final).1 with flows := m }, (closeLocal e s fid inh final).2) := by
  cases s with
  | requested req => exact openRejected_setFlows e m req final
  | bindRequested req => rfl
  | established i =>
    unfold closeLocal EP.obj? EP.enqFrame EP.enq EP.modObj; dsimp only; repeat' split
    all_goals rfl

theorem closeLocal_flows_eq (e : EP) (s : Slot) (fid : Nat) (inh final : Bool) :
    (closeLocal e s fid inh final).1.flows = e.flows :=
  closeLocal_flows e s fid inh final

theorem closeFlow_slot_none (e : EP) (x : Nat) (inh : Bool) : lookup (closeFlow e x inh).1.flows x = none := by
  rcases closeFlow_flows e x inh with ⟨h, hn⟩ | h <;> rw [h]
  · exact hn
  · exact lookup_erase_self _ _

theorem drainFlows_setFlows (e : EP) (m : List (Nat × Slot)) (l : List (Nat × Slot)) :
    drainFlows { e with flows := m } l = ({ (drainFlows e l).1 with flows := m }, (drainFlows e l).2) := by
  induction l generalizing e with
  | nil => rfl
  | cons p l ih =>
    obtain ⟨fid, s⟩ := p
    simp only [drainFlows, closeLocal_setFlows, ih]

/-- The objects after the final drain: the object of every `Established` slot closed, in table order. -/
def closeObjs (objs : List Obj) : List (Nat × Slot) → List Obj
  | [] => objs
  | (_, .established i) :: l => closeObjs (objs.modify i fun o => { o.disallowWrite with senderAlive := false }) l
  | _ :: l => closeObjs objs l

theorem closeLocal_est (e : EP) (i fid : Nat) :
    closeLocal e (.established i) fid true true =
      ({ e with objs := e.objs.modify i fun o => { o.disallowWrite with senderAlive := false } }, []) := by
  simp only [closeLocal]
  show (match e.objs[i]? with | none => _ | some o => _) = _
  cases h : e.objs[i]? with
  | none => simp only []; rw [List.modify_eq_self (by simpa using h)]
  | some o => simp [EP.modObj, setObj]

theorem closeLocal_setObjs (e : EP) (o : List Obj) (s : Slot) (fid : Nat) (hs : s.isEst = false) :
    closeLocal { e with objs := o } s fid true true =
      ({ (closeLocal e s fid true true).1 with objs := o }, (closeLocal e s fid true true).2) := by
  cases s with
  | established i => cases hs
  | bindRequested req => rfl
  | requested req => unfold closeLocal openRejected; dsimp only; repeat' split
                     all_goals rfl

theorem drainFlows_setObjs (l : List (Nat × Slot)) (hl : ∀ p ∈ l, p.2.isEst = false) (e : EP) (o : List Obj) :
    drainFlows { e with objs := o } l = ({ (drainFlows e l).1 with objs := o }, (drainFlows e l).2) := by
  induction l generalizing e with
  | nil => rfl
  | cons p l ih =>
    obtain ⟨fid, s⟩ := p
    simp only [drainFlows, closeLocal_setObjs e o s fid (hl _ (List.mem_cons_self ..)),
      ih (fun p hp => hl p (List.mem_cons_of_mem _ hp))]

/-- The model's drain is the drain of the slots that have no object, and the objects of the others closed. -/
theorem drainFlows_closeObjs (l : List (Nat × Slot)) (e : EP) :
    drainFlows e l = ({ (drainFlows e (l.filter (!·.2.isEst))).1 with objs := closeObjs e.objs l },
      (drainFlows e (l.filter (!·.2.isEst))).2) := by
  have hN : ∀ (l : List (Nat × Slot)), ∀ p ∈ l.filter (!·.2.isEst), p.2.isEst = false :=
    fun l p hp => by simpa using (List.mem_filter.mp hp).2
  induction l generalizing e with
  | nil => rfl
  | cons p l ih =>
    obtain ⟨fid, s⟩ := p
    by_cases hs : s.isEst = true
    · obtain ⟨i, rfl⟩ : ∃ i, s = .established i := by cases s <;> first | exact ⟨_, rfl⟩ | cases hs
      rw [show ((fid, Slot.established i) :: l).filter (!·.2.isEst) = l.filter (!·.2.isEst) from
        List.filter_cons_of_neg (by simp [Slot.isEst])]
      simp only [drainFlows, closeLocal_est, List.nil_append]
      rw [ih, drainFlows_setObjs _ (hN l)]
      rfl
    · have hs : s.isEst = false := by simpa using hs
      have ho : (closeLocal e s fid true true).1.objs = e.objs :=
        congrArg (·.1.objs) (closeLocal_setObjs e e.objs s fid hs)
      have hc : closeObjs e.objs ((fid, s) :: l) = closeObjs e.objs l := by cases s <;> first | rfl | cases hs
      rw [show ((fid, s) :: l).filter (!·.2.isEst) = (fid, s) :: l.filter (!·.2.isEst) from
        List.filter_cons_of_pos (by simp [hs])]
      simp only [drainFlows]
      rw [ih, ho, hc]

theorem closeWrite_closed (o : Obj) : ({ o.disallowWrite with senderAlive := false } : Obj).closed :=
  ⟨by simp [Obj.disallowWrite], rfl⟩

theorem closeObjs_closed {l : List (Nat × Slot)} {fid i : Nat} (objs : List Obj) (hm : (fid, Slot.established i) ∈ l)
    (o : Obj) (ho : (closeObjs objs l)[i]? = some o) : o.closed := by
  have stays : ∀ (l : List (Nat × Slot)) (objs : List Obj), (∀ o, objs[i]? = some o → o.closed) →
      ∀ o, (closeObjs objs l)[i]? = some o → o.closed := by
    intro l
    induction l with
    | nil => exact fun _ h => h
    | cons p l ih =>
      obtain ⟨f, s⟩ := p
      cases s with
      | established j =>
        refine fun objs h => ih _ fun o ho => ?_
        rw [List.getElem?_modify] at ho
        split at ho
        · cases hj : objs[i]? with
          | none => rw [hj] at ho; cases ho
          | some o' => rw [hj] at ho; cases ho; exact closeWrite_closed _
        · exact h o (by simpa using ho)
      | _ => exact fun objs h => ih objs h
  induction l generalizing objs with
  | nil => cases hm
  | cons p l ih =>
    rcases List.mem_cons.mp hm with rfl | h2
    · refine stays l _ (fun o ho => ?_) o ho
      rw [List.getElem?_modify_eq] at ho
      cases hj : objs[i]? with
      | none => rw [hj] at ho; cases ho
      | some o' => rw [hj] at ho; cases ho; exact closeWrite_closed _
    · obtain ⟨f, s⟩ := p
      cases s <;> exact ih _ h2 ho

theorem closedAt_closeWrite (e : EP) (i : Nat) :
    closedAt (e.modObj i (fun o => { o.disallowWrite with senderAlive := false })) i := by
  intro o ho
  rw [modObj_get_self] at ho
  cases h : e.objs[i]? with
  | none => rw [h] at ho; cases ho
  | some o' => rw [h] at ho; cases ho; exact closeWrite_closed _

theorem mem_reqs_of_find {l : List OpenReq} {req : Nat} {x : OpenReq} (h : l.find? (·.req = req) = some x) :
    req ∈ l.map (·.req) :=
  List.mem_map.mpr ⟨x, List.mem_of_find?_eq_some h, by simpa using List.find?_some h⟩

/-- A request that has just been started runs its first round as if it had been pending. -/
theorem openRound_cons (e : EP) (r : OpenReq) : openRound { e with opens := r :: e.opens } r = openRound e r := by
  have hf : (r :: e.opens).filter (·.req ≠ r.req) = e.opens.filter (·.req ≠ r.req) := by simp
  unfold openRound
  simp only [hf]

/-! ### The functions that change the state, step by step

Inside `namespace Path` the lemma about a model function `f` is called `f`; the function itself is written `Mux.f`.
`openRoundAny` is `openRound` without its precondition (a request that is not pending is started first);
`opStepAny`, `applyOpAny` are `opStep`, `applyOp` over the union of the calls' sets. -/

namespace Path

theorem openRound (e : EP) (r : OpenReq) (hr : r.req ∈ e.opens.map (·.req)) :
    Path K.openRound e (openRound e r).2 (openRound e r).1 := by
  fun_cases Mux.openRound e r
  case case1 | case2 => exact (one (.req (.answerOpen e r.req .rejected hr))).mono
  case case3 fid rng' fb' _ _ => exact ((one (.ctl (.draw e rng' fb'))).trans (one (.req (.answerOpen _ r.req .closed (by exact hr))))).mono
  case case4 fid rng' fb' hd _ hoc _ =>
    have hs := drawId_spec _ _ _ _ _ _ _ hd
    exact ((one (.ctl (.draw e rng' fb'))).trans ((one (.reqSlot _ fid r.req hs.1 (by exact hs.2) (by simpa using hoc))).trans
      ((one (.req (.retryOpen _ { r with retriesLeft := r.retriesLeft - 1 } (by exact hr)))).trans (one (.enq .connect _ _ rfl))))).mono

/-- A round for a request that need not be pending: if it is not, it is started first. -/
theorem openRoundAny (e : EP) (r : OpenReq) : Path K.appOpen e (Mux.openRound e r).2 (Mux.openRound e r).1 := by
  by_cases hr : r.req ∈ e.opens.map (·.req)
  · exact (openRound e r hr).mono
  · have p := openRound { e with opens := r :: e.opens } r (List.mem_cons_self ..)
    rw [openRound_cons] at p
    exact ((one (.req (.startOpen e r hr))).trans p).mono

theorem closeFlow (e : EP) (fid : Nat) (inh : Bool) : Path K.closeFlow e (closeFlow e fid inh).2 (closeFlow e fid inh).1 := by
  unfold Mux.closeFlow
  split
  · exact .refl e
  · rename_i s hs
    cases s with
    | established i =>
      have hnb : ∀ r, lookup e.flows fid ≠ some (.bindRequested r) := fun r h => by rw [hs] at h; cases h
      simp only [Mux.closeLocal]
      split
      · rename_i ho
        refine (one (.erase e fid hnb fun j hj o hjo => ?_)).mono
        rw [hs] at hj; cases hj
        rw [show e.objs[i]? = none from ho] at hjo; cases hjo
      · have er : Path _ e [] { e.modObj i (fun o => { o.disallowWrite with senderAlive := false }) with
            flows := erase e.flows fid } :=
          (one (.obj .closeWrite e i _ (fun o _ => .closeWrite o))).trans (one (.erase _ fid hnb fun j hj => by
            rw [show lookup (e.modObj i _).flows fid = some (.established i) from hs] at hj; cases hj
            exact closedAt_closeWrite e i))
        split
        · exact (er.trans (one (.enq .reset _ _ rfl))).mono
        · exact er.mono
    | requested req =>
      have hnb : ∀ r, lookup e.flows fid ≠ some (.bindRequested r) := fun r h => by rw [hs] at h; cases h
      have hnc : ∀ i, lookup e.flows fid = some (.established i) → closedAt e i := fun i h => by rw [hs] at h; cases h
      simp only [Mux.closeLocal, Mux.openRejected]
      split
      · exact (one (.erase e fid hnb hnc)).mono
      · rename_i x hx
        exact (one (.rejectSlot e fid req hs (mem_reqs_of_find hx))).mono
    | bindRequested req => exact (one (.refuseBind e fid req hs)).mono

theorem offerAccept (e : EP) (i : Nat) : Path K.offerAccept e [] (offerAccept e i) := by
  unfold Mux.offerAccept
  split
  · rename_i h; exact (one (.queue (.acceptPush e i h))).mono
  · exact (one (.ctl (.park e _ fun _ h => by cases h))).mono

theorem offerBind (e : EP) (b : BindIn) : Path K.offerBind e [] (offerBind e b) := by
  unfold Mux.offerBind
  split
  · rename_i h; exact (one (.queue (.bindPush e b h))).mono
  · exact (one (.ctl (.parkBind e b))).mono

/-- A stream nobody will accept loses its receiver. -/
theorem closeNew (e : EP) (i : Nat) : Path (.of [.obj .closeRx]) e [] (e.modObj i (fun o => { o with rxOpen := false })) :=
  one (.obj .closeRx e i _ (fun o _ => .closeRx o))

/-- The sets are named case by case: `decide` refuses a set that mentions the frame's fields. -/
theorem processFrameOf (e : EP) (f : Frame) (ig : Bool) :
    Path (K.processFrameOf f) e (Mux.processFrame e f ig).2.1 (Mux.processFrame e f ig).1 := by
  -- the two ways a stream object is created
  have conn : ∀ {fid : Nat} (rwnd : Nat) (host : Bytes) (port : Nat), ¬(fid = 0 ∨ (lookup e.flows fid).isSome = true) →
      Path (.of [.newStream]) e [] ({ e with objs := e.objs ++ [newObj e.opts fid rwnd host port],
                                             flows := insert e.flows fid (.established e.objs.length) } : EP) :=
    fun {fid} rwnd host port hc => one (.newStream e fid rwnd host port (.inl ⟨fun h => hc (.inl h), by
      cases hl : lookup e.flows fid with
      | none => rfl
      | some s => exact absurd (.inr (by simp [hl])) hc⟩))
  have ackd : ∀ {fid req : Nat} (n : Nat), lookup e.flows fid = some (.requested req) →
      Path (.of [.newStream]) e [] ({ e with objs := e.objs ++ [newObj e.opts fid n [] 0],
                                             flows := insert e.flows fid (.established e.objs.length) } : EP) :=
    fun {fid req} n hl => one (.newStream e fid n [] 0 (.inr ⟨req, hl⟩))
  fun_cases Mux.processFrame e f ig
  case case1 => exact (one (.enq .reset _ _ rfl)).mono (B := K.connectFrame)
  case case8 | case9 => exact (one (.enq .reset _ _ rfl)).mono (B := K.ackFrame)
  case case10 => exact (one (.enq .reset _ _ rfl)).mono (B := K.finishFrame)
  case case16 | case20 => exact (one (.enq .reset _ _ rfl)).mono (B := K.pushFrame)
  case case21 | case23 => exact (one (.enq .reset _ _ rfl)).mono (B := K.bindFrame)
  case case15 | case17 | case22 | case25 | case27 => exact .refl e
  case case2 hc _ _ _ => exact (conn _ _ _ hc).mono (B := K.connectFrame)
  case case3 hc _ _ _ _ _ =>
    exact ((conn _ _ _ hc).trans ((one (.enq .acknowledge _ (.frame (.acknowledge _ e.opts.rwnd)) rfl)).trans
      ((closeNew _ _).trans (one (.ctl (.droppedPush _ _)))))).mono (B := K.connectFrame)
  case case4 hc _ _ _ _ _ =>
    exact ((conn _ _ _ hc).trans ((one (.enq .acknowledge _ _ rfl)).trans (offerAccept _ _))).mono (B := K.connectFrame)
  case case5 => exact (one (.obj .grant _ _ _ (fun o _ => .grant o _))).mono (B := K.ackFrame)
  case case6 hl _ _ _ hx =>
    exact ((ackd _ hl).trans (one (.req (.ackOpen _ _ _ (by exact mem_reqs_of_find hx))))).mono (B := K.ackFrame)
  case case7 hl _ _ _ =>
    exact ((ackd _ hl).trans ((closeNew _ _).trans (one (.ctl (.droppedPush _ _))))).mono (B := K.ackFrame)
  case case11 hl => exact (one (.acceptBind e _ _ hl)).mono (B := K.finishFrame)
  case case12 fid req hl =>
    have er : Path _ e [] { e with flows := erase e.flows fid } :=
      one (.erase e fid (fun r h => by rw [hl] at h; cases h) (fun i h => by rw [hl] at h; cases h))
    simp only
    split
    · rename_i hany
      obtain ⟨x, hx, hxr⟩ := List.any_eq_true.mp hany
      exact ((er.trans (one (.req (.answerOpen _ req .closed
        (by exact List.mem_map.mpr ⟨x, hx, by simpa using hxr⟩))))).sil (one (.enq .reset _ _ rfl))).mono
        (B := K.finishFrame)
    · -- no future waits for the request: nothing leaves `opens`
      rename_i hany
      rw [List.filter_eq_self.mpr fun x hx => by
        simpa using fun hc : x.req = req => hany (List.any_eq_true.mpr ⟨x, hx, by simpa using hc⟩)]
      exact (er.trans (one (.enq .reset _ _ rfl))).mono (B := K.finishFrame)
  case case13 => exact (one (.obj .senderGone _ _ _ (fun o _ => .senderGone o))).mono (B := K.finishFrame)
  case case14 hx => exact (congrArg (fun r => Path K.closeFlow e r.2 r.1) hx).mp (closeFlow e _ _)
  case case19 hx => exact (congrArg (fun r => Path K.pushFrame e r.2 r.1) hx).mp (closeFlow e _ _).mono
  case case18 d _ _ o ho _ hopen hroom =>
    refine (one (.obj .pushRx _ _ _ (fun o' ho' => ?_))).mono (B := K.pushFrame)
    obtain rfl : o' = o := Option.some.inj (ho'.symm.trans ho)
    exact .pushRx o' d hroom (by simpa using hopen)
  case case24 => exact (offerBind _ _).mono (B := K.bindFrame)
  case case26 h => exact one (.queue (.dgramPush e _ h))

theorem processFrame (e : EP) (f : Frame) (ig : Bool) :
    Path K.processFrame e (processFrame e f ig).2.1 (processFrame e f ig).1 :=
  (processFrameOf e f ig).mono (K.processFrameOf_sub f)

theorem processIn (e : EP) (w : WsIn) (ig : Bool) : Path K.processFrame e (processIn e w ig).2.1 (processIn e w ig).1 := by
  cases w with
  | msg m => cases m <;> first | exact processFrame _ _ ig | exact .refl e
  | bad b => exact .refl e
  | err => exact .refl e
  | eof => exact .refl e

theorem disallowAll (e : EP) (l : List (Nat × Slot)) : Path K.disallowAll e [] (disallowAll e l) := by
  fun_induction Mux.disallowAll e l
  case case1 => exact .refl _
  case case2 ih => exact ((one (.obj .disallowWrite _ _ _ (fun o _ => .disallowWrite o))).trans ih).mono
  case case3 ih => exact ih

theorem dropPrep (e : EP) : Path K.dropPrep e [] (dropPrep e) :=
  ((disallowAll e e.flows).trans ((one (.closeOut _)).trans (one (.ctl (.park _ none nofun))))).mono

theorem windDownPrep (e : EP) : Path K.windDownPrep e [] (windDownPrep e) :=
  ((disallowAll e e.flows).trans ((one (.closeOut _)).trans ((one (.clearOut _ rfl)).trans (one (.ctl (.park _ none nofun)))))).mono

theorem closeSlot (e : EP) (s : Slot) (fid : Nat) (hs : s.isBind = false) :
    Path K.drainFlows e (closeLocal e s fid true true).2 (closeLocal e s fid true true).1 := by
  cases s with
  | established i =>
    simp only [Mux.closeLocal]
    split
    · exact .refl e
    · simp only [Bool.not_true, Bool.and_false, Bool.false_eq_true, if_false]
      exact (one (.obj .closeWrite e i _ (fun o _ => .closeWrite o))).mono
  | requested req =>
    simp only [Mux.closeLocal, Mux.openRejected]
    split
    · exact .refl e
    · rename_i x hx
      simp only [if_true]
      exact (one (.req (.answerOpen e req .closed (mem_reqs_of_find hx)))).mono
  | bindRequested req => cases hs

/-- The final drain, on a table from which the slots that are no bind requests have gone: the model's `drainFlows`
    does not look at the table, the path removes each bind request as it is refused. -/
theorem drainFlows (l : List (Nat × Slot)) (e : EP) (h : e.flows = l.filter (·.2.isBind)) :
    Path K.drainFlows e (drainFlows e l).2 { (drainFlows e l).1 with flows := [] } := by
  induction l generalizing e with
  | nil => exact (congrArg (fun m => Path K.drainFlows e [] { e with flows := m }) h).mp (.refl e)
  | cons p l ih =>
    obtain ⟨fid, s⟩ := p
    simp only [Mux.drainFlows]
    by_cases hs : s.isBind = true
    · obtain ⟨req, rfl⟩ : ∃ req, s = .bindRequested req := by cases s <;> first | exact ⟨_, rfl⟩ | cases hs
      have d := ih { e with flows := l.filter (·.2.isBind) } rfl
      rw [drainFlows_setFlows] at d
      exact ((one (.drainBind e fid req _ (by simpa [List.filter, Slot.isBind] using h)
        (fun p hp => (List.mem_filter.mp hp).2))).trans d).mono
    · have hs : s.isBind = false := by simpa using hs
      exact ((closeSlot e s fid hs).trans (ih _ (by
        rw [closeLocal_flows, h, List.filter_cons_of_neg (by simpa using hs)]))).mono

/-- The final drain closes the objects of the `Established` slots first (the model closes each as it comes to its slot,
    between the answers to the requests; neither looks at what the other writes). -/
theorem closeObjs (l : List (Nat × Slot)) (e : EP) :
    Path (.of [.obj .closeWrite]) e [] { e with objs := Mux.closeObjs e.objs l } := by
  induction l generalizing e with
  | nil => exact .refl e
  | cons p l ih =>
    obtain ⟨f, s⟩ := p
    cases s with
    | established i => exact ((one (.obj .closeWrite e i _ (fun o _ => .closeWrite o))).trans (ih _)).mono
    | _ => exact ih e

/-- The objects are closed, then the slots that are no bind requests go, then the requests are answered in table
    order, each bind request leaving the table as it is refused: every invariant of the table holds at every step. -/
theorem windDownFinish (e : EP) (res : ExitRes) :
    Path K.windDownFinish e (windDownFinish e res).2 (windDownFinish e res).1 := by
  have hN : ∀ p ∈ e.flows.filter (!·.2.isEst), p.2.isEst = false := fun p hp => by simpa using (List.mem_filter.mp hp).2
  have d := drainFlows (e.flows.filter (!·.2.isEst))
    { ({ e with objs := Mux.closeObjs e.objs e.flows } : EP) with flows := e.flows.filter (·.2.isBind) } (by
      rw [List.filter_filter]; exact List.filter_congr fun p _ => by cases p.2 <;> rfl)
  rw [drainFlows_setFlows, drainFlows_setObjs _ hN] at d
  simp only [Mux.windDownFinish, drainFlows_setFlows, drainFlows_closeObjs e.flows]
  exact ((((((((closeObjs e.flows e).trans (one (.dropSlots _ fun fid i hm o ho => closeObjs_closed e.objs hm o ho))).trans
    d).sil (one (.ctl (.droppedClear _)))).sil (one (.die _ rfl))).sil (one (.ctl (.closing _ none)))).sil
      (one (.ctl (.park _ none nofun)))).trans
        (one (.req (.answerRest _ (fun q => (Mux.drainFlows e (e.flows.filter (!·.2.isEst))).1.retryq.contains q))))).trans
          (one (.exit _ res)) |>.mono

theorem unpark (e : EP) : Path K.unpark e [] (unpark e) := by
  fun_cases Mux.unpark e
  case case2 => exact ((closeNew e _).trans ((one (.ctl (.park _ none nofun))).trans (one (.ctl (.droppedPush _ _))))).mono
  case case3 => exact (one (.ctl (.park e none nofun))).mono
  case case4 h => exact ((one (.queue (.acceptPush e _ h))).trans (one (.ctl (.park _ none nofun)))).mono
  case case6 => exact ((one (.ctl (.park e none nofun))).trans (one (.enq .reset _ _ rfl))).mono
  case case7 b hp _ h => exact ((one (.queue (.bindUnpark e b hp h))).trans (one (.ctl (.park _ none nofun)))).mono
  all_goals exact .refl e

theorem unparkAlive (e : EP) (hm : e.muxAlive = true) : Path K.unparkAlive e [] (Mux.unpark e) := by
  fun_cases Mux.unpark e
  case case2 h _ _ _ | case3 h _ | case6 h => rw [hm] at h; cases h
  case case4 h => exact ((one (.queue (.acceptPush e _ h))).trans (one (.ctl (.park _ none nofun)))).mono
  case case7 b hp _ h => exact ((one (.queue (.bindUnpark e b hp h))).trans (one (.ctl (.park _ none nofun)))).mono
  all_goals exact .refl e

theorem runRetries (e : EP) (l : List Nat) : Path K.openRound e (runRetries e l).2 (runRetries e l).1 := by
  induction l generalizing e with
  | nil => exact .refl e
  | cons req rest ih =>
    unfold Mux.runRetries
    split
    · exact ih e
    · rename_i r hr
      have hm : r.req ∈ e.opens.map (·.req) := List.mem_map.mpr ⟨r, List.mem_of_find?_eq_some hr, rfl⟩
      exact ((openRound e r hm).trans (ih _)).mono

theorem runRetryq (e : EP) : Path (.of [.retryClear] ∪ K.openRound) e (runRetryq e).2 (runRetryq e).1 :=
  (one (.ctl (.retryClear e))).trans (runRetries _ _)

/-- `runDone` as a function of any list. -/
theorem runDone (e : EP) (l : List (Nat × Nat)) : Path (.of [.handOut]) e (runDone e l).2 (runDone e l).1 := by
  induction l generalizing e with
  | nil => exact .refl e
  | cons x rest ih =>
    obtain ⟨req, i⟩ := x
    unfold Mux.runDone
    exact ((one (.req (.handOut e req i))).trans (ih _)).mono

/-- The answered open calls are handed over one by one, each leaving `doneq` as it is answered. -/
theorem runDoneq (e : EP) : Path (.of [.handOver]) e (runDoneq e).2 (runDoneq e).1 := by
  have gen : ∀ (l : List (Nat × Nat)) (e : EP), l.Perm e.doneq →
      Path (.of [.handOver]) e (Mux.runDone { e with doneq := [] } l).2 (Mux.runDone { e with doneq := [] } l).1 := by
    intro l
    induction l with
    | nil =>
      intro e h
      exact (congrArg (fun m => Path _ e [] { e with doneq := m }) (List.Perm.nil_eq h).symm).mp (.refl e)
    | cons x rest ih =>
      intro e h
      obtain ⟨req, i⟩ := x
      have hm : (req, i) ∈ e.doneq := h.subset (List.mem_cons_self ..)
      unfold Mux.runDone
      exact ((one (.req (.handOver e req i hm))).trans
        (ih { e with handles := e.handles ++ [i], doneq := e.doneq.erase (req, i) }
          ((List.perm_cons_erase hm).symm.trans h.symm |>.symm.cons_inv))).mono
  exact gen _ e (sortDone_perm e.doneq)

theorem sendSome (e : EP) : Path (.of [.send]) e (sendSome e).2 (sendSome e).1 := one (.send e)

theorem hold (e : EP) (c : Bool) :
    Path (.of [.send]) e (if c then (e, ([] : List Ev)) else Mux.sendSome e).2 (if c then (e, []) else Mux.sendSome e).1 := by
  split
  · exact .refl e
  · exact sendSome e

theorem holdSend (e : EP) : Path (.of [.send]) e (holdSend e).2 (holdSend e).1 := hold e _

theorem appWrite (e : EP) (h : Nat) (d : Bytes) : Path K.appWrite e [] (appWrite e h d).1 := by
  fun_cases Mux.appWrite e h d
  case case1 => exact .refl e
  case case4 i o hh hfs _ hc =>
    refine (one (.obj .park e _ _ (fun o' ho' => ?_))).mono
    obtain rfl : o' = o := Option.some.inj (ho'.symm.trans (handleObj_some hh))
    exact .park o' hc (by simpa using hfs)
  case case5 => exact (one (.obj .spend e _ _ (fun o _ => .spend o))).mono
  case case6 => exact ((one (.obj .spend e _ _ (fun o _ => .spend o))).trans (one (.enq .push _ _ rfl))).mono
  all_goals exact (one (.obj .unparkW e _ _ (fun o _ => .unparkW o))).mono

theorem ackStep (e : EP) (i : Nat) (o : Obj) : Path (.of [.obj .recvd, .enq .acknowledge]) e [] (ackStep e i o) := by
  fun_cases Mux.ackStep e i o
  · exact ((one (.obj .recvd e _ _ (fun x _ => .recvd x 0))).trans (one (.enq .acknowledge _ _ rfl))).mono
  · exact (one (.obj .recvd e _ _ (fun x _ => .recvd x _))).mono

theorem popRx {e : EP} {i : Nat} {o : Obj} {f : Bytes} {rest : List Bytes} (ho : e.objs[i]? = some o)
    (hq : o.rxq = f :: rest) (hb : o.buf = []) :
    Path K.fillBuf e []
      (Mux.ackStep (e.modObj i (fun o => { o with rxq := rest, buf := f })) i { o with rxq := rest, buf := f }) :=
  ((one (.obj .popRx e i _ (fun o' ho' => by
    obtain rfl : o' = o := Option.some.inj (ho'.symm.trans ho)
    exact .popRx o' f rest hq hb))).trans (ackStep _ i _)).mono

theorem fillBuf (fuel : Nat) (e : EP) (i : Nat) : Path K.fillBuf e [] (fillBuf fuel e i).1 := by
  fun_induction Mux.fillBuf fuel e i
  case case4 ho hb _ _ hq _ _ _ ih => exact ((popRx ho hq (by simpa using hb)).trans ih).mono
  case case5 ho hb _ _ hq _ _ _ => exact popRx ho hq (by simpa using hb)
  case case7 => exact (one (.obj .closeRx _ _ _ (fun o _ => .closeRx o))).mono
  all_goals exact .refl _

theorem appRead (e : EP) (h n : Nat) : Path K.appRead e [] (appRead e h n).1 := by
  fun_cases Mux.appRead e h n
  case case1 => exact .refl e
  case case2 i o _ e' b heq =>
    exact (((congrArg (fun r => Path K.fillBuf e [] r.1) heq).mp (fillBuf (o.rxq.length + 2) e i)).trans
      (one (.obj .setBuf _ _ _ (fun o _ => .setBuf o _)))).mono
  case case3 => exact (fillBuf _ e _).mono

theorem appShutdown (e : EP) (h : Nat) : Path K.appShutdown e [] (appShutdown e h).1 := by
  fun_cases Mux.appShutdown e h
  case case1 => exact .refl e
  case case2 => exact (one (.obj .unparkW e _ _ (fun o _ => .unparkW o))).mono
  case case3 => exact ((one (.obj .shutdown e _ _ (fun o _ => .shutdown o))).trans (one (.enq .finish _ _ rfl))).mono

theorem appDropStream (e : EP) (h : Nat) : Path K.appDropStream e [] (appDropStream e h).1 := by
  fun_cases Mux.appDropStream e h
  case case1 => exact .refl e
  case case2 i _ _ _ =>
    have g := one (.obj .dropRx e i (fun o => { o with rxOpen := false, rxq := [], parked := false }) (fun o _ => .dropRx o))
    simp +zetaDelta only
    split
    · exact g.mono
    · exact (g.trans (one (.ctl (.droppedPush _ _)))).mono

theorem appAccept (e : EP) : Path K.appAccept e [] (appAccept e).1 := by
  fun_cases Mux.appAccept e
  case case1 i rest hq _ _ => exact ((one (.queue (.acceptPop e i rest hq))).trans (one (.ctl (.handle _ i)))).mono
  all_goals exact .refl e

theorem appSendDgram (e : EP) (d : Dgram) : Path (.of [.enq .datagram]) e [] (appSendDgram e d).1 := by
  fun_cases Mux.appSendDgram e d
  case case3 => exact one (.enq .datagram _ _ rfl)
  all_goals exact .refl e

theorem appRecvDgram (e : EP) : Path (.of [.dgramPop]) e [] (appRecvDgram e).1 := by
  fun_cases Mux.appRecvDgram e
  case case1 d rest hq => exact one (.queue (.dgramPop e d rest hq))
  all_goals exact .refl e

/-- The new request fails or gets its slot before anything else changes. -/
theorem appBindReq (e : EP) (req : Nat) (bt : BindType) (host : Bytes) (port : Nat) :
    Path K.appBindReq e (appBindReq e req bt host port).2 (appBindReq e req bt host port).1 := by
  fun_cases Mux.appBindReq e req bt host port
  case case1 => exact (one (.failBind e req)).mono
  case case2 fid rng' fb' _ _ => exact ((one (.failBind e req)).sil (one (.ctl (.draw _ rng' fb')))).mono
  case case3 fid rng' fb' hd hoc =>
    have hs := drawId_spec _ _ _ _ _ _ _ hd
    exact ((one (.startBind e fid req hs.1 hs.2 (by simpa using hoc))).trans
      ((one (.ctl (.draw _ rng' fb'))).trans (one (.enq .bind _ _ rfl)))).mono

theorem appBindNext (e : EP) : Path K.appBindNext e [] (appBindNext e).1 := by
  fun_cases Mux.appBindNext e
  case case2 b rest hq =>
    exact ((one (.ctl (.heldPush e b (hq ▸ List.mem_cons_self ..)))).trans (one (.queue (.bindPop _ b rest hq)))).mono
  all_goals exact .refl e

theorem appBindReply (e : EP) (k : Nat) (a : Bool) : Path K.appBindReply e [] (appBindReply e k a).1 := by
  fun_cases Mux.appBindReply e k a
  case case4 b _ _ _ =>
    -- the model reads `held` before it queues the frame
    have hh : (e.enqFrame (if a = true then .finish b.fid else .reset b.fid)).held = e.held := by
      unfold EP.enqFrame EP.enq; split <;> rfl
    rw [← hh]
    cases a with
    | true => exact ((one (.enq .finish e _ rfl)).trans (one (.ctl (.heldMod _ k _ (by exact fun _ => rfl))))).mono
    | false => exact ((one (.enq .reset e _ rfl)).trans (one (.ctl (.heldMod _ k _ (by exact fun _ => rfl))))).mono
  all_goals exact .refl e

theorem appBindDrop (e : EP) (k : Nat) : Path K.appBindDrop e [] (appBindDrop e k).1 := by
  fun_cases Mux.appBindDrop e k
  case case3 =>
    simp +zetaDelta only
    split
    · exact (one (.ctl (.heldMod e k _ (by exact fun _ => rfl)))).mono
    · exact ((one (.ctl (.heldMod e k _ (by exact fun _ => rfl)))).trans (one (.enq .reset _ _ rfl))).mono
  all_goals exact .refl e

theorem foldEnq (l : List BindIn) (e : EP) :
    Path (.of [.enq .reset]) e [] (l.foldl (fun e b => e.enqFrame (.reset b.fid)) e) := by
  induction l generalizing e with
  | nil => exact .refl e
  | cons b rest ih => exact ((one (.enq .reset e _ rfl)).trans (ih _)).mono

theorem appDropMux (e : EP) : Path K.appDropMux e [] (appDropMux e).1 := by
  unfold Mux.appDropMux
  simp only
  have s1 : Path K.appDropMux e []
      { e with muxAlive := false, droppedq := if e.dead then e.droppedq else e.droppedq ++ [0] } := by
    split
    · exact (one (.muxGone e)).mono
    · exact ((one (.muxGone e)).trans (one (.ctl (.droppedPush _ 0)))).mono
  exact (s1.trans ((foldEnq e.bindq _).trans (one (.queue (.dropQueues _))))).mono

theorem opStep (e : EP) (op : Op) : Path (K.opStep op) e (opStep e op).2.2 (opStep e op).1 := by
  cases op with
  | «open» req host port =>
    show Path K.appOpen _ _ _
    simp only [Mux.opStep]
    split
    · exact .refl e
    · exact openRoundAny e _
  | accept => exact appAccept e
  | write h d => exact appWrite e h d
  | read h n => exact appRead e h n
  | shutdown h => exact appShutdown e h
  | dropStream h => exact appDropStream e h
  | sendDgram d => exact appSendDgram e d
  | recvDgram => exact appRecvDgram e
  | bindReq req bt host port => exact appBindReq e req bt host port
  | bindNext => exact appBindNext e
  | bindReply k a => exact appBindReply e k a
  | bindDrop k => exact appBindDrop e k
  | dropMux => exact appDropMux e
  | sinkRoom n => exact one (.ctl (.sinkRoom e n))
  | cancelOpen req => exact one (.req (.dropOpen e req))
  | deliver w =>
    simp only [Mux.opStep]
    split
    · exact .refl e
    · split <;> exact one (.ctl (.inboxPush e _))

/-- The same over the one set `K.anyOp`, for a statement about every `op`. -/
theorem opStepAny (e : EP) (op : Op) : Path K.anyOp e (Mux.opStep e op).2.2 (Mux.opStep e op).1 :=
  (opStep e op).mono (K.opStep_sub op)

theorem deliverMany (e : EP) (ws : List WsIn) : Path (.of [.inboxPush]) e [] (deliverMany e ws) := by
  unfold Mux.deliverMany; split
  · exact .refl e
  · exact one (.ctl (.inboxPush e ws))

end Path

/-! ### `applySinkFail`, `applyStart` with projections in place of their pattern-matching `let`s -/

theorem applySinkFail_eq (e : EP) :
    applySinkFail e = ((settle (taskPollSinkFailed e).1).1, .unit,
      (taskPollSinkFailed e).2 ++ (settle (taskPollSinkFailed e).1).2) := by
  unfold applySinkFail
  rcases taskPollSinkFailed e with ⟨e1, evs⟩
  simp only

theorem applySinkFail_fst (e : EP) : (applySinkFail e).1 = (settle (taskPollSinkFailed e).1).1 := by rw [applySinkFail_eq]

theorem applySinkFail_evs (e : EP) :
    (applySinkFail e).2.2 = (taskPollSinkFailed e).2 ++ (settle (taskPollSinkFailed e).1).2 := by rw [applySinkFail_eq]

theorem applyStart_failed (e : EP) : applyStart e true = applySinkFail e := by simp [applyStart]

theorem applyStart_working (e : EP) : applyStart e false = ((settle e).1, .unit, (settle e).2) := by simp [applyStart]

/-! ### The spine: how the task, a stimulus and a history compose these functions -/

namespace Path

theorem windDownInbox (e : EP) (l : List WsIn) : Path K.windDownInbox e (windDownInbox e l).2.1 (windDownInbox e l).1 := by
  induction l generalizing e with
  | nil => exact .refl e
  | cons w l ih =>
    have step : ∀ w', Path K.windDownInbox e
        ((Mux.processIn e w' true).2.1 ++ (Mux.windDownInbox { (Mux.processIn e w' true).1 with park := none } l).2.1)
        (Mux.windDownInbox { (Mux.processIn e w' true).1 with park := none } l).1 :=
      fun w' => ((processIn e w' true).trans ((one (.ctl (.park _ none nofun))).trans (ih _))).mono
    cases w with
    | err => exact .refl e
    | eof => exact .refl e
    | msg m => exact step (.msg m)
    | bad b => exact step (.bad b)

theorem recvOne (e : EP) (w : WsIn) (rest : List WsIn) : Path K.recvOne e (recvOne e w rest).2.1 (recvOne e w rest).1 := by
  simp only [Mux.recvOne]
  split
  · exact ((one (.ctl (.srcEnded e))).trans ((one (.ctl (.inboxSet _ rest))).trans (processIn _ w false))).mono
  · exact ((one (.ctl (.inboxSet e rest))).trans (processIn _ w false)).mono

theorem closingStep (e : EP) (res : ExitRes) : Path K.closingStep e (closingStep e res).2 (closingStep e res).1 := by
  have g : Path _ e (Mux.windDownInbox e e.inbox).2.1 { (Mux.windDownInbox e e.inbox).1 with inbox := [] } :=
    (windDownInbox e e.inbox).sil (one (.ctl (.inboxClear _)))
  simp only [Mux.closingStep]
  split
  · exact (g.trans (windDownFinish _ res)).mono
  · exact g.mono

/-- The paths of these functions make `Path A` (for `A` with the kinds of the task's loops) a relation the task's control
    flow preserves: the loops and case distinctions of the task are walked in Lemmas/MuxLeaves.lean, for every such
    relation.  (A path does not record a `Leaf`.)  The walk loses which steps ONE function of the task takes;
    `closingStep` above is stated apart because `QK` needs that it does not send. -/
theorem walkLoop {A : Kinds} (hA : K.task.sub A = true := by decide +kernel) : WalkLoop (fun e e' evs _ => Path A e evs e') where
  refl := .refl
  trans p q := (p.trans q).weaken fun _ => Kinds.mem_union_self
  ctl e c d := (((one (.ctl (.closing e c))).trans (one (.ctl (.draining _ d)))).mono (B := K.task)).mono hA
  recv e w rest _ := ((recvOne e w rest).mono (B := K.task)).mono hA
  pass e := (((windDownInbox e e.inbox).sil (one (.ctl (.inboxSet _ _)))).mono (B := K.task)).mono hA
  finish e res := (((one (.ctl (.inboxClear e))).trans (windDownFinish _ res)).mono (B := K.task)).mono hA
  dropMux e rest h := ((one (.ctl (.droppedPop e 0 rest h))).mono (B := K.task)).mono hA
  dropped e fid rest h _ := (((one (.ctl (.droppedPop e fid rest h))).trans (closeFlow _ fid false)).mono (B := K.task)).mono hA
  unpark e := ((unpark e).mono (B := K.task)).mono hA
  send e := ((sendSome e).mono (B := K.task)).mono hA
  wireClose e := ((one (.wireClose e)).mono (B := K.task)).mono hA
  dropPrep e := ((dropPrep e).mono (B := K.task)).mono hA
  windDownPrep e := ((windDownPrep e).mono (B := K.task)).mono hA

theorem walk : Walk (fun e e' evs _ => Path K.settle e evs e') where
  toWalkLoop := walkLoop
  done e := (runDoneq e).mono
  retry e := (runRetryq e).mono

/-- `flushed` has been emitted before; the tail appends to it. -/
theorem windDownTail (e1 : EP) (flushed : List Ev) (srcEnded : Bool) (res : ExitRes) :
    ∃ evs, (windDownTail e1 flushed srcEnded res).2 = flushed ++ evs ∧
      Path K.task e1 evs (windDownTail e1 flushed srcEnded res).1 :=
  (walkLoop (A := K.task)).windDownTail e1 flushed srcEnded res

theorem windDown (e : EP) (drain : Bool) (res : ExitRes) : Path K.task e (windDown e drain res).2 (windDown e drain res).1 :=
  (walkLoop (A := K.task)).windDown e drain res

theorem drainStep (e : EP) (res : ExitRes) : Path K.task e (drainStep e res).2 (drainStep e res).1 :=
  (walkLoop (A := K.task)).drainStep e res

/-- The task's loop: its events are appended to the accumulator. -/
theorem settleLoop (fuel : Nat) (e : EP) (acc : List Ev) :
    ∃ evs, (settleLoop fuel e acc).2 = acc ++ evs ∧ Path K.task e evs (settleLoop fuel e acc).1 :=
  (walkLoop (A := K.task)).settleLoop fuel e acc

theorem settle (e : EP) : Path K.settle e (settle e).2 (settle e).1 := walk.settle e

/-- What `settle` does after the task's loop: the send loop, the answered and the rejected open futures, the send
    loop again; their events follow the loop's. -/
theorem settle_tail (e : EP) :
    ∃ evs, (Mux.settle e).2 = (Mux.settleLoop (2 * e.inbox.length + e.droppedq.length + 2) e []).2 ++ evs ∧
      Path K.settleTail (Mux.settleLoop (2 * e.inbox.length + e.droppedq.length + 2) e []).1 evs (Mux.settle e).1 :=
  settle_chain
    (P := fun _ b x => ∃ evs, x = (Mux.settleLoop (2 * e.inbox.length + e.droppedq.length + 2) e []).2 ++ evs ∧
      Path K.settleTail (Mux.settleLoop (2 * e.inbox.length + e.droppedq.length + 2) e []).1 evs b)
    (Q := fun a b y => Path K.settleTail a y b)
    (fun ⟨_, hx, p⟩ q => ⟨_, by rw [hx, List.append_assoc], (p.trans q).weaken fun _ => Kinds.mem_union_self⟩)
    (fun p q => (p.trans q).weaken fun _ => Kinds.mem_union_self) ⟨[], (List.append_nil _).symm, .refl _⟩
    (fun a => (holdSend a).mono) (fun a => (runDoneq a).mono) (fun a => (runRetryq a).mono)

theorem applyOp (e : EP) (op : Op) : Path (K.applyOp op) e (applyOp e op).2.2 (applyOp e op).1 := by
  rw [applyOp_fst, applyOp_evs]
  exact (opStep e op).trans (settle _)

theorem applyOpAny (e : EP) (op : Op) : Path K.run e (Mux.applyOp e op).2.2 (Mux.applyOp e op).1 := by
  rw [applyOp_fst, applyOp_evs]
  exact (opStepAny e op).trans (settle _)

theorem runOps (e : EP) (ops : List Op) : ∃ evs, Path K.run e evs (runOps e ops) := by
  induction ops generalizing e with
  | nil => exact ⟨[], .refl e⟩
  | cons op rest ih =>
    obtain ⟨evs, p⟩ := ih (Mux.applyOp e op).1
    rw [runOps_cons]
    exact ⟨_, ((applyOpAny e op).trans p).mono⟩

theorem taskPollSinkFailed (e : EP) :
    Path K.taskPollSinkFailed e (taskPollSinkFailed e).2 (taskPollSinkFailed e).1 := by
  unfold Mux.taskPollSinkFailed
  split
  · exact .refl e
  · split
    · rename_i res _
      obtain ⟨evs, h, p⟩ := windDownTail { e with draining := none, outq := [] } [] e.srcEnded res
      simp only [h, List.nil_append]
      exact (((one (.ctl (.draining e none))).trans (one (.discardOut _))).trans p.dropWireClose).mono
    · simp only
      obtain ⟨evs, h, p⟩ := settleLoop (2 * e.inbox.length + 2) { e with droppedq := [] } []
      rw [List.nil_append] at h
      have g := (one (.ctl (.droppedClear e))).trans p
      split
      · rw [h]; exact g.dropWireClose.mono
      · obtain ⟨evs', h', p'⟩ := windDownTail (Mux.windDownPrep (Mux.settleLoop (2 * e.inbox.length + 2) { e with droppedq := [] } []).1)
          [] (Mux.settleLoop (2 * e.inbox.length + 2) { e with droppedq := [] } []).1.srcEnded .wsError
        rw [h, h', List.nil_append]
        exact (g.trans ((windDownPrep _).trans p'.dropWireClose)).mono

theorem applySinkFail (e : EP) : Path K.applySinkFail e (applySinkFail e).2.2 (applySinkFail e).1 := by
  rw [applySinkFail_fst, applySinkFail_evs]
  exact (taskPollSinkFailed e).trans (settle _)

theorem applyStart (e : EP) (sf : Bool) : Path K.applySinkFail e (applyStart e sf).2.2 (applyStart e sf).1 := by
  cases sf with
  | true => rw [applyStart_failed]; exact applySinkFail e
  | false => simp only [applyStart_working]; exact (settle e).mono

theorem applyOpX (e : EP) (op : OpX) : Path (K.applyOpX op) e (applyOpX e op).2.2 (applyOpX e op).1 := by
  -- unfolded first: `exact` against the folded form makes the unifier evaluate `applyOp`
  cases op <;> dsimp only [Mux.applyOpX, K.applyOpX]
  case op o => exact applyOp e o
  case sinkfail => exact applySinkFail e
  case start sf => exact applyStart e sf
  case pre o => exact opStep e o
  case preDeliver ws => exact deliverMany e ws

theorem runOpsXEv (e : EP) (ops : List OpX) : Path K.runX e (runOpsXEv e ops).2 (runOpsXEv e ops).1 := by
  induction ops generalizing e with
  | nil => exact .refl e
  | cons op rest ih => exact (((applyOpX e op).mono (K.applyOpX_sub op)).trans (ih _)).mono

end Path

end Penguin.Mux
