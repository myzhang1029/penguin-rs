/-
Quiescent states of the pair model (no productive internal action on either side, `Lemmas/PairQuiesce.lean`)
in which neither receive loop is parked: nothing is in transit any more — both outbound queues and both
wires are empty — and hence (`established_blocked_has_work`) on every flow established on both endpoints
whose reader has emptied its queue the writer has credit.
-/
import Penguin.Lemmas.PairQuiesce
import Penguin.Lemmas.PairPlain
import Penguin.Lemmas.PairCor

namespace Penguin.Pair
open Penguin.Mux

theorem move_productive (p p' : PS) (s : Side) (a : Act) (ha : a = .xmit ∨ a = .recv) (hs : step p s a = some p') :
    productiveI p s a = true := by
  have hlt := step_move p p' s a ha hs
  have hi : internal a = true := by rcases ha with rfl | rfl <;> rfl
  unfold productiveI
  rw [hi, hs]
  simp [hlt]

theorem productiveI_swap_A (p : PS) (a : Act) : productiveI p.swap .A a = productiveI p .B a := by
  unfold productiveI
  simp only [step]
  cases stepL p.swap a with
  | none => rfl
  | some q => simp only [Option.map_some, M_swap]

theorem productiveI_swap_B (p : PS) (a : Act) : productiveI p.swap .B a = productiveI p .A a := by
  unfold productiveI
  simp only [step, swap_swap]
  cases stepL p a with
  | none => rfl
  | some q => simp only [Option.map_some, M_swap]

theorem Quiescent.swap {p : PS} (h : Quiescent p) : Quiescent p.swap := by
  intro s a
  cases s with
  | A => rw [productiveI_swap_A]; exact h .B a
  | B => rw [productiveI_swap_B]; exact h .A a

theorem quiescent_left {p : PS} (h : Inv p) (hp : PlainInv p) (hq : Quiescent p) :
    p.a.outq = [] ∧ (p.a.park = none → p.ba = []) := by
  constructor
  · cases ho : p.a.outq with
    | nil => rfl
    | cons m rest =>
      have hs : step p .A .xmit = some { p with a := { p.a with outq := rest }, ab := p.ab ++ [m] } := by
        simp only [step, stepL, ho]
      have := move_productive p _ .A .xmit (Or.inl rfl) hs
      rw [hq .A .xmit] at this
      cases this
  · intro hpark
    cases hb : p.ba with
    | nil => rfl
    | cons m rest =>
      have hm := hp.ba m (by rw [hb]; simp)
      cases m with
      | frame f =>
        have hs := stepL_recv_eq p f rest hb hpark (processFrame_continues p.a f false h.runA.outClosed)
        have := move_productive p _ .A .recv (Or.inr rfl) hs
        rw [hq .A .recv] at this
        cases this
      | _ => cases hm

/-- **Quiescent and not parked: nothing is in transit.** In a state satisfying the pair invariant (every
    reachable state does) in which no internal action is productive and neither receive loop is parked
    on a full accept or bind queue, both outbound queues and both wires are empty. -/
theorem quiescent_nothing_in_transit {p : PS} (h : Inv p) (hp : PlainInv p) (hq : Quiescent p)
    (hpa : p.a.park = none) (hpb : p.b.park = none) :
    p.a.outq = [] ∧ p.b.outq = [] ∧ p.ab = [] ∧ p.ba = [] := by
  have l := quiescent_left h hp hq
  have r := quiescent_left h.swap hp.swap hq.swap
  exact ⟨l.1, r.1, r.2 hpb, l.2 hpa⟩

/-- In such a state, on every flow established on both endpoints whose reader (at `b`) has emptied its
    queue, the writer (at `a`) has credit: all of the window `b` advertised except the frames `b` has
    read but not acknowledged yet. -/
theorem quiescent_writer_credit {p : PS} (h : Inv p) (hp : PlainInv p) (hq : Quiescent p)
    (hpa : p.a.park = none) (hpb : p.b.park = none) {x i j : Nat} (e : Established p x i j)
    (hr : ∀ oB, p.b.objs[j]? = some oB → oB.rxq = []) :
    ∃ oA oB, p.a.objs[i]? = some oA ∧ p.b.objs[j]? = some oB ∧ 0 < oA.credit ∧
      oA.credit + oB.recvdSince = p.b.opts.rwnd := by
  obtain ⟨h1, h2, h3, h4⟩ := quiescent_nothing_in_transit h hp hq hpa hpb
  obtain ⟨oA, oB, hoA, hoB, hc, _, _⟩ := established_credit h e
  have hAB : pathAB p = [] := by simp [pathAB, h1, h3]
  have hBA : pathBA p = [] := by simp [pathBA, h2, h4]
  have hrx := hr oB hoB
  rw [hAB, hBA, hrx] at hc
  have hsum : oA.credit + oB.recvdSince = p.b.opts.rwnd := by
    simpa [pushesOf, acksOf, Link.pushes] using hc
  refine ⟨oA, oB, hoA, hoB, ?_, hsum⟩
  cases hcr : oA.credit with
  | succ n => omega
  | zero =>
    rcases established_blocked_has_work h e oA hoA hcr with w | ⟨oB', hoB', w⟩ | w
    · rw [hAB] at w; exact absurd rfl w
    · rw [hoB] at hoB'; cases hoB'; exact absurd hrx w
    · rw [hBA] at w; exact absurd rfl w

end Penguin.Pair
