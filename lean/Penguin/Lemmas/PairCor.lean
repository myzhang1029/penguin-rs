/-
What the invariant of the pair model says about a flow that is established on both endpoints:
each of its two directions is a state of the link model that satisfies `Link.Inv`, related field by
field to the two stream objects and to what is in transit.  The property theorems (Props/C02–C07) are
read off here.
-/
import Penguin.Lemmas.PairMain

namespace Penguin.Pair
open Penguin.Mux

/-- The hypotheses on the initial configuration: windows that fit `u32` and are at least 1, flow-id
    scripts of pairwise distinct non-zero ids (random 32-bit ids never collide). -/
structure Cfg (oa ob : Opts) (ra rb : List Nat) : Prop where
  wa : 0 < oa.rwnd ∧ oa.rwnd < 4294967296
  wb : 0 < ob.rwnd ∧ ob.rwnd < 4294967296
  nodup : (ra ++ rb).Nodup
  nonzero : ∀ k ∈ ra ++ rb, k ≠ 0

theorem reach_inv {oa ob : Opts} {ra rb : List Nat} (c : Cfg oa ob ra rb) (as : List (Side × Act)) :
    Inv (run (init oa ob ra rb) as) :=
  run_inv _ as (init_inv oa ob ra rb c.wa c.wb c.nodup c.nonzero)

theorem stepL_opts {p p' : PS} {a : Act} (hs : stepL p a = some p') : p'.a.opts = p.a.opts ∧ p'.b.opts = p.b.opts :=
  ⟨(stepL_shape hs).opts, by rw [(stepL_shape hs).b.1]⟩

theorem step_opts {p p' : PS} (s : Side) (a : Act) (hs : step p s a = some p') :
    p'.a.opts = p.a.opts ∧ p'.b.opts = p.b.opts := by
  cases s with
  | A => exact stepL_opts hs
  | B =>
    obtain ⟨q, hq, rfl⟩ := stepR_eq hs
    exact (stepL_opts hq).symm

theorem run_opts (p : PS) (as : List (Side × Act)) :
    (run p as).a.opts = p.a.opts ∧ (run p as).b.opts = p.b.opts := by
  induction as generalizing p with
  | nil => exact ⟨rfl, rfl⟩
  | cons sa rest ih =>
    obtain ⟨s, a⟩ := sa
    unfold run
    cases hs : step p s a with
    | none => exact ih p
    | some p' =>
      have h1 := ih p'
      have h2 := step_opts s a hs
      exact ⟨h1.1.trans h2.1, h1.2.trans h2.2⟩

/-- The application still observes the receiving half of stream object `j`: the handle has not been
    dropped (or end-of-stream has been read, after which nothing changes any more). -/
def observed (e : EP) (g : Ghost) (j : Nat) : Bool :=
  match e.objs[j]? with
  | some o => o.rxOpen || g.eof j
  | none => false

theorem observed_spec {e : EP} {g : Ghost} {j : Nat} {o : Obj} (h : observed e g j = true) (ho : e.objs[j]? = some o) :
    ReaderOk o (g.eof j) := by
  simp only [observed, ho, Bool.or_eq_true] at h
  exact h

/-- Flow `x` has been established on both endpoints (its handshake completed: `x ∈ p.linked`), both
    still hold it (objects `i` at `a`, `j` at `b`), and both applications still observe their streams. -/
structure Established (p : PS) (x i j : Nat) : Prop where
  sa : lookup p.a.flows x = some (.established i)
  sb : lookup p.b.flows x = some (.established j)
  lk : x ∈ p.linked
  oa : observed p.a p.ga i = true
  ob : observed p.b p.gb j = true

theorem Established.swap {p : PS} {x i j : Nat} (e : Established p x i j) : Established p.swap x j i :=
  ⟨e.sb, e.sa, e.lk, e.ob, e.oa⟩

/-- What the invariant says about a flow whose handshake has completed: one object per endpoint, and
    the per-direction claims. -/
theorem linked_objs {p : PS} (h : Inv p) {x : Nat} (hx : x ∈ p.linked) :
    ∃ i j oA oB, p.a.objs[i]? = some oA ∧ p.b.objs[j]? = some oB ∧ oA.fid = x ∧ oB.fid = x ∧
      oA.cap = p.a.opts.rwnd ∧ oB.cap = p.b.opts.rwnd ∧
      (∀ k o, p.a.objs[k]? = some o → o.fid = x → k = i) ∧ (∀ k o, p.b.objs[k]? = some o → o.fid = x → k = j) ∧
      SlotOk (lookup p.a.flows x) i oA ∧ SlotOk (lookup p.b.flows x) j oB ∧
      Claim (lookup p.a.flows x) oA oB (fl x (pathAB p)) (fl x (pathBA p)) (p.ga.wlog i) (p.gb.rlog j) (p.gb.eof j) ∧
      Claim (lookup p.b.flows x) oB oA (fl x (pathBA p)) (fl x (pathAB p)) (p.gb.wlog j) (p.ga.rlog i) (p.ga.eof i) := by
  have r := h.live x hx
  obtain ⟨i, j, oA, oB, h3, h4, h5, h6, c1, c2, s1, s2, _, _, _, _, _, _, k1, k2⟩ := r.body
  obtain ⟨hoA, hfA⟩ := objView_some h3
  obtain ⟨hoB, hfB⟩ := objView_some h4
  rw [(ev_wlog_some h3).1, (ev_wlog_some h4).2.1, (ev_wlog_some h4).2.2] at k1
  rw [(ev_wlog_some h4).1, (ev_wlog_some h3).2.1, (ev_wlog_some h3).2.2] at k2
  refine ⟨i, j, oA, oB, hoA, hoB, hfA, hfB, c1, c2, ?_, ?_, s1, s2, k1, k2⟩
  · intro k o hk hf
    rcases Nat.decEq k i with hne | he
    · have := h5 k hne
      rw [show (ev x p.a p.ga).objs k = objView x p.a k from rfl, objView_self hk hf] at this; cases this
    · exact he
  · intro k o hk hf
    rcases Nat.decEq k j with hne | he
    · have := h6 k hne
      rw [show (ev x p.b p.gb).objs k = objView x p.b k from rfl, objView_self hk hf] at this; cases this
    · exact he

/-- The direction `a → b` of an established flow is a state of the link model that satisfies `Link.Inv`. -/
theorem established_dir {p : PS} (h : Inv p) {x i j : Nat} (e : Established p x i j) :
    ∃ oA oB l, p.a.objs[i]? = some oA ∧ p.b.objs[j]? = some oB ∧ oA.fid = x ∧ oB.fid = x ∧
      oA.cap = p.a.opts.rwnd ∧ oB.cap = p.b.opts.rwnd ∧
      DirRel oA oB (fl x (pathAB p)) (fl x (pathBA p)) (p.ga.wlog i) (p.gb.rlog j) (p.gb.eof j) l ∧
      (∀ k o, p.a.objs[k]? = some o → o.fid = x → k = i) ∧ (∀ k o, p.b.objs[k]? = some o → o.fid = x → k = j) := by
  obtain ⟨i', j', oA, oB, hoA, hoB, hfA, hfB, c1, c2, u1, u2, s1, s2, k1, _⟩ := linked_objs h e.lk
  have hi : i' = i := by
    rcases s1 with s1 | ⟨s1, _⟩
    · rw [e.sa] at s1; cases s1; rfl
    · rw [e.sa] at s1; cases s1
  have hj : j' = j := by
    rcases s2 with s2 | ⟨s2, _⟩
    · rw [e.sb] at s2; cases s2; rfl
    · rw [e.sb] at s2; cases s2
  subst hi; subst hj
  obtain ⟨ka, _⟩ := k1 (observed_spec e.ob hoB)
  obtain ⟨l, d⟩ := ka (by rw [e.sa]; intro hh; cases hh)
  exact ⟨oA, oB, l, hoA, hoB, hfA, hfB, c1, c2, d, u1, u2⟩

def pushesOf (x : Nat) (l : List Msg) : List Bytes := Link.pushes ((fl x l).filterMap toItem)

def acksOf (x : Nat) (l : List Msg) : List Nat := (fl x l).filterMap ackOf

/-- Credit accounting on an established flow, direction `a → b`: every unit of the window `b`
    advertised is in exactly one place, so `b`'s queue never overflows. -/
theorem established_credit {p : PS} (h : Inv p) {x i j : Nat} (e : Established p x i j) :
    ∃ oA oB, p.a.objs[i]? = some oA ∧ p.b.objs[j]? = some oB ∧
      oA.credit + (pushesOf x (pathAB p)).length + oB.rxq.length + oB.recvdSince + (acksOf x (pathBA p)).sum
        = p.b.opts.rwnd ∧
      oB.rxq.length ≤ p.b.opts.rwnd ∧ oB.cap = p.b.opts.rwnd := by
  obtain ⟨oA, oB, l, hoA, hoB, _, _, _, c2, d, _, _⟩ := established_dir h e
  refine ⟨oA, oB, hoA, hoB, ?_⟩
  have hc := d.inv.hcredit
  rw [d.hcredit, d.hwire, d.hrxq, d.hsince, d.hacks, d.hW, c2] at hc
  exact ⟨hc, by omega, c2⟩

/-- Bytes in order, exactly once, direction `a → b`: what `b`'s application has read, what its
    handle buffers, what its queue holds and what is in flight add up to what `a`'s application wrote. -/
theorem established_bytes {p : PS} (h : Inv p) {x i j : Nat} (e : Established p x i j) :
    ∃ oB, p.b.objs[j]? = some oB ∧
      p.gb.rlog j ++ oB.buf ++ oB.rxq.flatten ++ (pushesOf x (pathAB p)).flatten = p.ga.wlog i ∧
      p.gb.rlog j <+: p.ga.wlog i := by
  obtain ⟨oA, oB, l, hoA, hoB, _, _, _, _, d, _, _⟩ := established_dir h e
  have hd := d.inv.hdata
  rw [d.hdel, d.hbuf, d.hrxq, d.hwire, d.hacc] at hd
  exact ⟨oB, hoB, hd, by rw [← d.hdel, ← d.hacc]; exact Link.prefix_of_inv l d.inv⟩

/-- End of stream, direction `a → b`: `b` sees it only after `a` has shut down, and then it has read
    exactly what `a` wrote. -/
theorem established_eof {p : PS} (h : Inv p) {x i j : Nat} (e : Established p x i j) (he : p.gb.eof j = true) :
    ∃ oA, p.a.objs[i]? = some oA ∧ oA.finishSent = true ∧ p.gb.rlog j = p.ga.wlog i := by
  obtain ⟨oA, oB, l, hoA, hoB, _, _, _, _, d, _, _⟩ := established_dir h e
  obtain ⟨hfin, hda⟩ := Link.eof_facts l d.inv (by rw [d.heof]; exact he)
  exact ⟨oA, hoA, by rw [← d.hfin]; exact hfin, by rw [← d.hdel, ← d.hacc]; exact hda⟩

/-- A `Push` that reaches an established flow always finds room: the receive window is never overrun. -/
theorem established_push_fits {p : PS} (h : Inv p) {x i j : Nat} (e : Established p x i j) (d : Bytes) (rest : List Msg)
    (hab : p.ab = .frame (.push x d) :: rest) :
    ∃ oB, p.b.objs[j]? = some oB ∧ oB.senderAlive = true ∧ oB.rxOpen = true ∧ oB.rxq.length < oB.cap := by
  obtain ⟨oA, oB, l, hoA, hoB, _, _, _, _, dr, _, _⟩ := established_dir h e
  have hhead : fl x (pathAB p) = .frame (.push x d) :: fl x (rest ++ p.a.outq) := fl_pathBA_cons (p := p.swap) hab rfl
  rw [hhead] at dr
  obtain ⟨ha, hroom, _⟩ := dr.deliverPush x d
  refine ⟨oB, hoB, ha, ?_, hroom⟩
  cases hr : oB.rxOpen with
  | true => rfl
  | false => have := dr.hrx hr; rw [ha] at this; cases this

/-- No stall on an established flow: a writer at `a` without credit always has something on its
    way — a `Push` of the flow still in transit to `b`, a frame in `b`'s receive queue (its reader can
    read), or an `Acknowledge` of the flow in transit back to `a`. -/
theorem established_blocked_has_work {p : PS} (h : Inv p) {x i j : Nat} (e : Established p x i j)
    (oA : Obj) (hoA : p.a.objs[i]? = some oA) (hc : oA.credit = 0) :
    pushesOf x (pathAB p) ≠ [] ∨ (∃ oB, p.b.objs[j]? = some oB ∧ oB.rxq ≠ []) ∨ acksOf x (pathBA p) ≠ [] := by
  obtain ⟨oA', oB, l, hoA', hoB, _, _, _, _, d, _, _⟩ := established_dir h e
  rw [hoA] at hoA'; cases hoA'
  have := Link.blocked_has_work l d.inv (by rw [d.hcredit]; exact hc)
  rw [d.hwire, d.hrxq, d.hacks] at this
  rcases this with h1 | h1 | h1
  · exact Or.inl h1
  · exact Or.inr (Or.inl ⟨oB, hoB, h1⟩)
  · exact Or.inr (Or.inr h1)

/-! ### After an endpoint has released the flow (abort, or close after shutdown) -/

/-- `a` has released a flow whose handshake had completed (its handle was dropped and the
    notification handled, or the peer's `Reset` arrived): `a`'s object is closed for writing, and as
    long as `b`'s application observes its stream, `b`'s receiving side is a state of the link
    model that satisfies `Link.Inv` and whose sender has finished. -/
theorem released_dir {p : PS} (h : Inv p) {x : Nat} (hx : x ∈ p.linked) (hrel : lookup p.a.flows x = none) :
    ∃ i j oA oB, p.a.objs[i]? = some oA ∧ p.b.objs[j]? = some oB ∧ oA.fid = x ∧ oB.fid = x ∧
      (∀ k o, p.a.objs[k]? = some o → o.fid = x → k = i) ∧ (∀ k o, p.b.objs[k]? = some o → o.fid = x → k = j) ∧
      oA.finishSent = true ∧ oA.senderAlive = false ∧
      (observed p.b p.gb j = true →
        ∃ l, DirRelA oB (fl x (pathAB p)) (p.ga.wlog i) (p.gb.rlog j) (p.gb.eof j) l) := by
  obtain ⟨i, j, oA, oB, hoA, hoB, hfA, hfB, _, _, u1, u2, s1, _, k1, _⟩ := linked_objs h hx
  have hcl : oA.finishSent = true ∧ oA.senderAlive = false := by
    rcases s1 with s1 | ⟨_, f1, f2⟩
    · rw [hrel] at s1; cases s1
    · exact ⟨f1, f2⟩
  refine ⟨i, j, oA, oB, hoA, hoB, hfA, hfB, u1, u2, hcl.1, hcl.2, fun hob => ?_⟩
  exact (k1 (observed_spec hob hoB)).2 hrel

/-- Abort is clean for the peer's reader: after `a` released the flow, what `b`'s application has
    read is a prefix of what `a`'s application wrote, and everything `a` wrote before releasing is
    accounted for — read, buffered, queued, or still in flight before the end marker. -/
theorem released_bytes {p : PS} (h : Inv p) {x : Nat} (hx : x ∈ p.linked) (hrel : lookup p.a.flows x = none) :
    ∃ i j oB, p.b.objs[j]? = some oB ∧ oB.fid = x ∧ (∀ k o, p.a.objs[k]? = some o → o.fid = x → k = i) ∧
      (observed p.b p.gb j = true →
        p.gb.rlog j <+: p.ga.wlog i ∧
        p.gb.rlog j ++ oB.buf ++ oB.rxq.flatten ++
          (Link.pushes (if oB.senderAlive then cutEnd ((fl x (pathAB p)).filterMap toItem) else [])).flatten = p.ga.wlog i) := by
  obtain ⟨i, j, oA, oB, _, hoB, _, hfB, u1, _, _, _, k⟩ := released_dir h hx hrel
  refine ⟨i, j, oB, hoB, hfB, u1, fun hob => ?_⟩
  obtain ⟨l, d⟩ := k hob
  have hd := d.inv.hdata
  rw [d.hdel, d.hbuf, d.hrxq, d.hwire, d.hacc] at hd
  exact ⟨by rw [← d.hdel, ← d.hacc]; exact Link.prefix_of_inv l d.inv, hd⟩

/-- … and when `b`'s application reads end-of-stream after `a` released the flow, it has read exactly
    what `a`'s application wrote: nothing is lost, nothing is invented. -/
theorem released_eof {p : PS} (h : Inv p) {x : Nat} (hx : x ∈ p.linked) (hrel : lookup p.a.flows x = none) :
    ∃ i j, (∀ k o, p.a.objs[k]? = some o → o.fid = x → k = i) ∧ (∀ k o, p.b.objs[k]? = some o → o.fid = x → k = j) ∧
      (p.gb.eof j = true → p.gb.rlog j = p.ga.wlog i) := by
  obtain ⟨i, j, oA, oB, _, hoB, _, _, u1, u2, _, _, k⟩ := released_dir h hx hrel
  refine ⟨i, j, u1, u2, fun he => ?_⟩
  have hob : observed p.b p.gb j = true := by simp [observed, hoB, he]
  obtain ⟨l, d⟩ := k hob
  rw [← d.hdel, ← d.hacc]
  exact (Link.eof_facts l d.inv (by rw [d.heof]; exact he)).2

/-- Once an endpoint has released a flow, writes on its stream fail: the object is closed for
    writing, so `poll_write` answers `BrokenPipe` and emits nothing. -/
theorem released_write_fails {p : PS} (h : Inv p) {x : Nat} (hx : x ∈ p.linked) (hrel : lookup p.a.flows x = none)
    (hd i : Nat) (o : Obj) (d : Bytes) (hh : p.a.handleObj hd = some (i, o)) (hf : o.fid = x) :
    (appWrite p.a hd d).2 = .brokenPipe ∧ (appWrite p.a hd d).1.outq = p.a.outq := by
  obtain ⟨i', _, oA, _, hoA, _, _, _, u1, _, hfin, _, _⟩ := released_dir h hx hrel
  have ho := handleObj_some hh
  have hi : i = i' := u1 i o ho hf
  subst hi
  rw [hoA] at ho; cases ho
  rcases appWrite_local p.a hd i o d hh h.runA.outClosed with ⟨_, hres, u⟩ | ⟨hf', _⟩ | ⟨hf', _⟩ | ⟨hf', _⟩
  · exact ⟨hres, by rw [u.outq]; simp⟩
  all_goals (rw [hfin] at hf'; cases hf')

end Penguin.Pair
