/-
Bind traffic in the pair model: what the endpoint model's functions do to the bind components.
`BSame N e e'` says that going from `e` to `e'` received no bind request and emitted no
`Bind` frame, except for ids satisfying `N`: the flow ids the endpoint remembers as bind requests of
its peer (`bindIds`: parked hand-over, bind queue, requests handed to the application) do not grow,
and no `Bind` frame joins the outbound queue.  It holds for every `N` across every kind of primitive step but "a
request arrives from the wire" and "a `Bind` is queued" (`BSame.of_upd`; Lemmas/MuxTrace.lean), so for every function
whose path avoids those (`BSame.of_path`); `offerBind`, a `Bind` frame and `request_bind` are the three that do not, each
with the `N` it adds.
-/
import Penguin.Lemmas.PairRecv
import Penguin.Lemmas.MuxTrace
import Penguin.Lemmas.ListFacts
import Penguin.Lemmas.PairEmits

namespace Penguin.Pair
open Penguin.Mux

structure BSame (N : Nat → Prop) (e e' : EP) : Prop where
  ids : ∀ x, x ∈ bindIds e' → x ∈ bindIds e ∨ N x
  outq : ∃ em, e'.outq = e.outq ++ em ∧ ∀ m ∈ em, isBindMsg m = true → ∃ y, Msg.flow? m = some y ∧ N y

namespace BSame

theorem refl (N : Nat → Prop) (e : EP) : BSame N e e :=
  ⟨fun _ h => Or.inl h, [], by simp, by simp⟩

theorem trans {N : Nat → Prop} {a b c : EP} (s : BSame N a b) (t : BSame N b c) : BSame N a c := by
  obtain ⟨e1, h1, g1⟩ := s.outq
  obtain ⟨e2, h2, g2⟩ := t.outq
  refine ⟨?_, e1 ++ e2, by rw [h2, h1, List.append_assoc], ?_⟩
  · intro x hx
    rcases t.ids x hx with h | h
    · exact s.ids x h
    · exact Or.inr h
  · intro m hm hb
    rcases List.mem_append.mp hm with h | h
    · exact g1 m h hb
    · exact g2 m h hb

theorem mono {N N' : Nat → Prop} {e e' : EP} (h : ∀ x, N x → N' x) (s : BSame N e e') : BSame N' e e' := by
  obtain ⟨em, h1, g1⟩ := s.outq
  refine ⟨fun x hx => (s.ids x hx).imp id (h x), em, h1, ?_⟩
  intro m hm hb
  obtain ⟨y, hy, hn⟩ := g1 m hm hb
  exact ⟨y, hy, h y hn⟩

theorem of_ids {N : Nat → Prop} {e e' : EP} (h1 : ∀ x, x ∈ bindIds e' → x ∈ bindIds e) (h2 : e'.outq = e.outq) :
    BSame N e e' :=
  ⟨fun x hx => Or.inl (h1 x hx), [], by simp [h2], by simp⟩

theorem silent {N : Nat → Prop} {e e' : EP} (h1 : e'.bindq = e.bindq) (h2 : e'.held = e.held) (h3 : e'.park = e.park)
    (h4 : e'.outq = e.outq) : BSame N e e' :=
  of_ids (fun x hx => by unfold bindIds at *; rw [h1, h2, h3] at hx; exact hx) h4

end BSame

theorem mem_bindIds {e : EP} {x : Nat} :
    x ∈ bindIds e ↔ (∃ b ∈ e.bindq, b.fid = x) ∨ (∃ b ∈ e.held, b.fid = x) ∨ (∃ b, e.park = some (.bind b) ∧ b.fid = x) := by
  unfold bindIds
  simp only [List.mem_append, List.mem_map, or_assoc]
  refine or_congr Iff.rfl (or_congr Iff.rfl ?_)
  cases hp : e.park with
  | none => simp
  | some k =>
    cases k with
    | accept i => simp
    | bind b =>
      simp only [List.mem_singleton, Option.some.injEq, Park.bind.injEq]
      constructor
      · intro h; exact ⟨b, rfl, h.symm⟩
      · rintro ⟨b', rfl, h⟩; exact h.symm

@[simp] theorem enq_bindq (e : EP) (m : Msg) : (e.enq m).bindq = e.bindq := enq_frame e m .bindq
@[simp] theorem enq_held (e : EP) (m : Msg) : (e.enq m).held = e.held := enq_frame e m .held

theorem bindIds_congr {e e' : EP} (h1 : e'.bindq = e.bindq) (h2 : e'.held.map (·.fid) = e.held.map (·.fid))
    (h3 : e'.park = e.park) : bindIds e' = bindIds e := by
  unfold bindIds
  rw [h1, h2, h3]

/-- The kinds of step across which it fails whatever `N` is: a request arrives from the wire (into the bind queue, or
    the receive loop parks with it), a `Bind` frame is queued; and those that take messages out of the queue. -/
def BSame.bad : Kinds := Appends.takers ∪ .of [.bindPush, .parkBind, .enq .bind]

/-- Across every other step no id is added: a remembered request only changes place (from the parked hand-over to the
    bind queue, from the bind queue to the application) or is marked, and the guards of those steps say where it was. -/
theorem BSame.of_upd {N : Nat → Prop} {k : Kind} {e e' : EP} {x : List Ev} (hk : k ∉ BSame.bad) (u : Upd k e x e') :
    BSame N e e' := by
  obtain ⟨em, h1, g⟩ := Appends.of_upd (P := fun m => isBindMsg m = false) (T := BSame.bad) (by decide +kernel)
    (fun m hm => by
      cases m with
      | frame f => cases f <;> first | rfl | exact absurd (show Kind.enq .bind ∈ BSame.bad by decide +kernel) hm
      | _ => rfl) hk u
  refine ⟨fun y hy => Or.inl ?_, em, h1, fun m hm hb => by rw [g m hm] at hb; cases hb⟩
  have same : e'.bindq = e.bindq → e'.held.map (·.fid) = e.held.map (·.fid) → e'.park = e.park → y ∈ bindIds e :=
    fun a b c => bindIds_congr a b c ▸ hy
  cases u with
  | enq _ _ m => exact same (enq_bindq e m) (congrArg _ (enq_held e m)) (enq_park e m)
  | send =>
    exact same ((Upd.send e).frame .bindq (by decide +kernel)) (congrArg _ ((Upd.send e).frame .held (by decide +kernel)))
      ((Upd.send e).frame .park (by decide +kernel))
  | req r => exact same (r.frame .bindq) (congrArg _ (r.frame .held)) (r.frame .park)
  | queue q =>
    cases q with
    | bindPush => exact absurd (by decide +kernel) hk
    | bindUnpark _ b hp _ =>
      rw [mem_bindIds] at hy ⊢
      rcases hy with ⟨b', hb', hf⟩ | hy | hy
      · rcases List.mem_append.mp hb' with hb' | hb'
        · exact Or.inl ⟨b', hb', hf⟩
        · exact Or.inr (Or.inr ⟨b, hp, List.mem_singleton.mp hb' ▸ hf⟩)
      · exact Or.inr (Or.inl hy)
      · exact Or.inr (Or.inr hy)
    | bindPop _ b rest h =>
      rw [mem_bindIds] at hy ⊢
      exact hy.imp_left fun ⟨b', hb', hf⟩ => ⟨b', h ▸ List.mem_cons_of_mem _ hb', hf⟩
    | dropQueues =>
      rw [mem_bindIds] at hy ⊢
      exact hy.imp_left fun ⟨_, hb', _⟩ => nomatch hb'
    | _ => exact same rfl rfl rfl
  | ctl c =>
    cases c with
    | parkBind => exact absurd (by decide +kernel) hk
    | heldPush _ b h =>
      rw [mem_bindIds] at hy ⊢
      rcases hy with hy | ⟨b', hb', hf⟩ | hy
      · exact Or.inl hy
      · rcases List.mem_append.mp hb' with hb' | hb'
        · exact Or.inr (Or.inl ⟨b', hb', hf⟩)
        · exact Or.inl ⟨b, h, List.mem_singleton.mp hb' ▸ hf⟩
      · exact Or.inr (Or.inr hy)
    | heldMod _ k f hf => exact same rfl (map_modify_of_eq BindIn.fid f hf _ k) rfl
    | park _ p hp =>
      rw [mem_bindIds] at hy ⊢
      exact hy.imp id (Or.imp id fun ⟨b', hb', _⟩ => absurd hb' (hp b'))
    | _ => exact same rfl rfl rfl
  | _ => exact same rfl rfl rfl

theorem BSame.of_path {N : Nat → Prop} {A : Kinds} {e e' : EP} {x : List Ev} (p : Path A e x e')
    (hA : A.disj BSame.bad = true := by decide +kernel) : BSame N e e' :=
  p.rel0 (BSame.refl N) BSame.trans fun hk u => .of_upd (Kinds.not_mem_of_disj hA hk) u

theorem BSame.closeFlow (N : Nat → Prop) (e : EP) (fid : Nat) (inh : Bool) : BSame N e (closeFlow e fid inh).1 :=
  .of_path (.closeFlow e fid inh)

theorem BSame.unpark (N : Nat → Prop) (e : EP) : BSame N e (unpark e) := .of_path (.unpark e)

theorem BSame.openRound (N : Nat → Prop) (e : EP) (r : OpenReq) : BSame N e (openRound e r).1 := .of_path (.openRoundAny e r)

theorem BSame.runRetries (N : Nat → Prop) (e : EP) (l : List Nat) : BSame N e (runRetries e l).1 := .of_path (.runRetries e l)

theorem BSame.runDone (N : Nat → Prop) (e : EP) (l : List (Nat × Nat)) : BSame N e (runDone e l).1 := .of_path (.runDone e l)

theorem BSame.appAccept (N : Nat → Prop) (e : EP) : BSame N e (appAccept e).1 := .of_path (.appAccept e)

theorem BSame.appWrite (N : Nat → Prop) (e : EP) (h : Nat) (d : Bytes) : BSame N e (appWrite e h d).1 := .of_path (.appWrite e h d)

theorem BSame.fillBuf (N : Nat → Prop) (fuel : Nat) (e : EP) (i : Nat) : BSame N e (fillBuf fuel e i).1 :=
  .of_path (.fillBuf fuel e i)

theorem BSame.appRead (N : Nat → Prop) (e : EP) (h n : Nat) : BSame N e (appRead e h n).1 := .of_path (.appRead e h n)

theorem BSame.appShutdown (N : Nat → Prop) (e : EP) (h : Nat) : BSame N e (appShutdown e h).1 := .of_path (.appShutdown e h)

theorem BSame.appDropStream (N : Nat → Prop) (e : EP) (h : Nat) : BSame N e (appDropStream e h).1 :=
  .of_path (.appDropStream e h)

theorem BSame.appSendDgram (N : Nat → Prop) (e : EP) (d : Dgram) : BSame N e (appSendDgram e d).1 := .of_path (.appSendDgram e d)

theorem BSame.appRecvDgram (N : Nat → Prop) (e : EP) : BSame N e (appRecvDgram e).1 := .of_path (.appRecvDgram e)

theorem BSame.offerBind (e : EP) (b : BindIn) : BSame (· = b.fid) e (offerBind e b) := by
  unfold Mux.offerBind
  split
  · refine ⟨?_, [], by simp, by simp⟩
    intro x hx; rw [mem_bindIds] at hx; rw [mem_bindIds]
    simp only [List.mem_append, List.mem_singleton] at hx
    rcases hx with ⟨b', hb' | hb', hf⟩ | hx | hx
    · exact Or.inl (Or.inl ⟨b', hb', hf⟩)
    · subst hb'; exact Or.inr hf.symm
    · exact Or.inl (Or.inr (Or.inl hx))
    · exact Or.inl (Or.inr (Or.inr hx))
  · refine ⟨?_, [], by simp, by simp⟩
    intro x hx; rw [mem_bindIds] at hx; rw [mem_bindIds]
    simp only [Option.some.injEq, Park.bind.injEq] at hx
    rcases hx with hx | hx | ⟨b', hb', hf⟩
    · exact Or.inl (Or.inl hx)
    · exact Or.inl (Or.inr (Or.inl hx))
    · subst hb'; exact Or.inr hf.symm

def bindOf (f : Frame) (x : Nat) : Prop := ∃ bt port host, f = .bind x bt port host

/-- One frame is processed: only a `Bind` frame makes the endpoint remember a bind request — that
    frame's — and no frame makes it emit a `Bind`. -/
theorem BSame.processFrame (e : EP) (f : Frame) (ig : Bool) : BSame (bindOf f) e (processFrame e f ig).1 := by
  have p := Path.processFrameOf e f ig
  cases f with
  | bind fid bt port host =>
    simp only [Mux.processFrame]
    repeat' split
    all_goals first
      | exact BSame.refl _ e
      | exact .of_path (Path.one (.enq .reset e _ rfl))
      | exact (BSame.offerBind e { fid := fid, bt := bt, host := host, port := port }).mono
          (fun x hx => ⟨bt, port, host, by rw [hx]⟩)
  | _ => exact .of_path p (by dsimp only [K.processFrameOf]; decide +kernel)

/-! ### The bind calls -/

def drawn (e : EP) (x : Nat) : Prop := ∃ r fb, drawId e.flows e.rng e.fallback 64 = some (x, r, fb)

theorem BSame.appBindReq (e : EP) (req : Nat) (bt : BindType) (host : Bytes) (port : Nat) :
    BSame (drawn e) e (appBindReq e req bt host port).1 := by
  unfold Mux.appBindReq
  split
  · exact BSame.refl _ e
  · rename_i fid rng' fb' hd
    split
    · exact BSame.silent rfl rfl rfl rfl
    · rename_i hoc
      refine ⟨?_, [.frame (.bind fid bt port host)], ?_, ?_⟩
      · intro x hx; left
        rw [mem_bindIds] at hx ⊢
        simpa [EP.enqFrame, EP.enq, hoc] using hx
      · simp [EP.enqFrame, EP.enq, hoc]
      · intro m hm _
        simp only [List.mem_singleton] at hm
        subst hm
        exact ⟨fid, rfl, rng', fb', hd⟩

theorem BSame.appBindNext (N : Nat → Prop) (e : EP) : BSame N e (appBindNext e).1 := .of_path (.appBindNext e)

theorem BSame.appBindReply (N : Nat → Prop) (e : EP) (k : Nat) (acc : Bool) : BSame N e (appBindReply e k acc).1 :=
  .of_path (.appBindReply e k acc)

theorem BSame.appBindDrop (N : Nat → Prop) (e : EP) (k : Nat) : BSame N e (appBindDrop e k).1 := .of_path (.appBindDrop e k)

/-! ### Calls that leave the flow table and the stream objects alone -/

theorem appBindReply_same (e : EP) (k : Nat) (acc : Bool) :
    (appBindReply e k acc).1.flows = e.flows ∧ (appBindReply e k acc).1.objs = e.objs :=
  ⟨(Path.appBindReply e k acc).frame .flows, (Path.appBindReply e k acc).frame .objs⟩

theorem appBindDrop_same (e : EP) (k : Nat) :
    (appBindDrop e k).1.flows = e.flows ∧ (appBindDrop e k).1.objs = e.objs :=
  ⟨(Path.appBindDrop e k).frame .flows, (Path.appBindDrop e k).frame .objs⟩

end Penguin.Pair
