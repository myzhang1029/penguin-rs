/-
One direction of the bind-request traffic between two endpoints, abstracted from the pair
(`Model/BindPair`): the requester's flow table, the `Bind` frames on their way, the answerer's parked
hand-over, bind queue and held `BindRequest`s, the answers (`Finish`/`Reset`) on their way back, and
the ghost history.  `DirCore` is the invariant; each `Dir.*` move is what one action of the pair does
to one direction, and preserves it.  `Lemmas/BindPair.lean` shows that the pair's actions are these
moves.  Core Lean only.
-/
import Penguin.Model.BindPair
import Penguin.Lemmas.MuxBasic

namespace Penguin.BindPair
open Penguin.Mux

def ownerF (m : List (Nat × Slot)) (x : Nat) : Option Nat :=
  match lookup m x with
  | some (.bindRequested req) => some req
  | _ => none

theorem owner_eq (e : EP) (x : Nat) : owner e x = ownerF e.flows x := rfl

theorem ownerF_insert_self (m : List (Nat × Slot)) (x r : Nat) : ownerF (insert m x (.bindRequested r)) x = some r := by
  unfold ownerF; rw [lookup_insert_self]

theorem ownerF_insert_ne (m : List (Nat × Slot)) (x y : Nat) (v : Slot) (h : y ≠ x) : ownerF (insert m x v) y = ownerF m y := by
  unfold ownerF; rw [lookup_insert_ne m x y v h]

theorem ownerF_erase_self (m : List (Nat × Slot)) (x : Nat) : ownerF (erase m x) x = none := by
  unfold ownerF; rw [lookup_erase_self]

theorem ownerF_erase_ne (m : List (Nat × Slot)) (x y : Nat) (h : y ≠ x) : ownerF (erase m x) y = ownerF m y := by
  unfold ownerF; rw [lookup_erase_ne m x y h]

theorem ownerF_erase_some {m : List (Nat × Slot)} {x y r : Nat} (h : ownerF (erase m x) y = some r) : y ≠ x ∧ ownerF m y = some r := by
  by_cases hy : y = x
  · subst hy; rw [ownerF_erase_self] at h; cases h
  · exact ⟨hy, by rw [← ownerF_erase_ne m x y hy]; exact h⟩

theorem ownerF_insert_some {m : List (Nat × Slot)} {x req y r : Nat}
    (h : ownerF (insert m x (.bindRequested req)) y = some r) : (y = x ∧ r = req) ∨ (y ≠ x ∧ ownerF m y = some r) := by
  by_cases hyx : y = x
  · subst hyx; rw [ownerF_insert_self] at h; exact Or.inl ⟨rfl, by cases h; rfl⟩
  · rw [ownerF_insert_ne _ _ _ _ hyx] at h; exact Or.inr ⟨hyx, h⟩

theorem ownerF_none_of_lookup {m : List (Nat × Slot)} {x : Nat} (h : lookup m x = none) : ownerF m x = none := by
  unfold ownerF; rw [h]

def _root_.Penguin.Mux.BindIn.pending (b : BindIn) : Bool := b.alive && !b.replied

/-- Flow ids of the held `BindRequest`s that still await the application's decision. -/
def pendHeld : List BindIn → List Nat
  | [] => []
  | b :: r => if b.pending then b.fid :: pendHeld r else pendHeld r

theorem pendHeld_append (l : List BindIn) (c : BindIn) :
    pendHeld (l ++ [c]) = pendHeld l ++ (if c.pending then [c.fid] else []) := by
  induction l with
  | nil => simp [pendHeld]
  | cons b r ih =>
    simp only [List.cons_append, pendHeld, ih]
    split <;> simp

theorem count_pendHeld_modify (l : List BindIn) (k : Nat) (f : BindIn → BindIn) (b : BindIn)
    (h : l[k]? = some b) (hp : b.pending = true) (hf : (f b).pending = false) (x : Nat) :
    (pendHeld (l.modify k f)).count x + (if b.fid = x then 1 else 0) = (pendHeld l).count x := by
  induction l generalizing k with
  | nil => simp at h
  | cons c r ih =>
    cases k with
    | zero =>
      simp only [List.getElem?_cons_zero, Option.some.injEq] at h
      subst h
      simp only [List.modify_zero_cons, pendHeld, hf, hp, if_true, List.count_cons]
      simp only [Bool.false_eq_true, if_false, beq_iff_eq]
    | succ k =>
      simp only [List.getElem?_cons_succ] at h
      simp only [List.modify_succ_cons, pendHeld]
      have := ih k h
      split
      · simp only [List.count_cons]; omega
      · exact this

theorem getElem?_modify_self (l : List BindIn) (k : Nat) (f : BindIn → BindIn) (b : BindIn) (h : l[k]? = some b) :
    (l.modify k f)[k]? = some (f b) := by
  rw [List.getElem?_modify]; simp [h]

theorem getElem?_modify_other (l : List BindIn) (k k' : Nat) (f : BindIn → BindIn) (h : k ≠ k') :
    (l.modify k f)[k']? = l[k']? := by
  rw [List.getElem?_modify]; simp [h]

structure Dir where
  flows : List (Nat × Slot)        -- the requester's flow table
  reqs : List BindIn := []         -- `Bind` frames on their way (queued at the requester or on the wire), oldest first
  park : Option BindIn := none     -- the answerer's receive loop is parked on this request (bind queue full)
  bindq : List BindIn := []        -- the answerer's bind queue
  held : List BindIn := []         -- `BindRequest`s handed to the answerer's application, by number
  anss : List (Nat × Bool) := []   -- answers on their way back: (flow id, `Finish`?) — `Reset` otherwise
  cap : Nat                        -- the answerer's `bind_buffer_size`
  asked : List Asked := []
  results : List (Nat × BindRes) := []
  links : List (Nat × Nat) := []
  accepted : List Nat := []
  rejected : List Nat := []

def parkL : Option BindIn → List BindIn
  | some b => [b]
  | none => []

/-- The flow ids that are somewhere between request and resolution, with multiplicity. -/
def Dir.toks (d : Dir) : List Nat :=
  d.reqs.map (·.fid) ++ (parkL d.park).map (·.fid) ++ d.bindq.map (·.fid) ++ pendHeld d.held ++ d.anss.map (·.1)

def recOf (req : Nat) (c : BindIn) : Asked := { req := req, fid := c.fid, bt := c.bt, host := c.host, port := c.port }

def AnsOk (d : Dir) (req : Nat) (acc : Bool) : Prop :=
  if acc then ∃ k, (req, k) ∈ d.links ∧ k ∈ d.accepted
  else d.cap = 0 ∨ ∃ k, (req, k) ∈ d.links ∧ k ∈ d.rejected

structure DirCore (d : Dir) : Prop where
  /-- every requested id is at exactly one place between request and resolution; no other id is anywhere -/
  cnt : ∀ x, d.toks.count x = if (ownerF d.flows x).isSome then 1 else 0
  /-- a request on its way carries what its owner asked for, and is untouched -/
  fld : ∀ c ∈ d.reqs ++ parkL d.park ++ d.bindq, (c.alive = true ∧ c.replied = false) ∧
          ∀ req, ownerF d.flows c.fid = some req → recOf req c ∈ d.asked
  /-- a held request awaiting its decision is linked to its owner -/
  lnk : ∀ k b, d.held[k]? = some b → b.pending = true → ∀ req, ownerF d.flows b.fid = some req → (req, k) ∈ d.links
  /-- a link names a held request that shows what the linked request asked for -/
  lkf : ∀ req k, (req, k) ∈ d.links → ∃ b, d.held[k]? = some b ∧ recOf req b ∈ d.asked
  /-- every held request is linked -/
  lka : ∀ k, k < d.held.length → ∃ req, (req, k) ∈ d.links
  ans : ∀ x acc, (x, acc) ∈ d.anss → ∀ req, ownerF d.flows x = some req → AnsOk d req acc
  res : ∀ req, ((req, BindRes.accepted) ∈ d.results → AnsOk d req true) ∧
               ((req, BindRes.refused) ∈ d.results → AnsOk d req false)
  dec : d.accepted.Nodup ∧ d.rejected.Nodup ∧ (∀ k ∈ d.accepted, k ∉ d.rejected) ∧
        ∀ k ∈ d.accepted ++ d.rejected, ∃ b, d.held[k]? = some b ∧ b.pending = false
  own : ∀ x req, ownerF d.flows x = some req → req ∈ d.asked.map (·.req)

theorem AnsOk.mono {d d' : Dir} {req : Nat} {acc : Bool} (h : AnsOk d req acc)
    (hl : ∀ x, x ∈ d.links → x ∈ d'.links) (ha : ∀ k, k ∈ d.accepted → k ∈ d'.accepted)
    (hr : ∀ k, k ∈ d.rejected → k ∈ d'.rejected) (hc : d'.cap = d.cap) : AnsOk d' req acc := by
  unfold AnsOk at *
  cases acc with
  | true =>
    simp only [if_true] at *
    obtain ⟨k, h1, h2⟩ := h
    exact ⟨k, hl _ h1, ha _ h2⟩
  | false =>
    simp only [Bool.false_eq_true, if_false] at *
    rcases h with h | ⟨k, h1, h2⟩
    · exact Or.inl (by rw [hc]; exact h)
    · exact Or.inr ⟨k, hl _ h1, hr _ h2⟩

theorem DirCore.not_mem_of_no_owner {d : Dir} (h : DirCore d) {x : Nat} (hx : ownerF d.flows x = none) : x ∉ d.toks := by
  have := h.cnt x
  rw [hx] at this
  simp only [Option.isSome_none, Bool.false_eq_true, if_false] at this
  exact List.count_eq_zero.mp this

theorem DirCore.owner_of_mem {d : Dir} (h : DirCore d) {x : Nat} (hx : x ∈ d.toks) : ∃ req, ownerF d.flows x = some req := by
  cases ho : ownerF d.flows x with
  | none => exact absurd hx (h.not_mem_of_no_owner ho)
  | some r => exact ⟨r, rfl⟩

theorem mem_pendHeld {l : List BindIn} {k : Nat} {b : BindIn} (h : l[k]? = some b) (hp : b.pending = true) : b.fid ∈ pendHeld l := by
  induction l generalizing k with
  | nil => simp at h
  | cons c r ih =>
    cases k with
    | zero =>
      simp only [List.getElem?_cons_zero, Option.some.injEq] at h
      subst h
      simp [pendHeld, hp]
    | succ k =>
      simp only [List.getElem?_cons_succ] at h
      have := ih h
      unfold pendHeld
      split
      · exact List.mem_cons_of_mem _ this
      · exact this

theorem Dir.mem_toks_carrier {d : Dir} {c : BindIn} (hc : c ∈ d.reqs ++ parkL d.park ++ d.bindq) : c.fid ∈ d.toks := by
  unfold Dir.toks
  simp only [List.mem_append] at hc ⊢
  rcases hc with (hc | hc) | hc
  · exact Or.inl (Or.inl (Or.inl (Or.inl (List.mem_map_of_mem hc))))
  · exact Or.inl (Or.inl (Or.inl (Or.inr (List.mem_map_of_mem hc))))
  · exact Or.inl (Or.inl (Or.inr (List.mem_map_of_mem hc)))

theorem Dir.mem_toks_held {d : Dir} {k : Nat} {b : BindIn} (h : d.held[k]? = some b) (hp : b.pending = true) : b.fid ∈ d.toks := by
  unfold Dir.toks
  simp only [List.mem_append]
  exact Or.inl (Or.inr (mem_pendHeld h hp))

theorem Dir.mem_toks_ans {d : Dir} {x : Nat} {acc : Bool} (h : (x, acc) ∈ d.anss) : x ∈ d.toks := by
  unfold Dir.toks
  simp only [List.mem_append]
  exact Or.inr (List.mem_map.mpr ⟨(x, acc), h, rfl⟩)

/-! ### The moves -/

/-- `request_bind`: a fresh id is drawn, the slot inserted, the `Bind` frame queued. -/
def Dir.ask (d : Dir) (req x : Nat) (bt : BindType) (host : Bytes) (port : Nat) : Dir :=
  { d with flows := insert d.flows x (.bindRequested req),
           reqs := d.reqs ++ [{ fid := x, bt := bt, host := host, port := port }],
           asked := d.asked ++ [{ req := req, fid := x, bt := bt, host := host, port := port }] }

theorem DirCore.ask {d : Dir} (h : DirCore d) (req x : Nat) (bt : BindType) (host : Bytes) (port : Nat)
    (hx : lookup d.flows x = none) : DirCore (d.ask req x bt host port) := by
  have hno : x ∉ d.toks := h.not_mem_of_no_owner (ownerF_none_of_lookup hx)
  have hown := fun y r => ownerF_insert_some (m := d.flows) (x := x) (req := req) (y := y) (r := r)
  have hmono : ∀ a, a ∈ d.asked → a ∈ (d.ask req x bt host port).asked := fun a ha => List.mem_append_left _ ha
  refine ⟨?_, ?_, ?_, ?_, ?_, ?_, ?_, ?_, ?_⟩
  · intro y
    have := h.cnt y
    by_cases hyx : y = x
    · subst hyx
      have h0 : d.toks.count y = 0 := List.count_eq_zero.mpr hno
      simp only [Dir.toks, Dir.ask, List.map_append, List.count_append, List.map_cons, List.map_nil,
        ownerF_insert_self, Option.isSome_some, if_true] at h0 ⊢
      simp only [List.count_cons, List.count_nil, beq_self_eq_true, if_true]
      omega
    · simp only [Dir.toks, Dir.ask, List.map_append, List.count_append, List.map_cons, List.map_nil,
        ownerF_insert_ne _ _ _ _ hyx] at this ⊢
      have hne : (x == y) = false := by simpa using fun e => hyx e.symm
      simp only [List.count_cons, List.count_nil, hne]
      simp only [Bool.false_eq_true, if_false]
      omega
  · intro c hc
    simp only [Dir.ask, List.mem_append, List.mem_singleton] at hc
    have hc' : c ∈ d.reqs ++ parkL d.park ++ d.bindq ∨ c = { fid := x, bt := bt, host := host, port := port } := by
      simp only [List.mem_append]
      rcases hc with ((hc | hc) | hc) | hc
      · exact Or.inl (Or.inl (Or.inl hc))
      · exact Or.inr hc
      · exact Or.inl (Or.inl (Or.inr hc))
      · exact Or.inl (Or.inr hc)
    rcases hc' with hc' | rfl
    · refine ⟨(h.fld c hc').1, ?_⟩
      intro r hr
      rcases hown _ _ hr with ⟨hy, _⟩ | ⟨_, hr'⟩
      · exact absurd (hy ▸ Dir.mem_toks_carrier hc') hno
      · exact hmono _ ((h.fld c hc').2 r hr')
    · refine ⟨⟨rfl, rfl⟩, ?_⟩
      intro r hr
      rcases hown _ _ hr with ⟨_, hr'⟩ | ⟨hy, _⟩
      · subst hr'; exact List.mem_append_right _ (by simp [recOf])
      · exact absurd rfl hy
  · intro k b hk hp r hr
    rcases hown _ _ hr with ⟨hy, _⟩ | ⟨_, hr'⟩
    · exact absurd (hy ▸ Dir.mem_toks_held hk hp) hno
    · exact h.lnk k b hk hp r hr'
  · intro r k hl
    obtain ⟨b, hb, ha⟩ := h.lkf r k hl
    exact ⟨b, hb, hmono _ ha⟩
  · exact h.lka
  · intro y acc hy r hr
    rcases hown _ _ hr with ⟨hy', _⟩ | ⟨_, hr'⟩
    · exact absurd (hy' ▸ Dir.mem_toks_ans hy) hno
    · exact h.ans y acc hy r hr'
  · exact h.res
  · exact h.dec
  · intro y r hr
    simp only [Dir.ask, List.map_append, List.mem_append, List.map_cons, List.map_nil, List.mem_singleton]
    rcases hown _ _ hr with ⟨_, hr'⟩ | ⟨_, hr'⟩
    · exact Or.inr hr'
    · exact Or.inl (h.own y r hr')

theorem count_one (a y : Nat) : List.count y [a] = if a = y then 1 else 0 := by
  simp only [List.count_cons, List.count_nil, beq_iff_eq]; split <;> simp

/-- The call fails at once: no id could be drawn. -/
def Dir.askClosed (d : Dir) (req : Nat) : Dir := { d with results := d.results ++ [(req, .closed)] }

theorem DirCore.askClosed {d : Dir} (h : DirCore d) (req : Nat) : DirCore (d.askClosed req) := by
  refine ⟨h.cnt, h.fld, h.lnk, h.lkf, h.lka, h.ans, fun r => ⟨fun hr => (h.res r).1 ?_, fun hr => (h.res r).2 ?_⟩, h.dec, h.own⟩
  all_goals
    simpa only [Dir.askClosed, List.mem_append, List.mem_singleton, Prod.mk.injEq, reduceCtorEq, and_false, or_false] using hr

/-- Requests change place without being touched; answers may be added for an endpoint that does not
    accept binds. -/
theorem DirCore.shuffle {d d' : Dir} (h : DirCore d) (hf : d'.flows = d.flows) (hh : d'.held = d.held)
    (hcap : d'.cap = d.cap) (hasked : d'.asked = d.asked) (hres : d'.results = d.results)
    (hlinks : d'.links = d.links) (hacc : d'.accepted = d.accepted) (hrej : d'.rejected = d.rejected)
    (hcnt : ∀ x, d'.toks.count x = d.toks.count x)
    (hcar : ∀ c ∈ d'.reqs ++ parkL d'.park ++ d'.bindq, c ∈ d.reqs ++ parkL d.park ++ d.bindq)
    (hans : ∀ x acc, (x, acc) ∈ d'.anss → (x, acc) ∈ d.anss ∨ (acc = false ∧ d.cap = 0)) : DirCore d' := by
  have hm : ∀ r acc, AnsOk d r acc → AnsOk d' r acc := fun r acc ha =>
    ha.mono (fun _ a => hlinks ▸ a) (fun _ a => hacc ▸ a) (fun _ a => hrej ▸ a) hcap
  refine ⟨?_, ?_, ?_, ?_, ?_, ?_, ?_, ?_, ?_⟩
  · intro x; rw [hcnt, hf]; exact h.cnt x
  · intro c hc
    have := h.fld c (hcar c hc)
    rw [hf, hasked]; exact this
  · intro k b hk hp r hr
    rw [hh] at hk; rw [hf] at hr; rw [hlinks]
    exact h.lnk k b hk hp r hr
  · intro r k hl
    rw [hlinks] at hl; rw [hh, hasked]
    exact h.lkf r k hl
  · intro k hk
    rw [hh] at hk; rw [hlinks]; exact h.lka k hk
  · intro x acc hx r hr
    rw [hf] at hr
    rcases hans x acc hx with hx' | ⟨rfl, hc⟩
    · exact hm _ _ (h.ans x acc hx' r hr)
    · unfold AnsOk; simp only [Bool.false_eq_true, if_false]; exact Or.inl (by rw [hcap]; exact hc)
  · intro r
    rw [hres]
    exact ⟨fun hr => hm _ _ ((h.res r).1 hr), fun hr => hm _ _ ((h.res r).2 hr)⟩
  · rw [hacc, hrej, hh]; exact h.dec
  · intro x r hr
    rw [hf] at hr; rw [hasked]; exact h.own x r hr

theorem DirCore.shuffle_perm {d d' : Dir} (h : DirCore d) (hf : d'.flows = d.flows) (hh : d'.held = d.held)
    (hcap : d'.cap = d.cap) (hasked : d'.asked = d.asked) (hres : d'.results = d.results)
    (hlinks : d'.links = d.links) (hacc : d'.accepted = d.accepted) (hrej : d'.rejected = d.rejected)
    (hanss : d'.anss = d.anss)
    (hperm : (d'.reqs ++ parkL d'.park ++ d'.bindq).Perm (d.reqs ++ parkL d.park ++ d.bindq)) : DirCore d' := by
  refine h.shuffle hf hh hcap hasked hres hlinks hacc hrej (fun x => ?_) (fun c hc => hperm.mem_iff.mp hc)
    (fun x acc hx => Or.inl (hanss ▸ hx))
  simp only [Dir.toks, hh, hanss, List.count_append, ← List.map_append]
  rw [(hperm.map _).count_eq]

/-- The answerer's receive loop processes the oldest `Bind` frame (it is not parked). -/
def Dir.recvBind (d : Dir) : Dir :=
  match d.reqs with
  | [] => d
  | c :: rest =>
    if d.cap = 0 then { d with reqs := rest, anss := d.anss ++ [(c.fid, false)] }
    else if d.bindq.length < d.cap then { d with reqs := rest, bindq := d.bindq ++ [c] }
    else { d with reqs := rest, park := some c }

theorem DirCore.recvBind {d : Dir} (h : DirCore d) (hp : d.park = none) : DirCore d.recvBind := by
  unfold Dir.recvBind
  split
  · exact h
  · rename_i c rest hreqs
    split
    · rename_i hc0
      refine h.shuffle rfl rfl rfl rfl rfl rfl rfl rfl ?_ ?_ ?_
      · intro x
        simp only [Dir.toks, hreqs, hp, parkL, List.map_append, List.count_append, List.map_cons, List.map_nil,
          List.count_cons, List.count_nil]
        omega
      · intro c' hc'
        simp only [hreqs, List.mem_append, List.mem_cons] at hc' ⊢
        rcases hc' with (hc' | hc') | hc'
        · exact Or.inl (Or.inl (Or.inr hc'))
        · exact Or.inl (Or.inr hc')
        · exact Or.inr hc'
      · intro x acc hx
        simp only [List.mem_append, List.mem_singleton, Prod.mk.injEq] at hx
        rcases hx with hx | ⟨_, rfl⟩
        · exact Or.inl hx
        · exact Or.inr ⟨rfl, hc0⟩
    · split
      · refine h.shuffle_perm rfl rfl rfl rfl rfl rfl rfl rfl rfl ?_
        simp only [hreqs, hp, parkL, List.append_nil, ← List.append_assoc]
        exact List.perm_append_singleton c _
      · refine h.shuffle_perm rfl rfl rfl rfl rfl rfl rfl rfl rfl ?_
        simp [hreqs, hp, parkL, List.perm_middle]

/-- A parked hand-over completes once the bind queue has room. -/
def Dir.unpark (d : Dir) : Dir :=
  match d.park with
  | none => d
  | some c => if d.bindq.length < d.cap then { d with bindq := d.bindq ++ [c], park := none } else d

theorem DirCore.unpark {d : Dir} (h : DirCore d) : DirCore d.unpark := by
  unfold Dir.unpark
  split
  · exact h
  · rename_i c hpk
    split
    · refine h.shuffle_perm rfl rfl rfl rfl rfl rfl rfl rfl rfl ?_
      simp only [hpk, parkL, List.append_nil, List.append_assoc, List.perm_append_left_iff]
      exact List.perm_append_singleton c _
    · exact h

theorem getElem?_append_some {l : List BindIn} {k : Nat} {b : BindIn} (c : BindIn) (h : l[k]? = some b) : (l ++ [c])[k]? = some b := by
  have hk : k < l.length := by
    rcases Nat.lt_or_ge k l.length with hlt | hge
    · exact hlt
    · rw [List.getElem?_eq_none hge] at h; cases h
  rw [List.getElem?_append_left hk]; exact h

/-- `next_bind_request` hands the oldest queued request to the application. -/
def Dir.next (d : Dir) : Dir :=
  match d.bindq with
  | [] => d
  | c :: rest =>
    { d with bindq := rest, held := d.held ++ [c],
             links := match ownerF d.flows c.fid with
               | some r => d.links ++ [(r, d.held.length)]
               | none => d.links }

theorem DirCore.bindq_head {d : Dir} (h : DirCore d) {c : BindIn} {rest : List BindIn} (hq : d.bindq = c :: rest) :
    c ∈ d.reqs ++ parkL d.park ++ d.bindq ∧ c.pending = true ∧ ∃ r, ownerF d.flows c.fid = some r := by
  have hcar : c ∈ d.reqs ++ parkL d.park ++ d.bindq := by rw [hq]; simp
  have := (h.fld c hcar).1
  exact ⟨hcar, by simp [BindIn.pending, this.1, this.2], h.owner_of_mem (Dir.mem_toks_carrier hcar)⟩

theorem DirCore.next {d : Dir} (h : DirCore d) : DirCore d.next := by
  unfold Dir.next
  split
  · exact h
  · rename_i c rest hq
    obtain ⟨hcar, hcp, r, hr⟩ := h.bindq_head hq
    simp only [hr]
    have hlm : ∀ x, x ∈ d.links → x ∈ d.links ++ [(r, d.held.length)] := fun x hx => List.mem_append_left _ hx
    refine ⟨?_, ?_, ?_, ?_, ?_, ?_, ?_, ?_, ?_⟩
    · intro x
      have := h.cnt x
      simp only [Dir.toks, hq, pendHeld_append, hcp, if_true, List.count_append, List.map_cons,
        List.count_cons, List.count_nil] at this ⊢
      omega
    · intro c' hc'
      apply h.fld c'
      simp only [hq, List.mem_append, List.mem_cons] at hc' ⊢
      rcases hc' with hc' | hc'
      · exact Or.inl hc'
      · exact Or.inr (Or.inr hc')
    · intro k b hk hp r' hr'
      rcases Nat.lt_or_ge k d.held.length with hlt | hge
      · rw [List.getElem?_append_left hlt] at hk
        exact hlm _ (h.lnk k b hk hp r' hr')
      · have hk2 : k = d.held.length := by
          rcases Nat.lt_or_ge d.held.length k with hgt | hle
          · rw [List.getElem?_eq_none (by simp; omega)] at hk; cases hk
          · omega
        subst hk2
        simp only [List.getElem?_append_right (Nat.le_refl _), Nat.sub_self, List.getElem?_cons_zero, Option.some.injEq] at hk
        subst hk
        rw [hr] at hr'; cases hr'
        exact List.mem_append_right _ (by simp)
    · intro r' k hl
      simp only [List.mem_append, List.mem_singleton, Prod.mk.injEq] at hl
      rcases hl with hl | ⟨rfl, rfl⟩
      · obtain ⟨b, hb, ha⟩ := h.lkf r' k hl
        exact ⟨b, getElem?_append_some c hb, ha⟩
      · refine ⟨c, ?_, (h.fld c hcar).2 _ hr⟩
        simp only [List.getElem?_append_right (Nat.le_refl _), Nat.sub_self, List.getElem?_cons_zero]
    · intro k hk
      simp only [List.length_append, List.length_cons, List.length_nil] at hk
      rcases Nat.lt_or_ge k d.held.length with hlt | hge
      · obtain ⟨r', hr'⟩ := h.lka k hlt
        exact ⟨r', hlm _ hr'⟩
      · have : k = d.held.length := by omega
        subst this
        exact ⟨r, List.mem_append_right _ (by simp)⟩
    · intro x acc hx r' hr'
      exact (h.ans x acc hx r' hr').mono hlm (fun _ a => a) (fun _ a => a) rfl
    · intro r'
      exact ⟨fun hh => ((h.res r').1 hh).mono hlm (fun _ a => a) (fun _ a => a) rfl,
             fun hh => ((h.res r').2 hh).mono hlm (fun _ a => a) (fun _ a => a) rfl⟩
    · refine ⟨h.dec.1, h.dec.2.1, h.dec.2.2.1, ?_⟩
      intro k hk
      obtain ⟨b, hb, hnp⟩ := h.dec.2.2.2 k hk
      exact ⟨b, getElem?_append_some c hb, hnp⟩
    · exact h.own

theorem nodup_snoc {l : List Nat} {k : Nat} (h : l.Nodup) (hk : k ∉ l) : (l ++ [k]).Nodup := by
  rw [List.nodup_append]
  refine ⟨h, by simp, ?_⟩
  intro a ha b hb
  simp only [List.mem_singleton] at hb
  subst hb
  exact fun e => hk (e ▸ ha)

/-- A held request is marked (`f`) as no longer awaiting its decision: what the invariant says about `held` carries
    over — requests still pending are linked, links still name requests that show what was asked, every held
    request is still linked, and the decided ones (and the marked one) are not pending. -/
theorem DirCore.mark {d : Dir} (h : DirCore d) (k : Nat) (b : BindIn) (f : BindIn → BindIn)
    (hk : d.held[k]? = some b) (hf : (f b).pending = false) (hsame : ∀ r, recOf r (f b) = recOf r b) :
    (∀ k' b', (d.held.modify k f)[k']? = some b' → b'.pending = true →
      ∀ req, ownerF d.flows b'.fid = some req → (req, k') ∈ d.links) ∧
    (∀ req k', (req, k') ∈ d.links → ∃ b', (d.held.modify k f)[k']? = some b' ∧ recOf req b' ∈ d.asked) ∧
    (∀ k', k' < (d.held.modify k f).length → ∃ req, (req, k') ∈ d.links) ∧
    (∀ j, j ∈ d.accepted ++ d.rejected ∨ j = k → ∃ b', (d.held.modify k f)[j]? = some b' ∧ b'.pending = false) := by
  have hself := getElem?_modify_self d.held k f b hk
  refine ⟨?_, ?_, ?_, ?_⟩
  · intro k' b' hk' hp' r hr
    by_cases hkk : k = k'
    · subst hkk
      rw [hself] at hk'; cases hk'
      rw [hf] at hp'; cases hp'
    · rw [getElem?_modify_other d.held k k' f hkk] at hk'
      exact h.lnk k' b' hk' hp' r hr
  · intro r k' hl
    obtain ⟨b', hb', ha⟩ := h.lkf r k' hl
    by_cases hkk : k = k'
    · subst hkk
      rw [hk] at hb'; cases hb'
      exact ⟨f b, hself, by rw [hsame]; exact ha⟩
    · exact ⟨b', by rw [getElem?_modify_other d.held k k' f hkk]; exact hb', ha⟩
  · intro k' hk'
    rw [List.length_modify] at hk'
    exact h.lka k' hk'
  · intro j hj
    by_cases hkj : k = j
    · subst hkj; exact ⟨f b, hself, hf⟩
    · obtain ⟨b', hb', hnp⟩ := h.dec.2.2.2 j (hj.resolve_right (fun e => hkj e.symm))
      exact ⟨b', by rw [getElem?_modify_other d.held k j f hkj]; exact hb', hnp⟩

/-- The application decides a held request (`reply`, or dropping it unanswered). `f` marks it. -/
def Dir.decide (d : Dir) (k : Nat) (b : BindIn) (f : BindIn → BindIn) (acc : Bool) : Dir :=
  { d with held := d.held.modify k f, anss := d.anss ++ [(b.fid, acc)],
           accepted := if acc then d.accepted ++ [k] else d.accepted,
           rejected := if acc then d.rejected else d.rejected ++ [k] }

theorem DirCore.decide {d : Dir} (h : DirCore d) (k : Nat) (b : BindIn) (f : BindIn → BindIn) (acc : Bool)
    (hk : d.held[k]? = some b) (hp : b.pending = true) (hf : (f b).pending = false)
    (hsame : ∀ r, recOf r (f b) = recOf r b) : DirCore (d.decide k b f acc) := by
  have hknew : k ∉ d.accepted ++ d.rejected := by
    intro hmem
    obtain ⟨b', hb', hnp⟩ := h.dec.2.2.2 k hmem
    rw [hk] at hb'; cases hb'
    rw [hp] at hnp; cases hnp
  have hka : k ∉ d.accepted := fun hm => hknew (List.mem_append_left _ hm)
  have hkr : k ∉ d.rejected := fun hm => hknew (List.mem_append_right _ hm)
  have hma : ∀ j, j ∈ d.accepted → j ∈ (d.decide k b f acc).accepted := by
    intro j hj; unfold Dir.decide; simp only; split
    · exact List.mem_append_left _ hj
    · exact hj
  have hmr : ∀ j, j ∈ d.rejected → j ∈ (d.decide k b f acc).rejected := by
    intro j hj; unfold Dir.decide; simp only; split
    · exact hj
    · exact List.mem_append_left _ hj
  obtain ⟨m1, m2, m3, m4⟩ := h.mark k b f hk hf hsame
  refine ⟨?_, h.fld, m1, m2, m3, ?_, ?_, ?_, h.own⟩
  · intro x
    have h1 := h.cnt x
    have h2 := count_pendHeld_modify d.held k f b hk hp hf x
    show (Dir.toks _).count x = if (ownerF d.flows x).isSome then 1 else 0
    rw [← h1]
    simp only [Dir.toks, Dir.decide, List.map_append, List.count_append, List.map_cons, List.map_nil, count_one]
    omega
  · intro x a hx r hr
    simp only [Dir.decide, List.mem_append, List.mem_singleton, Prod.mk.injEq] at hx
    rcases hx with hx | ⟨rfl, rfl⟩
    · exact (h.ans x a hx r hr).mono (fun _ q => q) hma hmr rfl
    · have hl := h.lnk k b hk hp r hr
      unfold AnsOk
      cases a with
      | true => simp only [if_true]; exact ⟨k, hl, by simp [Dir.decide]⟩
      | false => simp only [Bool.false_eq_true, if_false]; exact Or.inr ⟨k, hl, by simp [Dir.decide]⟩
  · intro r
    exact ⟨fun hh => ((h.res r).1 hh).mono (fun _ q => q) hma hmr rfl,
           fun hh => ((h.res r).2 hh).mono (fun _ q => q) hma hmr rfl⟩
  · have hold : ∀ j ∈ d.accepted ++ d.rejected, ∃ b', (d.held.modify k f)[j]? = some b' ∧ b'.pending = false :=
      fun j hj => m4 j (Or.inl hj)
    have hnew := m4 k (Or.inr rfl)
    cases acc with
    | true =>
      simp only [Dir.decide, if_true]
      refine ⟨nodup_snoc h.dec.1 hka, h.dec.2.1, ?_, ?_⟩
      · intro j hj
        simp only [List.mem_append, List.mem_singleton] at hj
        rcases hj with hj | rfl
        · exact h.dec.2.2.1 j hj
        · exact hkr
      · intro j hj
        simp only [List.mem_append, List.mem_singleton] at hj
        rcases hj with (hj | rfl) | hj
        · exact hold j (List.mem_append_left _ hj)
        · exact hnew
        · exact hold j (List.mem_append_right _ hj)
    | false =>
      simp only [Dir.decide, Bool.false_eq_true, if_false]
      refine ⟨h.dec.1, nodup_snoc h.dec.2.1 hkr, ?_, ?_⟩
      · intro j hj hjr
        simp only [List.mem_append, List.mem_singleton] at hjr
        rcases hjr with hjr | rfl
        · exact h.dec.2.2.1 j hj hjr
        · exact hka hj
      · intro j hj
        simp only [List.mem_append, List.mem_singleton] at hj
        rcases hj with hj | (hj | rfl)
        · exact hold j (List.mem_append_left _ hj)
        · exact hold j (List.mem_append_right _ hj)
        · exact hnew

/-- A held request that is no longer awaiting a decision is marked (dropped after its reply). -/
def Dir.touch (d : Dir) (k : Nat) (f : BindIn → BindIn) : Dir := { d with held := d.held.modify k f }

theorem pendHeld_modify_idle (l : List BindIn) (k : Nat) (f : BindIn → BindIn) (b : BindIn)
    (h : l[k]? = some b) (hp : b.pending = false) (hf : (f b).pending = false) :
    pendHeld (l.modify k f) = pendHeld l := by
  induction l generalizing k with
  | nil => simp at h
  | cons c r ih =>
    cases k with
    | zero =>
      simp only [List.getElem?_cons_zero, Option.some.injEq] at h
      subst h
      simp [List.modify_zero_cons, pendHeld, hf, hp]
    | succ k =>
      simp only [List.getElem?_cons_succ] at h
      simp only [List.modify_succ_cons, pendHeld, ih k h]

theorem DirCore.touch {d : Dir} (h : DirCore d) (k : Nat) (b : BindIn) (f : BindIn → BindIn)
    (hk : d.held[k]? = some b) (hp : b.pending = false) (hf : (f b).pending = false)
    (hsame : ∀ r, recOf r (f b) = recOf r b) : DirCore (d.touch k f) := by
  obtain ⟨m1, m2, m3, m4⟩ := h.mark k b f hk hf hsame
  refine ⟨fun x => ?_, h.fld, m1, m2, m3, h.ans, h.res,
    ⟨h.dec.1, h.dec.2.1, h.dec.2.2.1, fun j hj => m4 j (Or.inl hj)⟩, h.own⟩
  have h1 := h.cnt x
  simp only [Dir.toks, Dir.touch, pendHeld_modify_idle d.held k f b hk hp hf] at h1 ⊢
  exact h1

/-- The requester's receive loop processes the oldest answer: the slot is released, the call resolves. -/
def Dir.recvAns (d : Dir) : Dir :=
  match d.anss with
  | [] => d
  | (x, acc) :: rest =>
    match ownerF d.flows x with
    | some r => { d with anss := rest, flows := erase d.flows x,
                         results := d.results ++ [(r, if acc then BindRes.accepted else BindRes.refused)] }
    | none => { d with anss := rest }

theorem DirCore.recvAns {d : Dir} (h : DirCore d) : DirCore d.recvAns := by
  unfold Dir.recvAns
  split
  · exact h
  · rename_i x acc rest hq
    have hmem : (x, acc) ∈ d.anss := by rw [hq]; simp
    obtain ⟨r, hr⟩ := h.owner_of_mem (Dir.mem_toks_ans hmem)
    simp only [hr]
    have hhead := h.ans x acc hmem r hr
    refine ⟨?_, ?_, ?_, h.lkf, h.lka, ?_, ?_, h.dec, ?_⟩
    · intro y
      have h1 := h.cnt y
      by_cases hyx : y = x
      · subst hyx
        simp only [hr, Option.isSome_some, if_true] at h1
        simp only [ownerF_erase_self, Option.isSome_none, Bool.false_eq_true, if_false]
        simp only [Dir.toks, hq, List.count_append, List.map_cons, List.count_cons,
          beq_self_eq_true, if_true] at h1 ⊢
        omega
      · rw [ownerF_erase_ne _ _ _ hyx, ← h1]
        have hne : (x == y) = false := by simpa using fun e => hyx e.symm
        simp only [Dir.toks, hq, List.count_append, List.map_cons, List.count_cons, hne,
          Bool.false_eq_true, if_false, Nat.add_zero]
    · intro c hc
      refine ⟨(h.fld c hc).1, ?_⟩
      intro r' hr'
      exact (h.fld c hc).2 r' (ownerF_erase_some hr').2
    · intro k b hk hp r' hr'
      exact h.lnk k b hk hp r' (ownerF_erase_some hr').2
    · intro y a hy r' hr'
      have : (y, a) ∈ d.anss := by rw [hq]; exact List.mem_cons_of_mem _ hy
      exact (h.ans y a this r' (ownerF_erase_some hr').2)
    · intro r'
      constructor
      · intro hh
        simp only [List.mem_append, List.mem_singleton, Prod.mk.injEq] at hh
        rcases hh with hh | ⟨rfl, hacc⟩
        · exact ((h.res r').1 hh)
        · cases acc with
          | true => exact hhead
          | false => simp at hacc
      · intro hh
        simp only [List.mem_append, List.mem_singleton, Prod.mk.injEq] at hh
        rcases hh with hh | ⟨rfl, hacc⟩
        · exact ((h.res r').2 hh)
        · cases acc with
          | true => simp at hacc
          | false => exact hhead
    · intro y r' hr'
      exact h.own y r' (ownerF_erase_some hr').2

end Penguin.BindPair
