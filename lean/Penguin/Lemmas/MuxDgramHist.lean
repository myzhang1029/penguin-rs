/-
The datagram service for EVERY history of one endpoint with ANY peer: the application calls, the ghost
record of a history (`runOpsD`) and the invariants that tie the record to the state.

* Receiver (`DInv`): (datagrams `get_datagram` has returned) ++ `dgramq` ++ (what was queued when the
  `Multiplexor` was dropped) = exactly the datagrams of the `Datagram` frames `process_frame` queued
  (`queuedDg`: processed while the handle existed and the queue had room), in order, every field as it
  was in the frame.
* Sender (`DsT` from the fresh state): the `Datagram` frames handed to the transport, followed by those
  still queued, are a prefix of the datagrams `send_datagram` accepted, in order — and all of them while
  the outbound queue is open.

The record is made of observables only (results of calls, emitted events, and `process_frame`'s own
test evaluated on the state before each frame); nothing in it is chosen to fit.
Core Lean only.
-/
import Penguin.Lemmas.MuxDgram
import Penguin.Lemmas.MuxDgramSend
import Penguin.Lemmas.MuxOnce

namespace Penguin.Mux

/-! ### Application calls that neither read the datagram queue nor drop the `Multiplexor` -/

theorem DqT.appWrite (e : EP) (h : Nat) (d : Bytes) : DqT e (appWrite e h d).1 [] := .of_path (.appWrite e h d)

theorem DqT.fillBuf (fuel : Nat) (e : EP) (i : Nat) : DqT e (fillBuf fuel e i).1 [] := .of_path (.fillBuf fuel e i)

theorem DqT.appRead (e : EP) (h n : Nat) : DqT e (appRead e h n).1 [] := .of_path (.appRead e h n)

theorem DqT.appShutdown (e : EP) (h : Nat) : DqT e (appShutdown e h).1 [] := .of_path (.appShutdown e h)

theorem DqT.appDropStream (e : EP) (h : Nat) : DqT e (appDropStream e h).1 [] := .of_path (.appDropStream e h)

theorem DqT.appBindReq (e : EP) (req : Nat) (bt : BindType) (host : Bytes) (port : Nat) :
    DqT e (appBindReq e req bt host port).1 [] := .of_path (.appBindReq e req bt host port)

theorem DqT.appBindNext (e : EP) : DqT e (appBindNext e).1 [] := .of_path (.appBindNext e)

theorem DqT.appBindReply (e : EP) (k : Nat) (a : Bool) : DqT e (appBindReply e k a).1 [] := .of_path (.appBindReply e k a)

theorem DqT.appBindDrop (e : EP) (k : Nat) : DqT e (appBindDrop e k).1 [] := .of_path (.appBindDrop e k)

/-! ### The two calls that take datagrams out of the queue -/

def returnedDg (op : Op) (r : Res) : List Dgram :=
  match op, r with
  | .recvDgram, .dgram d => [d]
  | _, _ => []

/-- The datagrams that were queued, unread, when the application dropped the `Multiplexor` (the
    `Receiver` of the datagram channel goes away with its contents). -/
def discardedDg (e : EP) (op : Op) : List Dgram :=
  match op with
  | .dropMux => e.dgramq
  | _ => []

/-- An application step: `R` is what `get_datagram` returned (taken at the front), `D` what dropping the
    `Multiplexor` threw away (everything that was left). -/
structure DqA (e e' : EP) (R D : List Dgram) : Prop where
  q : e.dgramq = R ++ e'.dgramq ++ D
  mono : e.muxAlive = false → e'.muxAlive = false
  keep : e'.muxAlive = true → D = []
  cleared : e'.muxAlive = false → e.muxAlive = true → e'.dgramq = []
  opts : e'.opts = e.opts

theorem DqA.ofT {e e' : EP} (s : DqT e e' []) : DqA e e' [] [] :=
  ⟨by have := s.q; simp only [List.append_nil] at this; simp [this],
   fun h => by rw [s.alive]; exact h, fun _ => rfl,
   fun h1 h2 => (by rw [s.alive, h2] at h1; cases h1), s.opts⟩

theorem DqA.appRecvDgram (e : EP) : DqA e (appRecvDgram e).1 (returnedDg .recvDgram (appRecvDgram e).2) [] := by
  unfold Mux.appRecvDgram
  split
  · rename_i d rest hq
    exact ⟨by simp [returnedDg, hq], id, fun _ => rfl, fun h1 h2 => (by simp only at h1; rw [h2] at h1; cases h1), rfl⟩
  · split <;> exact DqA.ofT (DqT.refl e)

theorem appDropMux_dgramq (e : EP) : (appDropMux e).1.dgramq = [] := rfl

theorem appDropMux_muxAlive (e : EP) : (appDropMux e).1.muxAlive = false :=
  (Path.foldEnq e.bindq { e with muxAlive := false, droppedq := if e.dead then e.droppedq else e.droppedq ++ [0] }).frame
    .muxAlive

theorem appDropMux_opts (e : EP) : (appDropMux e).1.opts = e.opts := (Path.appDropMux e).frame .opts

theorem DqA.appDropMux (e : EP) : DqA e (appDropMux e).1 [] (discardedDg e .dropMux) :=
  ⟨by simp [appDropMux_dgramq, discardedDg], fun _ => appDropMux_muxAlive e,
   fun h => (by rw [appDropMux_muxAlive] at h; cases h), fun _ _ => appDropMux_dgramq e, appDropMux_opts e⟩

theorem DqA.opStep (e : EP) (op : Op) :
    DqA e (opStep e op).1 (returnedDg op (opStep e op).2.1) (discardedDg e op) := by
  cases op with
  | recvDgram => exact DqA.appRecvDgram e
  | dropMux => exact DqA.appDropMux e
  | _ => exact DqA.ofT (.of_path (.opStep e _) (by dsimp only [K.opStep]; decide +kernel))

/-! ### The ghost record of a history -/

/-- What an observer of one endpoint's datagram service records along a history. -/
structure DGhost where
  /-- Datagrams of the `Datagram` frames the task processed while the `Multiplexor` existed and the
      datagram queue had room (`queuedDg`, evaluated on the state before each frame). -/
  queued : List Dgram := []
  /-- Datagrams of ALL the `Datagram` frames the task processed. -/
  seen : List Dgram := []
  returned : List Dgram := []
  /-- Datagrams that were queued, unread, when the `Multiplexor` was dropped. -/
  discarded : List Dgram := []
  /-- Datagrams `send_datagram` accepted (answered `Ok`). -/
  sent : List Dgram := []
  evs : List Ev := []
deriving Repr

def stepD (e : EP) (g : DGhost) (op : Op) : EP × DGhost :=
  ((applyOp e op).1,
   { queued := g.queued ++ settleLogD queuedDg (opStep e op).1,
     seen := g.seen ++ settleLogD seenDg (opStep e op).1,
     returned := g.returned ++ returnedDg op (applyOp e op).2.1,
     discarded := g.discarded ++ discardedDg e op,
     sent := g.sent ++ sentDg op (applyOp e op).2.1,
     evs := g.evs ++ (applyOp e op).2.2 })

def runOpsD (e : EP) (g : DGhost) : List Op → EP × DGhost
  | [] => (e, g)
  | op :: rest => runOpsD (stepD e g op).1 (stepD e g op).2 rest

/-- Induction over a history with its record: an invariant of the record is shown for `stepD` and carried here
    (`DInv.run`, `DsT.run`, `queued_sub_seen`). -/
theorem runOpsD_ind {P : EP → DGhost → Prop} (step : ∀ e g op, P e g → P (stepD e g op).1 (stepD e g op).2)
    {e : EP} {g : DGhost} (h : P e g) (ops : List Op) : P (runOpsD e g ops).1 (runOpsD e g ops).2 := by
  induction ops generalizing e g with
  | nil => exact h
  | cons op rest ih => rw [runOpsD]; exact ih (step e g op h)

theorem runOpsD_fst (e : EP) (g : DGhost) (ops : List Op) : (runOpsD e g ops).1 = runOps e ops := by
  induction ops generalizing e g with
  | nil => rfl
  | cons op rest ih => rw [runOpsD, ih]; dsimp only [stepD]; rfl

theorem runOpsD_evs (e : EP) (g : DGhost) (ops : List Op) : (runOpsD e g ops).2.evs = g.evs ++ (runOpsEv e ops).2 := by
  induction ops generalizing e g with
  | nil => simp [runOpsD, runOpsEv]
  | cons op rest ih =>
    simp only [runOpsD, runOpsEv]
    rw [ih]; simp [stepD, List.append_assoc]

theorem runOpsD_append (e : EP) (g : DGhost) (a b : List Op) :
    runOpsD e g (a ++ b) = runOpsD (runOpsD e g a).1 (runOpsD e g a).2 b := by
  induction a generalizing e g with
  | nil => rfl
  | cons op rest ih => simp only [List.cons_append, runOpsD]; exact ih _ _

/-! ### Receiver -/

/-- returned ++ queue ++ discarded = queued; the queue is empty once the `Multiplexor` is gone; nothing
    is discarded while it exists. -/
structure DInv (e : EP) (qd ret dis : List Dgram) : Prop where
  eq : ret ++ e.dgramq ++ dis = qd
  gone : e.muxAlive = false → e.dgramq = []
  kept : e.muxAlive = true → dis = []

theorem DInv.task {e e' : EP} {qd ret dis L : List Dgram} (h : DInv e qd ret dis) (s : DqT e e' L) :
    DInv e' (qd ++ L) ret dis := by
  refine ⟨?_, fun ha => ?_, fun ha => h.kept (by rw [← s.alive]; exact ha)⟩
  · rw [← h.eq, s.q]
    cases ha : e.muxAlive with
    | true => simp [h.kept ha]
    | false => simp [s.gone ha]
  · have ha' : e.muxAlive = false := by rw [← s.alive]; exact ha
    rw [s.q, h.gone ha', s.gone ha']; rfl

theorem DInv.app {e e' : EP} {qd ret dis R D : List Dgram} (h : DInv e qd ret dis) (s : DqA e e' R D) :
    DInv e' qd (ret ++ R) (dis ++ D) := by
  have nil : e.muxAlive = false → (R = [] ∧ e'.dgramq = []) ∧ D = [] := fun hb => by
    have h0 := s.q
    rw [h.gone hb] at h0
    simpa only [List.append_eq_nil_iff] using h0.symm
  refine ⟨?_, fun ha => ?_, fun ha => ?_⟩
  · rw [← h.eq, s.q]
    cases ha : e.muxAlive with
    | true => simp [h.kept ha]
    | false => simp [(nil ha).1.1, (nil ha).1.2, (nil ha).2]
  · cases hb : e.muxAlive with
    | true => exact s.cleared ha hb
    | false => exact (nil hb).1.2
  · have hb : e.muxAlive = true := by
      cases hb : e.muxAlive with
      | true => rfl
      | false => rw [s.mono hb] at ha; cases ha
    rw [h.kept hb, s.keep ha]; rfl

theorem DInv.step {e : EP} {g : DGhost} (h : DInv e g.queued g.returned g.discarded) (op : Op) :
    DInv (stepD e g op).1 (stepD e g op).2.queued (stepD e g op).2.returned (stepD e g op).2.discarded := by
  dsimp only [stepD]
  rw [applyOp_fst, applyOp_res]
  exact (h.app (DqA.opStep e op)).task (DqT.settle (opStep e op).1)

theorem DInv.run {e : EP} {g : DGhost} (h : DInv e g.queued g.returned g.discarded) (ops : List Op) :
    DInv (runOpsD e g ops).1 (runOpsD e g ops).2.queued (runOpsD e g ops).2.returned (runOpsD e g ops).2.discarded :=
  runOpsD_ind (P := fun e g => DInv e g.queued g.returned g.discarded) (fun _ _ op h => h.step op) h ops

theorem DInv.init (o : Opts) : DInv { opts := o } [] [] [] := ⟨rfl, fun h => (by cases h), fun _ => rfl⟩

/-- Receiver side of the datagram service, every history, any peer. -/
theorem dgram_receiver_inv (o : Opts) (ops : List Op) :
    DInv (runOpsD { opts := o } {} ops).1 (runOpsD { opts := o } {} ops).2.queued
      (runOpsD { opts := o } {} ops).2.returned (runOpsD { opts := o } {} ops).2.discarded :=
  DInv.run (g := {}) (DInv.init o) ops

/-! ### Which stimulus can make a log grow -/

theorem returnedDg_spec (op : Op) (r : Res) (d : Dgram) (h : d ∈ returnedDg op r) : op = .recvDgram ∧ r = .dgram d := by
  cases op <;> try (simp [returnedDg] at h; done)
  cases r <;> try (simp [returnedDg] at h; done)
  simp only [returnedDg, List.mem_cons, List.not_mem_nil, or_false] at h
  subst h; exact ⟨rfl, rfl⟩

theorem discardedDg_spec (e : EP) (op : Op) (d : Dgram) (h : d ∈ discardedDg e op) : op = .dropMux ∧ d ∈ e.dgramq := by
  cases op <;> try (simp [discardedDg] at h; done)
  exact ⟨rfl, h⟩

theorem sentDg_spec (op : Op) (r : Res) (d : Dgram) (h : d ∈ sentDg op r) : op = .sendDgram d ∧ r = .unit := by
  cases op <;> try (simp [sentDg] at h; done)
  cases r <;> try (simp [sentDg] at h; done)
  simp only [sentDg, List.mem_cons, List.not_mem_nil, or_false] at h
  subst h; exact ⟨rfl, rfl⟩

theorem queuedDg_spec (e : EP) (f : Frame) (d : Dgram) :
    d ∈ queuedDg e f ↔ f = .datagram d.fid d.port d.host d.data ∧ e.muxAlive = true ∧ e.dgramq.length < e.opts.dgramCap := by
  cases f <;> try (simp [queuedDg]; done)
  rename_i fid port host dat
  simp only [queuedDg]
  by_cases ha : e.muxAlive = true
  · by_cases hr : e.dgramq.length < e.opts.dgramCap
    · simp only [ha, hr, decide_true, Bool.and_self, if_true, List.mem_cons, List.not_mem_nil, or_false, and_true]
      constructor
      · intro h; subst h; rfl
      · intro h; cases d; simp only [Frame.datagram.injEq] at h; obtain ⟨h1, h2, h3, h4⟩ := h; subst h1 h2 h3 h4; rfl
    · simp [ha, hr]
  · simp [ha]

theorem queuedDg_eq (e : EP) (f : Frame) :
    queuedDg e f = if e.muxAlive && decide (e.dgramq.length < e.opts.dgramCap) then seenDg e f else [] := by
  cases f <;> simp [queuedDg, seenDg, dgOfFrame]

/-! ### Sender -/

theorem DsT.run (e0 e : EP) (g : DGhost) (h : DsT e0 e g.evs g.sent) (ops : List Op) :
    DsT e0 (runOpsD e g ops).1 (runOpsD e g ops).2.evs (runOpsD e g ops).2.sent :=
  runOpsD_ind (P := fun e g => DsT e0 e g.evs g.sent) (fun e _ op h => by dsimp only [stepD]; exact h.trans (DsT.applyOp e op)) h ops

/-- Sender side of the datagram service, every history, any peer. -/
theorem dgram_sender_inv (o : Opts) (ops : List Op) :
    dgramsEv (runOpsD { opts := o } {} ops).2.evs ++ dgramsQ (runOpsD { opts := o } {} ops).1.outq <+:
        (runOpsD { opts := o } {} ops).2.sent ∧
    ((runOpsD { opts := o } {} ops).1.outClosed = false →
      dgramsEv (runOpsD { opts := o } {} ops).2.evs ++ dgramsQ (runOpsD { opts := o } {} ops).1.outq =
        (runOpsD { opts := o } {} ops).2.sent) := by
  have h := DsT.run { opts := o } { opts := o } {} (DsT.refl _) ops
  exact ⟨by simpa [dgramsQ] using h.pre, fun hc => by simpa [dgramsQ] using h.eq hc⟩

end Penguin.Mux
