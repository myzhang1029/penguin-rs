/-
The end-of-stream invariant `Fin` (`Lemmas/PairAllDir.lean`) for the direction left → right is preserved by
every small step in which the LEFT side (the sender of that direction) acts or receives: what it hands to the
transport is appended to `S`, what its writes queue as `Push x` is appended to `W`.
Core Lean only.
-/
import Penguin.Lemmas.PairAllDirA

namespace Penguin.PairAll
open Penguin.Mux

variable {x j : Nat} {ownA ownB : Prop}

theorem hasConn_sublist {x : Nat} {l' l : List Msg} (h : List.Sublist l' l) (hf : hasConn x l' = true) : hasConn x l = true :=
  any_of_sublist h hf

theorem prefix_self_nil {α : Type} {S a b : List α} (h : S ++ (a ++ b) <+: S) : a = [] := by
  have := h.length_le
  simp only [List.length_append] at this
  exact List.eq_nil_of_length_eq_zero (by omega)

theorem sk_req (s : Option Slot) : sk s = 1 ↔ ∃ q, s = some (.requested q) := by
  cases s with
  | none => simp [sk]
  | some s => cases s <;> simp [sk]

theorem Pot_iff (x : Nat) (c : PC) :
    Pot x c ↔ (1 ≤ (sm x c).ca ∨ 1 ≤ (sm x c).cb ∨ (sm x c).sb = 1 ∨ 1 ≤ (sm x c).cP) := by
  show _ ↔ (1 ≤ c.a.cnt ∨ 1 ≤ c.b.cnt ∨ sk c.b.slot = 1 ∨ 1 ≤ cC x c.path)
  rw [sk_req, ← hasConn_iff]
  rfl

theorem pot_SStepL {s s' : Sm} (st : SStepL s s') (h : 1 ≤ s'.ca ∨ 1 ≤ s'.cb ∨ s'.sb = 1 ∨ 1 ≤ s'.cP) :
    1 ≤ s.ca ∨ 1 ≤ s.cb ∨ s.sb = 1 ∨ 1 ≤ s.cP := by
  cases st with
  | shrink h1 h2 h3 h4 h5 h6 h7 h8 h9 h10 h11 h12 h13 h14 h15 h16 => omega
  | enqAP w h0 h1 h2 h3 h4 h5 h6 h7 h8 h9 h10 h11 h12 h13 h14 h15 h16 => omega
  | draw b h1 h2 h3 h4 h5 h6 h7 h8 h9 h10 h11 h12 h13 h14 h15 h16 => omega
  | connNew h1 h2 h3 h4 h5 h6 h7 h8 h9 h10 h11 h12 h13 h14 h15 h16 => omega
  | ackNew h1 h2 h3 h4 h5 h6 h7 h8 h9 h10 h11 h12 h13 h14 h15 h16 => omega
  | popBind h1 h2 h3 h4 h5 h6 h7 h8 h9 h10 h11 h12 h13 h14 h15 h16 => omega

theorem Pot.stepA {jA : Nat} {c c' : PC} {ws : List Msg} {acc : List Bytes} {xl : List XL}
    (st : CStepL x jA c c' ws acc xl) (hn : c'.a.rngNil = false) (h : Pot x c') : Pot x c :=
  (Pot_iff x c).mpr (pot_SStepL (sm_stepL st hn) ((Pot_iff x c').mp h))

theorem Fin.castS {c : PC} {S R W : List Bytes} {P : Nat} (h : Fin x j c S R W P) : Fin x j c (S ++ pX x []) R W P := by
  rw [show S ++ pX x [] = S from List.append_nil S]; exact h

theorem Fin.cast0 {c : PC} {S R W : List Bytes} {P : Nat} (h : Fin x j c S R W P) :
    Fin x j c (S ++ pX x []) R (W ++ XL.wrotes []) P := by
  rw [show W ++ XL.wrotes [] = W from List.append_nil W]; exact h.castS

theorem Fin.castW {c : PC} {S R W : List Bytes} {P : Nat} {xl : List XL} (hx : XL.wrotes xl = [])
    (h : Fin x j c S R W P) : Fin x j c (S ++ pX x []) R (W ++ XL.wrotes xl) P := by
  rw [hx, List.append_nil]; exact h.castS

theorem Fin.silentA {c c' : PC} {S R W W' : List Bytes} {P : Nat} (f : Fin x j c S R W P)
    (eb : c'.b = c.b) (eab : c'.ab = c.ab) (eo : c'.abOpen = c.abOpen)
    (hd : (sm x c).dead → (sm x c').dead) (hpot : Pot x c' → Pot x c)
    (g0 : S ++ pX x c'.a.outq <+: W')
    (g1 : S ++ pX x c'.a.outq = W' ∨ (c'.a.outClosed = true ∧ c'.a.outq = []))
    (g2 : hasFin x c'.path = true → (sm x c').dead ∨ (1 ≤ c'.a.nobj ∧ c'.a.nw = 0 ∧ finLast x c'.path = true))
    (g3 : hasFin x (inMsgs c.b.inbox ++ c.ab) = true → (sm x c').dead ∨ S = W')
    (g6 : 1 ≤ P → c.b.rxJ = true → R = W' ∧ 1 ≤ c'.a.nobj ∧ c'.a.nw = 0 ∧ hasPush x c'.path = false) :
    Fin x j c' S R W' P := by
  refine ⟨g0, g1, g2, ?_, ?_, ?_, ?_, ?_, ?_, ?_⟩
  · rw [eb, eab]; exact g3
  · rw [eb, eo]; exact fun h1 h2 h3 => (f.f4 h1 h2 h3).imp hd id
  · rw [eb, eo]; exact fun h1 h2 h3 h4 => (f.f4p h1 h2 (hpot h3) h4).imp hd id
  · rw [eb]; exact f.f5
  · rw [eb]; exact g6
  · rw [eb]; exact f.f7
  · rw [eb]; exact f.f8

theorem Fin.shrinkA {c c' : PC} {S R W : List Bytes} {P : Nat} (f : Fin x j c S R W P)
    (eb : c'.b = c.b) (eab : c'.ab = c.ab) (eo : c'.abOpen = c.abOpen)
    (hd : (sm x c).dead → (sm x c').dead) (hpot : Pot x c' → Pot x c)
    (e1 : c'.a.nobj = c.a.nobj) (e2 : c'.a.nw ≤ c.a.nw)
    (e3 : c'.a.outq = c.a.outq ∨ (c'.a.outq = [] ∧ c'.a.outClosed = true))
    (e4 : c.a.outClosed = true → c'.a.outClosed = true) : Fin x j c' S R W P := by
  have hsub : List.Sublist c'.path c.path := by
    unfold PC.path
    rw [eb, eab]
    rcases e3 with e | ⟨e, _⟩ <;> rw [e]
    · exact List.Sublist.refl _
    · exact (List.Sublist.refl _).append (List.nil_sublist _)
  refine f.silentA eb eab eo hd hpot ?_ ?_ ?_ (fun h => (f.f3 h).imp hd id) ?_
  · rcases e3 with e | ⟨e, _⟩ <;> rw [e]
    · exact f.f0
    · rw [pX_nil, List.append_nil]
      exact List.IsPrefix.trans (List.prefix_append S _) f.f0
  · rcases e3 with e | ⟨e, e'⟩
    · rw [e]
      exact f.f1.imp id (fun h => ⟨e4 h.1, h.2⟩)
    · exact Or.inr ⟨e', e⟩
  · intro h
    rcases f.f2 (hasFin_sublist hsub h) with h' | ⟨h1, h2, h3⟩
    · exact Or.inl (hd h')
    · exact Or.inr ⟨by rw [e1]; exact h1, by omega, finLast_sublist hsub h3⟩
  · intro h1 h2
    obtain ⟨k1, k2, k3, k4⟩ := f.f6 h1 h2
    exact ⟨k1, by rw [e1]; exact k2, by omega, hasPush_sublist_false hsub k4⟩

theorem Fin.snocA {c c' : PC} {S R W : List Bytes} {P : Nat} (f : Fin x j c S R W P)
    (eb : c'.b = c.b) (eab : c'.ab = c.ab) (eo : c'.abOpen = c.abOpen)
    (hd : (sm x c).dead → (sm x c').dead) (hpot : Pot x c' → Pot x c) (m : Msg)
    (hp : isPush x m = false) (hf : isFin x m = false)
    (e1 : c'.a.nobj = c.a.nobj) (e2 : c'.a.nw = c.a.nw) (e3 : c'.a.outq = c.a.outq ++ [m])
    (ho : c.a.outClosed = false) : Fin x j c' S R W P := by
  have hpath : c'.path = c.path ++ [m] := by
    unfold PC.path
    rw [eb, eab, e3, List.append_assoc _ c.a.outq]
  have hpx : pX x c'.a.outq = pX x c.a.outq := by rw [e3, pX_append, pX_single_other x m hp, List.append_nil]
  refine f.silentA eb eab eo hd hpot ?_ ?_ ?_ (fun h => (f.f3 h).imp hd id) ?_
  · rw [hpx]; exact f.f0
  · rw [hpx]
    rcases f.f1 with h | ⟨h, _⟩
    · exact Or.inl h
    · rw [ho] at h; cases h
  · rw [hpath, hasFin_append, hasFin_single, hf, Bool.or_false, finLast_snoc x _ m hp, e1, e2]
    exact fun h => (f.f2 h).imp hd id
  · rw [hpath, hasPush_append, hasPush_single, hp, Bool.or_false, e1, e2]
    exact f.f6

theorem Fin.noFin {c : PC} {S R W : List Bytes} {P : Nat} (f : Fin x j c S R W P) (hw : 0 < c.a.nw)
    (wle : c.a.nw ≤ c.a.nobj) : hasFin x c.path = false := by
  cases h : hasFin x c.path with
  | false => rfl
  | true =>
    rcases f.f2 h with hd | ⟨_, h2, _⟩
    · have : c.a.nobj = 0 := hd.2.2.1
      omega
    · omega

theorem hasFin_path_of {c : PC} (h : hasFin x (inMsgs c.b.inbox ++ c.ab) = true) : hasFin x c.path = true := by
  rw [PC.path, hasFin_append, h]; rfl

theorem Fin.pushA {c c' : PC} {S R W W' : List Bytes} {P : Nat} (f : Fin x j c S R W P)
    (eb : c'.b = c.b) (eab : c'.ab = c.ab) (eo : c'.abOpen = c.abOpen)
    (hd : (sm x c).dead → (sm x c').dead) (hpot : Pot x c' → Pot x c) {p : Bytes}
    (e3 : c'.a.outq = c.a.outq ++ [.frame (.push x p)])
    (ho : c.a.outClosed = false) (hw : 0 < c.a.nw) (wle : c.a.nw ≤ c.a.nobj) (hW : W' = W ++ [p]) :
    Fin x j c' S R W' P := by
  subst hW
  have hnf := f.noFin hw wle
  have hpath : c'.path = c.path ++ [.frame (.push x p)] := by
    unfold PC.path
    rw [eb, eab, e3, List.append_assoc _ c.a.outq]
  have hpx : S ++ pX x c'.a.outq = W ++ [p] := by
    rw [e3, pX_append, pX_cons_push, pX_nil, ← List.append_assoc]
    rcases f.f1 with h | ⟨h, _⟩
    · rw [h]
    · rw [ho] at h; cases h
  refine f.silentA eb eab eo hd hpot ?_ (Or.inl hpx) ?_ ?_ ?_
  · rw [hpx]; exact List.prefix_refl _
  · intro h
    rw [hpath, hasFin_append, hnf, hasFin_single, isFin_push] at h
    cases h
  · intro h
    rw [hasFin_path_of h] at hnf; cases hnf
  · intro h1 h2
    have := (f.f6 h1 h2).2.2.1
    omega

theorem Fin.finSA {c c' : PC} {S R W : List Bytes} {P : Nat} (f : Fin x j c S R W P)
    (eb : c'.b = c.b) (eab : c'.ab = c.ab) (eo : c'.abOpen = c.abOpen)
    (hd : (sm x c).dead → (sm x c').dead) (hpot : Pot x c' → Pot x c)
    (e1 : c'.a.nobj = c.a.nobj) (e2 : c'.a.nw = c.a.nw - 1) (e3 : c'.a.outq = c.a.outq ++ [.frame (.finish x)])
    (ho : c.a.outClosed = false) (hw : 0 < c.a.nw) (wle : c.a.nw ≤ c.a.nobj) (one : c.a.nobj ≤ 1) :
    Fin x j c' S R W P := by
  have hnf := f.noFin hw wle
  have hpath : c'.path = c.path ++ [.frame (.finish x)] := by
    unfold PC.path
    rw [eb, eab, e3, List.append_assoc _ c.a.outq]
  have hpx : pX x c'.a.outq = pX x c.a.outq := by
    rw [e3, pX_append, pX_single_other x _ (isPush_fin x x), List.append_nil]
  refine f.silentA eb eab eo hd hpot ?_ ?_ ?_ ?_ ?_
  · rw [hpx]; exact f.f0
  · rw [hpx]
    rcases f.f1 with h | ⟨h, _⟩
    · exact Or.inl h
    · rw [ho] at h; cases h
  · intro _
    refine Or.inr ⟨by omega, by omega, ?_⟩
    rw [hpath, finLast_append_noFin x _ _ hnf]
    simp [finLast, hasPush]
  · intro h
    rw [hasFin_path_of h] at hnf; cases hnf
  · intro h1 h2
    have := (f.f6 h1 h2).2.2.1
    omega

/-- A held bind request with id `x` is accepted: `x` is dead for streams. -/
theorem Fin.finBA {c c' : PC} {S R W : List Bytes} {P : Nat} (f : Fin x j c S R W P)
    (eb : c'.b = c.b) (eab : c'.ab = c.ab) (eo : c'.abOpen = c.abOpen)
    (hd : (sm x c).dead → (sm x c').dead) (hpot : Pot x c' → Pot x c)
    (e3 : c'.a.outq = c.a.outq ++ [.frame (.finish x)])
    (ho : c.a.outClosed = false) (hdead : (sm x c).dead) : Fin x j c' S R W P := by
  have hpx : pX x c'.a.outq = pX x c.a.outq := by
    rw [e3, pX_append, pX_single_other x _ (isPush_fin x x), List.append_nil]
  refine f.silentA eb eab eo hd hpot ?_ ?_ (fun _ => Or.inl (hd hdead)) (fun _ => Or.inl (hd hdead)) ?_
  · rw [hpx]; exact f.f0
  · rw [hpx]
    rcases f.f1 with h | ⟨h, _⟩
    · exact Or.inl h
    · rw [ho] at h; cases h
  · intro h1 h2
    have := (f.f6 h1 h2).2.1
    have : c.a.nobj = 0 := hdead.2.2.1
    omega

/-- A stream object carrying `x` is created at the left side: it had none, and `x` was not dead. -/
theorem Fin.newObjA {c c' : PC} {S R W : List Bytes} {P : Nat} (f : Fin x j c S R W P)
    (eb : c'.b = c.b) (eab : c'.ab = c.ab) (eo : c'.abOpen = c.abOpen)
    (hd : (sm x c).dead → (sm x c').dead) (hpot : Pot x c' → Pot x c)
    (h0 : c.a.nobj = 0) (hnd : ¬ (sm x c).dead)
    (hpx : pX x c'.a.outq = pX x c.a.outq) (hfq : hasFin x c'.a.outq = hasFin x c.a.outq)
    (h1 : c.a.outClosed = true → c.a.outq = [] → c'.a.outClosed = true ∧ c'.a.outq = []) : Fin x j c' S R W P := by
  have hnf : hasFin x c.path = false := by
    cases h : hasFin x c.path with
    | false => rfl
    | true =>
      rcases f.f2 h with hd | ⟨h2, _⟩
      · exact absurd hd hnd
      · omega
  refine f.silentA eb eab eo hd hpot ?_ ?_ ?_ ?_ ?_
  · rw [hpx]; exact f.f0
  · rw [hpx]; exact f.f1.imp id (fun h => h1 h.1 h.2)
  · intro h
    rw [PC.path, hasFin_append, eb, eab, hfq, ← hasFin_append, ← PC.path, hnf] at h
    cases h
  · intro h
    rw [hasFin_path_of h] at hnf; cases hnf
  · intro k1 k2
    have := (f.f6 k1 k2).2.1
    omega

theorem Fin.emitA {c c' : PC} {S R W : List Bytes} {P : Nat} (f : Fin x j c S R W P) (m : Msg) (r : List Msg)
    (eb : c'.b = c.b) (eab : c'.ab = if c.abOpen then c.ab ++ [m] else c.ab) (eo : c'.abOpen = c.abOpen)
    (hd : (sm x c).dead → (sm x c').dead) (hpot : Pot x c' → Pot x c)
    (e1 : c'.a.nobj = c.a.nobj) (e2 : c'.a.nw = c.a.nw) (e3 : c'.a.outq = r) (h : c.a.outq = m :: r) :
    Fin x j c' (S ++ pX x [m]) R W P := by
  have hsub : List.Sublist c'.path c.path := by
    unfold PC.path
    rw [eb, eab, e3, h]
    cases c.abOpen with
    | true =>
      rw [if_pos rfl, List.append_assoc, List.append_assoc, List.append_assoc]
      exact List.Sublist.refl _
    | false =>
      rw [if_neg (by decide)]
      exact (List.Sublist.refl _).append (List.sublist_cons_self m r)
  have hpx : pX x c.a.outq = pX x [m] ++ pX x r := by rw [h, ← pX_append]; rfl
  have g0 : (S ++ pX x [m]) ++ pX x r <+: W := by
    rw [List.append_assoc, ← hpx]; exact f.f0
  -- once everything written has left, the message taken now is no `Push x`
  have key : (sm x c).dead ∨ S = W → (sm x c').dead ∨ S ++ pX x [m] = W := by
    rintro (k | k)
    · exact Or.inl (hd k)
    · refine Or.inr ?_
      have h0 := f.f0
      rw [hpx, ← k] at h0
      rw [prefix_self_nil h0, List.append_nil]; exact k
  have key' : hasFin x (inMsgs c.b.inbox) = true → (sm x c).dead ∨ pX x [m] = [] := by
    intro hi
    rcases f.f3 (by rw [hasFin_append, hi]; rfl) with k | k
    · exact Or.inl k
    · refine Or.inr ?_
      have h0 := f.f0
      rw [hpx, ← k] at h0
      exact prefix_self_nil h0
  refine ⟨?_, ?_, ?_, ?_, ?_, ?_, ?_, ?_, ?_, ?_⟩
  · rw [e3]; exact g0
  · rw [e3]
    rcases f.f1 with k | ⟨_, k⟩
    · rw [hpx, ← List.append_assoc] at k; exact Or.inl k
    · rw [h] at k; cases k
  · intro hf
    rcases f.f2 (hasFin_sublist hsub hf) with h' | ⟨h1, h2, h3⟩
    · exact Or.inl (hd h')
    · exact Or.inr ⟨by rw [e1]; exact h1, by rw [e2]; exact h2, finLast_sublist hsub h3⟩
  · rw [eb, eab]
    intro hf
    by_cases hfin : hasFin x (inMsgs c.b.inbox ++ c.ab) = true
    · exact key (f.f3 hfin)
    · -- the `Finish x` is the message taken now
      cases hab : c.abOpen with
      | false => rw [hab, if_neg (by decide)] at hf; exact absurd hf hfin
      | true =>
        rw [hab, if_pos rfl, ← List.append_assoc, hasFin_append, hasFin_single] at hf
        have hm : isFin x m = true := by
          rcases (Bool.or_eq_true _ _).mp hf with k | k
          · exact absurd k hfin
          · exact k
        have hp : hasFin x c.path = true := by
          rw [PC.path, h, hasFin_append, hasFin_cons, hm]; simp
        rcases f.f2 hp with k | ⟨_, _, k⟩
        · exact Or.inl (hd k)
        · refine Or.inr ?_
          rw [PC.path, h] at k
          have hr : pX x r = [] := pX_of_noPush x r (finLast_fin_tail k hm)
          rcases f.f1 with k1 | ⟨_, k1⟩
          · rw [hpx, hr, List.append_nil] at k1; exact k1
          · rw [h] at k1; cases k1
  · rw [eb, eo]
    intro k1 k2 k3
    rcases f.f4 k1 k2 k3 with k | k
    · exact Or.inl (hd k)
    · rcases key' k3 with k' | k'
      · exact Or.inl (hd k')
      · exact Or.inr (by rw [k', List.append_nil]; exact k)
  · rw [eb, eo]
    intro k1 k2 k3 k4
    rcases f.f4p k1 k2 (hpot k3) k4 with k | k
    · exact Or.inl (hd k)
    · rcases key' k4 with k' | k'
      · exact Or.inl (hd k')
      · exact Or.inr (by rw [k', List.append_nil]; exact k)
  · rw [eb]; exact f.f5
  · rw [eb]
    intro k1 k2
    obtain ⟨q1, q2, q3, q4⟩ := f.f6 k1 k2
    exact ⟨q1, by rw [e1]; exact q2, by rw [e2]; exact q3, hasPush_sublist_false hsub q4⟩
  · rw [eb]; exact f.f7
  · rw [eb]; exact f.f8

theorem Fin.sendCloseA {c c' : PC} {S R W : List Bytes} {P : Nat} (f : Fin x j c S R W P)
    (eb : c'.b = c.b) (ea : c'.a = c.a) (eab : c'.ab = if c.abOpen then c.ab ++ [.close] else c.ab)
    (eo : c'.abOpen = c.abOpen) (hd : (sm x c).dead → (sm x c').dead) (hpot : Pot x c' → Pot x c) :
    Fin x j c' S R W P := by
  cases hab : c.abOpen with
  | false =>
    rw [hab, if_neg (by decide)] at eab
    exact f.shrinkA eb eab eo hd hpot (by rw [ea]) (by rw [ea]; exact Nat.le_refl _) (Or.inl (by rw [ea]))
      (by rw [ea]; exact id)
  | true =>
    rw [hab, if_pos rfl] at eab
    have hpath : c'.path = (inMsgs c.b.inbox ++ c.ab) ++ Msg.close :: c.a.outq := by
      unfold PC.path
      rw [eb, ea, eab]
      simp only [List.append_assoc, List.cons_append, List.nil_append]
    have h1 : hasFin x c'.path = hasFin x c.path := by rw [hpath, hasFin_insert x _ _ _ rfl]; rfl
    have h2 : finLast x c'.path = finLast x c.path := by rw [hpath, finLast_insert x _ _ _ rfl rfl]; rfl
    have h3 : hasPush x c'.path = hasPush x c.path := by rw [hpath, hasPush_insert x _ _ _ rfl]; rfl
    have h4 : hasFin x (inMsgs c.b.inbox ++ (c.ab ++ [.close])) = hasFin x (inMsgs c.b.inbox ++ c.ab) := by
      rw [← List.append_assoc, hasFin_append, hasFin_single]; exact Bool.or_false _
    refine ⟨?_, ?_, ?_, ?_, ?_, ?_, ?_, ?_, ?_, ?_⟩
    · rw [ea]; exact f.f0
    · rw [ea]; exact f.f1
    · rw [h1, h2, ea]; exact fun k => (f.f2 k).imp hd id
    · rw [eb, eab, h4]; exact fun k => (f.f3 k).imp hd id
    · rw [eo, hab]; intro k; cases k
    · rw [eo, hab]; intro k; cases k
    · rw [eb]; exact f.f5
    · rw [eb, h3, ea]; exact f.f6
    · rw [eb]; exact f.f7
    · rw [eb]; exact f.f8

theorem core_connHead {c : PC} {m : Msg} {r : List WsIn} (hc : CoreS ownA ownB (sm x c)) (h : c.a.inbox = .msg m :: r)
    (hm : isConn x m = true) : c.a.nobj = 0 ∧ ¬ (sm x c).dead := by
  have hq : 1 ≤ (sm x c).cQ := by
    show 1 ≤ cC x (inMsgs c.a.inbox ++ c.ba ++ c.b.outq)
    rw [h, inMsgs_cons_msg, List.cons_append, List.cons_append, cC_cons, hm, if_pos rfl]
    omega
  refine ⟨hc.r.connB hq, fun hd => ?_⟩
  have : (sm x c).cQ = 0 := hd.2.2.2.2.2.1
  omega

theorem core_reqA {c : PC} {q : Nat} (hc : CoreS ownA ownB (sm x c)) (hs : c.a.slot = some (.requested q)) :
    c.a.nobj = 0 ∧ ¬ (sm x c).dead := by
  have h1 : (sm x c).sa = 1 := by show sk c.a.slot = 1; rw [hs]; rfl
  exact ⟨hc.l.reqObj h1, fun hd => hd.2.2.2.2.2.2.1 h1⟩

theorem core_bindHeld {c : PC} (hc : CoreS ownA ownB (sm x c)) (hb : c.a.bh = true) : (sm x c).dead := by
  have h1 : (sm x c).swap.hb = 1 := by show b2n c.a.bh = 1; rw [hb]; rfl
  exact Sm.dead_swap (hc.r.bindDead (Or.inr h1))

theorem Fin.stepA {jA : Nat} {c c' : PC} {S R W : List Bytes} {P : Nat} {ws : List Msg} {acc : List Bytes}
    {xl : List XL} (hc : CoreS ownA ownB (sm x c)) (f : Fin x j c S R W P)
    (st : CStepL x jA c c' ws acc xl) (hn : c'.a.rngNil = false) :
    Fin x j c' (S ++ pX x ws) R (W ++ XL.wrotes xl) P := by
  have hd : (sm x c).dead → (sm x c').dead := fun k => dead_stepL hc k st hn
  have hpot : Pot x c' → Pot x c := Pot.stepA st hn
  cases st with
  | act v ws acc xl h =>
    cases h with
    | emit m r h =>
      rw [show W ++ XL.wrotes [] = W from List.append_nil W]
      exact f.emitA m r rfl rfl rfl hd hpot rfl rfl rfl h
    | sendClose =>
      exact Fin.cast0 (f.sendCloseA rfl rfl rfl rfl hd hpot)
    | enq m hc' h1 h3 h4 h5 h2 =>
      exact Fin.cast0 (f.snocA rfl (ab_nil c) rfl hd hpot m h3 h4 rfl rfl rfl hc')
    | enqPush p hc' hw' =>
      exact Fin.castS (f.pushA rfl (ab_nil c) rfl hd hpot rfl hc' hw' hc.l.wle rfl)
    | enqFinS hc' hw' =>
      exact Fin.cast0 (f.finSA rfl (ab_nil c) rfl hd hpot rfl rfl rfl hc' hw' hc.l.wle hc.l.one)
    | enqFinB hc' hb =>
      exact Fin.cast0 (f.finBA rfl (ab_nil c) rfl hd hpot rfl hc' (core_bindHeld hc hb))
    -- `shrinkA` with nothing shrinking: out queue, wire and write sides of the left view are untouched
    | rng | pop | popBind | connRej | ackOld | pushAcc | pushRej | grow | clearInbox =>
      exact Fin.cast0 (f.shrinkA rfl (ab_nil c) rfl hd hpot rfl (Nat.le_refl _) (Or.inl rfl) id)
    | draw k n s m hk hn' hdr hs ho hk' =>
      have hm : isPush x m = false ∧ isFin x m = false := by
        rcases hk' with ⟨q, _, hm⟩ | ⟨q, _, hm⟩
        · exact ⟨isConn_not_push hm, isConn_not_fin hm⟩
        · exact ⟨isBind_not_push hm, isBind_not_fin hm⟩
      exact Fin.cast0 (f.snocA rfl (ab_nil c) rfl hd hpot m hm.1 hm.2 rfl rfl rfl ho)
    | popFin r s h hs =>
      refine Fin.castW (by split <;> rfl) (f.shrinkA rfl (ab_nil c) rfl hd hpot rfl (Nat.le_refl _) (Or.inl rfl) id)
    | degrade s k w b rx hs hk hkeep hw' hb hr =>
      exact Fin.cast0 (f.shrinkA rfl (ab_nil c) rfl hd hpot rfl hw' (Or.inl rfl) id)
    | connNew m r n h hm hs =>
      obtain ⟨h0, hnd⟩ := core_connHead hc h hm
      refine Fin.cast0 (f.newObjA rfl (ab_nil c) rfl hd hpot h0 hnd ?_ ?_ ?_)
      · dsimp only
        split
        · rfl
        · rw [pX_append, pX_single_other x _ (isPush_ack x x n), List.append_nil]
      · dsimp only
        split
        · rfl
        · rw [hasFin_append, hasFin_single, isFin_ack, Bool.or_false]
      · intro k1 k2
        dsimp only
        rw [k1, if_pos rfl]
        exact ⟨rfl, k2⟩
    | ackNew m r q h hm hs =>
      obtain ⟨h0, hnd⟩ := core_reqA hc hs
      exact Fin.cast0 (f.newObjA rfl (ab_nil c) rfl hd hpot h0 hnd rfl rfl (fun k1 k2 => ⟨k1, k2⟩))
    | closeOut =>
      exact Fin.cast0 (f.shrinkA rfl (ab_nil c) rfl hd hpot rfl (Nat.le_refl _) (Or.inl rfl) (fun _ => rfl))
    | clearOutq =>
      exact Fin.cast0 (f.shrinkA rfl (ab_nil c) rfl hd hpot rfl (Nat.le_refl _) (Or.inr ⟨rfl, rfl⟩) (fun _ => rfl))
  | dlv | dlvClose | cut => exact Fin.cast0 (f.shrinkA rfl rfl rfl hd hpot rfl (Nat.le_refl _) (Or.inl rfl) id)

end Penguin.PairAll
