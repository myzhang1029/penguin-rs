/-
`Ev.bindDone req .closed` is emitted by `request_bind` itself and by nothing else: not by the connection
task (frames, wind-down, dropped-handle notifications), not by the open futures.  So a bind request resolves
`closed` only at its own call, and only if the outbound queue was closed or no flow id could be drawn.
Core Lean only.
-/
import Penguin.Lemmas.BindAllMain
import Penguin.Lemmas.MuxTrace

namespace Penguin.BindAll
open Penguin.Mux Penguin.PairAll

def nc (evs : List Ev) : Bool :=
  evs.all (fun ev => match ev with
    | .bindDone _ .closed => false
    | _ => true)

@[simp] theorem nc_nil : nc [] = true := rfl
@[simp] theorem nc_append (a b : List Ev) : nc (a ++ b) = (nc a && nc b) := by simp [nc]
@[simp] theorem nc_cons_wire (m : Msg) (r : List Ev) : nc (.wire m :: r) = nc r := by simp [nc]
@[simp] theorem nc_cons_openDone (q : Nat) (x : OpenRes) (r : List Ev) : nc (.openDone q x :: r) = nc r := by simp [nc]
@[simp] theorem nc_cons_exit (x : ExitRes) (r : List Ev) : nc (.exit x :: r) = nc r := by simp [nc]
@[simp] theorem nc_cons_accepted (q : Nat) (r : List Ev) : nc (.bindDone q .accepted :: r) = nc r := by simp [nc]
@[simp] theorem nc_cons_refused (q : Nat) (r : List Ev) : nc (.bindDone q .refused :: r) = nc r := by simp [nc]
@[simp] theorem nc_openDones (l : List OpenReq) (c : OpenRes) : nc (l.map (fun r => Ev.openDone r.req c)) = true := by
  simp [nc]

theorem not_mem_of_nc {evs : List Ev} (h : nc evs = true) (r : Nat) : Ev.bindDone r .closed ∉ evs := by
  intro hm
  simp only [nc, List.all_eq_true] at h
  have := h _ hm
  simp at this

/-- Only the step `failBind` (a `request_bind` call that fails at once) emits `bindDone _ closed`: a path that does not
    take it emits none (Lemmas/MuxTrace.lean). -/
theorem nc_of_path {A : Kinds} {e e' : EP} {x : List Ev} (p : Path A e x e')
    (hA : A.disj (EvSort.bindDone .closed).emitters = true := by decide +kernel) : nc x = true :=
  List.all_eq_true.mpr fun ev hev => by
    have := p.emits (.bindDone .closed) hA ev hev
    cases ev with
    | bindDone q r => cases r <;> first | rfl | exact absurd rfl this
    | _ => rfl

theorem nc_openRound (e : EP) (r : OpenReq) : nc (openRound e r).2 = true := nc_of_path (.openRoundAny e r)

theorem nc_settle (e : EP) : nc (Mux.settle e).2 = true := nc_of_path (.settle e)

/-- One stimulus of one endpoint: `closed` is emitted only by a `request_bind` call for that very request
    number, and only if the outbound queue was closed at the call or no flow id could be drawn. -/
theorem closed_only_at_call (e : EP) (op : Mux.Op) (req : Nat) (h : Ev.bindDone req .closed ∈ (applyOp e op).2.2) :
    ∃ bt host port, op = .bindReq req bt host port ∧
      (e.outClosed = true ∨ drawId e.flows e.rng e.fallback 64 = none) := by
  rw [applyOp_evs] at h
  rcases List.mem_append.mp h with h | h
  · cases op with
    | «open» r host port =>
      simp only [Mux.opStep] at h
      split at h
      · cases h
      · exact absurd h (not_mem_of_nc (nc_openRound _ _) req)
    | bindReq r bt host port =>
      simp only [Mux.opStep, Mux.appBindReq] at h
      split at h
      · rename_i hd
        simp only [List.mem_singleton, Ev.bindDone.injEq, and_true] at h
        exact ⟨bt, host, port, by rw [h], Or.inr hd⟩
      · split at h
        · rename_i hoc
          simp only [List.mem_singleton, Ev.bindDone.injEq, and_true] at h
          exact ⟨bt, host, port, by rw [h], Or.inl hoc⟩
        · cases h
    | deliver w =>
      rw [opStep_deliver_evs] at h; cases h
    | _ => simp [Mux.opStep] at h
  · exact absurd h (not_mem_of_nc (nc_settle _) req)

theorem mem_of_mem_doneEvs {evs : List Ev} {r : Nat} {a : BindRes} (h : BEv.done r a ∈ doneEvs evs) : Ev.bindDone r a ∈ evs := by
  induction evs with
  | nil => cases h
  | cons ev rest ih =>
    cases ev with
    | bindDone r' a' =>
      simp only [doneEvs, List.mem_cons, BEv.done.injEq] at h
      rcases h with ⟨rfl, rfl⟩ | h
      · exact List.mem_cons_self
      · exact List.mem_cons_of_mem _ (ih h)
    | _ => exact List.mem_cons_of_mem _ (ih h)

theorem done_not_mem_callEvs (e : EP) (op : Mux.Op) (res : Mux.Res) (r : Nat) (a : BindRes) : BEv.done r a ∉ callEvs e op res := by
  unfold callEvs
  repeat' split
  all_goals simp

theorem closed_in_bgStep (e : EP) (g : List BEv) (op : Mux.Op) (req : Nat) (h0 : BEv.done req .closed ∉ g)
    (h : BEv.done req .closed ∈ bgStep e g op) :
    ∃ bt host port, op = .bindReq req bt host port ∧ (e.outClosed = true ∨ drawId e.flows e.rng e.fallback 64 = none) := by
  simp only [bgStep, List.mem_append] at h
  rcases h with h | h | h
  · exact absurd h h0
  · exact absurd h (done_not_mem_callEvs _ _ _ _ _)
  · exact closed_only_at_call e op req (mem_of_mem_doneEvs h)

theorem stimOp_bindReq {p : PS} {st : Stim} {req : Nat} {bt : BindType} {host : Bytes} {port : Nat}
    (h : stimOp p st = .bindReq req bt host port) : st = .call (.bindReq req bt host port) := by
  cases st with
  | call op => simp only [stimOp] at h; rw [h]
  | deliver => simp only [stimOp] at h; split at h <;> cases h
  | cut eof => simp only [stimOp] at h; cases h

theorem runB_first (P : PB → Prop) (q0 : PB) (l : List (Side × Stim)) (h0 : ¬ P q0) (h : P (runB q0 l)) :
    ∃ l1 a l2, l = l1 ++ a :: l2 ∧ ¬ P (runB q0 l1) ∧ P (stepB (runB q0 l1) a.1 a.2) := by
  induction l generalizing q0 with
  | nil => exact absurd h h0
  | cons a l ih =>
    by_cases h1 : P (stepB q0 a.1 a.2)
    · exact ⟨[], a, l, rfl, h0, h1⟩
    · obtain ⟨l1, b, l2, hl, hw⟩ := ih (stepB q0 a.1 a.2) h1 h
      exact ⟨a :: l1, b, l2, by rw [hl]; rfl, hw⟩

/-- Side `a`: if its record contains `done req closed` after a run and did not before, the run contains a
    `request_bind` call number `req` of side `a` at which its outbound queue was closed or no id could be drawn. -/
theorem closed_in_runA (q0 : PB) (l : List (Side × Stim)) (req : Nat) (h0 : BEv.done req .closed ∉ q0.ha)
    (h : BEv.done req .closed ∈ (runB q0 l).ha) :
    ∃ l1 l2 bt host port, l = l1 ++ (Side.A, Stim.call (.bindReq req bt host port)) :: l2 ∧
      ((runB q0 l1).p.a.outClosed = true ∨
        drawId (runB q0 l1).p.a.flows (runB q0 l1).p.a.rng (runB q0 l1).p.a.fallback 64 = none) := by
  obtain ⟨l1, ⟨s, st⟩, l2, rfl, hn, h1⟩ := runB_first (fun q => BEv.done req .closed ∈ q.ha) q0 l h0 h
  cases s with
  | A =>
    simp only [stepB] at h1
    cases hs : stepL (runB q0 l1).p st with
    | none => rw [hs] at h1; exact absurd h1 hn
    | some p' =>
      rw [hs] at h1
      obtain ⟨bt, host, port, hop, hw⟩ := closed_in_bgStep _ _ _ req hn h1
      cases stimOp_bindReq hop
      exact ⟨l1, l2, bt, host, port, rfl, hw⟩
  | B =>
    simp only [stepB] at h1
    cases hs : stepL (runB q0 l1).p.swap st <;> (rw [hs] at h1; exact absurd h1 hn)

theorem closed_in_runB (q0 : PB) (l : List (Side × Stim)) (req : Nat) (h0 : BEv.done req .closed ∉ q0.hb)
    (h : BEv.done req .closed ∈ (runB q0 l).hb) :
    ∃ l1 l2 bt host port, l = l1 ++ (Side.B, Stim.call (.bindReq req bt host port)) :: l2 ∧
      ((runB q0 l1).p.b.outClosed = true ∨
        drawId (runB q0 l1).p.b.flows (runB q0 l1).p.b.rng (runB q0 l1).p.b.fallback 64 = none) := by
  obtain ⟨l1, ⟨s, st⟩, l2, rfl, hn, h1⟩ := runB_first (fun q => BEv.done req .closed ∈ q.hb) q0 l h0 h
  cases s with
  | B =>
    simp only [stepB] at h1
    cases hs : stepL (runB q0 l1).p.swap st with
    | none => rw [hs] at h1; exact absurd h1 hn
    | some p' =>
      rw [hs] at h1
      obtain ⟨bt, host, port, hop, hw⟩ := closed_in_bgStep _ _ _ req hn h1
      cases stimOp_bindReq hop
      exact ⟨l1, l2, bt, host, port, rfl, hw⟩
  | A =>
    simp only [stepB] at h1
    cases hs : stepL (runB q0 l1).p st <;> (rw [hs] at h1; exact absurd h1 hn)

end Penguin.BindAll
