/-
Datagrams in the pair model: in every reachable state, what one endpoint's application has received,
what its datagram queue holds and what is in transit to it form, in order, a subsequence of what the
other endpoint's application sent — at most once, in order, every field intact; datagrams are lost
only when the receiver's queue is full.  No stream action touches a datagram.
-/
import Penguin.Lemmas.PairInv
import Penguin.Lemmas.PairLocal
import Penguin.Lemmas.PairRun
import Penguin.Lemmas.PairEmits

namespace Penguin.Mux

def dgOf : List Msg → List Dgram
  | [] => []
  | .frame (.datagram fid port host data) :: rest => { fid := fid, host := host, port := port, data := data } :: dgOf rest
  | _ :: rest => dgOf rest

theorem dgOf_append (a b : List Msg) : dgOf (a ++ b) = dgOf a ++ dgOf b := by
  induction a with
  | nil => rfl
  | cons m rest ih =>
    cases m with
    | frame f => cases f <;> simp [dgOf, ih]
    | _ => simp [dgOf, ih]

structure DgSame (e e' : EP) : Prop where
  dgramq : e'.dgramq = e.dgramq
  outq : ∃ em, e'.outq = e.outq ++ em ∧ dgOf em = []

namespace DgSame

theorem refl (e : EP) : DgSame e e := ⟨rfl, [], by simp, rfl⟩

theorem trans {a b c : EP} (s : DgSame a b) (t : DgSame b c) : DgSame a c := by
  obtain ⟨e1, h1, g1⟩ := s.outq
  obtain ⟨e2, h2, g2⟩ := t.outq
  exact ⟨by rw [t.dgramq, s.dgramq], e1 ++ e2, by rw [h2, h1, List.append_assoc], by rw [dgOf_append, g1, g2]; rfl⟩

theorem silent {e e' : EP} (h1 : e'.dgramq = e.dgramq) (h2 : e'.outq = e.outq) : DgSame e e' :=
  ⟨h1, [], by simp [h2], rfl⟩

end DgSame

/-- The kinds across which it fails: those that write the datagram queue, those that take messages out of the
    outbound queue, and queueing a datagram. -/
def DgSame.bad : Kinds := Field.dgramq.writers ∪ Appends.takers ∪ .of [.enq .datagram]

theorem DgSame.of_path {A : Kinds} {e e' : EP} {x : List Ev} (p : Path A e x e')
    (hA : A.disj DgSame.bad = true := by decide +kernel) : DgSame e e' := by
  obtain ⟨em, h1, g⟩ := Appends.of_path (P := fun m => dgOf [m] = []) (T := DgSame.bad) (by decide +kernel)
    (fun m hm => by
      cases m with
      | frame f => cases f <;> first | rfl | exact absurd (show Kind.enq .datagram ∈ DgSame.bad by decide +kernel) hm
      | _ => rfl) p hA
  refine ⟨p.frame .dgramq (Kinds.disj_mono hA (by decide +kernel)), em, h1, ?_⟩
  clear h1
  induction em with
  | nil => rfl
  | cons m rest ih =>
    rw [← List.singleton_append, dgOf_append, g m List.mem_cons_self, ih fun x hx => g x (List.mem_cons_of_mem _ hx)]; rfl

theorem DgSame.closeFlow (e : EP) (fid : Nat) (inh : Bool) : DgSame e (closeFlow e fid inh).1 := .of_path (.closeFlow e fid inh)

theorem DgSame.unpark (e : EP) : DgSame e (unpark e) := .of_path (.unpark e)

theorem DgSame.openRound (e : EP) (r : OpenReq) : DgSame e (openRound e r).1 := .of_path (.openRoundAny e r)

theorem DgSame.runRetries (e : EP) (l : List Nat) : DgSame e (runRetries e l).1 := .of_path (.runRetries e l)

theorem DgSame.runDone (e : EP) (l : List (Nat × Nat)) : DgSame e (runDone e l).1 := .of_path (.runDone e l)

theorem DgSame.processFrame (e : EP) (f : Frame) (ig : Bool) (hf : ∀ a b c d, f ≠ .datagram a b c d) :
    DgSame e (processFrame e f ig).1 := by
  have p := Path.processFrameOf e f ig
  cases f with
  | datagram a b c d => exact absurd rfl (hf a b c d)
  | _ => exact .of_path p (by dsimp only [K.processFrameOf]; decide +kernel)

theorem DgSame.appAccept (e : EP) : DgSame e (appAccept e).1 := .of_path (.appAccept e)

theorem DgSame.of_local {e e' : EP} {i : Nat} {o' : Obj} {em : List Msg} {dq : List Nat}
    (u : LocalUpd e e' i o' em dq) (hd : e'.dgramq = e.dgramq) (hem : dgOf em = []) : DgSame e e' :=
  ⟨hd, em, u.outq, hem⟩

theorem appWrite_dgramq (e : EP) (h : Nat) (d : Bytes) : (appWrite e h d).1.dgramq = e.dgramq :=
  (Path.appWrite e h d).frame .dgramq

theorem DgSame.appWrite (e : EP) (h : Nat) (d : Bytes) : DgSame e (appWrite e h d).1 := .of_path (.appWrite e h d)

theorem DgSame.fillBuf (fuel : Nat) (e : EP) (i : Nat) : DgSame e (fillBuf fuel e i).1 := .of_path (.fillBuf fuel e i)

theorem DgSame.appRead (e : EP) (h n : Nat) : DgSame e (appRead e h n).1 := .of_path (.appRead e h n)

theorem DgSame.appShutdown (e : EP) (h : Nat) : DgSame e (appShutdown e h).1 := .of_path (.appShutdown e h)

theorem DgSame.appDropStream (e : EP) (h : Nat) : DgSame e (appDropStream e h).1 := .of_path (.appDropStream e h)

theorem DgSame.appBindReq (e : EP) (req : Nat) (bt : BindType) (host : Bytes) (port : Nat) :
    DgSame e (appBindReq e req bt host port).1 := .of_path (.appBindReq e req bt host port)

theorem DgSame.appBindNext (e : EP) : DgSame e (appBindNext e).1 := .of_path (.appBindNext e)

theorem DgSame.appBindReply (e : EP) (k : Nat) (acc : Bool) : DgSame e (appBindReply e k acc).1 := .of_path (.appBindReply e k acc)

theorem DgSame.appBindDrop (e : EP) (k : Nat) : DgSame e (appBindDrop e k).1 := .of_path (.appBindDrop e k)

end Penguin.Mux

namespace Penguin.Pair
open Penguin.Mux

def DgDir (recv q : List Dgram) (path : List Msg) (sent : List Dgram) : Prop :=
  (recv ++ q ++ dgOf path).Sublist sent

structure DgInv (p : PS) : Prop where
  ab : DgDir p.gb.drecv p.b.dgramq (pathAB p) p.ga.dsent
  ba : DgDir p.ga.drecv p.a.dgramq (pathBA p) p.gb.dsent

theorem DgInv.swap {p : PS} (h : DgInv p) : DgInv p.swap := ⟨h.ba, h.ab⟩

theorem dg_of_same {p : PS} (h : DgInv p) {e' : EP} {g' : Ghost} {ba' : List Msg} (s : DgSame p.a e')
    (hs : g'.dsent = p.ga.dsent) (hr : g'.drecv = p.ga.drecv) (hba : dgOf (ba' ++ p.b.outq) = dgOf (pathBA p)) :
    DgInv { p with a := e', ga := g', ba := ba' } := by
  obtain ⟨em, he, hem⟩ := s.outq
  constructor
  · show (p.gb.drecv ++ p.b.dgramq ++ dgOf (p.ab ++ e'.outq)).Sublist g'.dsent
    rw [hs, he, ← List.append_assoc, dgOf_append, hem, List.append_nil]
    exact h.ab
  · show (g'.drecv ++ e'.dgramq ++ dgOf (ba' ++ p.b.outq)).Sublist p.gb.dsent
    rw [hr, s.dgramq, hba]
    exact h.ba

theorem DgInv.setLinked {p : PS} (h : DgInv p) (lk : List Nat) : DgInv { p with linked := lk } := ⟨h.ab, h.ba⟩

theorem dgOf_cons_nondg (m : Msg) (l : List Msg) (h : ∀ a b c d, m ≠ .frame (.datagram a b c d)) : dgOf (m :: l) = dgOf l := by
  cases m with
  | frame f => cases f <;> first | rfl | exact absurd rfl (h _ _ _ _)
  | _ => rfl

theorem stepL_dg {p p' : PS} (a : Act) (h : DgInv p) (hs : stepL p a = some p') : DgInv p' := by
  have same : ∀ {e' : EP} {g' : Ghost}, DgSame p.a e' → g'.dsent = p.ga.dsent → g'.drecv = p.ga.drecv →
      DgInv { p with a := e', ga := g' } := fun s h1 h2 => dg_of_same (ba' := p.ba) h s h1 h2 rfl
  cases stepL_shape hs with
  | «open» => exact same (DgSame.openRound _ _) rfl rfl
  | cancelOpen => exact same (DgSame.silent rfl rfl) rfl rfl
  | accept => exact same (DgSame.appAccept _) rfl rfl
  | write hd d =>
    refine same (DgSame.appWrite _ _ _) ?_ ?_ <;> (cases (appWrite p.a hd d).2 <;> cases p.a.handles[hd]? <;> rfl)
  | read hd n =>
    refine same (DgSame.appRead _ _ _) ?_ ?_ <;>
      (cases (appRead p.a hd n).2 <;> cases p.a.handles[hd]? <;>
        first | rfl | (simp only [Ghost.noteEof]; split <;> first | rfl | (split <;> rfl)))
  | shutdown => exact same (DgSame.appShutdown _ _) rfl rfl
  | dropStream => exact same (DgSame.appDropStream _ _) rfl rfl
  | sendDgram d =>
    unfold appSendDgram
    split
    · exact same (DgSame.refl _) rfl rfl
    · split
      · exact same (DgSame.refl _) rfl rfl
      · -- accepted: one datagram more on the way, one more sent
        have hoc : p.a.outClosed = false := by rename_i hh; simpa using hh
        constructor
        · show (p.gb.drecv ++ p.b.dgramq ++ dgOf (p.ab ++ (p.a.enqFrame (.datagram d.fid d.port d.host d.data)).outq)).Sublist
            (p.ga.dsent ++ [d])
          simp only [EP.enqFrame, enq_outq, hoc, Bool.false_eq_true, if_false]
          rw [← List.append_assoc, dgOf_append, ← List.append_assoc]
          exact List.Sublist.append h.ab (List.Sublist.refl _)
        · show (p.ga.drecv ++ (p.a.enqFrame _).dgramq ++ dgOf (pathBA p)).Sublist p.gb.dsent
          simp only [EP.enqFrame, enq_dgramq]
          exact h.ba
  | recvDgram =>
    unfold appRecvDgram
    split
    · rename_i d rest hq
      constructor
      · exact h.ab
      · show ((p.ga.drecv ++ [d]) ++ rest ++ dgOf (pathBA p)).Sublist p.gb.dsent
        have := h.ba
        unfold DgDir at this
        rw [hq] at this
        simpa using this
    · split <;> exact same (DgSame.refl _) rfl rfl
  | xmit m rest hq =>
    constructor
    · show (p.gb.drecv ++ p.b.dgramq ++ dgOf ((p.ab ++ [m]) ++ rest)).Sublist p.ga.dsent
      have := h.ab
      unfold DgDir pathAB at this
      rw [hq] at this
      simpa using this
    · exact h.ba
  | recv f rest e _ _ hba hpf =>
    have he : e = (processFrame p.a f false).1 := by rw [hpf]
    by_cases hdg : ∃ a b c d, f = .datagram a b c d
    · obtain ⟨fid, port, host, d, rfl⟩ := hdg
      have hpath : dgOf (pathBA p) = { fid := fid, host := host, port := port, data := d } :: dgOf (rest ++ p.b.outq) := by
        unfold pathBA; rw [hba]; rfl
      have hb := h.ba
      unfold DgDir at hb
      rw [hpath] at hb
      subst he
      constructor
      · show (p.gb.drecv ++ p.b.dgramq ++ dgOf (p.ab ++ (processFrame p.a _ false).1.outq)).Sublist p.ga.dsent
        have : (processFrame p.a (.datagram fid port host d) false).1.outq = p.a.outq := by
          simp only [processFrame]; repeat' split
          all_goals rfl
        rw [this]; exact h.ab
      · show (p.ga.drecv ++ (processFrame p.a _ false).1.dgramq ++ dgOf (rest ++ p.b.outq)).Sublist p.gb.dsent
        simp only [processFrame]
        split
        · exact (List.Sublist.append (List.Sublist.refl _) (List.sublist_cons_self _ _)).trans hb
        · split
          · simpa using hb
          · exact (List.Sublist.append (List.Sublist.refl _) (List.sublist_cons_self _ _)).trans hb
    · have hnd : ∀ a b c d, f ≠ .datagram a b c d := fun a b c d hh => hdg ⟨a, b, c, d, hh⟩
      subst he
      refine DgInv.setLinked (p := { p with a := (processFrame p.a f false).1, ba := rest }) (dg_of_same (ba' := rest) h (DgSame.processFrame p.a f false hnd) rfl rfl ?_) _
      unfold pathBA
      rw [hba, List.cons_append, dgOf_cons_nondg _ _ (by intro a b c d hh; injection hh with hh; exact hnd a b c d hh)]
  | notif _ rest =>
    exact same ((DgSame.silent rfl rfl : DgSame p.a { p.a with droppedq := rest }).trans (DgSame.closeFlow _ _ _)) rfl rfl
  | unpark => exact same (DgSame.unpark _) rfl rfl
  | runDone =>
    exact same ((DgSame.silent rfl rfl : DgSame p.a { p.a with doneq := [] }).trans (DgSame.runDone _ _)) rfl rfl
  | runRetries =>
    exact same ((DgSame.silent rfl rfl : DgSame p.a { p.a with retryq := [] }).trans (DgSame.runRetries _ _)) rfl rfl
  | bindReq => exact same (DgSame.appBindReq _ _ _ _ _) rfl rfl
  | bindNext => exact same (DgSame.appBindNext _) rfl rfl
  | bindReply => exact same (DgSame.appBindReply _ _ _) rfl rfl
  | bindDrop => exact same (DgSame.appBindDrop _ _) rfl rfl

theorem run_dg (p : PS) (as : List (Side × Act)) (h : DgInv p) : DgInv (run p as) :=
  run_keeps (P := DgInv) (fun _ => DgInv.swap) p as (fun sa _ _ _ h hs => stepL_dg sa.2 h hs) h

theorem init_dg (oa ob : Opts) (ra rb : List Nat) : DgInv (init oa ob ra rb) :=
  ⟨List.Sublist.refl _, List.Sublist.refl _⟩

/-- In every reachable state of the pair the datagrams `b`'s application has received are, in order
    and field by field, a subsequence of those `a`'s application sent (and symmetrically). -/
theorem datagrams_subsequence (oa ob : Opts) (ra rb : List Nat) (as : List (Side × Act)) :
    (run (init oa ob ra rb) as).gb.drecv.Sublist (run (init oa ob ra rb) as).ga.dsent ∧
    (run (init oa ob ra rb) as).ga.drecv.Sublist (run (init oa ob ra rb) as).gb.dsent := by
  have h := run_dg _ as (init_dg oa ob ra rb)
  constructor
  · exact ((List.sublist_append_left _ _).trans (List.sublist_append_left _ _)).trans h.ab
  · exact ((List.sublist_append_left _ _).trans (List.sublist_append_left _ _)).trans h.ba

end Penguin.Pair
