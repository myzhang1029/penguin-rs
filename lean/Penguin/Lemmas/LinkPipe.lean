/-
How the ghost logs of the link model move, action by action, and the simulation of the link model
by the pipe specification (used by `Props/C01.lean`).
-/
import Penguin.Model.Link
import Penguin.Lemmas.Link
import Penguin.Spec.Pipe

namespace Penguin.LinkPipe
open Penguin Penguin.Link
open Penguin.Spec

structure R (s : Link.St) (p : Pipe.St) : Prop where
  inp : p.input = s.accepted
  out : p.output = s.delivered
  ph : p.phase = .open ↔ s.sFin = false
  eof : p.eof = s.eofSeen

theorem run_append (p : Pipe.St) (a b : List Pipe.Act) :
    Pipe.run p (a ++ b) = (Pipe.run p a).bind (fun q => Pipe.run q b) := by
  induction a generalizing p with
  | nil => simp [Pipe.run]
  | cons x rest ih =>
    simp only [List.cons_append, Pipe.run]
    cases Pipe.step p x with
    | none => simp
    | some q => simp [ih]

theorem read_cases (s : Link.St) (n : Nat) (h : Inv s) :
    ((step s (.read n)).1.accepted = s.accepted ∧ (step s (.read n)).1.sFin = s.sFin) ∧
    (((step s (.read n)).1.delivered = s.delivered ∧ (step s (.read n)).1.eofSeen = s.eofSeen) ∨
     (∃ bs, (step s (.read n)).1.delivered = s.delivered ++ bs ∧ (step s (.read n)).1.eofSeen = s.eofSeen ∧
        (s.buf ≠ [] ∨ s.rxq ≠ [])) ∨
     ((step s (.read n)).1.delivered = s.delivered ∧ (step s (.read n)).1.eofSeen = true)) := by
  by_cases hb : s.buf.isEmpty = true
  · cases hq : s.rxq with
    | nil =>
      cases hal : s.rAlive with
      | true => rw [read_pending s n h hb hq hal]; exact ⟨⟨rfl, rfl⟩, Or.inl ⟨rfl, rfl⟩⟩
      | false => rw [read_eof s n h hb hq hal]; exact ⟨⟨rfl, rfl⟩, Or.inr (Or.inr ⟨rfl, rfl⟩)⟩
    | cons f rest =>
      by_cases ht : s.since + 1 ≥ s.th
      · rw [read_frame_ack s n f rest h hb hq ht]
        exact ⟨⟨rfl, rfl⟩, Or.inr (Or.inl ⟨f.take n, rfl, rfl, Or.inr (by simp)⟩)⟩
      · rw [read_frame_quiet s n f rest h hb hq ht]
        exact ⟨⟨rfl, rfl⟩, Or.inr (Or.inl ⟨f.take n, rfl, rfl, Or.inr (by simp)⟩)⟩
  · have hb' : s.buf.isEmpty = false := by simpa using hb
    rw [read_buf s n h hb']
    exact ⟨⟨rfl, rfl⟩, Or.inr (Or.inl ⟨s.buf.take n, rfl, rfl, Or.inl (by intro e; simp [e] at hb')⟩)⟩

theorem write_cases (s : Link.St) (d : Bytes) :
    (step s (.write d)).1.delivered = s.delivered ∧ (step s (.write d)).1.sFin = s.sFin ∧
    (step s (.write d)).1.eofSeen = s.eofSeen ∧
    ((step s (.write d)).1.accepted = s.accepted ∨
     (s.sFin = false ∧ (step s (.write d)).1.accepted = s.accepted ++ d)) := by
  simp only [step]
  split
  · exact ⟨rfl, rfl, rfl, Or.inl rfl⟩
  · rename_i hf
    split
    · exact ⟨rfl, rfl, rfl, Or.inl rfl⟩
    · split
      · exact ⟨rfl, rfl, rfl, Or.inl rfl⟩
      · exact ⟨rfl, rfl, rfl, Or.inr ⟨by simpa using hf, rfl⟩⟩

theorem end_cases (s : Link.St) (a : Act) (ha : a = .shutdown ∨ a = .abort) :
    (step s a).1.delivered = s.delivered ∧ (step s a).1.accepted = s.accepted ∧
    (step s a).1.eofSeen = s.eofSeen ∧ (step s a).1.sFin = true := by
  rcases ha with rfl | rfl <;> simp only [step] <;> split <;> simp_all

theorem transit_cases (s : Link.St) (a : Act) (ha : a = .deliver ∨ a = .deliverAck) :
    (step s a).1.delivered = s.delivered ∧ (step s a).1.accepted = s.accepted ∧
    (step s a).1.eofSeen = s.eofSeen ∧ (step s a).1.sFin = s.sFin := by
  rcases ha with rfl | rfl
  · simp only [step]
    repeat' split
    all_goals exact ⟨rfl, rfl, rfl, rfl⟩
  · simp only [step]
    split <;> exact ⟨rfl, rfl, rfl, rfl⟩

theorem R.of_eq {s s' : Link.St} {p : Pipe.St} (r : R s p) (ha : s'.accepted = s.accepted)
    (hd : s'.delivered = s.delivered) (hf : s'.sFin = s.sFin) (he : s'.eofSeen = s.eofSeen) : R s' p :=
  ⟨r.inp.trans ha.symm, r.out.trans hd.symm, by rw [hf]; exact r.ph, r.eof.trans he.symm⟩

theorem sim_end (s : Link.St) (p : Pipe.St) (a : Act) (pa : Pipe.Act) (ph : Pipe.Phase) (r : R s p)
    (ha : a = .shutdown ∨ a = .abort) (hph : ph ≠ .open)
    (hpa : p.phase = .open → Pipe.step p pa = some { p with phase := ph }) :
    ∃ pas q, Pipe.run p pas = some q ∧ R (step s a).1 q ∧ pas.length ≤ 1 := by
  obtain ⟨c1, c2, c3, c4⟩ := end_cases s a ha
  by_cases hf : s.sFin = false
  · exact ⟨[pa], { p with phase := ph }, by simp [Pipe.run, hpa (r.ph.mpr hf)],
      ⟨r.inp.trans c2.symm, r.out.trans c1.symm, by simp [c4, hph], r.eof.trans c3.symm⟩, by simp⟩
  · have hnot : p.phase ≠ .open := fun e => hf (r.ph.mp e)
    exact ⟨[], p, rfl, ⟨r.inp.trans c2.symm, r.out.trans c1.symm, by simp [c4, hnot], r.eof.trans c3.symm⟩, by simp⟩

theorem sim_step (s : Link.St) (p : Pipe.St) (a : Act) (h : Inv s) (r : R s p) :
    ∃ pas q, Pipe.run p pas = some q ∧ R (step s a).1 q ∧ pas.length ≤ 1 := by
  have h' : Inv (step s a).1 := step_inv s a h
  cases a with
  | write d =>
    obtain ⟨c1, c2, c3, c4⟩ := write_cases s d
    rcases c4 with c4 | ⟨hf, c4⟩
    · exact ⟨[], p, rfl, r.of_eq c4 c1 c2 c3, by simp⟩
    · have hopen : p.phase = .open := r.ph.mpr hf
      exact ⟨[.write d], { p with input := p.input ++ d }, by simp [Pipe.run, Pipe.step, hopen],
        ⟨by simp [c4, r.inp], r.out.trans c1.symm, by rw [c2]; exact r.ph, r.eof.trans c3.symm⟩, by simp⟩
  | shutdown =>
    exact sim_end s p .shutdown .finish .finished r (Or.inl rfl) (by decide) (fun h => by simp [Pipe.step, h])
  | abort =>
    exact sim_end s p .abort .abort .aborted r (Or.inr rfl) (by decide) (fun h => by simp [Pipe.step, h])
  | deliver =>
    obtain ⟨c1, c2, c3, c4⟩ := transit_cases s .deliver (Or.inl rfl)
    exact ⟨[], p, rfl, r.of_eq c2 c1 c4 c3, by simp⟩
  | deliverAck =>
    obtain ⟨c1, c2, c3, c4⟩ := transit_cases s .deliverAck (Or.inr rfl)
    exact ⟨[], p, rfl, r.of_eq c2 c1 c4 c3, by simp⟩
  | read n =>
    obtain ⟨⟨ca, cf⟩, c⟩ := read_cases s n h
    rcases c with ⟨cd, ce⟩ | ⟨bs, cd, ce, hne⟩ | ⟨cd, ce⟩
    · exact ⟨[], p, rfl, r.of_eq ca cd cf ce, by simp⟩
    · -- data: legal because the new log is still a prefix, and end-of-stream was not yet seen
      have hpre : (step s (.read n)).1.delivered <+: (step s (.read n)).1.accepted := prefix_of_inv _ h'
      have hnoeof : s.eofSeen = false := by
        cases he : s.eofSeen with
        | false => rfl
        | true =>
          obtain ⟨_, h2, h3⟩ := h.heof he
          rcases hne with hne | hne
          · exact absurd h3 hne
          · exact absurd h2 hne
      have hleg : (p.output ++ bs).isPrefixOf p.input = true := by
        rw [List.isPrefixOf_iff_prefix, r.out, r.inp, ← cd, ← ca]
        exact hpre
      have hpe : p.eof = false := r.eof.trans hnoeof
      exact ⟨[.deliver bs], { p with output := p.output ++ bs }, by simp [Pipe.run, Pipe.step, hleg, hpe],
        ⟨r.inp.trans ca.symm, by simp [cd, r.out], by rw [cf]; exact r.ph, r.eof.trans ce.symm⟩, by simp⟩
    · -- end-of-stream: legal because the sender had ended and everything was delivered
      obtain ⟨hfin, heq⟩ := eof_facts _ h' ce
      rw [cf] at hfin
      have hnot : p.phase ≠ .open := fun e => by have := r.ph.mp e; rw [hfin] at this; cases this
      have hall : p.output = p.input := by rw [r.out, r.inp, ← cd, ← ca]; exact heq
      refine ⟨[.eof], { p with eof := true }, ?_,
        ⟨r.inp.trans ca.symm, r.out.trans cd.symm, by rw [cf]; exact r.ph, ce.symm⟩, by simp⟩
      cases hp : p.phase with
      | «open» => exact absurd hp hnot
      | finished => simp [Pipe.run, Pipe.step, hp, hall]
      | aborted => simp [Pipe.run, Pipe.step, hp]

theorem sim_run (s : Link.St) (p : Pipe.St) (as : List Act) (h : Inv s) (r : R s p) :
    ∃ pas q, Pipe.run p pas = some q ∧ R (Link.run s as) q ∧ pas.length ≤ as.length := by
  induction as generalizing s p with
  | nil => exact ⟨[], p, rfl, r, by simp⟩
  | cons a rest ih =>
    obtain ⟨pas1, q1, hr1, r1, l1⟩ := sim_step s p a h r
    obtain ⟨pas2, q2, hr2, r2, l2⟩ := ih (step s a).1 q1 (step_inv s a h) r1
    refine ⟨pas1 ++ pas2, q2, ?_, r2, by simp; omega⟩
    rw [run_append, hr1]
    simpa using hr2

end Penguin.LinkPipe
