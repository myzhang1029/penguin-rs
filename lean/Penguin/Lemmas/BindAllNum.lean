/-
Counting lemmas for the numeric summary of the pair of bind views (`Lemmas/BindAllAbs.lean`).
Core Lean only.
-/
import Penguin.Lemmas.BindAllAbs
import Penguin.Lemmas.MuxBasic
import Penguin.Lemmas.ListFacts

namespace Penguin.BindAll
open Penguin.Mux
open Penguin.PairAll (inMsgs inMsgs_append)

def KeyX (x : Nat) (P : Nat × Slot → Bool) : Prop := ∀ p, P p = true → p.1 = x

theorem isBR_key (x : Nat) : KeyX x (isBR x) := by
  intro p h; obtain ⟨k, s⟩ := p; cases s <;> simp_all [isBR]
theorem isRQ_key (x : Nat) : KeyX x (isRQ x) := by
  intro p h; obtain ⟨k, s⟩ := p; cases s <;> simp_all [isRQ]
theorem isES_key (x : Nat) : KeyX x (isES x) := by
  intro p h; obtain ⟨k, s⟩ := p; cases s <;> simp_all [isES]

theorem countP_erase_ne {x y : Nat} {P : Nat × Slot → Bool} (hP : KeyX x P) (h : y ≠ x) (fl : List (Nat × Slot)) :
    (Mux.erase fl y).countP P = fl.countP P := by
  simp only [Mux.erase, List.countP_filter]
  apply List.countP_congr
  intro p _
  simp only [Bool.and_eq_true, decide_eq_true_eq]
  constructor
  · intro hq; exact hq.1
  · intro hq; exact ⟨hq, fun hk => h (hk.symm.trans (hP p hq))⟩

theorem countP_erase_self {x : Nat} {P : Nat × Slot → Bool} (hP : KeyX x P) (fl : List (Nat × Slot)) :
    (Mux.erase fl x).countP P = 0 := by
  rw [List.countP_eq_zero]
  intro p hp
  simp only [Mux.erase, List.mem_filter, decide_eq_true_eq] at hp
  intro hq
  exact hp.2 (hP p hq)

theorem countP_of_noKey {x : Nat} {P : Nat × Slot → Bool} (hP : KeyX x P) {fl : List (Nat × Slot)}
    (h : ∀ s, (x, s) ∉ fl) : fl.countP P = 0 := by
  rw [List.countP_eq_zero]
  intro p hp hq
  have := hP p hq
  obtain ⟨k, s⟩ := p
  simp only at this; subst this
  exact h s hp

theorem erase_of_noKey {y : Nat} {fl : List (Nat × Slot)} (h : ∀ s, (y, s) ∉ fl) : Mux.erase fl y = fl := by
  simp only [Mux.erase, List.filter_eq_self, decide_eq_true_eq]
  intro p hp hk
  obtain ⟨k, s⟩ := p
  simp only at hk; subst hk
  exact h s hp

theorem countP_insert_ne {x y : Nat} {P : Nat × Slot → Bool} (hP : KeyX x P) (h : y ≠ x) (fl : List (Nat × Slot)) (s : Slot) :
    (Mux.insert fl y s).countP P = fl.countP P := by
  have : P (y, s) = false := by
    cases hq : P (y, s) with
    | false => rfl
    | true => exact absurd (hP _ hq) h
  simp [Mux.insert, this, countP_erase_ne hP h]

theorem countP_insert_self {x : Nat} {P : Nat × Slot → Bool} (hP : KeyX x P) (fl : List (Nat × Slot)) (s : Slot) :
    (Mux.insert fl x s).countP P = if P (x, s) then 1 else 0 := by
  simp [Mux.insert, List.countP_cons, countP_erase_self hP]

theorem one_le_countP_of_mem {P : Nat × Slot → Bool} {fl : List (Nat × Slot)} {p : Nat × Slot} (h : p ∈ fl) (hp : P p = true) :
    1 ≤ fl.countP P := countP_pos_of_mem h hp

theorem suffix_of_cons_suffix {y : Nat} {r' r : List Nat} (h : (y :: r') <:+ r) : r' <:+ r :=
  (List.suffix_cons y r').trans h

theorem inMsgs_sublist {l' l : List WsIn} (h : l'.Sublist l) : (inMsgs l').Sublist (inMsgs l) :=
  PairAll.inMsgs_sublist h

theorem countP_inMsgs_suffix {l' l : List WsIn} (h : l' <:+ l) (P : Msg → Bool) :
    (inMsgs l').countP P ≤ (inMsgs l).countP P := (inMsgs_sublist h.sublist).countP_le

theorem countP_modify_fid (l : List BindIn) (k : Nat) (f : BindIn → BindIn) (x : Nat) (hf : ∀ b, (f b).fid = b.fid) :
    (l.modify k f).countP (·.fid == x) = l.countP (·.fid == x) :=
  countP_modify_of_eq _ f (fun b => by rw [hf]) l k

theorem parkX_le (x : Nat) (p : Option BindIn) : parkX x p ≤ 1 := by
  cases p with
  | none => simp [parkX]
  | some b => simp only [parkX]; split <;> omega

/-! ### The predicates on constructors (simp lemmas; the definitions themselves are not unfolded) -/

@[simp] theorem isConnX_connect (x : Nat) (f a b : Nat) (c : Bytes) : isConnX x (.frame (.connect f a b c)) = (f == x) := rfl
@[simp] theorem isConnX_acknowledge (x : Nat) (f a : Nat) : isConnX x (.frame (.acknowledge f a)) = false := rfl
@[simp] theorem isConnX_finish (x : Nat) (f : Nat) : isConnX x (.frame (.finish f)) = false := rfl
@[simp] theorem isConnX_reset (x : Nat) (f : Nat) : isConnX x (.frame (.reset f)) = false := rfl
@[simp] theorem isConnX_push (x : Nat) (f : Nat) (a : Bytes) : isConnX x (.frame (.push f a)) = false := rfl
@[simp] theorem isConnX_bind (x : Nat) (f : Nat) (a : BindType) (b : Nat) (c : Bytes) : isConnX x (.frame (.bind f a b c)) = false := rfl
@[simp] theorem isConnX_datagram (x : Nat) (f a : Nat) (b c : Bytes) : isConnX x (.frame (.datagram f a b c)) = false := rfl
@[simp] theorem isConnX_ping (x : Nat) : isConnX x .ping = false := rfl
@[simp] theorem isConnX_pong (x : Nat) : isConnX x .pong = false := rfl
@[simp] theorem isConnX_close (x : Nat) : isConnX x .close = false := rfl
@[simp] theorem isBindX_connect (x : Nat) (f a b : Nat) (c : Bytes) : isBindX x (.frame (.connect f a b c)) = false := rfl
@[simp] theorem isBindX_acknowledge (x : Nat) (f a : Nat) : isBindX x (.frame (.acknowledge f a)) = false := rfl
@[simp] theorem isBindX_finish (x : Nat) (f : Nat) : isBindX x (.frame (.finish f)) = false := rfl
@[simp] theorem isBindX_reset (x : Nat) (f : Nat) : isBindX x (.frame (.reset f)) = false := rfl
@[simp] theorem isBindX_push (x : Nat) (f : Nat) (a : Bytes) : isBindX x (.frame (.push f a)) = false := rfl
@[simp] theorem isBindX_bind (x : Nat) (f : Nat) (a : BindType) (b : Nat) (c : Bytes) : isBindX x (.frame (.bind f a b c)) = (f == x) := rfl
@[simp] theorem isBindX_datagram (x : Nat) (f a : Nat) (b c : Bytes) : isBindX x (.frame (.datagram f a b c)) = false := rfl
@[simp] theorem isBindX_ping (x : Nat) : isBindX x .ping = false := rfl
@[simp] theorem isBindX_pong (x : Nat) : isBindX x .pong = false := rfl
@[simp] theorem isBindX_close (x : Nat) : isBindX x .close = false := rfl
@[simp] theorem isFinX_connect (x : Nat) (f a b : Nat) (c : Bytes) : isFinX x (.frame (.connect f a b c)) = false := rfl
@[simp] theorem isFinX_acknowledge (x : Nat) (f a : Nat) : isFinX x (.frame (.acknowledge f a)) = false := rfl
@[simp] theorem isFinX_finish (x : Nat) (f : Nat) : isFinX x (.frame (.finish f)) = (f == x) := rfl
@[simp] theorem isFinX_reset (x : Nat) (f : Nat) : isFinX x (.frame (.reset f)) = false := rfl
@[simp] theorem isFinX_push (x : Nat) (f : Nat) (a : Bytes) : isFinX x (.frame (.push f a)) = false := rfl
@[simp] theorem isFinX_bind (x : Nat) (f : Nat) (a : BindType) (b : Nat) (c : Bytes) : isFinX x (.frame (.bind f a b c)) = false := rfl
@[simp] theorem isFinX_datagram (x : Nat) (f a : Nat) (b c : Bytes) : isFinX x (.frame (.datagram f a b c)) = false := rfl
@[simp] theorem isFinX_ping (x : Nat) : isFinX x .ping = false := rfl
@[simp] theorem isFinX_pong (x : Nat) : isFinX x .pong = false := rfl
@[simp] theorem isFinX_close (x : Nat) : isFinX x .close = false := rfl
@[simp] theorem isAPX_connect (x : Nat) (f a b : Nat) (c : Bytes) : isAPX x (.frame (.connect f a b c)) = false := rfl
@[simp] theorem isAPX_acknowledge (x : Nat) (f a : Nat) : isAPX x (.frame (.acknowledge f a)) = (f == x) := rfl
@[simp] theorem isAPX_finish (x : Nat) (f : Nat) : isAPX x (.frame (.finish f)) = false := rfl
@[simp] theorem isAPX_reset (x : Nat) (f : Nat) : isAPX x (.frame (.reset f)) = false := rfl
@[simp] theorem isAPX_push (x : Nat) (f : Nat) (a : Bytes) : isAPX x (.frame (.push f a)) = (f == x) := rfl
@[simp] theorem isAPX_bind (x : Nat) (f : Nat) (a : BindType) (b : Nat) (c : Bytes) : isAPX x (.frame (.bind f a b c)) = false := rfl
@[simp] theorem isAPX_datagram (x : Nat) (f a : Nat) (b c : Bytes) : isAPX x (.frame (.datagram f a b c)) = false := rfl
@[simp] theorem isAPX_ping (x : Nat) : isAPX x .ping = false := rfl
@[simp] theorem isAPX_pong (x : Nat) : isAPX x .pong = false := rfl
@[simp] theorem isAPX_close (x : Nat) : isAPX x .close = false := rfl
@[simp] theorem isRstX_connect (x : Nat) (f a b : Nat) (c : Bytes) : isRstX x (.frame (.connect f a b c)) = false := rfl
@[simp] theorem isRstX_acknowledge (x : Nat) (f a : Nat) : isRstX x (.frame (.acknowledge f a)) = false := rfl
@[simp] theorem isRstX_finish (x : Nat) (f : Nat) : isRstX x (.frame (.finish f)) = false := rfl
@[simp] theorem isRstX_reset (x : Nat) (f : Nat) : isRstX x (.frame (.reset f)) = (f == x) := rfl
@[simp] theorem isRstX_push (x : Nat) (f : Nat) (a : Bytes) : isRstX x (.frame (.push f a)) = false := rfl
@[simp] theorem isRstX_bind (x : Nat) (f : Nat) (a : BindType) (b : Nat) (c : Bytes) : isRstX x (.frame (.bind f a b c)) = false := rfl
@[simp] theorem isRstX_datagram (x : Nat) (f a : Nat) (b c : Bytes) : isRstX x (.frame (.datagram f a b c)) = false := rfl
@[simp] theorem isRstX_ping (x : Nat) : isRstX x .ping = false := rfl
@[simp] theorem isRstX_pong (x : Nat) : isRstX x .pong = false := rfl
@[simp] theorem isRstX_close (x : Nat) : isRstX x .close = false := rfl
@[simp] theorem isAsked_asked (x : Nat) (r f : Nat) (a : BindType) (b : Bytes) (c : Nat) : isAsked x (.asked r f a b c) = (f == x) := rfl
@[simp] theorem isAsked_done (x : Nat) (r : Nat) (a : BindRes) : isAsked x (.done r a) = false := rfl
@[simp] theorem isAsked_shown (x : Nat) (r f : Nat) (a : BindType) (b : Bytes) (c : Nat) : isAsked x (.shown r f a b c) = false := rfl
@[simp] theorem isAsked_replied (x : Nat) (r : Nat) (a : Bool) : isAsked x (.replied r a) = false := rfl
@[simp] theorem isAsked_dropped (x : Nat) (r : Nat) : isAsked x (.dropped r) = false := rfl
@[simp] theorem isAsked_muxDropped (x : Nat)  : isAsked x .muxDropped = false := rfl
@[simp] theorem isShown_asked (x : Nat) (r f : Nat) (a : BindType) (b : Bytes) (c : Nat) : isShown x (.asked r f a b c) = false := rfl
@[simp] theorem isShown_done (x : Nat) (r : Nat) (a : BindRes) : isShown x (.done r a) = false := rfl
@[simp] theorem isShown_shown (x : Nat) (r f : Nat) (a : BindType) (b : Bytes) (c : Nat) : isShown x (.shown r f a b c) = (f == x) := rfl
@[simp] theorem isShown_replied (x : Nat) (r : Nat) (a : Bool) : isShown x (.replied r a) = false := rfl
@[simp] theorem isShown_dropped (x : Nat) (r : Nat) : isShown x (.dropped r) = false := rfl
@[simp] theorem isShown_muxDropped (x : Nat)  : isShown x .muxDropped = false := rfl
@[simp] theorem isBR_bindRequested (x k r : Nat) : isBR x (k, .bindRequested r) = (k == x) := rfl
@[simp] theorem isBR_requested (x k r : Nat) : isBR x (k, .requested r) = false := rfl
@[simp] theorem isBR_established (x k r : Nat) : isBR x (k, .established r) = false := rfl
@[simp] theorem isRQ_bindRequested (x k r : Nat) : isRQ x (k, .bindRequested r) = false := rfl
@[simp] theorem isRQ_requested (x k r : Nat) : isRQ x (k, .requested r) = (k == x) := rfl
@[simp] theorem isRQ_established (x k r : Nat) : isRQ x (k, .established r) = false := rfl
@[simp] theorem isES_bindRequested (x k r : Nat) : isES x (k, .bindRequested r) = false := rfl
@[simp] theorem isES_requested (x k r : Nat) : isES x (k, .requested r) = false := rfl
@[simp] theorem isES_established (x k r : Nat) : isES x (k, .established r) = (k == x) := rfl

end Penguin.BindAll
