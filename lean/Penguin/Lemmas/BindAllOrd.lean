/-
The ORDER layer of the invariant of the pair of bind views: the answers (`Finish x` / `Reset x`) that can
still reach the side that asked with `x` (`BC.live`: its inbox, then — while the wire is open — the wire and
the peer's outbound queue) form a FIFO sequence that only loses suffixes; so, if the FIRST recorded reply on
the `BindRequest` of `x` is `reply(true)` and the slot of `x` is still pending, the first answer on that live
path is a `Finish` (`Ord`).  Hence a request refused by a `Reset` was rejected FIRST (`Glob4`).
Core Lean only.
-/
import Penguin.Lemmas.BindAllInv

namespace Penguin.BindAll
open Penguin.Mux
open Penguin.PairAll (inMsgs inMsgs_append)

/-- What can still reach the left side, oldest first. -/
def BC.live (c : BC) : List Msg := inMsgs c.a.inbox ++ (if c.baOpen then c.ba ++ c.b.outq else [])

/-- Nothing new can enter the live path to the left side. -/
def frozen (c : BC) : Prop := c.baOpen = false ∨ c.b.outClosed = true

/-- The first answer for `x` on the live path to the left side is a `Finish`; or there is none and none can come. -/
def OrdOK (x : Nat) (c : BC) : Prop :=
  (ans x c.live).head? = some true ∨ (ans x c.live = [] ∧ frozen c)

structure Wires (c : BC) : Prop where
  ba : c.baOpen = false → c.ba = []
  ab : c.abOpen = false → c.ab = []
  deafA : deafV c.a = true → c.baOpen = false
  deafB : deafV c.b = true → c.abOpen = false

theorem Wires.swap {c : BC} (h : Wires c) : Wires c.swap := ⟨h.ab, h.ba, h.deafB, h.deafA⟩

theorem Wires.listening {c : BC} (hw : Wires c) {m : Msg} {rest : List Msg} (h : c.ba = m :: rest) :
    c.baOpen = true ∧ ¬ deafV c.a = true := by
  have ho : c.baOpen = true := by
    cases ho : c.baOpen with
    | true => rfl
    | false => have := hw.ba ho; rw [h] at this; cases this
  exact ⟨ho, fun hd => by have := hw.deafA hd; rw [ho] at this; cases this⟩

def Ord (c : BC) : Prop :=
  ∀ x k bt host port, (∃ req bt' host' port', BEv.asked req x bt' host' port' ∈ c.ga) →
    BEv.shown k x bt host port ∈ c.gb → FirstAcc k c.gb → (∃ r, (x, Slot.bindRequested r) ∈ c.a.flows) →
    c.b.bindCap ≠ 0 → BEv.muxDropped ∉ c.gb → OrdOK x c

/-- Why a `Reset x` refused the request: as `BackedR`, but a rejection must be the FIRST recorded answer. -/
def BackedF : BC → Nat → Prop := Backed FirstRej

def Glob4 (c : BC) : Prop :=
  ∀ req, BEv.done req .refused ∈ c.ga →
    ∃ x bt host port, BEv.asked req x bt host port ∈ c.ga ∧ (c.a.dead = true ∨ BackedF c x)

structure Inv4 (c : BC) : Prop where
  base : Inv3 c
  wires : Wires c
  shA : ShownHeld c.a c.ga
  shB : ShownHeld c.b c.gb
  ordL : Ord c
  ordR : Ord c.swap
  g4L : Glob4 c
  g4R : Glob4 c.swap

theorem Inv4.swap {c : BC} (h : Inv4 c) : Inv4 c.swap :=
  ⟨h.base.swap, h.wires.swap, h.shB, h.shA, h.ordR, h.ordL, h.g4R, h.g4L⟩

theorem head_append_of_head {l : List Bool} (n : List Bool) (h : l.head? = some true) : (l ++ n).head? = some true := by
  cases l with
  | nil => cases h
  | cons a r => simpa using h

theorem ordCond_prefix {A A' rest : List Bool} (he : A = A' ++ rest) (F F' : Prop) (hF' : F')
    (h : A.head? = some true ∨ (A = [] ∧ F)) : A'.head? = some true ∨ (A' = [] ∧ F') := by
  cases A' with
  | nil => exact Or.inr ⟨rfl, hF'⟩
  | cons a r =>
    rcases h with h | ⟨h, _⟩
    · rw [he] at h; exact Or.inl (by simpa using h)
    · rw [he] at h; cases h

theorem ans_eq_nil_of {x : Nat} {l : List Msg} (h : ∀ m ∈ l, ansOf x m = none) : ans x l = [] := by
  simp only [ans, List.filterMap_eq_nil_iff]
  exact h

theorem ansOf_some {x : Nat} {m : Msg} {b : Bool} (h : ansOf x m = some b) :
    (b = true ∧ m = .frame (.finish x)) ∨ (b = false ∧ m = .frame (.reset x)) := by
  cases m with
  | frame f =>
    cases f with
    | finish fid =>
      simp only [ansOf] at h
      split at h
      · rename_i he; subst he; cases h; exact Or.inl ⟨rfl, rfl⟩
      · cases h
    | reset fid =>
      simp only [ansOf] at h
      split at h
      · rename_i he; subst he; cases h; exact Or.inr ⟨rfl, rfl⟩
      · cases h
    | _ => cases h
  | _ => cases h

theorem ans_closes {x : Nat} {pre : List Msg} (h : ∀ m ∈ pre, m = Msg.close) : ans x pre = [] :=
  ans_eq_nil_of (fun m hm => by rw [h m hm]; rfl)

theorem ans_inMsgs_extra {x : Nat} {extra : List WsIn} (hx : inMsgs extra = [] ∨ inMsgs extra = [.close]) :
    ans x (inMsgs extra) = [] := by
  rcases hx with hx | hx <;> rw [hx] <;> rfl

theorem mem_live_path {c : BC} {m : Msg} (h : m ∈ c.live) : m ∈ c.swap.path := by
  simp only [BC.live, BC.path, BC.swap, List.mem_append] at h ⊢
  rcases h with h | h
  · exact Or.inl (Or.inl h)
  · split at h
    · rcases List.mem_append.mp h with h | h
      · exact Or.inl (Or.inr h)
      · exact Or.inr h
    · cases h

theorem lookup_br_of_mem {fl : List (Nat × Slot)} {x r : Nat} (hm : (x, Slot.bindRequested r) ∈ fl)
    (h1 : fl.countP (isRQ x) = 0) (h2 : fl.countP (isES x) = 0) : ∃ r', lookup fl x = some (.bindRequested r') := by
  induction fl with
  | nil => cases hm
  | cons p fl ih =>
    obtain ⟨k, s⟩ := p
    simp only [List.countP_cons] at h1 h2
    by_cases hk : k = x
    · subst hk
      cases s with
      | bindRequested r' => exact ⟨r', by simp [lookup]⟩
      | requested q => simp at h1
      | established i => simp at h2
    · rcases List.mem_cons.mp hm with h0 | h0
      · simp only [Prod.mk.injEq] at h0; exact absurd h0.1.symm hk
      · obtain ⟨r', hr⟩ := ih h0 (by omega) (by omega)
        exact ⟨r', by simp [lookup, hk, hr]⟩

theorem one_le_shown {g : List BEv} {k y : Nat} {bt : BindType} {h : Bytes} {p : Nat} (hm : BEv.shown k y bt h p ∈ g) :
    1 ≤ g.countP (isShown y) := countP_pos_of_mem hm (by simp)

theorem shown_unique {g : List BEv} {y : Nat} (h : g.countP (isShown y) ≤ 1) {k1 k2 : Nat} {a1 a2 : BindType}
    {b1 b2 : Bytes} {c1 c2 : Nat} (h1 : BEv.shown k1 y a1 b1 c1 ∈ g) (h2 : BEv.shown k2 y a2 b2 c2 ∈ g) : k1 = k2 := by
  induction g with
  | nil => cases h1
  | cons e g ih =>
    simp only [List.countP_cons] at h
    rcases List.mem_cons.mp h1 with e1 | e1 <;> rcases List.mem_cons.mp h2 with e2 | e2
    · rw [← e1] at e2; cases e2; rfl
    · subst e1
      have := one_le_shown e2
      simp only [isShown_shown, beq_self_eq_true, if_true] at h; exfalso; omega
    · subst e2
      have := one_le_shown e1
      simp only [isShown_shown, beq_self_eq_true, if_true] at h; exfalso; omega
    · exact ih (by omega) e1 e2

end Penguin.BindAll
