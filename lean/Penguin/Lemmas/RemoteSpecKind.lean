/-
The converse of the entry-kind forms (C01 glue): an accepted remote is a SOCKS / HTTP / TPROXY entry
point exactly when the last segment of the text is that key word.
-/
import Penguin.Lemmas.RemoteSpecErrors

namespace Penguin.RemoteSpec
open Penguin.Constants

/-- The remote side `rs` is the entry kind named by the text `t`, and only then. -/
def KindIff (rs : RemoteSpec) (t : Str) : Prop :=
  (rs = .socks ↔ t = kwSocks) ∧ (rs = .http ↔ t = kwHttp) ∧ (rs = .tproxy ↔ t = kwTproxy)

theorem kindIff_of_port {t : Str} {n : Nat} (hp : portOrBail t = .ok n) (h : Str) (p : Nat) : KindIff (.inet h p) t := by
  obtain ⟨f1, _⟩ := port_text_facts (portOrBail_ok hp).2
  obtain ⟨n1, n2, n3⟩ := not_special_ne f1
  simp [KindIff, n1, n2, n3]

theorem kindIff_of_special {t : Str} {a : RemoteSpec} (h : remoteSpecial t = .ok a) : KindIff a t := by
  rcases remoteSpecial_ok h with ⟨rfl, rfl⟩ | ⟨rfl, rfl⟩ | ⟨rfl, rfl⟩ <;> (unfold KindIff; decide)

theorem selectArm_lastText (init : List Str) (last : Str) (h : (init ++ [last]).length ≤ 4) :
    (selectArm (init ++ [last])).lastText = last := by
  have key : ∀ ts : List Str, ts.length ≤ 4 → (selectArm ts).lastText = ts.getLast?.getD [] := by
    intro ts h4
    fun_cases selectArm ts
    all_goals try rfl
    next h => exact h.2.symm
    next n1 n2 n3 n4 =>
      rcases no_arm_matches n1 n2 n3 n4 with rfl | h5
      · rfl
      · exact absurd h4 (Nat.not_le.mpr h5)
  rw [key _ h, List.getLast?_concat]
  rfl

theorem evalArm_ok_kind (o : Oracle) (proto : Protocol) {m : Matched} (hg : m.Good) {r : Remote}
    (h : evalArm o proto m = .ok r) : KindIff r.remoteAddr m.lastText := by
  rcases (evalArm_ok o proto hg h).2.2.2 with ⟨_, _, e, hp⟩ | hs
  · exact e ▸ kindIff_of_port hp _ _
  · exact kindIff_of_special hs

/-- An accepted text: the part in front of the protocol suffix was split into tokens, and the remote
    is a SOCKS / HTTP / TPROXY entry point exactly when the LAST token is `socks` / `http` / `tproxy`
    (brackets around it do not matter, upper case does). -/
theorem parse_ok_kind {o : Oracle} {s : Str} {r : Remote} (h : parse o s = .ok r) :
    ∃ rest proto init last, splitProto o s = .ok (rest, proto) ∧ tokenize rest = .ok (init ++ [last]) ∧
      KindIff r.remoteAddr last.text ∧ r.protocol = proto := by
  obtain ⟨rest, proto, toks, hsp, ht, hg, he, _⟩ := parse_ok h
  obtain ⟨hne, hl, _, _⟩ := tokenize_ok ht
  obtain ⟨init, last, rfl⟩ : ∃ init last, toks = init ++ [last] :=
    ⟨toks.dropLast, toks.getLast hne, (List.dropLast_concat_getLast hne).symm⟩
  have hk := evalArm_ok_kind o proto hg he
  have hlt : (selectArm (List.map (fun x => x.text) (init ++ [last]))).lastText = last.text := by
    simpa using selectArm_lastText (init.map (·.text)) last.text (by simpa using hl)
  rw [hlt] at hk
  exact ⟨rest, proto, init, last, hsp, ht, hk, (evalArm_ok_sane o proto hg he).2⟩

end Penguin.RemoteSpec
