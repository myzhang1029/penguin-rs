/-
How the reader scripts of `Model/Socks` run on inputs.  The one induction over `Script` about inputs is `run_factor`
(a run takes a prefix, writes, and leaves a halted script); stability under more input, the bound on what is consumed
and the strict-prefix theorem are read off it.  Also the vocabulary of C18's statements, and `read_request` on a
request with any reserved byte.
-/
import Penguin.Model.Socks
import Penguin.Spec.Rfc1928
import Penguin.Spec.Socks4a

namespace Penguin.Lemmas.Socks
open Penguin Penguin.Socks Penguin.Constants

/-- `hk` is `rfl` for a literal or a constant of `magics.rs`. -/
theorem toNat_eq_iff (t : UInt8) {k : UInt8} {n : Nat} (hk : k.toNat = n) : t.toNat = n ↔ t = k := by
  subst hk; exact UInt8.toNat_inj

theorem splitAtN_append {a : Bytes} {n : Nat} (h : a.length = n) (rest : Bytes) :
    splitAtN n (a ++ rest) = some (a, rest) := by
  subst h
  simp [splitAtN]

theorem splitAtN_some {n : Nat} {p x r : Bytes} (h : splitAtN n p = some (x, r)) : x.length = n ∧ p = x ++ r := by
  simp only [splitAtN] at h
  split at h
  · simp only [Option.some.injEq, Prod.mk.injEq] at h
    obtain ⟨rfl, rfl⟩ := h
    exact ⟨by simp; omega, by simp⟩
  · cases h

theorem splitNul_append_nul (f : Bytes) (hf : ∀ b ∈ f, b ≠ 0) (rest : Bytes) :
    splitNul (f ++ 0 :: rest) = some (f, rest) := by
  induction f with
  | nil => simp [splitNul]
  | cons b f ih =>
    have hb : b ≠ 0 := hf b (by simp)
    have := ih (fun x hx => hf x (by simp [hx]))
    simp [splitNul, hb, this]

theorem splitNul_some_eq {p f r : Bytes} (h : splitNul p = some (f, r)) :
    p = f ++ 0 :: r ∧ ∀ b ∈ f, b ≠ 0 := by
  induction p generalizing f r with
  | nil => simp [splitNul] at h
  | cons b p ih =>
    by_cases hb : b = 0
    · simp [splitNul, hb] at h
      obtain ⟨h1, h2⟩ := h
      subst h1 h2 hb; simp
    · simp only [splitNul, hb, if_false] at h
      cases hp : splitNul p with
      | none => simp [hp] at h
      | some fr =>
        obtain ⟨f', r'⟩ := fr
        simp [hp] at h
        obtain ⟨h1, h2⟩ := h
        subst h1 h2
        obtain ⟨e, hf⟩ := ih hp
        refine ⟨by simp [← e], ?_⟩
        intro x hx
        simp at hx
        rcases hx with rfl | hx
        · exact hb
        · exact hf x hx

section run
variable {α : Type}

theorem run_readN_append {a : Bytes} {n : Nat} (h : a.length = n) (ctx : Ctx) (k : Bytes → Script α)
    (rest : Bytes) (eof : Bool) (c : Nat) (w : Bytes) :
    (Script.readN ctx n k).run (a ++ rest) eof c w = (k a).run rest eof (c + n) w := by
  simp [Script.run, splitAtN_append h]

theorem run_readN4_cons (ctx : Ctx) (k : Bytes → Script α) (a b c' d : UInt8)
    (rest : Bytes) (eof : Bool) (c : Nat) (w : Bytes) :
    (Script.readN ctx 4 k).run (a :: b :: c' :: d :: rest) eof c w
      = (k [a, b, c', d]).run rest eof (c + 4) w :=
  run_readN_append (a := [a, b, c', d]) rfl ctx k rest eof c w

theorem run_readU8_cons (ctx : Ctx) (k : UInt8 → Script α) (b : UInt8)
    (rest : Bytes) (eof : Bool) (c : Nat) (w : Bytes) :
    (readU8 ctx k).run (b :: rest) eof c w = (k b).run rest eof (c + 1) w :=
  run_readN_append (a := [b]) rfl ctx _ rest eof c w

theorem run_readU16_cons (ctx : Ctx) (k : Nat → Script α) (b0 b1 : UInt8)
    (rest : Bytes) (eof : Bool) (c : Nat) (w : Bytes) :
    (readU16 ctx k).run (b0 :: b1 :: rest) eof c w = (k (rd16 b0 b1)).run rest eof (c + 2) w :=
  run_readN_append (a := [b0, b1]) rfl ctx _ rest eof c w

theorem run_readU32_cons (ctx : Ctx) (k : Nat → Script α) (b0 b1 b2 b3 : UInt8)
    (rest : Bytes) (eof : Bool) (c : Nat) (w : Bytes) :
    (readU32 ctx k).run (b0 :: b1 :: b2 :: b3 :: rest) eof c w
      = (k (rd32 b0 b1 b2 b3)).run rest eof (c + 4) w :=
  run_readN_append (a := [b0, b1, b2, b3]) rfl ctx _ rest eof c w

theorem run_readUntilNul_append (ctx : Ctx) (k : Bytes → Script α) (f : Bytes)
    (hf : ∀ b ∈ f, b ≠ 0) (rest : Bytes) (eof : Bool) (c : Nat) (w : Bytes) :
    (Script.readUntilNul ctx k).run (f ++ 0 :: rest) eof c w
      = (k f).run rest eof (c + (f.length + 1)) w := by
  simp [Script.run, splitNul_append_nul f hf]

/-- A script that cannot go on with `rest`: it has returned, failed, or its next read finds too little. -/
inductive Halt : Script α → Bytes → Prop
  | ret (a : α) (rest : Bytes) : Halt (.ret a) rest
  | fail (e : ErrKind) (rest : Bytes) : Halt (.fail e) rest
  | readN (ctx : Ctx) (n : Nat) (k : Bytes → Script α) (rest : Bytes) (h : splitAtN n rest = none) :
      Halt (.readN ctx n k) rest
  | readNul (ctx : Ctx) (k : Bytes → Script α) (rest : Bytes) (h : splitNul rest = none) :
      Halt (.readUntilNul ctx k) rest

theorem Halt.run {s : Script α} {rest : Bytes} (h : Halt s rest) :
    (∃ a, s = .ret a) ∨ (∃ e, s = .fail e) ∨
    ∃ ctx, ∀ eof c w, s.run rest eof c w = if eof then .error (.eof ctx) w else .needMore := by
  cases h with
  | ret a => exact .inl ⟨a, rfl⟩
  | fail e => exact .inr (.inl ⟨e, rfl⟩)
  | readN ctx n k _ h => exact .inr (.inr ⟨ctx, fun eof c w => by simp [Script.run, h]⟩)
  | readNul ctx k _ h => exact .inr (.inr ⟨ctx, fun eof c w => by simp [Script.run, h]⟩)

/-- Every run factors: the script takes a prefix `t` of the input, writes `wr`, and is then a halted script `s'`;
    whatever follows `t`, the run goes on as the run of `s'` on it. -/
theorem run_factor (s : Script α) (inp : Bytes) :
    ∃ (t rest wr : Bytes) (s' : Script α), inp = t ++ rest ∧ Halt s' rest ∧
      ∀ rest' eof c w, s.run (t ++ rest') eof c w = s'.run rest' eof (c + t.length) (w ++ wr) := by
  induction s generalizing inp with
  | ret a => exact ⟨[], inp, [], _, rfl, .ret a inp, by simp⟩
  | fail e => exact ⟨[], inp, [], _, rfl, .fail e inp, by simp⟩
  | write bs k ih =>
    obtain ⟨t, rest, wr, s', e, hh, hr⟩ := ih inp
    exact ⟨t, rest, bs ++ wr, s', e, hh, fun rest' eof c w => by simp only [Script.run, hr, List.append_assoc]⟩
  | readN ctx n k ih =>
    cases hs : splitAtN n inp with
    | none => exact ⟨[], inp, [], _, rfl, .readN ctx n k inp hs, by simp⟩
    | some xr =>
      obtain ⟨x, r⟩ := xr
      obtain ⟨hx, rfl⟩ := splitAtN_some hs
      obtain ⟨t, rest, wr, s', rfl, hh, hr⟩ := ih x r
      refine ⟨x ++ t, rest, wr, s', by simp, hh, fun rest' eof c w => ?_⟩
      rw [List.append_assoc, run_readN_append hx, hr, List.length_append, hx, Nat.add_assoc]
  | readUntilNul ctx k ih =>
    cases hs : splitNul inp with
    | none => exact ⟨[], inp, [], _, rfl, .readNul ctx k inp hs, by simp⟩
    | some fr =>
      obtain ⟨f, r⟩ := fr
      obtain ⟨rfl, hf⟩ := splitNul_some_eq hs
      obtain ⟨t, rest, wr, s', rfl, hh, hr⟩ := ih f r
      refine ⟨f ++ 0 :: t, rest, wr, s', by simp, hh, fun rest' eof c w => ?_⟩
      rw [List.append_assoc, List.cons_append, run_readUntilNul_append _ _ _ hf, hr]
      simp [Nat.add_assoc, Nat.add_comm 1]

theorem run_done_eq {s : Script α} {inp : Bytes} {eof : Bool} {c : Nat} {w : Bytes} {a : α} {c' : Nat} {w' : Bytes}
    (h : s.run inp eof c w = .done a c' w') : ∃ t rest wr, inp = t ++ rest ∧ c' = c + t.length ∧ w' = w ++ wr := by
  obtain ⟨t, rest, wr, s', rfl, hh, hr⟩ := run_factor s inp
  rw [hr] at h
  rcases hh.run with ⟨a0, rfl⟩ | ⟨e, rfl⟩ | ⟨ctx, hs⟩
  · simp only [Script.run, Result.done.injEq] at h
    exact ⟨t, rest, wr, rfl, h.2.1.symm, h.2.2.symm⟩
  · cases h
  · rw [hs] at h; cases eof <;> cases h

theorem run_done_consumed (s : Script α) (p : Bytes) (e : Bool) (c : Nat) (w : Bytes)
    (a : α) (c' : Nat) (w' : Bytes) (h : s.run p e c w = .done a c' w') :
    c ≤ c' ∧ c' ≤ c + p.length := by
  obtain ⟨t, rest, _, rfl, rfl, _⟩ := run_done_eq h
  simp only [List.length_append]; omega

theorem run_append (s : Script α) (p q : Bytes) (e : Bool) (c : Nat) (w : Bytes)
    (h : s.run p false c w ≠ .needMore) : s.run (p ++ q) e c w = s.run p false c w := by
  obtain ⟨t, rest, wr, s', rfl, hh, hr⟩ := run_factor s p
  rw [List.append_assoc, hr, hr] at *
  rcases hh.run with ⟨a0, rfl⟩ | ⟨e0, rfl⟩ | ⟨ctx, hs⟩
  · rfl
  · rfl
  · exact absurd (hs false _ _) h

theorem run_prefix (s : Script α) (p q : Bytes) (eof : Bool) (c : Nat) (w : Bytes)
    (a : α) (c' : Nat) (w' : Bytes)
    (h : s.run (p ++ q) eof c w = .done a c' w') (hl : p.length + c < c') :
    s.run p false c w = .needMore ∧
      ∃ ctx w'', s.run p true c w = .error (.eof ctx) w'' ∧ w''.length ≤ w'.length := by
  -- where the run on `p` halts, the run on `p ++ q` goes on
  obtain ⟨t, rest, wr, s', rfl, hh, hr⟩ := run_factor s p
  rw [List.append_assoc, hr] at h
  rcases hh.run with ⟨a0, rfl⟩ | ⟨e0, rfl⟩ | ⟨ctx, hs⟩
  · simp only [Script.run, Result.done.injEq] at h
    simp only [List.length_append] at hl; omega
  · cases h
  · -- completing never un-writes
    obtain ⟨_, _, _, _, _, rfl⟩ := run_done_eq h
    exact ⟨by rw [hr, hs]; rfl, ctx, _, by rw [hr, hs]; rfl, by simp⟩

/-- `hw` and `hn` have the shape in which the `…_wellformed … [] false` theorems and `simp` deliver them: the input as
    `full ++ []`, the count as a length. -/
theorem run_strict_prefix (s : Script α) {full p q : Bytes} {a : α} {n : Nat}
    (hw : s.run (full ++ []) false 0 [] = .done a n []) (hn : n = full.length) (hpq : full = p ++ q) (hq : q ≠ []) :
    s.run p false 0 [] = .needMore ∧ ∃ ctx, s.run p true 0 [] = .error (.eof ctx) [] := by
  subst hpq hn
  rw [List.append_nil] at hw
  have := List.length_pos_iff.mpr hq
  obtain ⟨h1, ctx, w, h2, h3⟩ := run_prefix s p q false 0 [] _ _ _ hw (by simp; omega)
  cases List.eq_nil_of_length_eq_zero (Nat.le_zero.mp h3)
  exact ⟨h1, ctx, h2⟩

theorem run_readN_done {ctx : Ctx} {n : Nat} {k : Bytes → Script α} {inp : Bytes} {eof : Bool}
    {c : Nat} {w : Bytes} {a : α} {c' : Nat} {w' : Bytes}
    (h : (Script.readN ctx n k).run inp eof c w = .done a c' w') :
    ∃ x rest, x.length = n ∧ inp = x ++ rest ∧ (k x).run rest eof (c + n) w = .done a c' w' := by
  simp only [Script.run] at h
  cases hs : splitAtN n inp with
  | none => rw [hs] at h; cases eof <;> simp at h
  | some xr =>
    obtain ⟨x, r⟩ := xr
    rw [hs] at h
    exact ⟨x, r, (splitAtN_some hs).1, (splitAtN_some hs).2, h⟩

theorem run_readU8_done {ctx : Ctx} {k : UInt8 → Script α} {inp : Bytes} {eof : Bool}
    {c : Nat} {w : Bytes} {a : α} {c' : Nat} {w' : Bytes}
    (h : (readU8 ctx k).run inp eof c w = .done a c' w') :
    ∃ b rest, inp = b :: rest ∧ (k b).run rest eof (c + 1) w = .done a c' w' := by
  unfold readU8 at h
  obtain ⟨x, rest, hx, e, h'⟩ := run_readN_done h
  cases x with
  | nil => simp at hx
  | cons b t =>
    cases t with
    | nil => exact ⟨b, rest, e, by simpa using h'⟩
    | cons _ _ => simp at hx

theorem run_readU16_done {ctx : Ctx} {k : Nat → Script α} {inp : Bytes} {eof : Bool}
    {c : Nat} {w : Bytes} {a : α} {c' : Nat} {w' : Bytes}
    (h : (readU16 ctx k).run inp eof c w = .done a c' w') :
    ∃ b0 b1 rest, inp = b0 :: b1 :: rest ∧ (k (rd16 b0 b1)).run rest eof (c + 2) w = .done a c' w' := by
  unfold readU16 at h
  obtain ⟨x, rest, hx, e, h'⟩ := run_readN_done h
  cases x with
  | nil => simp at hx
  | cons b0 t =>
    cases t with
    | nil => simp at hx
    | cons b1 t =>
      cases t with
      | nil => exact ⟨b0, b1, rest, e, by simpa using h'⟩
      | cons _ _ => simp at hx

theorem run_readU32_done {ctx : Ctx} {k : Nat → Script α} {inp : Bytes} {eof : Bool}
    {c : Nat} {w : Bytes} {a : α} {c' : Nat} {w' : Bytes}
    (h : (readU32 ctx k).run inp eof c w = .done a c' w') :
    ∃ b0 b1 b2 b3 rest, inp = b0 :: b1 :: b2 :: b3 :: rest ∧
      (k (rd32 b0 b1 b2 b3)).run rest eof (c + 4) w = .done a c' w' := by
  unfold readU32 at h
  obtain ⟨x, rest, hx, e, h'⟩ := run_readN_done h
  cases x with
  | nil => simp at hx
  | cons b0 t =>
    cases t with
    | nil => simp at hx
    | cons b1 t =>
      cases t with
      | nil => simp at hx
      | cons b2 t =>
        cases t with
        | nil => simp at hx
        | cons b3 t =>
          cases t with
          | nil => exact ⟨b0, b1, b2, b3, rest, e, by simpa using h'⟩
          | cons _ _ => simp at hx

theorem run_readUntilNul_done {ctx : Ctx} {k : Bytes → Script α} {inp : Bytes} {eof : Bool}
    {c : Nat} {w : Bytes} {a : α} {c' : Nat} {w' : Bytes}
    (h : (Script.readUntilNul ctx k).run inp eof c w = .done a c' w') :
    ∃ f rest, (∀ b ∈ f, b ≠ 0) ∧ inp = f ++ 0 :: rest ∧
      (k f).run rest eof (c + (f.length + 1)) w = .done a c' w' := by
  simp only [Script.run] at h
  cases hs : splitNul inp with
  | none => rw [hs] at h; cases eof <;> simp at h
  | some fr =>
    obtain ⟨f, r⟩ := fr
    rw [hs] at h
    obtain ⟨e, hf⟩ := splitNul_some_eq hs
    exact ⟨f, r, hf, e, h⟩

end run

/-! ### Vocabulary shared by the property statements -/

open Penguin.Spec

/-- An RFC 1928 address as the (kind, raw bytes) pair the model's readers return. -/
def hostOf : Rfc1928.Addr → Host
  | .ipv4 a b c d => ⟨.ipv4, [a, b, c, d]⟩
  | .domain n => ⟨.domain, n⟩
  | .ipv6 o => ⟨.ipv6, o⟩

def addrOf : SockAddr → Rfc1928.Addr
  | .v4 o _ => .ipv4 (o.getD 0 0) (o.getD 1 0) (o.getD 2 0) (o.getD 3 0)
  | .v6 o _ => .ipv6 o

def portOf : SockAddr → Nat
  | .v4 _ p | .v6 _ p => p

/-- A SOCKS5 request as a client may send it when it does not zero the reserved byte. -/
def requestRsv (r : Rfc1928.Request) (rsv : UInt8) : Bytes :=
  [0x05, r.cmd, rsv] ++ Rfc1928.addrBytes r.addr ++ be16 r.port

/-- The extracted SOCKS4a test (`ip >> 8 == 0 && ip != 0` on the big-endian `DSTIP`) is the
    convention's "0.0.0.x with nonzero x". -/
theorem is4aMarker_iff (a b c d : UInt8) :
    is4aMarker (rd32 a b c d) = true ↔ Socks4a.isMarker a b c d := by
  have ha := a.toNat_lt; have hb := b.toNat_lt; have hc := c.toNat_lt; have hd := d.toNat_lt
  simp only [is4aMarker, rd32, Socks4a.isMarker, socks4aMarkerShift, socks4aMarkerNonzero]
  simp only [← UInt8.toNat_inj, ne_eq]
  simp
  omega

theorem addrOf_wf {a : SockAddr} (h : a.wf) : (addrOf a).wf ∧ portOf a < 65536 := by
  cases a with
  | v4 o p => exact ⟨trivial, h.2⟩
  | v6 o p => exact h

theorem parseAddrPort_addrBytes (a : Rfc1928.Addr) (ha : a.wf) (port : Nat) (hp : port < 65536) (d : Bytes) :
    Rfc1928.parseAddrPort (Rfc1928.addrBytes a ++ (be16 port ++ d)) = some (a, port, d) := by
  cases a with
  | ipv4 a b c d' => simp [Rfc1928.addrBytes, Rfc1928.parseAddrPort, be16, rd16_be16 port hp]
  | domain n =>
    simp only [Rfc1928.Addr.wf] at ha
    have hm : n.length % 256 = n.length := by omega
    simp [Rfc1928.addrBytes, Rfc1928.parseAddrPort, be16, rd16_be16 port hp, hm]
  | ipv6 o =>
    simp only [Rfc1928.Addr.wf] at ha
    simp [Rfc1928.addrBytes, Rfc1928.parseAddrPort, be16, rd16_be16 port hp, ha]
    omega

theorem clientParseReply_reply (rep : UInt8) (a : Rfc1928.Addr) (ha : a.wf) (port : Nat) (hp : port < 65536) :
    Rfc1928.clientParseReply (Rfc1928.reply rep a port) = some (rep, a, port) := by
  have := parseAddrPort_addrBytes a ha port hp []
  rw [List.append_nil] at this
  simp [Rfc1928.clientParseReply, Rfc1928.reply, this]

/-- Any reserved byte: the code does not look at it. -/
theorem read5_wellformed_rsv (r : Rfc1928.Request) (h : r.wf) (rsv : UInt8) (rest : Bytes)
    (eof : Bool) :
    read5 (requestRsv r rsv ++ rest) eof
      = .done ⟨r.cmd, hostOf r.addr, r.port⟩ (requestRsv r rsv).length [] := by
  obtain ⟨cmd, addr, port⟩ := r
  obtain ⟨ha, hp⟩ := h
  simp only at ha hp
  cases addr with
  | ipv4 a b c d =>
    simp [read5, readRequest5, readAddress5, requestRsv, Rfc1928.addrBytes, be16,
      run_readU8_cons, run_readU16_cons, run_readN4_cons, Script.run, hostOf, rd16_be16 port hp,
      socksVer5, socksAtypIpv4]
  | domain n =>
    simp only [Rfc1928.Addr.wf] at ha
    have hm : n.length % 256 = n.length := by omega
    simp [read5, readRequest5, readAddress5, requestRsv, Rfc1928.addrBytes, be16,
      run_readU8_cons, run_readU16_cons, run_readN_append (a := n) rfl, Script.run, hostOf,
      rd16_be16 port hp, socksVer5, socksAtypIpv4, socksAtypDomain, hm]
    omega
  | ipv6 o =>
    simp only [Rfc1928.Addr.wf] at ha
    simp [read5, readRequest5, readAddress5, requestRsv, Rfc1928.addrBytes, be16,
      run_readU8_cons, run_readU16_cons, run_readN_append ha, Script.run, hostOf, rd16_be16 port hp,
      socksVer5, socksAtypIpv4, socksAtypDomain, socksAtypIpv6]
    omega

theorem read5_prefix_rsv (r : Rfc1928.Request) (h : r.wf) (rsv : UInt8) (p q : Bytes)
    (hpq : requestRsv r rsv = p ++ q) (hq : q ≠ []) :
    read5 p false = .needMore ∧ ∃ ctx, read5 p true = .error (.eof ctx) [] :=
  run_strict_prefix readRequest5 (read5_wellformed_rsv r h rsv [] false) (by simp) hpq hq

end Penguin.Lemmas.Socks
