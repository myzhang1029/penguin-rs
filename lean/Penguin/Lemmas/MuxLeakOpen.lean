/-
No leak through an abandoned open request: when the caller of `new_stream_channel` has given up (its
future is gone) and the peer's `Acknowledge` arrives afterwards, the stream that the handshake creates
is dropped at once, the task closes its flow in the same stimulus, and no slot ever refers to that
stream's object again.  Same shape as `dropStream_releases_slot` (Lemmas/MuxLeakDrop.lean).
Core Lean only.
-/
import Penguin.Lemmas.MuxLeakDrop
import Penguin.Lemmas.MuxIdle

namespace Penguin.Mux

/-- The `Acknowledge` for a request whose caller is gone: the stream is created and dropped (its id is queued as a
    notification).  (What else the task's loop looks at is unchanged: `Ctl.processFrame`.) -/
theorem processFrame_ack_abandoned (e : EP) (x req n : Nat)
    (hslot : lookup e.flows x = some (.requested req)) (hgone : e.opens.find? (·.req = req) = none) :
    let r := processFrame e (.acknowledge x n) false
    r.2.2 = none ∧ r.2.1 = [] ∧ r.1.droppedq = e.droppedq ++ [x] ∧ ∃ o, r.1.objs[e.objs.length]? = some o ∧ o.fid = x := by
  have h : processFrame e (.acknowledge x n) false =
      ({ (({ e with objs := e.objs ++ [newObj e.opts x n [] 0],
                    flows := insert e.flows x (.established e.objs.length) } : EP).modObj e.objs.length
            (fun o => { o with rxOpen := false })) with droppedq := e.droppedq ++ [x] }, [], none) := by
    simp only [processFrame, hslot, hgone]
  rw [h]
  exact ⟨rfl, rfl, rfl, { (newObj e.opts x n [] 0) with rxOpen := false }, by simp [EP.modObj, setObj], rfl⟩

theorem abandoned_open_releases_slot (e : EP) (x req n : Nat) (hw : WF e) (hs : SlotFidE e) (hidle : IdleE e)
    (hsrc : e.srcEnded = false) (hpark : e.park = none) (hx : x ≠ 0)
    (hslot : lookup e.flows x = some (.requested req)) (hgone : e.opens.find? (·.req = req) = none) :
    NoSlotTo (applyOp e (.deliver (.msg (.frame (.acknowledge x n))))).1 e.objs.length ∧
    e.objs.length < (applyOp e (.deliver (.msg (.frame (.acknowledge x n))))).1.objs.length := by
  -- `e1`: the frame delivered; `e2`: after the receive loop took it
  let w : WsIn := .msg (.frame (.acknowledge x n))
  let e1 : EP := { e with inbox := [w] }
  let i := e.objs.length
  have hop : Mux.opStep e (.deliver (.msg (.frame (.acknowledge x n)))) = (e1, .unit, []) := by
    simp [opStep_deliver, hsrc, hidle.inbox, w, e1]
  have hrecv : recvOne e1 w [] = processFrame e (.acknowledge x n) false := by
    simp only [recvOne, processIn, w, e1, reduceCtorEq, or_self, if_false]
    rw [set_inbox_self e [] hidle.inbox]
  obtain ⟨hex, hev, hq2, o2, ho2, hf2⟩ := processFrame_ack_abandoned e x req n hslot hgone
  have hctl := Ctl.processFrame e (.acknowledge x n) false
  generalize he2 : (processFrame e (.acknowledge x n) false).1 = e2 at hq2 hctl ho2
  have hl1 : settleLoop (2 * e1.inbox.length + e1.droppedq.length + 2) e1 [] = settleLoop 3 e2 [] := by
    have hfuel : 2 * e1.inbox.length + e1.droppedq.length + 2 = 3 + 1 := by simp [e1, hidle.droppedq]
    rw [hfuel, settleLoop_recv_one 3 e1 w [] [] hidle.dead hidle.draining hidle.closing hpark rfl (by rw [hrecv]; exact hex),
      hrecv, hev, he2]
    rfl
  have g2 : Grow e e2 := he2 ▸ Grow.processFrame e (.acknowledge x n) false
  have hw2 : WF e2 := he2 ▸ WF.of_path (.processFrame e (.acknowledge x n) false) hw
  -- the task's loop takes the one notification; the rest of the stimulus only grows the state
  obtain ⟨hn, hi⟩ := settleLoop_notif_noSlot 2 e2 x i o2 hw2 (g2.slotFid hw hs) (hctl.inbox.trans hidle.inbox)
    (by rw [hq2, hidle.droppedq]; rfl) hx (hctl.dead.trans hidle.dead) (hctl.draining.trans hidle.draining)
    (hctl.closing.trans hidle.closing) (hctl.muxAlive.trans hidle.muxAlive) ho2 hf2
  have g := Grow.settle_tail e1
  rw [hl1, show (3 : Nat) = 2 + 1 from rfl] at g
  rw [applyOp_fst, hop]
  dsimp only
  exact ⟨g.noSlot hi hn, Nat.lt_of_lt_of_le hi g.len⟩

end Penguin.Mux
