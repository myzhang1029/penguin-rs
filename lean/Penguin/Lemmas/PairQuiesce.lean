/-
The internal machinery of two conforming endpoints cannot run for ever on its own.

`internal a`: the actions of the connection tasks and of the pending `new_stream_channel` futures
(`xmit`, `recv`, `notif`, `unpark`, `runDone`, `runRetries`) — everything that is not an application
call.  `M p`: a weighted count of what those actions still have to work on —

  * a message on a wire weighs `wMsg m` (Connect 12, Bind 6, Acknowledge 5, Finish 4, Push 4, Reset 2,
    everything else 1), the same message still in an outbound queue one more;
  * a queued dropped-handle notification 4, a parked hand-over 5, a `doneq` entry 1, a `retryq` entry 1;
  * every remaining retry of a pending open request 13 (= a `Connect` in an outbound queue).

The weights are chosen so that whatever an internal action produces weighs less than what it consumes:
`Connect` → `Acknowledge` queued (6) + parked hand-over (5); `Acknowledge` → notification (4) or `Reset`
queued (3); notification / parked hand-over → `Reset` queued (3) or `retryq` entry (1); `Reset` →
`retryq` entry (1); `retryq` entry → `Connect` queued (13) paid for by one retry (13).

Everything here holds for ALL pair states (no invariant needed).
-/
import Penguin.Model.Pair
import Penguin.Lemmas.PairRun
import Penguin.Lemmas.Paying

namespace Penguin.Mux

/-! ### Weights -/

def wMsg : Msg → Nat
  | .frame (.connect ..) => 12
  | .frame (.bind ..) => 6
  | .frame (.acknowledge ..) => 5
  | .frame (.finish _) => 4
  | .frame (.push ..) => 4
  | .frame (.reset _) => 2
  | _ => 1

theorem wMsg_pos (m : Msg) : 0 < wMsg m := by
  cases m with
  | frame f => cases f <;> simp [wMsg]
  | _ => simp [wMsg]

def wWire : List Msg → Nat
  | [] => 0
  | m :: l => wMsg m + wWire l

/-- Messages in an outbound queue: one more each (handing it to the transport is a step). -/
def wOut : List Msg → Nat
  | [] => 0
  | m :: l => wMsg m + 1 + wOut l

@[simp] theorem wWire_append (a b : List Msg) : wWire (a ++ b) = wWire a + wWire b := by
  induction a with
  | nil => simp [wWire]
  | cons m l ih => simp only [List.cons_append, wWire, ih]; omega

@[simp] theorem wOut_append (a b : List Msg) : wOut (a ++ b) = wOut a + wOut b := by
  induction a with
  | nil => simp [wOut]
  | cons m l ih => simp only [List.cons_append, wOut, ih]; omega

def budget : List OpenReq → Nat
  | [] => 0
  | r :: l => 13 * r.retriesLeft + budget l

theorem budget_filter_le (l : List OpenReq) (q : OpenReq → Bool) : budget (l.filter q) ≤ budget l := by
  induction l with
  | nil => simp [budget]
  | cons r l ih =>
    rw [List.filter_cons]
    split
    · simp only [budget]; omega
    · simp only [budget]; omega

theorem budget_filter_mem (l : List OpenReq) (q : OpenReq → Bool) (r : OpenReq) (hr : r ∈ l) (hq : q r = false) :
    budget (l.filter q) + 13 * r.retriesLeft ≤ budget l := by
  induction l with
  | nil => cases hr
  | cons r' l ih =>
    rw [List.filter_cons]
    rcases List.mem_cons.mp hr with h | h
    · subst h
      simp only [hq, budget]
      have := budget_filter_le l q
      simp only [Bool.false_eq_true, ↓reduceIte]
      omega
    · have := ih h
      split
      · simp only [budget]; omega
      · simp only [budget]; omega

def wPark : Option Park → Nat
  | none => 0
  | some _ => 5

def epM (e : EP) : Nat :=
  wOut e.outq + 4 * e.droppedq.length + e.doneq.length + e.retryq.length + wPark e.park + budget e.opens

/-! ### The endpoint model's functions against the measure -/

theorem epM_enq_le (e : EP) (m : Msg) : epM (e.enq m) ≤ epM e + wMsg m + 1 := by
  unfold EP.enq
  split
  · omega
  · simp only [epM, wOut_append, wOut]; omega

theorem epM_enqFrame_le (e : EP) (f : Frame) : epM (e.enqFrame f) ≤ epM e + wMsg (.frame f) + 1 :=
  epM_enq_le e _

@[simp] theorem epM_modObj (e : EP) (i : Nat) (f : Obj → Obj) : epM (e.modObj i f) = epM e := rfl

theorem epM_openRejected (e : EP) (req : Nat) (final : Bool) : epM (openRejected e req final).1 ≤ epM e + 1 := by
  unfold openRejected
  split
  · dsimp only; omega
  · split
    · have := budget_filter_le e.opens (fun r => decide (r.req ≠ req))
      simp only [epM]; omega
    · simp only [epM, List.length_append, List.length_cons, List.length_nil]; omega

theorem epM_closeLocal (e : EP) (s : Slot) (fid : Nat) (inh final : Bool) :
    epM (closeLocal e s fid inh final).1 ≤ epM e + (if inh then 1 else 3) := by
  unfold closeLocal
  cases s with
  | established i =>
    simp only
    cases e.obj? i with
    | none => simp only; split <;> omega
    | some o =>
      simp only
      split
      · rename_i hc
        have := epM_enqFrame_le (e.modObj i (fun o => { o.disallowWrite with senderAlive := false })) (.reset fid)
        simp only [epM_modObj, wMsg] at this
        have hi : inh = false := by
          cases inh
          · rfl
          · simp at hc
        subst hi
        simp only [Bool.false_eq_true, ↓reduceIte]
        omega
      · simp only [epM_modObj]; split <;> omega
  | requested req =>
    have := epM_openRejected e req final
    simp only
    split <;> omega
  | bindRequested req => simp only; split <;> omega

theorem epM_closeFlow (e : EP) (fid : Nat) (inh : Bool) :
    epM (closeFlow e fid inh).1 ≤ epM e + (if inh then 1 else 3) := by
  unfold closeFlow
  cases lookup e.flows fid with
  | none => simp only; split <;> omega
  | some s =>
    have := epM_closeLocal { e with flows := erase e.flows fid } s fid inh false
    exact this

theorem epM_pushDq (x : EP) (fid : Nat) : epM { x with droppedq := x.droppedq ++ [fid] } = epM x + 4 := by
  simp only [epM, List.length_append, List.length_cons, List.length_nil]; omega

theorem wPark_le (o : Option Park) : wPark o ≤ 5 := by cases o <;> simp [wPark]

theorem epM_offerAccept (e : EP) (i : Nat) : epM (offerAccept e i) ≤ epM e + 5 := by
  unfold offerAccept
  split
  · simp only [epM]; omega
  · simp only [epM, wPark]; omega

theorem epM_offerBind (e : EP) (b : BindIn) : epM (offerBind e b) ≤ epM e + 5 := by
  unfold offerBind
  split
  · simp only [epM]; omega
  · simp only [epM, wPark]; omega

theorem epM_connect_drop (x : EP) (i fid n : Nat) (g : Obj → Obj) :
    epM { ((x.enqFrame (.acknowledge fid n)).modObj i g) with droppedq := (x.enqFrame (.acknowledge fid n)).droppedq ++ [fid] }
      ≤ epM x + 10 := by
  have h1 := epM_enqFrame_le x (.acknowledge fid n)
  have h2 := epM_pushDq (x.enqFrame (.acknowledge fid n)) fid
  simp only [wMsg] at h1
  exact Nat.le_trans (Nat.le_of_eq h2) (by omega)

theorem epM_connect_offer (x : EP) (i fid n : Nat) :
    epM (offerAccept (x.enqFrame (.acknowledge fid n)) i) ≤ epM x + 11 := by
  have h1 := epM_enqFrame_le x (.acknowledge fid n)
  have h2 := epM_offerAccept (x.enqFrame (.acknowledge fid n)) i
  simp only [wMsg] at h1
  omega

/-- Whatever processing a frame leaves behind (replies queued, a notification, a parked hand-over, a
    `doneq` / `retryq` entry) weighs less than the frame did on the wire. -/
theorem epM_processFrame (e : EP) (f : Frame) (ig : Bool) :
    epM (processFrame e f ig).1 < epM e + wMsg (.frame f) := by
  have enq : ∀ (x : EP) (g : Frame), epM (x.enqFrame g) ≤ epM x + wMsg (.frame g) + 1 := epM_enqFrame_le
  cases f with
  | connect fid rwnd port host =>
    simp only [processFrame, wMsg]
    split
    · have := enq e (.reset fid); simp only [wMsg] at this; dsimp only; omega
    · split
      · simp only [epM]; omega
      · split
        · exact Nat.lt_of_le_of_lt (epM_connect_drop _ _ _ _ _) (Nat.add_lt_add_left (by decide) (epM e))
        · exact Nat.lt_of_le_of_lt (epM_connect_offer _ _ _ _) (Nat.add_lt_add_left (by decide) (epM e))
  | acknowledge fid n =>
    simp only [processFrame, wMsg]
    split
    · simp only [epM_modObj]; omega
    · split
      · have := budget_filter_le e.opens (fun r => decide (r.req ≠ ‹Nat›))
        simp only [epM, List.length_append, List.length_cons, List.length_nil]; omega
      · simp only [epM, EP.modObj, List.length_append, List.length_cons, List.length_nil]; omega
    · have := enq e (.reset fid); simp only [wMsg] at this; dsimp only; omega
    · have := enq e (.reset fid); simp only [wMsg] at this; dsimp only; omega
  | finish fid =>
    simp only [processFrame, wMsg]
    split
    · have := enq e (.reset fid); simp only [wMsg] at this; dsimp only; omega
    · simp only [epM]; omega
    · rename_i req _
      have := enq { e with flows := erase e.flows fid, opens := e.opens.filter (·.req ≠ req) } (.reset fid)
      have hb := budget_filter_le e.opens (fun r => decide (r.req ≠ req))
      simp only [wMsg] at this
      simp only [epM] at this ⊢
      omega
    · simp only [epM_modObj]; omega
  | reset fid =>
    simp only [processFrame, wMsg]
    have := epM_closeFlow e fid true
    simp only [↓reduceIte] at this
    omega
  | push fid d =>
    simp only [processFrame, wMsg]
    split
    · split
      · dsimp only; omega
      · split
        · have := enq e (.reset fid); simp only [wMsg] at this; dsimp only; omega
        · split
          · dsimp only; omega
          · split
            · simp only [epM_modObj]; omega
            · have := epM_closeFlow e fid false
              simp only [Bool.false_eq_true, ↓reduceIte] at this
              dsimp only; omega
    · have := enq e (.reset fid); simp only [wMsg] at this; dsimp only; omega
  | bind fid bt port host =>
    simp only [processFrame, wMsg]
    split
    · have := enq e (.reset fid); simp only [wMsg] at this; dsimp only; omega
    · split
      · dsimp only; omega
      · split
        · have := enq e (.reset fid); simp only [wMsg] at this; dsimp only; omega
        · have := epM_offerBind e { fid := fid, bt := bt, host := host, port := port }
          dsimp only; omega
  | datagram fid port host d =>
    simp only [processFrame, wMsg]
    split
    · dsimp only; omega
    · split
      · simp only [epM]; omega
      · dsimp only; omega

/-- A parked hand-over either stays parked (nothing changes) or completes, and what it leaves behind
    (a notification, a `Reset`) weighs less than the parked hand-over did. -/
theorem epM_unpark (e : EP) : unpark e = e ∨ epM (unpark e) < epM e := by
  unfold unpark
  split
  · exact Or.inl rfl
  · rename_i i hp
    split
    · right
      split
      · simp only [epM, EP.modObj, hp, wPark, List.length_append, List.length_cons, List.length_nil]; omega
      · simp only [epM, hp, wPark]; omega
    · split
      · right; simp only [epM, hp, wPark]; omega
      · exact Or.inl rfl
  · rename_i b hp
    split
    · right
      have := epM_enqFrame_le { e with park := none } (.reset b.fid)
      simp only [wMsg] at this
      have h0 : epM { e with park := none } + 5 = epM e := by simp only [epM, hp, wPark]; omega
      omega
    · split
      · right; simp only [epM, hp, wPark]; omega
      · exact Or.inl rfl

/-- One more round of a pending open request: the `Connect` it queues is paid for by the retry it uses up. -/
theorem epM_openRound (e : EP) (r : OpenReq) (hr : r ∈ e.opens) : epM (openRound e r).1 ≤ epM e := by
  have hq : (fun x : OpenReq => decide (x.req ≠ r.req)) r = false := by simp
  have hb := budget_filter_mem e.opens (fun x => decide (x.req ≠ r.req)) r hr hq
  have hb' := budget_filter_le e.opens (fun x => decide (x.req ≠ r.req))
  unfold openRound
  split
  · simp only [epM]; omega
  · split
    · simp only [epM]; omega
    · rename_i hne fid rng' fb' _
      dsimp only
      split
      · have h2 := budget_filter_le (e.opens.filter (fun x => decide (x.req ≠ r.req))) (fun x => decide (x.req ≠ r.req))
        simp only [epM, decide_not, ne_eq] at h2 hb hb' ⊢
        omega
      · have h1 := epM_enqFrame_le { e with rng := rng', fallback := fb', flows := insert e.flows fid (.requested r.req), opens := { r with retriesLeft := r.retriesLeft - 1 } :: e.opens.filter (·.req ≠ r.req) } (.connect fid e.opts.rwnd r.port r.host)
        simp only [wMsg] at h1
        refine Nat.le_trans h1 ?_
        simp only [epM, budget]
        omega

theorem epM_runRetries (e : EP) (l : List Nat) : epM (runRetries e l).1 ≤ epM e := by
  induction l generalizing e with
  | nil => exact Nat.le_refl _
  | cons req rest ih =>
    rw [runRetries]
    split
    · exact ih e
    · rename_i r hf
      exact Nat.le_trans (ih _) (epM_openRound e r (List.mem_of_find?_eq_some hf))

theorem epM_runDone (e : EP) (l : List (Nat × Nat)) : epM (runDone e l).1 = epM e := by
  induction l generalizing e with
  | nil => rfl
  | cons x rest ih =>
    obtain ⟨req, i⟩ := x
    rw [runDone]
    exact ih _

theorem epM_setDq (e : EP) (q : List Nat) :
    epM { e with droppedq := q } + 4 * e.droppedq.length = epM e + 4 * q.length := by
  simp only [epM]; omega

theorem epM_setDoneq (e : EP) (q : List (Nat × Nat)) :
    epM { e with doneq := q } + e.doneq.length = epM e + q.length := by
  simp only [epM]; omega

theorem epM_setRetryq (e : EP) (q : List Nat) :
    epM { e with retryq := q } + e.retryq.length = epM e + q.length := by
  simp only [epM]; omega

theorem setDoneq_self (e : EP) (h : e.doneq = []) : { e with doneq := [] } = e := by
  cases e; simp_all

theorem setRetryq_self (e : EP) (h : e.retryq = []) : { e with retryq := [] } = e := by
  cases e; simp_all

end Penguin.Mux

namespace Penguin.Pair
open Penguin.Mux

/-- The actions of the connection tasks and of the pending `new_stream_channel` futures: everything
    that is not an application call. -/
def internal : Act → Bool
  | .xmit | .recv | .notif | .unpark | .runDone | .runRetries => true
  | _ => false

/-- What the internal machinery of the two endpoints still has to work on (see the file header). -/
def M (p : PS) : Nat := epM p.a + epM p.b + wWire p.ab + wWire p.ba

theorem M_swap (p : PS) : M p.swap = M p := by
  simp only [M, PS.swap]; omega

theorem stepL_move (p p' : PS) (a : Act) (ha : a = .xmit ∨ a = .recv) (hs : stepL p a = some p') : M p' < M p := by
  rcases ha with rfl | rfl
  · cases stepL_shape hs with
    | xmit m rest hq =>
      simp only [M, epM, hq, wOut, wWire_append, wWire]
      omega
  · cases stepL_shape hs with
    | recv f rest e evs hp hba hpf =>
      have := epM_processFrame p.a f false
      rw [hpf] at this
      simp only [M, hba, wWire]
      dsimp only at this
      omega

theorem stepL_internal (p p' : PS) (a : Act) (hi : internal a = true) (hs : stepL p a = some p') :
    p' = p ∨ M p' < M p := by
  cases stepL_shape hs with
  | xmit => exact Or.inr (stepL_move _ _ _ (Or.inl rfl) hs)
  | recv => exact Or.inr (stepL_move _ _ _ (Or.inr rfl) hs)
  | notif fid rest hq _ =>
    right
    have := epM_closeFlow { p.a with droppedq := rest } fid false
    dsimp only at this
    have hdq := epM_setDq p.a rest
    simp only [hq, List.length_cons] at hdq
    simp only [Bool.false_eq_true, ↓reduceIte] at this
    simp only [M]
    omega
  | unpark =>
    rcases epM_unpark p.a with h | h
    · left; rw [h]
    · right; simp only [M]; omega
  | runDone =>
    cases hq : p.a.doneq with
    | nil =>
      left
      simp only [List.foldr_nil, setDoneq_self p.a hq, Mux.runDone]
    | cons x rest =>
      right
      have := epM_runDone { p.a with doneq := [] } ((x :: rest).foldr insertDone [])
      dsimp only at this
      have h0 := epM_setDoneq p.a []
      simp only [hq, List.length_cons, List.length_nil] at h0
      simp only [M]
      omega
  | runRetries =>
    cases hq : p.a.retryq with
    | nil =>
      left
      simp only [setRetryq_self p.a hq, sortNat, List.foldr_nil, Mux.runRetries]
    | cons x rest =>
      right
      have := epM_runRetries { p.a with retryq := [] } (sortNat (x :: rest))
      dsimp only at this
      have h0 := epM_setRetryq p.a []
      simp only [hq, List.length_cons, List.length_nil] at h0
      simp only [M]
      omega
  | _ => cases hi

theorem step_internal (p p' : PS) (s : Side) (a : Act) (hi : internal a = true) (hs : step p s a = some p') :
    p' = p ∨ M p' < M p := by
  cases s with
  | A => exact stepL_internal p p' a hi hs
  | B =>
    obtain ⟨q, hq, rfl⟩ := stepR_eq hs
    rcases stepL_internal p.swap q a hi hq with h | h
    · left; rw [h]; rfl
    · right; rw [M_swap] at *; exact h

theorem step_internal_decreases (p p' : PS) (s : Side) (a : Act) (hi : internal a = true)
    (hs : step p s a = some p') (hne : p' ≠ p) : M p' < M p := by
  rcases step_internal p p' s a hi hs with h | h
  · exact absurd h hne
  · exact h

theorem step_internal_le (p p' : PS) (s : Side) (a : Act) (hi : internal a = true) (hs : step p s a = some p') :
    M p' ≤ M p := by
  rcases step_internal p p' s a hi hs with h | h
  · rw [h]; exact Nat.le_refl _
  · omega

theorem step_move (p p' : PS) (s : Side) (a : Act) (ha : a = .xmit ∨ a = .recv) (hs : step p s a = some p') :
    M p' < M p := by
  cases s with
  | A => exact stepL_move p p' a ha hs
  | B =>
    obtain ⟨q, hq, rfl⟩ := stepR_eq hs
    have := stepL_move p.swap q a ha hq
    rw [M_swap] at *; exact this

/-! ### Productive internal actions, schedules, quiescence -/

/-- Internal action `a` of side `s` is *productive* in `p`: it is enabled and has something to do —
    decided through the measure (`productiveI_iff`: this is exactly "enabled and changes the state"). -/
def productiveI (p : PS) (s : Side) (a : Act) : Bool :=
  internal a && match step p s a with
    | some p' => decide (M p' < M p)
    | none => false

/-- Productive = internal, enabled, and the state changes (`unpark` with nothing parked or a still
    full accept queue, `runDone` / `runRetries` with nothing queued are enabled but idle). -/
theorem productiveI_iff (p : PS) (s : Side) (a : Act) :
    productiveI p s a = true ↔ internal a = true ∧ ∃ p', step p s a = some p' ∧ p' ≠ p := by
  unfold productiveI
  constructor
  · intro h
    simp only [Bool.and_eq_true] at h
    obtain ⟨hi, h⟩ := h
    cases hs : step p s a with
    | none => rw [hs] at h; cases h
    | some p' =>
      rw [hs] at h
      simp only [decide_eq_true_eq] at h
      exact ⟨hi, p', rfl, fun he => by rw [he] at h; omega⟩
  · rintro ⟨hi, p', hs, hne⟩
    rw [hi, hs]
    rcases step_internal p p' s a hi hs with h | h
    · exact absurd h hne
    · simp [h]

theorem productiveI_decreases (p : PS) (s : Side) (a : Act) (h : productiveI p s a = true) :
    M (run p [(s, a)]) < M p := by
  unfold productiveI at h
  simp only [Bool.and_eq_true] at h
  cases hs : step p s a with
  | none => rw [hs] at h; cases h.2
  | some p' =>
    rw [hs] at h
    simp only [run, hs, Option.getD_some]
    simpa using h.2

def ProdSched : PS → List (Side × Act) → Prop
  | _, [] => True
  | p, sa :: rest => productiveI p sa.1 sa.2 = true ∧ ProdSched (run p [sa]) rest

instance instDecidableProdSched : (p : PS) → (l : List (Side × Act)) → Decidable (ProdSched p l)
  | _, [] => isTrue trivial
  | p, sa :: rest =>
    match decEq (productiveI p sa.1 sa.2) true, instDecidableProdSched (run p [sa]) rest with
    | isTrue h1, isTrue h2 => isTrue ⟨h1, h2⟩
    | isFalse h1, _ => isFalse (fun h => h1 h.1)
    | _, isFalse h2 => isFalse (fun h => h2 h.2)

def paying : Paying PS (Side × Act) :=
  { next := fun p sa => run p [sa], prod := fun p sa => productiveI p sa.1 sa.2, mu := M,
    pays := fun p sa h => productiveI_decreases p sa.1 sa.2 h,
    run := run, run_nil := fun _ => rfl, run_cons := run_cons,
    Sched := ProdSched, sched_nil := fun _ => trivial, sched_cons := fun _ _ _ => Iff.rfl }

theorem prodSched_append (p : PS) (l1 l2 : List (Side × Act)) :
    ProdSched p (l1 ++ l2) ↔ ProdSched p l1 ∧ ProdSched (run p l1) l2 := paying.sched_append p l1 l2

theorem prodSched_measure (p : PS) (l : List (Side × Act)) (h : ProdSched p l) : l.length + M (run p l) ≤ M p :=
  paying.sched_measure p l h

theorem prodSched_length (p : PS) (l : List (Side × Act)) (h : ProdSched p l) : l.length ≤ M p := by
  have := prodSched_measure p l h; omega

def Quiescent (p : PS) : Prop := ∀ s a, productiveI p s a = false

/-- The internal actions (they carry no parameters). -/
def internalActs : List (Side × Act) :=
  [(.A, .xmit), (.A, .recv), (.A, .notif), (.A, .unpark), (.A, .runDone), (.A, .runRetries),
   (.B, .xmit), (.B, .recv), (.B, .notif), (.B, .unpark), (.B, .runDone), (.B, .runRetries)]

def pickI (p : PS) : Option (Side × Act) := internalActs.find? (fun sa => productiveI p sa.1 sa.2)

theorem pickI_some (p : PS) (sa : Side × Act) (h : pickI p = some sa) : productiveI p sa.1 sa.2 = true := by
  have := List.find?_some h
  exact this

theorem pickI_none (p : PS) (h : pickI p = none) : Quiescent p := by
  intro s a
  cases hp : productiveI p s a with
  | false => rfl
  | true =>
    have hi : internal a = true := by
      unfold productiveI at hp
      simp only [Bool.and_eq_true] at hp
      exact hp.1
    have hall := List.find?_eq_none.mp h
    have hm : (s, a) ∈ internalActs := by
      cases a with
      | xmit | recv | notif | unpark | runDone | runRetries => cases s <;> simp [internalActs]
      | _ => cases hi
    exact absurd hp (hall (s, a) hm)

/-- Quiescence is decidable on concrete states. -/
theorem quiescent_iff (p : PS) : Quiescent p ↔ pickI p = none := by
  constructor
  · intro h
    cases hp : pickI p with
    | none => rfl
    | some sa =>
      have := pickI_some p sa hp
      rw [h sa.1 sa.2] at this
      cases this
  · exact pickI_none p

theorem maximal_quiescent (p : PS) (l : List (Side × Act)) (h : ProdSched p l)
    (hmax : ∀ sa, ¬ ProdSched p (l ++ [sa])) : Quiescent (run p l) :=
  fun s a => paying.maximal_done p l h hmax (s, a)

theorem exists_quiescent (p : PS) : ∃ l, ProdSched p l ∧ Quiescent (run p l) := by
  obtain ⟨l, h1, h2⟩ := paying.exists_done pickI pickI_some p
  exact ⟨l, h1, pickI_none _ h2⟩

def pre (f : Nat → Side × Act) (k : Nat) : List (Side × Act) := (List.range k).map f

/-- An infinite schedule of internal actions cannot be productive for ever: among its first `M p + 1`
    actions there is one that finds nothing to do. -/
theorem schedule_hits_idle (p : PS) (f : Nat → Side × Act) :
    ∃ k, k ≤ M p ∧ ProdSched p (pre f k) ∧ productiveI (run p (pre f k)) (f k).1 (f k).2 = false :=
  paying.hits_idle p f

/-! ### Arbitrary internal schedules: the number of messages moved -/

/-- The number of messages handed to a transport (`xmit`) or taken from it and processed (`recv`) in
    the course of a run (actions that are not enabled are skipped, as in `run`). -/
def moved : PS → List (Side × Act) → Nat
  | _, [] => 0
  | p, (s, a) :: rest =>
    (match a, step p s a with
      | .xmit, some _ => 1
      | .recv, some _ => 1
      | _, _ => 0) + moved ((step p s a).getD p) rest

/-- In any schedule of internal actions whatsoever — productive or not, enabled or not — every message
    handed to a transport or processed pays one unit of the measure. -/
theorem moved_measure (p : PS) (l : List (Side × Act)) (hi : ∀ sa ∈ l, internal sa.2 = true) :
    moved p l + M (run p l) ≤ M p := by
  induction l generalizing p with
  | nil => simp [moved, run]
  | cons sa rest ih =>
    obtain ⟨s, a⟩ := sa
    have hia : internal a = true := hi (s, a) (by simp)
    have hrest : ∀ sa ∈ rest, internal sa.2 = true := fun sa h => hi sa (List.mem_cons_of_mem _ h)
    simp only [moved, run]
    cases hs : step p s a with
    | none =>
      have := ih p hrest
      simp only [Option.getD_none]
      cases a <;> simp only [Nat.zero_add] <;> exact this
    | some p' =>
      have h2 := ih p' hrest
      simp only [Option.getD_some]
      have hle := step_internal_le p p' s a hia hs
      cases a with
      | xmit => have := step_move p p' s .xmit (Or.inl rfl) hs; dsimp only; omega
      | recv => have := step_move p p' s .recv (Or.inr rfl) hs; dsimp only; omega
      | _ => simp only [Nat.zero_add]; omega

end Penguin.Pair
