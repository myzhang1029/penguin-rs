/-
The invariant of the pair model (`Penguin.Pair`): every flow id is, at every moment, in one of five
phases — fresh (still in a script), requested (Connect in flight), half-open (Acknowledge in
flight; the accepting side may already write), linked (the handshake has completed; the flow stays
linked for the rest of the run, also after one or both endpoints have released it: each direction
whose receiver still holds the flow is in the relation `DirRel` with a state of the link model
`Penguin.Link` that satisfies `Link.Inv`, and a direction whose sender has released it in the weaker
`DirRelA`), or dead (torn down before its handshake completed, or the id of a bind request; nothing
is claimed, and it can never come back because ids are never drawn twice).  Definitions and the
generic "a step that concerns flow `y` leaves every other flow's phase alone" lemma.

That is the stream part (`InvCore`).  Bind requests travel on the same connection; the second part
of the invariant (`Binds`) says that the flow id of every bind request that is in transit or that an
endpoint remembers belongs to no stream, now or later (`BoundAt`): it is in the phase dead, and the
bind calls and `Bind` frames never meet a stream slot or a stream object.  `Inv` = `InvCore` + `Binds`.
-/
import Penguin.Model.Pair
import Penguin.Model.Link
import Penguin.Lemmas.PairEff
import Penguin.Lemmas.Link

namespace Penguin.Pair
open Penguin.Mux

/-! ### Messages of one flow on a path -/

def isFl (x : Nat) (m : Msg) : Bool := m.flow? == some x

def fl (x : Nat) (l : List Msg) : List Msg := l.filter (isFl x)

def toItem : Msg → Option Link.Item
  | .frame (.push _ d) => some (.push d)
  | .frame (.finish _) => some .fin
  | .frame (.reset _) => some .rst
  | _ => none

def ackOf : Msg → Option Nat
  | .frame (.acknowledge _ n) => some n
  | _ => none

def noConnect (l : List Msg) : Prop := ∀ m ∈ l, m.isConnect = false

/-- Everything `a` has sent and `b` has not yet processed, oldest first. -/
def pathAB (p : PS) : List Msg := p.ab ++ p.a.outq
def pathBA (p : PS) : List Msg := p.ba ++ p.b.outq

@[simp] theorem fl_append (x : Nat) (a b : List Msg) : fl x (a ++ b) = fl x a ++ fl x b := by
  simp [fl]

@[simp] theorem fl_nil (x : Nat) : fl x [] = [] := rfl

theorem fl_cons (x : Nat) (m : Msg) (l : List Msg) :
    fl x (m :: l) = if isFl x m then m :: fl x l else fl x l := by
  simp [fl, List.filter_cons]

theorem isFl_false_of {x : Nat} {m : Msg} (h : ∀ y, Msg.flow? m = some y → y ≠ x) : isFl x m = false := by
  unfold isFl
  cases hf : m.flow? with
  | none => simp
  | some y => have := h y hf; simp [this]

theorem fl_other (x : Nat) (em : List Msg) (h : ∀ m ∈ em, ∀ y, Msg.flow? m = some y → y ≠ x) : fl x em = [] := by
  induction em with
  | nil => rfl
  | cons m rest ih =>
    rw [fl_cons, isFl_false_of (h m (by simp))]
    exact ih (fun m' hm' => h m' (List.mem_cons_of_mem _ hm'))

theorem fl_self (x : Nat) (em : List Msg) (h : ∀ m ∈ em, Msg.flow? m = some x) : fl x em = em := by
  induction em with
  | nil => rfl
  | cons m rest ih =>
    rw [fl_cons]
    have : isFl x m = true := by simp [isFl, h m (by simp)]
    rw [this, if_pos rfl, ih (fun m' hm' => h m' (List.mem_cons_of_mem _ hm'))]

theorem mem_fl {x : Nat} {m : Msg} {l : List Msg} (h : m ∈ fl x l) : m ∈ l ∧ Msg.flow? m = some x :=
  ⟨(List.mem_filter.mp h).1, by simpa [isFl] using (List.mem_filter.mp h).2⟩

theorem fl_pathBA_cons {p : PS} {m : Msg} {rest : List Msg} {x : Nat} (hba : p.ba = m :: rest) (hm : Msg.flow? m = some x) :
    fl x (pathBA p) = m :: fl x (rest ++ p.b.outq) := by
  unfold pathBA
  rw [hba, List.cons_append, fl_cons]
  simp [isFl, hm]

theorem eff_hout {Y : Nat → Prop} {e e' : EP} (s : Eff Y e e') :
    ∃ em, e'.outq = e.outq ++ em ∧ ∀ m ∈ em, ∀ y, Msg.flow? m = some y → m.isConnect = true → y ∈ e.rng := by
  obtain ⟨em, he, hm⟩ := s.outq
  exact ⟨em, he, fun m hmm y hy hc => (hm m hmm y hy).2 hc⟩

theorem noConnect_out {x : Nat} {p : PS} {e' : EP}
    (hout : ∃ em, e'.outq = p.a.outq ++ em ∧ ∀ m ∈ em, ∀ y, Msg.flow? m = some y → m.isConnect = true → y ∈ p.a.rng)
    (hra : ¬ x ∈ p.a.rng) (hn : noConnect (fl x (pathAB p))) : noConnect (fl x (p.ab ++ e'.outq)) := by
  obtain ⟨em, he, hm⟩ := hout
  rw [he, ← List.append_assoc, fl_append]
  intro m hmm
  rcases List.mem_append.mp hmm with h1 | h1
  · exact hn m h1
  · cases hc : m.isConnect with
    | false => rfl
    | true => exact absurd (hm m (mem_fl h1).1 x (mem_fl h1).2 hc) hra

theorem noConnect_eff {x : Nat} {p : PS} {e' : EP} (s : Eff (· = x) p.a e') (hra : ¬ x ∈ p.a.rng)
    (hn : noConnect (fl x (pathAB p))) : noConnect (fl x (p.ab ++ e'.outq)) :=
  noConnect_out (eff_hout s) hra hn

/-! ### The view of one flow at one endpoint -/

structure EV where
  slot : Option Slot
  objs : Nat → Option Obj          -- the stream objects carrying this flow id
  dq : Prop                        -- a dropped-handle notification for the id is queued
  inRng : Prop                     -- the id is still in the script
  opts : Opts
  wlog : Nat → Bytes
  rlog : Nat → Bytes
  eof : Nat → Bool

def objView (x : Nat) (e : EP) (k : Nat) : Option Obj :=
  match e.objs[k]? with
  | some o => if o.fid = x then some o else none
  | none => none

def ev (x : Nat) (e : EP) (g : Ghost) : EV :=
  { slot := lookup e.flows x
    objs := objView x e
    dq := x ∈ e.droppedq
    inRng := x ∈ e.rng
    opts := e.opts
    wlog := fun k => if (objView x e k).isSome then g.wlog k else []
    rlog := fun k => if (objView x e k).isSome then g.rlog k else []
    eof := fun k => if (objView x e k).isSome then g.eof k else false }

theorem objView_congr (x : Nat) {e e' : EP} (h : e'.objs = e.objs) : objView x e' = objView x e := by
  funext k; simp [objView, h]

theorem objView_self {x : Nat} {e : EP} {i : Nat} {o : Obj} (ho : e.objs[i]? = some o) (hf : o.fid = x) :
    objView x e i = some o := by
  simp [objView, ho, hf]

theorem objView_some {x : Nat} {e : EP} {k : Nat} {o : Obj} (h : objView x e k = some o) :
    e.objs[k]? = some o ∧ o.fid = x := by
  unfold objView at h
  split at h
  · split at h
    · cases h; exact ⟨by assumption, by assumption⟩
    · cases h
  · cases h

theorem objView_append_new (x : Nat) (e e' : EP) (o' : Obj) (h : e'.objs = e.objs ++ [o']) (hf : o'.fid = x) (k : Nat) :
    objView x e' k = if k = e.objs.length then some o' else objView x e k := by
  unfold objView
  rw [h]
  by_cases hk : k = e.objs.length
  · subst hk; simp [hf]
  · rw [if_neg hk]
    rcases Nat.lt_or_ge k e.objs.length with h1 | h1
    · rw [List.getElem?_append_left h1]
    · have h2 : e.objs.length < k := by omega
      have : (e.objs ++ [o'])[k]? = none := by
        rw [List.getElem?_eq_none]; simp; omega
      rw [this, List.getElem?_eq_none h1]

theorem ev_wlog_some {x : Nat} {e : EP} {g : Ghost} {k : Nat} {o : Obj} (h : objView x e k = some o) :
    (ev x e g).wlog k = g.wlog k ∧ (ev x e g).rlog k = g.rlog k ∧ (ev x e g).eof k = g.eof k := by
  simp [ev, h]

/-! ### One direction of a linked flow, related to the link model -/

structure DirRel (oS oR : Obj) (fwd bwd : List Msg) (w r : Bytes) (eof : Bool) (l : Link.St) : Prop where
  inv : Link.Inv l
  hW : l.W = oR.cap
  hWb : oR.cap < 4294967296
  hth : l.th = oR.threshold
  hcredit : l.credit = oS.credit
  hfin : l.sFin = oS.finishSent
  hwire : l.wire = fwd.filterMap toItem
  halive : l.rAlive = oR.senderAlive
  hrxq : l.rxq = oR.rxq
  hbuf : l.buf = oR.buf
  hsince : l.since = oR.recvdSince
  hacks : l.acks = bwd.filterMap ackOf
  hacc : l.accepted = w
  hdel : l.delivered = r
  heof : l.eofSeen = eof
  hrx : oR.rxOpen = false → oR.senderAlive = false

/-- The receiving half of a stream object is still observed by its application: it is open, or a
    read has already returned end-of-stream (after which the object is frozen). It is not after the
    handle was dropped (or for a stream nobody waits for). -/
def ReaderOk (o : Obj) (eof : Bool) : Prop := o.rxOpen = true ∨ eof = true

theorem ReaderOk.eof {o : Obj} {eof : Bool} (h : ReaderOk o eof) (hr : o.rxOpen = false) : eof = true :=
  h.resolve_left (by rw [hr]; exact Bool.false_ne_true)

/-- Everything up to and including the first end marker (what follows — the `Reset` replies of an
    endpoint that no longer knows the flow — is noise). -/
def cutEnd : List Link.Item → List Link.Item
  | [] => []
  | .push d :: rest => .push d :: cutEnd rest
  | x :: _ => [x]

def noReset (l : List Msg) : Prop := ∀ m ∈ l, ∀ y, m ≠ .frame (.reset y)

/-- One direction whose sending endpoint has released the flow (its object is closed for writing):
    the receiver's side is still a state of the link model, with the sender finished. The sender's
    credit and the acknowledgements no longer matter. -/
structure DirRelA (oR : Obj) (fwd : List Msg) (w r : Bytes) (eof : Bool) (l : Link.St) : Prop where
  inv : Link.Inv l
  hW : l.W = oR.cap
  hWb : oR.cap < 4294967296
  hth : l.th = oR.threshold
  hfin : l.sFin = true
  hwire : l.wire = if oR.senderAlive then cutEnd (fwd.filterMap toItem) else []
  halive : l.rAlive = oR.senderAlive
  hrxq : l.rxq = oR.rxq
  hbuf : l.buf = oR.buf
  hsince : l.since = oR.recvdSince
  hacc : l.accepted = w
  hdel : l.delivered = r
  heof : l.eofSeen = eof
  hrx : oR.rxOpen = false → oR.senderAlive = false

def noPushAfterEnd : List Link.Item → Bool
  | [] => true
  | .push _ :: rest => noPushAfterEnd rest
  | _ :: rest => (Link.pushes rest).isEmpty

/-- What holds for the path `S → R` of a linked flow whether or not `R`'s application still observes
    it: data never follows an end marker; an end marker is on the way only if the sender's write side
    is closed; once the receiving slot has seen the end, no data is in flight. -/
structure Wire (oS oR : Obj) (sR : Option Slot) (fwd : List Msg) : Prop where
  shape : noPushAfterEnd (fwd.filterMap toItem) = true
  ended : Link.hasEnd (fwd.filterMap toItem) = true → oS.finishSent = true
  quiet : sR ≠ none → oR.senderAlive = false → Link.pushes (fwd.filterMap toItem) = [] ∧ oS.finishSent = true

/-- The slot of a linked flow at one endpoint: established with the flow's object, or released — then
    the object is closed in both directions. -/
def SlotOk (s : Option Slot) (i : Nat) (o : Obj) : Prop :=
  s = some (.established i) ∨ (s = none ∧ o.finishSent = true ∧ o.senderAlive = false)

/-- What is claimed for the direction `S → R` of a linked flow, as long as `R`'s application still
    observes its receiving half: the full relation while `S` holds the flow, the frozen-sender
    relation after `S` released it. -/
def Claim (sS : Option Slot) (oS oR : Obj) (fwd bwd : List Msg) (w r : Bytes) (eof : Bool) : Prop :=
  ReaderOk oR eof →
    (sS ≠ none → ∃ l, DirRel oS oR fwd bwd w r eof l) ∧ (sS = none → ∃ l, DirRelA oR fwd w r eof l)

/-! ### Phases -/

def NoObj (v : EV) : Prop := ∀ k, v.objs k = none
def OnlyObj (v : EV) (i : Nat) : Prop := ∀ k, k ≠ i → v.objs k = none

structure Fresh (x : Nat) (va vb : EV) (fab fba : List Msg) : Prop where
  inRng : va.inRng ∨ vb.inRng
  sa : va.slot = none
  sb : vb.slot = none
  fab : fab = []
  fba : fba = []
  oa : NoObj va
  ob : NoObj vb
  da : ¬ va.dq
  db : ¬ vb.dq

/-- `a` has sent `Connect`; `b` has not seen it yet. -/
structure Requested (x : Nat) (va vb : EV) (fab fba : List Msg) : Prop where
  ra : ¬ va.inRng
  rb : ¬ vb.inRng
  x0 : x ≠ 0
  sa : ∃ req, va.slot = some (.requested req)
  sb : vb.slot = none
  fab : ∃ port host, fab = [.frame (.connect x va.opts.rwnd port host)]
  fba : fba = []
  oa : NoObj va
  ob : NoObj vb
  da : ¬ va.dq
  db : ¬ vb.dq

/-- `b` has accepted the stream and sent `Acknowledge`; `a` has not seen it yet. `b` may already
    write: its direction is related to the link model with the object `a` is going to create. -/
structure HalfOpen (x : Nat) (va vb : EV) (fab fba : List Msg) : Prop where
  ra : ¬ va.inRng
  rb : ¬ vb.inRng
  sa : ∃ req, va.slot = some (.requested req)
  oa : NoObj va
  da : ¬ va.dq
  fab : fab = []
  body : ∃ j oP rest l,
    vb.slot = some (.established j) ∧ vb.objs j = some oP ∧ OnlyObj vb j ∧
    fba = .frame (.acknowledge x vb.opts.rwnd) :: rest ∧
    (∀ m ∈ rest, m.isConnect = false ∧ ackOf m = none) ∧
    oP.cap = vb.opts.rwnd ∧ oP.threshold = thresholdFor vb.opts va.opts.rwnd ∧
    oP.rxq = [] ∧ oP.buf = [] ∧ oP.recvdSince = 0 ∧ oP.senderAlive = true ∧
    DirRel oP (newObj va.opts x vb.opts.rwnd [] 0) rest [] (vb.wlog j) [] false l ∧
    vb.rlog j = [] ∧ vb.eof j = false ∧ (¬ vb.dq → oP.rxOpen = true) ∧ noReset rest ∧
    noPushAfterEnd (rest.filterMap toItem) = true ∧ (Link.hasEnd (rest.filterMap toItem) = true → oP.finishSent = true) ∧
    (vb.dq → oP.rxOpen = false)

/-- The flow has been established on both endpoints (it may since have been released on one or
    both): each endpoint has exactly one object for it; per direction the claim above holds. While an
    endpoint holds the flow it has sent no `Reset` for it. -/
structure Linked (x : Nat) (va vb : EV) (fab fba : List Msg) : Prop where
  ra : ¬ va.inRng
  rb : ¬ vb.inRng
  nab : noConnect fab
  nba : noConnect fba
  body : ∃ i j oA oB,
    va.objs i = some oA ∧ vb.objs j = some oB ∧ OnlyObj va i ∧ OnlyObj vb j ∧
    oA.cap = va.opts.rwnd ∧ oB.cap = vb.opts.rwnd ∧
    SlotOk va.slot i oA ∧ SlotOk vb.slot j oB ∧
    (va.slot ≠ none → noReset fab) ∧ (vb.slot ≠ none → noReset fba) ∧
    Wire oA oB vb.slot fab ∧ Wire oB oA va.slot fba ∧
    (va.dq → oA.rxOpen = false) ∧ (vb.dq → oB.rxOpen = false) ∧
    Claim va.slot oA oB fab fba (va.wlog i) (vb.rlog j) (vb.eof j) ∧
    Claim vb.slot oB oA fba fab (vb.wlog j) (va.rlog i) (va.eof i)

/-- Nothing is claimed: the flow, which never was linked, is released on at least one endpoint, or a
    `Reset` for it is in flight. It never becomes linked. -/
structure Dead (x : Nat) (va vb : EV) (fab fba : List Msg) : Prop where
  ra : ¬ va.inRng
  rb : ¬ vb.inRng
  nab : noConnect fab
  nba : noConnect fba
  gone : va.slot = none ∨ vb.slot = none ∨ ¬ noReset fab ∨ ¬ noReset fba

def PhV (x : Nat) (va vb : EV) (fab fba : List Msg) : Prop :=
  Fresh x va vb fab fba ∨ Requested x va vb fab fba ∨ Requested x vb va fba fab ∨
  HalfOpen x va vb fab fba ∨ HalfOpen x vb va fba fab ∨ Linked x va vb fab fba ∨ Dead x va vb fab fba

def Phase (x : Nat) (p : PS) : Prop :=
  PhV x (ev x p.a p.ga) (ev x p.b p.gb) (fl x (pathAB p)) (fl x (pathBA p))

/-! ### Connection-level facts -/

structure Running (e : EP) : Prop where
  outClosed : e.outClosed = false
  muxAlive : e.muxAlive = true
  dead : e.dead = false
  rwndPos : 0 < e.opts.rwnd
  rwndU32 : e.opts.rwnd < 4294967296

def GhostFresh (e : EP) (g : Ghost) : Prop :=
  ∀ k, e.objs.length ≤ k → g.wlog k = [] ∧ g.rlog k = [] ∧ g.eof k = false

structure InvCore (p : PS) : Prop where
  runA : Running p.a
  runB : Running p.b
  sfA : SlotFid p.a
  sfB : SlotFid p.b
  nodup : (p.a.rng ++ p.b.rng).Nodup
  nonzero : ∀ k ∈ p.a.rng ++ p.b.rng, k ≠ 0
  ghA : GhostFresh p.a p.ga
  ghB : GhostFresh p.b p.gb
  phase : ∀ x, Phase x p
  live : ∀ x ∈ p.linked, Linked x (ev x p.a p.ga) (ev x p.b p.gb) (fl x (pathAB p)) (fl x (pathBA p))

/-! ### Bind requests: their flow ids stay apart from every stream -/

def isBindMsg : Msg → Bool
  | .frame (.bind ..) => true
  | _ => false

def hasBind (l : List Msg) : Prop := ∃ m ∈ l, isBindMsg m = true

/-- The flow ids of the bind requests of the peer an endpoint has received and not forgotten: the
    one its receive loop is parked with, those in its bind queue, those handed to the application. -/
def bindIds (e : EP) : List Nat :=
  e.bindq.map (·.fid) ++ e.held.map (·.fid) ++ (match e.park with | some (.bind b) => [b.fid] | _ => [])

/-- Flow id `x` is (or was) the id of a bind request: a `Bind` frame carrying it is in transit, or
    one endpoint has received such a frame. -/
def Marked (x : Nat) (p : PS) : Prop :=
  hasBind (fl x (pathAB p)) ∨ hasBind (fl x (pathBA p)) ∨ x ∈ bindIds p.a ∨ x ∈ bindIds p.b

/-- Flow id `x` belongs to no stream, now or later: it has left both scripts, no `Connect` carries it,
    no stream object carries it on either endpoint, neither endpoint has a stream slot for it (at most
    the requester's `BindRequested` slot), and at least one endpoint has no slot at all. -/
structure BoundAt (x : Nat) (p : PS) : Prop where
  ra : ¬ x ∈ p.a.rng
  rb : ¬ x ∈ p.b.rng
  nab : noConnect (fl x (pathAB p))
  nba : noConnect (fl x (pathBA p))
  oa : ∀ (k : Nat) (o : Obj), p.a.objs[k]? = some o → o.fid ≠ x
  ob : ∀ (k : Nat) (o : Obj), p.b.objs[k]? = some o → o.fid ≠ x
  sa : lookup p.a.flows x = none ∨ ∃ r, lookup p.a.flows x = some (.bindRequested r)
  sb : lookup p.b.flows x = none ∨ ∃ r, lookup p.b.flows x = some (.bindRequested r)
  gone : lookup p.a.flows x = none ∨ lookup p.b.flows x = none

def Binds (p : PS) : Prop := ∀ x, Marked x p → BoundAt x p

structure Inv (p : PS) : Prop extends InvCore p where
  binds : Binds p

/-! ### Symmetry -/

theorem Fresh.swap {x : Nat} {va vb : EV} {fab fba : List Msg} (h : Fresh x va vb fab fba) : Fresh x vb va fba fab :=
  ⟨h.inRng.symm, h.sb, h.sa, h.fba, h.fab, h.ob, h.oa, h.db, h.da⟩

theorem Dead.swap {x : Nat} {va vb : EV} {fab fba : List Msg} (h : Dead x va vb fab fba) : Dead x vb va fba fab :=
  ⟨h.rb, h.ra, h.nba, h.nab, by
    rcases h.gone with g | g | g | g
    · exact Or.inr (Or.inl g)
    · exact Or.inl g
    · exact Or.inr (Or.inr (Or.inr g))
    · exact Or.inr (Or.inr (Or.inl g))⟩

theorem Linked.swap {x : Nat} {va vb : EV} {fab fba : List Msg} (h : Linked x va vb fab fba) : Linked x vb va fba fab := by
  obtain ⟨i, j, oA, oB, h3, h4, h5, h6, c1, c2, s1, s2, n1, n2, w1, w2, d1, d2, k1, k2⟩ := h.body
  exact ⟨h.rb, h.ra, h.nba, h.nab, ⟨j, i, oB, oA, h4, h3, h6, h5, c2, c1, s2, s1, n2, n1, w2, w1, d2, d1, k2, k1⟩⟩

theorem PhV.swap {x : Nat} {va vb : EV} {fab fba : List Msg} (h : PhV x va vb fab fba) : PhV x vb va fba fab := by
  rcases h with h | h | h | h | h | h | h
  · exact Or.inl h.swap
  · exact Or.inr (Or.inr (Or.inl h))
  · exact Or.inr (Or.inl h)
  · exact Or.inr (Or.inr (Or.inr (Or.inr (Or.inl h))))
  · exact Or.inr (Or.inr (Or.inr (Or.inl h)))
  · exact Or.inr (Or.inr (Or.inr (Or.inr (Or.inr (Or.inl h.swap)))))
  · exact Or.inr (Or.inr (Or.inr (Or.inr (Or.inr (Or.inr h.swap)))))

theorem Phase.swap {x : Nat} {p : PS} (h : Phase x p) : Phase x p.swap := PhV.swap h

theorem InvCore.swap {p : PS} (h : InvCore p) : InvCore p.swap := by
  refine ⟨h.runB, h.runA, h.sfB, h.sfA, ?_, ?_, h.ghB, h.ghA, fun x => (h.phase x).swap, fun x hx => (h.live x hx).swap⟩
  · have := h.nodup
    simp only [PS.swap]
    rw [List.nodup_append] at this ⊢
    obtain ⟨h1, h2, h3⟩ := this
    exact ⟨h2, h1, fun a ha b hb hab => h3 b hb a ha hab.symm⟩
  · intro k hk
    apply h.nonzero k
    simp only [PS.swap, List.mem_append] at hk ⊢
    exact hk.symm

theorem Marked.of_swap {x : Nat} {p : PS} (h : Marked x p.swap) : Marked x p := by
  rcases h with h | h | h | h
  · exact Or.inr (Or.inl h)
  · exact Or.inl h
  · exact Or.inr (Or.inr (Or.inr h))
  · exact Or.inr (Or.inr (Or.inl h))

theorem BoundAt.swap {x : Nat} {p : PS} (h : BoundAt x p) : BoundAt x p.swap :=
  ⟨h.rb, h.ra, h.nba, h.nab, h.ob, h.oa, h.sb, h.sa, h.gone.symm⟩

theorem Inv.swap {p : PS} (h : Inv p) : Inv p.swap :=
  ⟨h.toInvCore.swap, fun x hx => (h.binds x hx.of_swap).swap⟩

/-! ### The view of a flow the step does not concern -/

theorem objView_eq_of_eff {Y : Nat → Prop} {e e' : EP} (s : Eff Y e e') (x : Nat) (hx : ¬ Y x) :
    objView x e' = objView x e := by
  funext k
  unfold objView
  cases h' : e'.objs[k]? with
  | none =>
    cases h : e.objs[k]? with
    | none => rfl
    | some o =>
      obtain ⟨o2, h2, _⟩ := s.fid k o h
      rw [h'] at h2; cases h2
  | some o' =>
    cases h : e.objs[k]? with
    | none =>
      have hk : e.objs.length ≤ k := by
        rcases Nat.lt_or_ge k e.objs.length with h1 | h1
        · have : e.objs[k]? = some e.objs[k] := by simp [h1]
          rw [h] at this; cases this
        · exact h1
      have := s.fresh k o' hk h'
      simp only
      have hne : o'.fid ≠ x := fun hh => hx (hh ▸ this)
      simp [hne]
    | some o =>
      obtain ⟨o2, h2, f2⟩ := s.fid k o h
      rw [h'] at h2; cases h2
      simp only
      by_cases hf : o.fid = x
      · have : ¬ Y o.fid := by rw [hf]; exact hx
        have := s.keep k o h this
        rw [h'] at this; cases this
        rfl
      · have : ¬ o'.fid = x := by rw [f2]; exact hf
        simp [hf, this]

def GhostAgree (x : Nat) (e : EP) (g g' : Ghost) : Prop :=
  ∀ k, (objView x e k).isSome → g'.wlog k = g.wlog k ∧ g'.rlog k = g.rlog k ∧ g'.eof k = g.eof k

theorem ev_eq_of_eff {Y : Nat → Prop} {e e' : EP} {g g' : Ghost} (s : Eff Y e e') (x : Nat) (hx : ¬ Y x)
    (hg : GhostAgree x e g g') : ev x e' g' = ev x e g := by
  have ho := objView_eq_of_eff s x hx
  unfold ev
  rw [ho, s.flows x hx, s.opts]
  have h1 : (x ∈ e'.droppedq) = (x ∈ e.droppedq) := propext (s.dq x hx)
  have h2 : (x ∈ e'.rng) = (x ∈ e.rng) := propext (s.rng x hx)
  rw [h1, h2]
  congr 1
  · funext k
    by_cases hk : (objView x e k).isSome
    · simp [hk, (hg k hk).1]
    · simp [hk]
  · funext k
    by_cases hk : (objView x e k).isSome
    · simp [hk, (hg k hk).2.1]
    · simp [hk]
  · funext k
    by_cases hk : (objView x e k).isSome
    · simp [hk, (hg k hk).2.2]
    · simp [hk]

theorem GhostAgree.refl (x : Nat) (e : EP) (g : Ghost) : GhostAgree x e g g := fun _ _ => ⟨rfl, rfl, rfl⟩

theorem Phase.congr {x : Nat} {p p' : PS} (ha : ev x p'.a p'.ga = ev x p.a p.ga) (hb : ev x p'.b p'.gb = ev x p.b p.gb)
    (hab : fl x (pathAB p') = fl x (pathAB p)) (hba : fl x (pathBA p') = fl x (pathBA p)) (h : Phase x p) :
    Phase x p' := by
  unfold Phase at *
  rw [ha, hb, hab, hba]; exact h

theorem Linked.congr {x : Nat} {p p' : PS} (ha : ev x p'.a p'.ga = ev x p.a p.ga) (hb : ev x p'.b p'.gb = ev x p.b p.gb)
    (hab : fl x (pathAB p') = fl x (pathAB p)) (hba : fl x (pathBA p') = fl x (pathBA p))
    (h : Linked x (ev x p.a p.ga) (ev x p.b p.gb) (fl x (pathAB p)) (fl x (pathBA p))) :
    Linked x (ev x p'.a p'.ga) (ev x p'.b p'.gb) (fl x (pathAB p')) (fl x (pathBA p')) := by
  rw [ha, hb, hab, hba]; exact h

def PhaseL (x : Nat) (p : PS) : Prop :=
  Phase x p ∧ (x ∈ p.linked → Linked x (ev x p.a p.ga) (ev x p.b p.gb) (fl x (pathAB p)) (fl x (pathBA p)))

theorem InvCore.phaseL {p : PS} (h : InvCore p) (x : Nat) : PhaseL x p := ⟨h.phase x, h.live x⟩

end Penguin.Pair
