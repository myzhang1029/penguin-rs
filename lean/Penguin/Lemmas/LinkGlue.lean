/-
The link model's actions are the endpoint model's functions projected onto one stream object: what the
endpoint function does to the object the handle / the flow's slot refers to and which frame it emits,
clause by clause the definition of `Link.step` — for `write` (`appWrite_glue`), `shutdown` (`appShutdown_glue`),
`deliver` of a `Push` and of a `Finish` (`processFrame_push_glue`, `processFrame_finish_glue`), `deliverAck`
(`processFrame_ack_glue`) and the counting step of `read` (`ackStep_glue` = `countFrame`).  There is no lemma
here for the rest of `read`, for `abort`, or for the delivery of a `Reset`.
-/
import Penguin.Model.Mux
import Penguin.Model.Link
import Penguin.Lemmas.MuxBasic

namespace Penguin.Mux

/-- `Link.step (.write d)`: BrokenPipe once finished; an empty write is a no-op (either way only the
    'a write call is waiting' flag is cleared); without credit the
    call is pending and only the waker registration changes; otherwise exactly one unit of credit is
    taken and exactly one `Push` with the whole payload is queued. -/
theorem appWrite_glue (e : EP) (h i : Nat) (o : Obj) (d : Bytes)
    (hh : e.handles[h]? = some i) (ho : e.objs[i]? = some o) :
    (o.finishSent = true →
        (appWrite e h d).2 = .brokenPipe ∧ (appWrite e h d).1.outq = e.outq ∧
        (appWrite e h d).1.objs[i]? = some { o with parked := false }) ∧
    (o.finishSent = false → d = [] →
        (appWrite e h d).2 = .wrote 0 ∧ (appWrite e h d).1.outq = e.outq ∧
        (appWrite e h d).1.objs[i]? = some { o with parked := false }) ∧
    (o.finishSent = false → d ≠ [] → o.credit = 0 →
        (appWrite e h d).2 = .pending ∧ (appWrite e h d).1.outq = e.outq ∧
        (appWrite e h d).1.objs[i]? = some { o with parked := true, woken := false }) ∧
    (o.finishSent = false → d ≠ [] → o.credit ≠ 0 → e.outClosed = false →
        (appWrite e h d).2 = .wrote d.length ∧
        (appWrite e h d).1.outq = e.outq ++ [.frame (.push o.fid d)] ∧
        (appWrite e h d).1.objs[i]? = some { o with credit := o.credit - 1, parked := false }) := by
  have hobj := handleObj_of hh ho
  refine ⟨?_, ?_, ?_, ?_⟩
  · intro hf; simp [appWrite, hobj, hf, modObj_get_self, ho]
  · intro hf hd; subst hd; simp [appWrite, hobj, hf, modObj_get_self, ho]
  · intro hf hd hc
    have hde : d.isEmpty = false := by cases d <;> simp_all
    simp [appWrite, hobj, hf, hde, hc, modObj_get_self, ho]
  · intro hf hd hc hoc
    have hde : d.isEmpty = false := by cases d <;> simp_all
    simp [appWrite, hobj, hf, hde, hc, hoc, EP.enqFrame, enq_outq, modObj_get_self, ho]

/-- `Link.step .deliver` for a `Push`: queued if the window has room; on overrun the flow is closed
    (`processFrame_overrun`); a flow whose reader side is closed answers with `Reset`. -/
theorem processFrame_push_glue (e : EP) (fid i : Nat) (o : Obj) (d : Bytes) (ig : Bool)
    (hs : lookup e.flows fid = some (.established i)) (ho : e.objs[i]? = some o)
    (halive : o.senderAlive = true) (hopen : o.rxOpen = true) (hroom : o.rxq.length < o.cap) :
    (processFrame e (.push fid d) ig).1.objs[i]? = some { o with rxq := o.rxq ++ [d] } ∧
    (processFrame e (.push fid d) ig).1.outq = e.outq ∧
    (processFrame e (.push fid d) ig).1.flows = e.flows := by
  have ho' : e.obj? i = some o := ho
  simp [processFrame, hs, ho', halive, hopen, hroom, modObj_get_self, ho]

/-- `Link.step .deliverAck`: the credit grows by the acknowledged count (32-bit wrap-around, which
    the credit invariant shows never happens between conforming endpoints) and the writer is woken. -/
theorem processFrame_ack_glue (e : EP) (fid i n : Nat) (o : Obj) (ig : Bool)
    (hs : lookup e.flows fid = some (.established i)) (ho : e.objs[i]? = some o) :
    (processFrame e (.acknowledge fid n) ig).1.objs[i]? =
        some { o.wake with credit := (o.credit + n) % 4294967296 } ∧
    (processFrame e (.acknowledge fid n) ig).1.outq = e.outq ∧
    (processFrame e (.acknowledge fid n) ig).1.flows = e.flows := by
  simp [processFrame, hs, modObj_get_self, ho, Obj.wake]

/-- `Link.step .deliver` for `Finish`: the reader will see end-of-stream once its queue is drained;
    nothing else changes (the write direction stays usable: half-close). -/
theorem processFrame_finish_glue (e : EP) (fid i : Nat) (o : Obj) (ig : Bool)
    (hs : lookup e.flows fid = some (.established i)) (ho : e.objs[i]? = some o) :
    (processFrame e (.finish fid) ig).1.objs[i]? = some { o with senderAlive := false } ∧
    (processFrame e (.finish fid) ig).1.outq = e.outq ∧
    (processFrame e (.finish fid) ig).1.flows = e.flows := by
  simp [processFrame, hs, modObj_get_self, ho]

/-- `Link.countFrame`: the reader counts the frame and acknowledges at the threshold. -/
theorem ackStep_glue (e : EP) (i : Nat) (o : Obj) (ho : e.objs[i]? = some o) (hoc : e.outClosed = false) :
    (o.recvdSince + 1 ≥ o.threshold →
        (ackStep e i o).objs[i]? = some { o with recvdSince := 0 } ∧
        (ackStep e i o).outq = e.outq ++ [.frame (.acknowledge o.fid (o.recvdSince + 1))]) ∧
    (¬ o.recvdSince + 1 ≥ o.threshold →
        (ackStep e i o).objs[i]? = some { o with recvdSince := o.recvdSince + 1 } ∧
        (ackStep e i o).outq = e.outq) := by
  constructor
  · intro h; simp [ackStep, h, EP.enqFrame, enq_outq, hoc, modObj_get_self, ho]
  · intro h; simp [ackStep, h, modObj_get_self, ho]

/-- `Link.step .shutdown`: `Finish` is queued once; only the write flag of this object changes
    (the read direction is untouched: half-close). -/
theorem appShutdown_glue (e : EP) (h i : Nat) (o : Obj)
    (hh : e.handles[h]? = some i) (ho : e.objs[i]? = some o) (hoc : e.outClosed = false) :
    (o.finishSent = true →
        (appShutdown e h).2 = .unit ∧ (appShutdown e h).1.objs[i]? = some { o with parked := false } ∧
        (appShutdown e h).1.outq = e.outq) ∧
    (o.finishSent = false →
        (appShutdown e h).1.objs[i]? = some { o with finishSent := true, parked := false } ∧
        (appShutdown e h).1.outq = e.outq ++ [.frame (.finish o.fid)]) := by
  have hobj := handleObj_of hh ho
  constructor
  · intro hf; simp [appShutdown, hobj, hf, modObj_get_self, ho]
  · intro hf; simp [appShutdown, hobj, hf, EP.enqFrame, enq_outq, hoc, modObj_get_self, ho]

end Penguin.Mux
