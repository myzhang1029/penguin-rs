/-
`Appends P e e'`: going from `e` to `e'` the outbound queue only grew, by messages that satisfy `P`.  It holds across
every primitive step (Lemmas/MuxTrace.lean) but those that take messages out of the queue and those that queue a
message of a sort `P` does not allow (`Appends.of_upd`: the kind of an `enq` step tells the sort), hence across every
function whose path avoids them (`Appends.of_path`).  "Queues no datagram" (`DgSame`, Lemmas/PairDg.lean), "queues only
frames" (`Emits`, Lemmas/PairPlain.lean) and "queues no `Bind`" (`BSame`, Lemmas/PairBindEff.lean) are instances.
-/
import Penguin.Lemmas.MuxTrace

namespace Penguin.Mux

def Appends (P : Msg → Prop) (e e' : EP) : Prop := ∃ em, e'.outq = e.outq ++ em ∧ ∀ m ∈ em, P m

namespace Appends

variable {P : Msg → Prop}

theorem trans {a b c : EP} (s : Appends P a b) (t : Appends P b c) : Appends P a c := by
  obtain ⟨e1, h1, g1⟩ := s
  obtain ⟨e2, h2, g2⟩ := t
  exact ⟨e1 ++ e2, by rw [h2, h1, List.append_assoc], fun m hm => (List.mem_append.mp hm).elim (g1 m) (g2 m)⟩

theorem silent {e e' : EP} (h : e'.outq = e.outq) : Appends P e e' := ⟨[], by rw [h, List.append_nil], List.forall_mem_nil _⟩

theorem refl (e : EP) : Appends P e e := silent rfl

/-- The kinds of step that take messages out of the queue. -/
def takers : Kinds := .of [.send, .clearOut, .discardOut]

/-- `T`: the kinds across which it fails, the takers and the `enq`s of the sorts `P` does not allow. -/
theorem of_upd {T : Kinds} (hT : takers.sub T = true) (hP : ∀ m : Msg, Kind.enq m.tag ∉ T → P m) {k : Kind} {e e' : EP}
    {x : List Ev} (hk : k ∉ T) (u : Upd k e x e') : Appends P e e' := by
  cases u with
  | send | clearOut | discardOut => exact absurd (Kinds.mem_of_sub hT (by decide +kernel)) hk
  | enq t _ m ht =>
    subst ht
    unfold EP.enq; split
    · exact refl e
    · exact ⟨[m], rfl, fun m' hm => List.mem_singleton.mp hm ▸ hP m hk⟩
  | queue q => exact silent (q.frame .outq)
  | ctl c => exact silent (c.frame .outq)
  | req r => exact silent (r.frame .outq)
  | _ => exact silent rfl

theorem of_path {T : Kinds} (hT : takers.sub T = true) (hP : ∀ m : Msg, Kind.enq m.tag ∉ T → P m) {A : Kinds} {e e' : EP}
    {x : List Ev} (p : Path A e x e') (hA : A.disj T = true) : Appends P e e' :=
  p.rel0 refl trans fun hk u => of_upd hT hP (Kinds.not_mem_of_disj hA hk) u

end Appends

end Penguin.Mux
