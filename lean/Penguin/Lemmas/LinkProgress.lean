/-
Bounded progress of the link model: a byte-level measure `nu` that every *productive* action
(a delivery with something on the wire, an acknowledgement delivery with something on the way back,
a read with room for at least one byte and something to read) strictly decreases — so no schedule of
such actions, fair or not, runs for more than `nu s` steps — and what the state looks like when no
productive action is left.
-/
import Penguin.Lemmas.Link
import Penguin.Lemmas.Paying

namespace Penguin.Link

def bytesIn : List Bytes → Nat
  | [] => 0
  | f :: r => f.length + bytesIn r

@[simp] theorem bytesIn_nil : bytesIn [] = 0 := rfl
@[simp] theorem bytesIn_cons (f : Bytes) (r : List Bytes) : bytesIn (f :: r) = f.length + bytesIn r := rfl

theorem bytesIn_append (a b : List Bytes) : bytesIn (a ++ b) = bytesIn a + bytesIn b := by
  induction a with
  | nil => simp
  | cons f a ih => simp [ih]; omega

/-- Work still to be done by the transport and the reader, counted in frames *and* bytes:
    `3·|wire| + 2·|rxq| + |acks|` (the frame-level measure `mu`) plus every byte that is not yet
    handed to the reading application (in the reader's buffer, in its queue, in `Push` frames in flight). -/
def nu (s : St) : Nat :=
  3 * s.wire.length + 2 * s.rxq.length + s.acks.length + s.buf.length + bytesIn s.rxq + bytesIn (pushes s.wire)

/-- An action of the transport or of the reader that has something to do in state `s`.
    The writer's own actions (`write`, `shutdown`, `abort`) are the environment: never "productive". -/
def productive (s : St) : Act → Bool
  | .deliver => !s.wire.isEmpty
  | .deliverAck => !s.acks.isEmpty
  | .read n => decide (0 < n) && (!s.buf.isEmpty || !s.rxq.isEmpty)
  | _ => false

def Productive : St → List Act → Prop
  | _, [] => True
  | s, a :: as => productive s a = true ∧ Productive (step s a).1 as

instance instDecidableProductive : (s : St) → (as : List Act) → Decidable (Productive s as)
  | _, [] => isTrue trivial
  | s, a :: as =>
    match decEq (productive s a) true, instDecidableProductive (step s a).1 as with
    | isTrue h1, isTrue h2 => isTrue ⟨h1, h2⟩
    | isFalse h1, _ => isFalse (fun h => h1 h.1)
    | _, isFalse h2 => isFalse (fun h => h2 h.2)

def WorkDone (s : St) : Prop := ∀ a : Act, productive s a = false

theorem workDone_iff (s : St) : WorkDone s ↔ s.wire = [] ∧ s.acks = [] ∧ s.buf = [] ∧ s.rxq = [] := by
  constructor
  · intro h
    have h1 := h .deliver
    have h2 := h .deliverAck
    have h3 := h (.read 1)
    simp only [productive, Nat.zero_lt_one, decide_true, Bool.true_and, Bool.not_eq_false',
      Bool.or_eq_false_iff, List.isEmpty_iff] at h1 h2 h3
    exact ⟨h1, h2, h3.1, h3.2⟩
  · rintro ⟨h1, h2, h3, h4⟩ a
    cases a <;> simp [productive, h1, h2, h3, h4]

/-! ### `countFrame` and `fill` against the measure (no invariant needed: empty frames included) -/

theorem countFrame_nu (s : St) : nu (countFrame s) ≤ nu s + 1 := by
  have c := countFrame_fields s
  have ca := countFrame_acks_le s
  simp only [nu, c.1, c.2.1, c.2.2.1]
  omega

theorem take_frame_nu (s : St) (f : Bytes) (rest : List Bytes) (hb : s.buf = []) (hq : s.rxq = f :: rest) :
    nu (countFrame { s with rxq := rest, buf := f }) + 1 ≤ nu s := by
  have := countFrame_nu { s with rxq := rest, buf := f }
  simp only [nu, hb, hq, List.length_cons, List.length_nil, bytesIn_cons] at this ⊢
  omega

theorem fill_nu_le (k : Nat) (s : St) : nu (fill k s).1 ≤ nu s :=
  fill_preserves (nu · ≤ nu s)
    (fun t f rest hb hq h => by have := take_frame_nu t f rest hb hq; omega) k s (Nat.le_refl _)

/-- With an empty buffer and a non-empty queue, `fill` takes at least one frame: the measure drops
    (even if every frame it takes is empty). -/
theorem fill_nu_lt (k : Nat) (s : St) (hb : s.buf = []) (hr : s.rxq ≠ []) : nu (fill (k + 1) s).1 < nu s := by
  cases hq : s.rxq with
  | nil => exact absurd hq hr
  | cons f rest =>
    have ht := take_frame_nu s f rest hb hq
    by_cases hf : f = []
    · subst hf
      rw [fill_cons_empty k s rest hb hq]
      have := fill_nu_le k (countFrame { s with rxq := rest, buf := [] })
      omega
    · rw [fill_cons_ne k s f rest hb hq hf]
      show nu (countFrame { s with rxq := rest, buf := f }) < nu s
      omega

theorem fill_true_buf (k : Nat) (s : St) (h : (fill k s).2 = true) : (fill k s).1.buf ≠ [] := by
  revert h
  fun_induction fill k s
  case case2 hb => simp at hb; exact fun _ e => hb e
  case case3 ih => exact ih
  case case4 s _ f rest _ _ hf =>
    intro _
    show (countFrame { s with rxq := rest, buf := f }).buf ≠ []
    rw [(countFrame_fields _).2.1]
    show f ≠ []
    intro e; simp [e] at hf
  all_goals nofun

theorem nu_take (s : St) (n : Nat) :
    nu { s with buf := s.buf.drop n, delivered := s.delivered ++ s.buf.take n } + min n s.buf.length = nu s := by
  simp only [nu, List.length_drop]
  omega

/-! ### Every productive action decreases the measure -/

theorem nu_deliver (s : St) (hw : s.wire ≠ []) : nu (step s .deliver).1 < nu s := by
  simp only [step, nu]
  cases hq : s.wire with
  | nil => exact absurd hq hw
  | cons x rest =>
    cases x <;> simp only [List.length_cons, pushes_push, pushes_fin, pushes_rst, bytesIn_cons]
    · repeat' split
      all_goals simp only [List.length_append, List.length_cons, List.length_nil, bytesIn_append, bytesIn_cons,
        bytesIn_nil]
      all_goals omega
    · omega
    · omega

theorem nu_deliverAck (s : St) (ha : s.acks ≠ []) : nu (step s .deliverAck).1 < nu s := by
  simp only [step, nu]
  cases hq : s.acks with
  | nil => exact absurd hq ha
  | cons x rest => simp only [List.length_cons]; omega

theorem nu_read (s : St) (n : Nat) (hn : 0 < n) (hw : s.buf ≠ [] ∨ s.rxq ≠ []) :
    nu (step s (.read n)).1 < nu s := by
  simp only [step]
  by_cases hb : s.buf = []
  · -- the buffer is empty: `fill` takes at least one frame
    have hr : s.rxq ≠ [] := by rcases hw with h | h; exact absurd hb h; exact h
    have hlt := fill_nu_lt s.rxq.length s hb hr
    split
    · have := nu_take (fill (s.rxq.length + 1) s).1 n
      dsimp only
      omega
    · split
      · exact hlt
      · exact hlt
  · -- unread remainder of a frame: the read takes at least one byte of it
    have hf : fill (s.rxq.length + 1) s = (s, true) := fill_buf_ne _ s hb
    rw [hf]
    simp only [if_true]
    have := nu_take s n
    have hl : 0 < s.buf.length := List.length_pos_iff.mpr hb
    have : 0 < min n s.buf.length := by omega
    omega

/-- Every productive action strictly decreases the byte-level measure — in every state, reachable or
    not (reads that take only part of a buffer, empty frames skipped by `fill`, deliveries to a closed
    or full receiver included). -/
theorem nu_decreases (s : St) (a : Act) (hp : productive s a = true) : nu (step s a).1 < nu s := by
  cases a with
  | deliver =>
    apply nu_deliver
    intro hc; simp [productive, hc] at hp
  | deliverAck =>
    apply nu_deliverAck
    intro hc; simp [productive, hc] at hp
  | read n =>
    simp only [productive, Bool.and_eq_true, decide_eq_true_eq, Bool.or_eq_true, Bool.not_eq_true',
      List.isEmpty_eq_false_iff] at hp
    exact nu_read s n hp.1 hp.2
  | _ => simp [productive] at hp

def paying : Paying St Act :=
  { next := fun s a => (step s a).1, prod := productive, mu := nu, pays := nu_decreases,
    run := run, run_nil := fun _ => rfl, run_cons := fun _ _ _ => rfl,
    Sched := Productive, sched_nil := fun _ => trivial, sched_cons := fun _ _ _ => Iff.rfl }

theorem productive_run_nu (s : St) (as : List Act) (h : Productive s as) : as.length + nu (run s as) ≤ nu s :=
  paying.sched_measure s as h

theorem productive_length_le (s : St) (as : List Act) (h : Productive s as) : as.length ≤ nu s := by
  have := productive_run_nu s as h
  omega

theorem run_append (s : St) (as bs : List Act) : run s (as ++ bs) = run (run s as) bs := paying.run_append s as bs

def pre (f : Nat → Act) (k : Nat) : List Act := (List.range k).map f

/-- An infinite schedule cannot be productive for ever: among its first `nu s + 1` actions there is
    one that finds nothing to do. -/
theorem schedule_hits_unproductive (s : St) (f : Nat → Act) :
    ∃ k, k ≤ nu s ∧ Productive s (pre f k) ∧ productive (run s (pre f k)) (f k) = false :=
  paying.hits_idle s f

/-- Some productive action, if there is one (the choice a work-conserving scheduler could make). -/
def pick (s : St) : Option Act :=
  if !s.wire.isEmpty then some .deliver
  else if !s.acks.isEmpty then some .deliverAck
  else if !s.buf.isEmpty || !s.rxq.isEmpty then some (.read 1)
  else none

theorem pick_some (s : St) (a : Act) (h : pick s = some a) : productive s a = true := by
  unfold pick at h
  split at h
  · rename_i hh; cases h; simpa [productive] using hh
  · split at h
    · rename_i hh; cases h; simpa [productive] using hh
    · split at h
      · rename_i hh; cases h; simpa [productive] using hh
      · cases h

theorem pick_none (s : St) (h : pick s = none) : WorkDone s := by
  unfold pick at h
  rw [workDone_iff]
  split at h
  · cases h
  · split at h
    · cases h
    · split at h
      · cases h
      · simp_all

/-- From every state some productive schedule runs the work out (so "maximal productive schedule"
    is never an empty notion). -/
theorem exists_maximal (s : St) : ∃ as, Productive s as ∧ WorkDone (run s as) := by
  obtain ⟨as, h1, h2⟩ := paying.exists_done pick pick_some s
  exact ⟨as, h1, pick_none _ h2⟩

/-! ### Productive actions are not the writer's: what was accepted stays what it was -/

theorem fill_accepted (k : Nat) (s : St) : (fill k s).1.accepted = s.accepted :=
  fill_preserves (·.accepted = s.accepted)
    (fun t f rest _ _ h => (countFrame_fields { t with rxq := rest, buf := f }).2.2.2.2.2.2.2.2.2.2.1.trans h)
    k s rfl

theorem productive_step_accepted (s : St) (a : Act) (hp : productive s a = true) :
    (step s a).1.accepted = s.accepted := by
  cases a with
  | deliver =>
    simp only [step]
    repeat' split
    all_goals rfl
  | deliverAck =>
    simp only [step]
    split <;> rfl
  | read n =>
    simp only [step]
    have := fill_accepted (s.rxq.length + 1) s
    repeat' split
    all_goals exact this
  | _ => simp [productive] at hp

theorem productive_run_accepted (s : St) (as : List Act) (h : Productive s as) : (run s as).accepted = s.accepted := by
  induction as generalizing s with
  | nil => rfl
  | cons a as ih => exact (ih (step s a).1 h.2).trans (productive_step_accepted s a h.1)

/-! ### The state in which the work has run out -/

/-- With nothing in flight and nothing queued, the whole window except the reader's not yet
    acknowledged frames (`since < th ≤ W`) is credit in the writer's hands. -/
theorem workDone_credit (s : St) (h : Inv s) (hd : WorkDone s) : 0 < s.credit ∧ s.credit + s.since = s.W := by
  obtain ⟨hw, ha, _, hr⟩ := (workDone_iff s).1 hd
  have h1 := h.hcredit
  have h2 := h.hsince
  have h3 := h.hth
  have h4 := h.hpos
  rw [hw, ha, hr] at h1
  simp at h1
  omega

/-- … and everything the writer's successful writes carried has been returned by reads. -/
theorem workDone_delivered (s : St) (h : Inv s) (hd : WorkDone s) : s.delivered = s.accepted := by
  obtain ⟨hw, _, hb, hr⟩ := (workDone_iff s).1 hd
  have := h.hdata
  rw [hw, hb, hr] at this
  simpa using this

theorem workDone_open (s : St) (h : Inv s) (hd : WorkDone s) (hal : s.rAlive = true) : s.sFin = false := by
  obtain ⟨hw, _, _, _⟩ := (workDone_iff s).1 hd
  cases hs : s.sFin with
  | false => rfl
  | true =>
    have := h.hfin hs
    rw [hw, hal] at this
    simp at this

theorem workDone_write (s : St) (h : Inv s) (hd : WorkDone s) (hal : s.rAlive = true) (d : Bytes) (hne : d ≠ []) :
    (step s (.write d)).2 = .wrote d.length := by
  have hs := workDone_open s h hd hal
  have hc := (workDone_credit s h hd).1
  have hde : d.isEmpty = false := by cases d <;> simp_all
  have hc' : ¬ s.credit = 0 := by omega
  simp [step, hs, hde, hc']

end Penguin.Link
