/-
No lost wake-up at the level of the whole endpoint.

`Obj.wakeOk`: a writer that is parked (its last write poll returned Pending and registered the
waker) and has not been woken has no credit and its stream is open for writing — i.e. polling it
again would return Pending again.  Every primitive update preserves it (`Keeps`, `OUpd.wakeOk`), hence
every function of the endpoint model (`Lemmas/MuxTrace.lean`): frames from any peer, application calls,
the dropped-handle loop, the whole wind-down — wherever credit is granted (`Acknowledge`) or the stream is closed for
writing by the task (`Reset`, a queue overrun, a dropped handle's notification, `disallow_write` on every flow at the
start of the wind-down) the writer is woken.  This is the invariant of C12's small-step model
(`Lemmas/Waker.lean`) lifted to the composite paths of `task.rs`, and exactly what the harness's
lost-wake-up monitor samples on the real code.
Core Lean only.
-/
import Penguin.Lemmas.MuxReach
import Penguin.Lemmas.MuxTrace

namespace Penguin.Mux

def Obj.wakeOk (o : Obj) : Prop := o.parked = true → o.woken = false → o.credit = 0 ∧ o.finishSent = false

def WakeOk (e : EP) : Prop := ∀ (i : Nat) (o : Obj), e.objs[i]? = some o → o.wakeOk

def Keeps (e e' : EP) : Prop := WakeOk e → WakeOk e'

theorem Keeps.refl (e : EP) : Keeps e e := id
theorem Keeps.trans {a b c : EP} (s : Keeps a b) (t : Keeps b c) : Keeps a c := fun h => t (s h)

theorem wakeOk_of_wake (o o' : Obj) (hp : o'.parked = o.wake.parked) (hw : o'.woken = o.wake.woken) : o'.wakeOk := by
  intro hp' hw'
  rw [hp] at hp'; rw [hw] at hw'
  unfold Obj.wake at hp' hw'
  split at hp' <;> simp_all

/-- Wherever credit is granted or the stream is closed for writing by the task the writer is woken; a write
    poll parks only without credit on an open stream; every other call that completes clears `parked`. -/
theorem OUpd.wakeOk {k : OKind} {o o' : Obj} (u : OUpd k o o') (h : o.wakeOk) : o'.wakeOk := by
  cases u with
  | closeWrite | disallowWrite | grant => exact wakeOk_of_wake o _ rfl rfl
  | park _ hc hf => exact fun _ _ => ⟨hc, hf⟩
  | dropRx | unparkW | spend | shutdown => exact fun hp => absurd hp (by simp)
  | _ => exact h

theorem Keeps.same {e e' : EP} (ho : e'.objs = e.objs) : Keeps e e' := by
  intro h i o hio; rw [ho] at hio; exact h i o hio

theorem Keeps.of_upd {k : Kind} {e e' : EP} {x : List Ev} (u : Upd k e x e') : Keeps e e' := by
  cases u with
  | obj ok _ i f hf => exact modObj_all hf fun _ _ u => u.wakeOk
  | newStream _ fid rwnd host port => exact fun h => append_all (fun hp => by simp [newObj] at hp) h
  | enq _ _ m => exact .same (enq_objs e m)
  | send => exact .same ((Upd.send e).frame .objs)
  | queue q => exact .same (q.frame .objs)
  | ctl c => exact .same (c.frame .objs)
  | req r => exact .same (r.frame .objs)
  | _ => exact fun h => h

theorem Keeps.of_path {A : Kinds} {e e' : EP} {x : List Ev} (p : Path A e x e') : Keeps e e' :=
  p.rel0 Keeps.refl Keeps.trans fun _ u => .of_upd u

theorem Keeps.openRound (e : EP) (r : OpenReq) : Keeps e (openRound e r).1 := .of_path (.openRoundAny e r)
theorem Keeps.closeFlow (e : EP) (fid : Nat) (inh : Bool) : Keeps e (closeFlow e fid inh).1 :=
  .of_path (.closeFlow e fid inh)
theorem Keeps.processFrame (e : EP) (f : Frame) (ig : Bool) : Keeps e (processFrame e f ig).1 :=
  .of_path (.processFrame e f ig)
theorem Keeps.disallowAll (e : EP) (l : List (Nat × Slot)) : Keeps e (disallowAll e l) := .of_path (.disallowAll e l)
theorem Keeps.windDownTail (e1 : EP) (flushed : List Ev) (srcEnded : Bool) (res : ExitRes) :
    Keeps e1 (windDownTail e1 flushed srcEnded res).1 := let ⟨_, _, p⟩ := Path.windDownTail e1 flushed srcEnded res; .of_path p

theorem Keeps.windDown (e : EP) (drain : Bool) (res : ExitRes) : Keeps e (windDown e drain res).1 :=
  .of_path (.windDown e drain res)
theorem Keeps.unpark (e : EP) : Keeps e (unpark e) := .of_path (.unpark e)
theorem Keeps.settleLoop (fuel : Nat) (e : EP) (acc : List Ev) : Keeps e (settleLoop fuel e acc).1 :=
  let ⟨_, _, p⟩ := Path.settleLoop fuel e acc; .of_path p
theorem Keeps.runRetries (e : EP) (l : List Nat) : Keeps e (runRetries e l).1 := .of_path (.runRetries e l)
theorem Keeps.runDone (e : EP) (l : List (Nat × Nat)) : Keeps e (runDone e l).1 := .of_path (.runDone e l)
theorem Keeps.settle (e : EP) : Keeps e (settle e).1 := .of_path (.settle e)
theorem Keeps.appWrite (e : EP) (h : Nat) (d : Bytes) : Keeps e (appWrite e h d).1 := .of_path (.appWrite e h d)
theorem Keeps.fillBuf (fuel : Nat) (e : EP) (i : Nat) : Keeps e (fillBuf fuel e i).1 := .of_path (.fillBuf fuel e i)
theorem Keeps.appRead (e : EP) (h n : Nat) : Keeps e (appRead e h n).1 := .of_path (.appRead e h n)
theorem Keeps.appShutdown (e : EP) (h : Nat) : Keeps e (appShutdown e h).1 := .of_path (.appShutdown e h)
theorem Keeps.appDropStream (e : EP) (h : Nat) : Keeps e (appDropStream e h).1 := .of_path (.appDropStream e h)
theorem Keeps.appBindReq (e : EP) (req : Nat) (bt : BindType) (host : Bytes) (port : Nat) :
    Keeps e (appBindReq e req bt host port).1 :=
  .of_path (.appBindReq e req bt host port)
theorem Keeps.appBindNext (e : EP) : Keeps e (appBindNext e).1 := .of_path (.appBindNext e)
theorem Keeps.appBindReply (e : EP) (k : Nat) (a : Bool) : Keeps e (appBindReply e k a).1 :=
  .of_path (.appBindReply e k a)
theorem Keeps.appBindDrop (e : EP) (k : Nat) : Keeps e (appBindDrop e k).1 := .of_path (.appBindDrop e k)
theorem Keeps.opStep (e : EP) (op : Op) : Keeps e (opStep e op).1 := .of_path (.opStep e op)
theorem Keeps.applyOp (e : EP) (op : Op) : Keeps e (applyOp e op).1 := .of_path (.applyOp e op)
theorem Keeps.runOps (e : EP) (ops : List Op) : Keeps e (runOps e ops) := let ⟨_, p⟩ := Path.runOps e ops; .of_path p

/-- In every state an endpoint reaches, a writer that is parked and has not been woken has no
    credit and its stream is open for writing. -/
theorem reachable_wakeOk (o : Opts) (ops : List Op) : WakeOk (runOps { opts := o } ops) :=
  Keeps.runOps _ ops (by intro i ob h; simp at h)

theorem Inv2.dead_all_woken {e : EP} (h : Inv2 e) (hw : WakeOk e) (hd : e.dead = true) :
    ∀ (i : Nat) (ob : Obj), e.objs[i]? = some ob → ob.parked = true → ob.woken = true := by
  intro i ob ho hp
  cases hwk : ob.woken with
  | true => rfl
  | false =>
    have h1 := (hw i ob ho hp hwk).2
    have h2 := (h.dead_all_closed hd i ob ho).1
    rw [h1] at h2; cases h2

end Penguin.Mux
