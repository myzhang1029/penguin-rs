/-
Once the outbound queue of an endpoint is closed, no function of the model other than the send path
(`sendSome`), the steps that throw the queue away (`windDownPrep`, a failed sink) and the closing of the sink touches it: the
queue stays closed, holds the same messages, and nothing is handed to the transport.

`QK e e' evs` states this for one function (from `e` to `e'`, emitting `evs`).  It holds across every kind of
primitive step but those four (`QK.of_upd`), hence across every function of `Penguin/Model/Mux.lean` whose path
avoids them (`QK.of_path`; Lemmas/MuxTrace.lean).
Core Lean only.
-/
import Penguin.Lemmas.PairAllStim

namespace Penguin.Mux

open Penguin.PairAll (wireMsgs wireMsgs_append wireMsgs_wires wireMsgs_eq_nil)

def QK (e e' : EP) (evs : List Ev) : Prop :=
  e.outClosed = true → e'.outClosed = true ∧ e'.outq = e.outq ∧ wireMsgs evs = []

theorem QK.refl (e : EP) : QK e e [] := fun h => ⟨h, rfl, rfl⟩

theorem QK.trans {a b c : EP} {ev1 ev2 : List Ev} (s : QK a b ev1) (t : QK b c ev2) : QK a c (ev1 ++ ev2) := by
  intro h
  obtain ⟨h1, h2, h3⟩ := s h
  obtain ⟨k1, k2, k3⟩ := t h1
  exact ⟨k1, by rw [k2, h2], by rw [wireMsgs_append, h3, k3]; rfl⟩

theorem QK.of_eq {e e' : EP} {evs : List Ev} (hc : e'.outClosed = e.outClosed) (hq : e'.outq = e.outq)
    (hw : wireMsgs evs = []) : QK e e' evs :=
  fun h => ⟨hc.trans h, hq, hw⟩

theorem QK.enq (e : EP) (m : Msg) : QK e (e.enq m) [] := by intro h; simp [wireMsgs, EP.enq, h]

def QK.bad : Kinds := .of [.send, .clearOut, .discardOut, .wireClose]

theorem QK.of_upd {k : Kind} {e e' : EP} {x : List Ev} (hk : k ∉ QK.bad) (u : Upd k e x e') : QK e e' x := by
  -- what is handed to the transport: only `send` emits a message, only `wireClose` the Close
  have hw : wireMsgs x = [] := wireMsgs_eq_nil fun ev hev =>
    ⟨fun hc => (Kinds.not_mem_of_sub hk) (hc ▸ u.emits ev hev), fun hc => (Kinds.not_mem_of_sub hk) (hc ▸ u.emits ev hev)⟩
  cases u with
  | send | clearOut | discardOut | wireClose => exact absurd (by decide +kernel) hk
  | enq _ _ m => exact QK.enq e m
  | closeOut => exact fun _ => ⟨rfl, rfl, rfl⟩
  | queue q => exact .of_eq (q.frame .outClosed) (q.frame .outq) hw
  | ctl c => exact .of_eq (c.frame .outClosed) (c.frame .outq) hw
  | req r => exact .of_eq (r.frame .outClosed) (r.frame .outq) hw
  | _ => exact .of_eq rfl rfl hw

theorem QK.of_path {A : Kinds} {e e' : EP} {x : List Ev} (p : Path A e x e')
    (hA : A.disj QK.bad = true := by decide +kernel) : QK e e' x :=
  p.rel (R := fun e x e' => QK e e' x) QK.refl QK.trans fun hk u => .of_upd (Kinds.not_mem_of_disj hA hk) u

theorem QK.openRound (e : EP) (r : OpenReq) : QK e (Mux.openRound e r).1 (Mux.openRound e r).2 := .of_path (.openRoundAny e r)
theorem QK.closeFlow (e : EP) (fid : Nat) (inh : Bool) : QK e (Mux.closeFlow e fid inh).1 (Mux.closeFlow e fid inh).2 :=
  .of_path (.closeFlow e fid inh)
theorem QK.offerAccept (e : EP) (i : Nat) : QK e (Mux.offerAccept e i) [] := .of_path (.offerAccept e i)
theorem QK.processFrame (e : EP) (f : Frame) (ig : Bool) : QK e (Mux.processFrame e f ig).1 (Mux.processFrame e f ig).2.1 :=
  .of_path (.processFrame e f ig)
theorem QK.recvOne (e : EP) (w : WsIn) (rest : List WsIn) : QK e (Mux.recvOne e w rest).1 (Mux.recvOne e w rest).2.1 :=
  .of_path (.recvOne e w rest)
theorem QK.windDownInbox (e : EP) (l : List WsIn) : QK e (Mux.windDownInbox e l).1 (Mux.windDownInbox e l).2.1 :=
  .of_path (.windDownInbox e l)
theorem QK.windDownFinish (e : EP) (res : ExitRes) : QK e (Mux.windDownFinish e res).1 (Mux.windDownFinish e res).2 :=
  .of_path (.windDownFinish e res)
theorem QK.disallowAll (e : EP) (l : List (Nat × Slot)) : QK e (Mux.disallowAll e l) [] := .of_path (.disallowAll e l)
theorem QK.unpark (e : EP) : QK e (Mux.unpark e) [] := .of_path (.unpark e)
theorem QK.closingStep (e : EP) (res : ExitRes) : QK e (Mux.closingStep e res).1 (Mux.closingStep e res).2 :=
  .of_path (.closingStep e res)

theorem QK.runRetries (e : EP) (l : List Nat) : QK e (Mux.runRetries e l).1 (Mux.runRetries e l).2 := .of_path (.runRetries e l)
theorem QK.runDone (e : EP) (l : List (Nat × Nat)) : QK e (Mux.runDone e l).1 (Mux.runDone e l).2 := .of_path (.runDone e l)

theorem QK.runDoneq (e : EP) : QK e (runDoneq e).1 (runDoneq e).2 := .of_path (.runDoneq e)
theorem QK.runRetryq (e : EP) : QK e (runRetryq e).1 (runRetryq e).2 := .of_path (.runRetryq e)

theorem QK.appWrite (e : EP) (h : Nat) (d : Bytes) : QK e (Mux.appWrite e h d).1 [] := .of_path (.appWrite e h d)
theorem QK.fillBuf (fuel : Nat) (e : EP) (i : Nat) : QK e (Mux.fillBuf fuel e i).1 [] := .of_path (.fillBuf fuel e i)
theorem QK.appRead (e : EP) (h n : Nat) : QK e (Mux.appRead e h n).1 [] := .of_path (.appRead e h n)
theorem QK.appShutdown (e : EP) (h : Nat) : QK e (Mux.appShutdown e h).1 [] := .of_path (.appShutdown e h)
theorem QK.appDropStream (e : EP) (h : Nat) : QK e (Mux.appDropStream e h).1 [] := .of_path (.appDropStream e h)
theorem QK.appBindReq (e : EP) (req : Nat) (bt : BindType) (host : Bytes) (port : Nat) :
    QK e (Mux.appBindReq e req bt host port).1 (Mux.appBindReq e req bt host port).2 := .of_path (.appBindReq e req bt host port)
theorem QK.appBindNext (e : EP) : QK e (Mux.appBindNext e).1 [] := .of_path (.appBindNext e)
theorem QK.appBindReply (e : EP) (k : Nat) (a : Bool) : QK e (Mux.appBindReply e k a).1 [] := .of_path (.appBindReply e k a)
theorem QK.appBindDrop (e : EP) (k : Nat) : QK e (Mux.appBindDrop e k).1 [] := .of_path (.appBindDrop e k)

theorem QK.opStep (e : EP) (op : Op) : QK e (Mux.opStep e op).1 (Mux.opStep e op).2.2 := .of_path (.opStepAny e op)

theorem sendSome_msgs (e : EP) : wireMsgs (Mux.sendSome e).2 ++ (Mux.sendSome e).1.outq = e.outq := by
  obtain ⟨sent, h1, h2⟩ := sendSome_split e
  rw [h1, wireMsgs_wires]; exact h2

theorem sendSome_outClosed (e : EP) : (Mux.sendSome e).1.outClosed = e.outClosed := (Path.sendSome e).frame .outClosed

theorem sendSome_nil (e : EP) (h : e.outq = []) : (Mux.sendSome e).1.outq = [] ∧ wireMsgs (Mux.sendSome e).2 = [] := by
  have := sendSome_msgs e
  rw [h] at this
  exact ⟨(List.append_eq_nil_iff.mp this).2, (List.append_eq_nil_iff.mp this).1⟩

end Penguin.Mux
