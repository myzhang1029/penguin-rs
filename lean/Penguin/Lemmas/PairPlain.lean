/-
What travels between the two endpoints of the pair model: in every reachable state every message in an
outbound queue or on a wire is a frame (the pair model has no pings and no Close) — so the receive loop
of the peer can always process the oldest message on its wire (`Pair.stepL … .recv` is enabled unless
the loop is parked).
-/
import Penguin.Model.Pair
import Penguin.Lemmas.PairRun
import Penguin.Lemmas.PairEmits

namespace Penguin.Mux

def plainMsg : Msg → Bool
  | .frame _ => true
  | _ => false

def Plain (l : List Msg) : Prop := ∀ m ∈ l, plainMsg m = true

theorem Plain.append {a b : List Msg} (ha : Plain a) (hb : Plain b) : Plain (a ++ b) := by
  intro m hm
  rcases List.mem_append.mp hm with h | h
  · exact ha m h
  · exact hb m h

theorem Plain.nil : Plain [] := fun _ h => by cases h

def Emits (e e' : EP) : Prop := ∃ em, e'.outq = e.outq ++ em ∧ Plain em

namespace Emits

/-! `Emits` is `Appends (plainMsg · = true)` (Lemmas/PairEmits.lean) written out. -/

theorem refl (e : EP) : Emits e e := Appends.refl e

theorem trans {a b c : EP} (s : Emits a b) (t : Emits b c) : Emits a c := Appends.trans s t

theorem silent {e e' : EP} (h : e'.outq = e.outq) : Emits e e' := Appends.silent h

theorem plain {e e' : EP} (s : Emits e e') (h : Plain e.outq) : Plain e'.outq := by
  obtain ⟨em, h1, g1⟩ := s
  rw [h1]; exact h.append g1

end Emits

/-- The kinds across which it fails: those that take messages out of the queue, and queueing what is no frame. -/
def Emits.bad : Kinds := Appends.takers ∪ .of [.enq .other]

theorem Emits.of_path {A : Kinds} {e e' : EP} {x : List Ev} (p : Path A e x e')
    (hA : A.disj Emits.bad = true := by decide +kernel) : Emits e e' :=
  Appends.of_path (P := (plainMsg · = true)) (T := Emits.bad) (by decide +kernel)
    (fun m hm => by cases m <;> first | rfl | exact absurd (by decide +kernel) hm) p hA

theorem Emits.closeFlow (e : EP) (fid : Nat) (inh : Bool) : Emits e (closeFlow e fid inh).1 := .of_path (.closeFlow e fid inh)

theorem Emits.unpark (e : EP) : Emits e (unpark e) := .of_path (.unpark e)

theorem Emits.openRound (e : EP) (r : OpenReq) : Emits e (openRound e r).1 := .of_path (.openRoundAny e r)

theorem Emits.runRetries (e : EP) (l : List Nat) : Emits e (runRetries e l).1 := .of_path (.runRetries e l)

theorem Emits.runDone (e : EP) (l : List (Nat × Nat)) : Emits e (runDone e l).1 := .of_path (.runDone e l)

theorem Emits.processFrame (e : EP) (f : Frame) (ig : Bool) : Emits e (processFrame e f ig).1 := .of_path (.processFrame e f ig)

theorem Emits.appAccept (e : EP) : Emits e (appAccept e).1 := .of_path (.appAccept e)

theorem Emits.appWrite (e : EP) (h : Nat) (d : Bytes) : Emits e (appWrite e h d).1 := .of_path (.appWrite e h d)

theorem Emits.fillBuf (fuel : Nat) (e : EP) (i : Nat) : Emits e (fillBuf fuel e i).1 := .of_path (.fillBuf fuel e i)

theorem Emits.appRead (e : EP) (h n : Nat) : Emits e (appRead e h n).1 := .of_path (.appRead e h n)

theorem Emits.appShutdown (e : EP) (h : Nat) : Emits e (appShutdown e h).1 := .of_path (.appShutdown e h)

theorem Emits.appDropStream (e : EP) (h : Nat) : Emits e (appDropStream e h).1 := .of_path (.appDropStream e h)

theorem Emits.appSendDgram (e : EP) (d : Dgram) : Emits e (appSendDgram e d).1 := .of_path (.appSendDgram e d)

theorem Emits.appRecvDgram (e : EP) : Emits e (appRecvDgram e).1 := .of_path (.appRecvDgram e)

theorem Emits.appBindReq (e : EP) (req : Nat) (bt : BindType) (host : Bytes) (port : Nat) :
    Emits e (appBindReq e req bt host port).1 := .of_path (.appBindReq e req bt host port)

theorem Emits.appBindNext (e : EP) : Emits e (appBindNext e).1 := .of_path (.appBindNext e)

theorem Emits.appBindReply (e : EP) (k : Nat) (acc : Bool) : Emits e (appBindReply e k acc).1 := .of_path (.appBindReply e k acc)

theorem Emits.appBindDrop (e : EP) (k : Nat) : Emits e (appBindDrop e k).1 := .of_path (.appBindDrop e k)

end Penguin.Mux

namespace Penguin.Pair
open Penguin.Mux

structure PlainInv (p : PS) : Prop where
  qa : Plain p.a.outq
  qb : Plain p.b.outq
  ab : Plain p.ab
  ba : Plain p.ba

theorem PlainInv.swap {p : PS} (h : PlainInv p) : PlainInv p.swap := ⟨h.qb, h.qa, h.ba, h.ab⟩

theorem stepL_plain {p p' : PS} (a : Act) (h : PlainInv p) (hs : stepL p a = some p') : PlainInv p' := by
  have same : ∀ {e' : EP} {g' : Ghost}, Emits p.a e' → PlainInv { p with a := e', ga := g' } :=
    fun s => ⟨s.plain h.qa, h.qb, h.ab, h.ba⟩
  cases stepL_shape hs with
  | «open» => exact same (Emits.openRound _ _)
  | cancelOpen => exact same (Emits.silent rfl)
  | accept => exact same (Emits.appAccept _)
  | write => exact same (Emits.appWrite _ _ _)
  | read => exact same (Emits.appRead _ _ _)
  | shutdown => exact same (Emits.appShutdown _ _)
  | dropStream => exact same (Emits.appDropStream _ _)
  | sendDgram => exact same (Emits.appSendDgram _ _)
  | recvDgram => exact same (Emits.appRecvDgram _)
  | xmit m rest hq =>
    have hqa := h.qa
    rw [hq] at hqa
    refine ⟨fun x hx => hqa x (List.mem_cons_of_mem _ hx), h.qb, h.ab.append ?_, h.ba⟩
    intro x hx
    simp only [List.mem_cons, List.not_mem_nil, or_false] at hx
    subst hx
    exact hqa x (by simp)
  | recv f rest e evs hp hba hpf =>
    have he : e = (processFrame p.a f false).1 := by rw [hpf]
    subst he
    have hb := h.ba
    rw [hba] at hb
    exact ⟨(Emits.processFrame p.a f false).plain h.qa, h.qb, h.ab, fun x hx => hb x (List.mem_cons_of_mem _ hx)⟩
  | notif fid rest => exact same ((Emits.silent rfl : Emits p.a { p.a with droppedq := rest }).trans (Emits.closeFlow _ _ _))
  | unpark => exact same (Emits.unpark _)
  | runDone => exact same ((Emits.silent rfl : Emits p.a { p.a with doneq := [] }).trans (Emits.runDone _ _))
  | runRetries => exact same ((Emits.silent rfl : Emits p.a { p.a with retryq := [] }).trans (Emits.runRetries _ _))
  | bindReq => exact same (Emits.appBindReq _ _ _ _ _)
  | bindNext => exact same (Emits.appBindNext _)
  | bindReply => exact same (Emits.appBindReply _ _ _)
  | bindDrop => exact same (Emits.appBindDrop _ _)

theorem run_plain (p : PS) (as : List (Side × Act)) (h : PlainInv p) : PlainInv (run p as) :=
  run_keeps (P := PlainInv) (fun _ => PlainInv.swap) p as (fun sa _ _ _ h hs => stepL_plain sa.2 h hs) h

theorem init_plain (oa ob : Opts) (ra rb : List Nat) : PlainInv (init oa ob ra rb) :=
  ⟨Plain.nil, Plain.nil, Plain.nil, Plain.nil⟩

theorem reach_plain (oa ob : Opts) (ra rb : List Nat) (as : List (Side × Act)) : PlainInv (run (init oa ob ra rb) as) :=
  run_plain _ as (init_plain oa ob ra rb)

end Penguin.Pair
