/-
The byte invariant `Dir` (`Lemmas/PairAllDir.lean`) for the direction left → right is preserved by every
small step in which the LEFT side (the sender of that direction) acts or receives: what it hands to the
transport is appended to `S`.
Core Lean only.
-/
import Penguin.Lemmas.PairAllDir

namespace Penguin.PairAll
open Penguin.Mux

variable {x j : Nat} {ownA ownB : Prop}

set_option linter.unusedSimpArgs false

theorem guarded_cons_other (x : Nat) (m : Msg) (r : List Msg) (h1 : isAck x m = false) (h2 : isPush x m = false) :
    guarded x (m :: r) = guarded x r := by
  simp only [guarded, h1, h2, Bool.false_eq_true, if_false]

theorem guarded_insert (x : Nat) (l r : List Msg) (m : Msg) (h1 : isAck x m = false) (h2 : isPush x m = false) :
    guarded x (l ++ m :: r) = guarded x (l ++ r) := by
  rw [guarded_append, guarded_append, guarded_cons_other x m r h1 h2]

theorem hasAck_insert (x : Nat) (l r : List Msg) (m : Msg) (h1 : isAck x m = false) :
    hasAck x (l ++ m :: r) = hasAck x (l ++ r) := by
  rw [hasAck_append, hasAck_append, hasAck_cons, h1, Bool.false_or]

theorem hasConn_insert (x : Nat) (l r : List Msg) (m : Msg) (h1 : isConn x m = false) :
    hasConn x (l ++ m :: r) = hasConn x (l ++ r) := by
  rw [hasConn_append, hasConn_append, hasConn_cons, h1, Bool.false_or]

theorem hasConn_single (x : Nat) (m : Msg) : hasConn x [m] = isConn x m := by simp [hasConn]
theorem hasAck_single (x : Nat) (m : Msg) : hasAck x [m] = isAck x m := by simp [hasAck]

theorem pX_nil (x : Nat) : pX x [] = [] := rfl

theorem Dir.silentAct {c : PC} {v : View} {S R : List Bytes} (d : Dir x j c S R)
    (h0 : v.nobj = 0 → c.a.nobj = 0)
    (hpot : (1 ≤ v.cnt ∨ 1 ≤ c.b.cnt ∨ (∃ q, c.b.slot = some (.requested q)) ∨
        hasConn x (inMsgs c.b.inbox ++ c.ab ++ v.outq) = true) → Pot x c)
    (h3 : ∀ q, c.b.slot = some (.requested q) →
      guarded x c.live = true ∧ (1 ≤ c.a.nobj → c.abOpen = true → c.a.outClosed = false → hasAck x c.live = true) →
      guarded x (inMsgs c.b.inbox ++ c.ab ++ (if c.abOpen = true then v.outq else [])) = true ∧
        (1 ≤ v.nobj → c.abOpen = true → v.outClosed = false →
          hasAck x (inMsgs c.b.inbox ++ c.ab ++ (if c.abOpen = true then v.outq else [])) = true)) :
    Dir x j { c with a := v, ab := if c.abOpen then c.ab ++ [] else c.ab } (S ++ pX x []) R := by
  rw [ab_nil c]
  show Dir x j _ (S ++ []) R
  rw [List.append_nil]
  exact d.silentA rfl rfl rfl h0 hpot h3

theorem pot_back (c : PC) (k : Nat) (q : List Msg) (hk : k ≤ c.a.cnt)
    (hq : hasConn x q = true → hasConn x c.a.outq = true)
    (h : 1 ≤ k ∨ 1 ≤ c.b.cnt ∨ (∃ q, c.b.slot = some (.requested q)) ∨
        hasConn x (inMsgs c.b.inbox ++ c.ab ++ q) = true) : Pot x c := by
  rcases h with h | h | h | h
  · exact Or.inl (Nat.le_trans h hk)
  · exact Or.inr (Or.inl h)
  · exact Or.inr (Or.inr (Or.inl h))
  · refine Or.inr (Or.inr (Or.inr ?_))
    rw [hasConn_append] at h
    rw [PC.path, hasConn_append]
    rcases Bool.or_eq_true _ _ ▸ h with h | h
    · rw [h]; rfl
    · rw [hq h]; exact Bool.or_true _

theorem Dir.sameAct {c : PC} {v : View} {S R : List Bytes} (d : Dir x j c S R)
    (e1 : v.nobj = c.a.nobj) (e2 : v.cnt = c.a.cnt) (e3 : v.outq = c.a.outq) (e4 : v.outClosed = c.a.outClosed) :
    Dir x j { c with a := v, ab := if c.abOpen then c.ab ++ [] else c.ab } (S ++ pX x []) R := by
  refine d.silentAct (fun h => by rw [← e1]; exact h) ?_ ?_
  · rw [e2, e3]; exact fun h => h
  · rw [e1, e3, e4]; exact fun _ _ h => h

/-! ### Tactics for the cases in which the pair is taken apart -/

macro "nrm" : tactic =>
  `(tactic| simp only [if_true, if_false, Bool.false_eq_true, Bool.true_eq_false, List.append_assoc, List.append_nil,
      List.cons_append, List.nil_append, true_implies, false_implies, and_true, true_and, pX_append, pX_nil])
macro "nrm" "at" h:Lean.Parser.Tactic.locationHyp : tactic =>
  `(tactic| simp only [if_true, if_false, Bool.false_eq_true, Bool.true_eq_false, List.append_assoc, List.append_nil,
      List.cons_append, List.nil_append, true_implies, false_implies, and_true, true_and, pX_append, pX_nil] at $h)

theorem hasConn_path_mono (x : Nat) (p q q' : List Msg) (h : hasConn x q = true → hasConn x q' = true)
    (hp : hasConn x (p ++ q) = true) : hasConn x (p ++ q') = true := by
  rw [hasConn_append] at hp ⊢
  rcases (Bool.or_eq_true _ _).mp hp with hp | hp
  · rw [hp]; rfl
  · rw [h hp]; exact Bool.or_true _

theorem guarded_close (x : Nat) (p l r : List Msg) :
    guarded x (p ++ (l ++ Msg.close :: r)) = guarded x (p ++ (l ++ r)) := by
  rw [← List.append_assoc, guarded_insert x _ _ _ rfl rfl, List.append_assoc]
theorem hasAck_close (x : Nat) (p l r : List Msg) :
    hasAck x (p ++ (l ++ Msg.close :: r)) = hasAck x (p ++ (l ++ r)) := by
  rw [← List.append_assoc, hasAck_insert x _ _ _ rfl, List.append_assoc]
theorem hasConn_close (x : Nat) (p l r : List Msg) :
    hasConn x (p ++ (l ++ Msg.close :: r)) = hasConn x (p ++ (l ++ r)) := by
  rw [← List.append_assoc, hasConn_insert x _ _ _ rfl, List.append_assoc]
theorem pX_close (x : Nat) : pX x [Msg.close] = [] := rfl

theorem emit_noPush {c : PC} {m : Msg} {r : List Msg} (hc : CoreS ownA ownB (sm x c)) (h : c.a.outq = m :: r)
    (h0 : c.a.nobj = 0) : isPush x m = false := by
  have h1 : cAP x c.path = 0 := hc.l.noAP h0
  rw [PC.path, h, cAP_append, cAP_cons] at h1
  cases hp : isPush x m with
  | false => rfl
  | true => simp [isAP, hp] at h1

theorem Dir.emitA {c : PC} {S R : List Bytes} (hc : CoreS ownA ownB (sm x c)) (d : Dir x j c S R) (m : Msg) (r : List Msg)
    (h : c.a.outq = m :: r) :
    Dir x j { c with a := { c.a with outq := r }, ab := if c.abOpen then c.ab ++ [m] else c.ab } (S ++ pX x [m]) R := by
  have hm0 : c.a.nobj = 0 → pX x [m] = [] := fun h0 => pX_single_other x m (emit_noPush hc h h0)
  have d5 : R <+: S ++ pX x [m] := List.IsPrefix.trans d.d5 (List.prefix_append _ _)
  clear hc
  obtain ⟨a, b, ab, ba, abo, bao⟩ := c
  obtain ⟨d0, d1, d2, d3, d4, _⟩ := d
  dsimp only [PC.live, PC.path, Pot] at *
  rw [h] at d2 d3
  cases abo with
  | true =>
    nrm at d2 d3 d4
    refine ⟨?_, ?_, ?_, ?_, ?_, ?_⟩ <;> (try dsimp only [PC.live, PC.path, Pot])
    · intro h0; rw [hm0 h0, d0 h0]; rfl
    · exact d1
    · nrm
      intro hl hp; rw [← d2 hl hp]; nrm
    · nrm
      exact d3
    · nrm
      intro hl; rw [← d4 hl]; nrm
    · exact d5
  | false =>
    nrm at d2 d3 d4
    refine ⟨?_, ?_, ?_, ?_, ?_, ?_⟩ <;> (try dsimp only [PC.live, PC.path, Pot])
    · intro h0; rw [hm0 h0, d0 h0]; rfl
    · exact d1
    · nrm
      intro hl hp
      refine List.IsPrefix.trans (d2 hl ?_) (List.prefix_append _ _)
      rcases hp with hp | hp | hp | hp
      · exact Or.inl hp
      · exact Or.inr (Or.inl hp)
      · exact Or.inr (Or.inr (Or.inl hp))
      · refine Or.inr (Or.inr (Or.inr ?_))
        rw [← List.append_assoc] at hp ⊢
        refine hasConn_path_mono x _ _ _ (fun hq => ?_) hp
        rw [hasConn_cons, hq]; exact Bool.or_true _
    · nrm
      exact d3
    · nrm
      exact fun hl => List.IsPrefix.trans (d4 hl) (List.prefix_append _ _)
    · exact d5

theorem Dir.sendCloseA {c : PC} {S R : List Bytes} (d : Dir x j c S R) :
    Dir x j { c with a := c.a, ab := if c.abOpen then c.ab ++ [.close] else c.ab } (S ++ pX x [.close]) R := by
  rw [pX_close, List.append_nil]
  obtain ⟨a, b, ab, ba, abo, bao⟩ := c
  obtain ⟨d0, d1, d2, d3, d4, d5⟩ := d
  dsimp only [PC.live, PC.path, Pot] at *
  cases abo with
  | true =>
    nrm at d2 d3 d4
    refine ⟨?_, ?_, ?_, ?_, ?_, ?_⟩ <;> (try dsimp only [PC.live, PC.path, Pot])
    · exact d0
    · exact d1
    · nrm
      simp only [hasConn_close, pX_close, List.append_nil]
      exact d2
    · nrm
      simp only [guarded_close, hasAck_close]
      exact d3
    · nrm
      simp only [pX_close, List.append_nil]
      exact d4
    · exact d5
  | false => exact ⟨d0, d1, d2, d3, d4, d5⟩

theorem Dir.enqA {c : PC} {v : View} {S R : List Bytes} (d : Dir x j c S R) (m : Msg) (e1 : v.nobj = c.a.nobj)
    (e2 : v.cnt = c.a.cnt) (e3 : v.outq = c.a.outq ++ [m]) (e4 : v.outClosed = c.a.outClosed) (hc : c.a.outClosed = false)
    (h1 : isConn x m = false) (h2 : isAck x m = true ∨ isPush x m = true → 0 < c.a.nobj) :
    Dir x j { c with a := v, ab := if c.abOpen then c.ab ++ [] else c.ab } (S ++ pX x []) R := by
  refine d.silentAct (fun h => by rw [← e1]; exact h) ?_ ?_
  · rw [e2, e3]
    refine pot_back c c.a.cnt _ (Nat.le_refl _) (fun hq => ?_)
    rw [hasConn_append, hasConn_single, h1, Bool.or_false] at hq
    exact hq
  · rw [e1, e3, e4]
    rintro q hq ⟨g, ha⟩
    rw [PC.live] at g ha
    by_cases hab : c.abOpen = true
    · rw [if_pos hab] at g ha ⊢
      rw [← List.append_assoc]
      refine ⟨guarded_snoc x _ m g ?_, fun hn _ ho => ?_⟩
      · cases hp : isPush x m with
        | false => exact Or.inl rfl
        | true => exact Or.inr (ha (h2 (Or.inr hp)) hab hc)
      · rw [hasAck_append, ha hn hab ho]; rfl
    · rw [if_neg hab] at g ha ⊢
      exact ⟨g, fun _ h => absurd h hab⟩

theorem Dir.rngA {c : PC} {S R : List Bytes} (d : Dir x j c S R) (k : Nat) (n : Bool) (hc : k ≤ c.a.cnt) :
    Dir x j { c with a := { c.a with cnt := k, rngNil := n }, ab := if c.abOpen then c.ab ++ [] else c.ab }
      (S ++ pX x []) R :=
  d.silentAct (fun h => h) (pot_back c k c.a.outq hc (fun h => h)) (fun _ _ h => h)

theorem Dir.drawA {c : PC} {S R : List Bytes} (hc : CoreS ownA ownB (sm x c)) (d : Dir x j c S R) (k : Nat) (n : Bool)
    (s : Slot) (m : Msg) (hk : k < c.a.cnt) :
    Dir x j { c with a := { c.a with cnt := k, rngNil := n, slot := some s, outq := c.a.outq ++ [m] },
                     ab := if c.abOpen then c.ab ++ [] else c.ab } (S ++ pX x []) R := by
  have hf := core_fresh hc (Or.inl (show 1 ≤ c.a.cnt by omega))
  refine d.silentAct (fun h => h) (fun _ => Or.inl (by omega)) ?_
  intro q hq
  exfalso
  have h0 : sk c.b.slot = 0 := hf.2.2.2.1
  rw [hq] at h0
  cases h0

theorem Dir.connNewA {c : PC} {S R : List Bytes} (d : Dir x j c S R) (r : List WsIn) (n : Nat) (cj : Bool) :
    Dir x j { c with a := { c.a with inbox := r, slot := some (.established c.a.len), len := c.a.len + 1,
                                     nobj := c.a.nobj + 1, canJ := cj, nw := c.a.nw + 1, rxJ := c.a.rxJ || cj,
                                     outq := if c.a.outClosed then c.a.outq else c.a.outq ++ [.frame (.acknowledge x n)] },
                     ab := if c.abOpen then c.ab ++ [] else c.ab } (S ++ pX x []) R := by
  refine d.silentAct (fun h => absurd h (Nat.succ_ne_zero _)) ?_ ?_
  · refine pot_back c c.a.cnt _ (Nat.le_refl _) (fun hq => ?_)
    dsimp only at hq
    split at hq
    · exact hq
    · rw [hasConn_append, hasConn_single, isConn_ack, Bool.or_false] at hq
      exact hq
  · rintro q hq ⟨g, ha⟩
    dsimp only
    rw [PC.live] at g ha
    cases ho : c.a.outClosed with
    | true =>
      simp only [if_true]
      exact ⟨g, fun _ _ h => by cases h⟩
    | false =>
      simp only [Bool.false_eq_true, if_false]
      by_cases hab : c.abOpen = true
      · rw [if_pos hab] at g ⊢
        rw [← List.append_assoc]
        refine ⟨guarded_snoc x _ _ g (Or.inl rfl), fun _ _ _ => ?_⟩
        rw [hasAck_append, hasAck_single, isAck_ack]; exact Bool.or_true _
      · rw [if_neg hab] at g ⊢
        exact ⟨g, fun _ h => absurd h hab⟩

theorem Dir.ackNewA (hex : ¬(ownA ∧ ownB)) {c : PC} {S R : List Bytes} (hc : CoreS ownA ownB (sm x c)) (d : Dir x j c S R)
    (r : List WsIn) (q : Nat) (cj : Bool) (hs : c.a.slot = some (.requested q)) :
    Dir x j { c with a := { c.a with inbox := r, slot := some (.established c.a.len), len := c.a.len + 1,
                                     nobj := c.a.nobj + 1, canJ := cj, nw := c.a.nw + 1, rxJ := c.a.rxJ || cj },
                     ab := if c.abOpen then c.ab ++ [] else c.ab } (S ++ pX x []) R := by
  refine d.silentAct (fun h => absurd h (Nat.succ_ne_zero _)) (fun h => h) ?_
  intro q' hq
  exfalso
  refine core_req hex hc ?_ ?_
  · show sk c.a.slot = 1
    rw [hs]; rfl
  · show sk c.b.slot = 1
    rw [hq]; rfl

theorem Dir.closeOutA {c : PC} {S R : List Bytes} (d : Dir x j c S R) :
    Dir x j { c with a := { c.a with outClosed := true }, ab := if c.abOpen then c.ab ++ [] else c.ab }
      (S ++ pX x []) R :=
  d.silentAct (fun h => h) (fun h => h) (fun _ _ h => ⟨h.1, fun _ _ ho => by cases ho⟩)

theorem Dir.clearOutqA {c : PC} {S R : List Bytes} (d : Dir x j c S R) :
    Dir x j { c with a := { c.a with outq := [], outClosed := true }, ab := if c.abOpen then c.ab ++ [] else c.ab }
      (S ++ pX x []) R := by
  refine d.silentAct (fun h => h) ?_ ?_
  · exact pot_back c c.a.cnt _ (Nat.le_refl _) (fun hq => by simp [hasConn] at hq)
  · rintro q hq ⟨g, -⟩
    dsimp only
    rw [PC.live] at g
    rw [ite_self, List.append_nil]
    exact ⟨guarded_prefix x _ _ g, fun _ _ ho => by cases ho⟩

theorem Dir.stepA (hex : ¬(ownA ∧ ownB)) {jA : Nat} {c c' : PC} {S R : List Bytes} {ws : List Msg} {acc : List Bytes}
    {xl : List XL} (hc : CoreS ownA ownB (sm x c)) (d : Dir x j c S R) (st : CStepL x jA c c' ws acc xl)
    (hn : c'.a.rngNil = false) : Dir x j c' (S ++ pX x ws) R := by
  cases st with
  | act v ws acc xl h =>
    cases h with
    | emit m r h => exact d.emitA hc m r h
    | sendClose => exact d.sendCloseA
    | enq m hc' h1 h3 h4 h5 h2 =>
      refine d.enqA m rfl rfl rfl rfl hc' h1 (fun h => ?_)
      rcases h with h | h
      · exact h2 h
      · rw [h3] at h; cases h
    | enqPush p hc' hw' =>
      refine d.enqA _ rfl rfl rfl rfl hc' rfl (fun _ => ?_)
      have := hc.l.wle
      exact Nat.lt_of_lt_of_le hw' this
    | enqFinS hc' hw' =>
      exact d.enqA (.frame (.finish x)) rfl rfl rfl rfl hc' rfl (fun h => by rcases h with h | h <;> cases h)
    | enqFinB hc' hb =>
      exact d.enqA (.frame (.finish x)) rfl rfl rfl rfl hc' rfl (fun h => by rcases h with h | h <;> cases h)
    | rng k n hk hn' => exact d.rngA k n hk
    | draw k n s m hk hn' hd hs ho hk' =>
      exact d.drawA hc k n s m (draw_lt hd hn)
    -- only the inbound side of the left view changes
    | pop | popFin | popBind | degrade | connRej | ackOld | pushAcc | pushRej | grow | clearInbox =>
      exact d.sameAct rfl rfl rfl rfl
    | connNew m r n h hm hs => exact d.connNewA r n _
    | ackNew m r q h hm hs => exact d.ackNewA hex hc r q _ hs
    | closeOut => exact d.closeOutA
    | clearOutq => exact d.clearOutqA
  | dlv | dlvClose | cut =>
    rw [pX_nil, List.append_nil]
    exact d.of_eq rfl rfl rfl rfl rfl rfl rfl rfl rfl rfl rfl

end Penguin.PairAll
