/-
A dropped `Multiplexor` still flushes, for two endpoints and every history of `Model/PairAll.lean`.

* The wires are FIFO and lossless without a cut (`WireInv`): the messages delivered to an endpoint, followed by
  those still on the wire to it, are a prefix of what the other endpoint's sink has taken — and ALL of it as
  long as the wire is open.
* Once an endpoint drains (`DPhase`): what its sink has taken so far, followed by what is still queued, stays
  the same sequence `T` whatever happens (any application call, any delivery, back-pressure, the source
  failing); when the drain is over the sink has taken exactly `T` and then the Close.
Core Lean only.
-/
import Penguin.Lemmas.PairAllRun
import Penguin.Lemmas.MuxQueueKept
import Penguin.Lemmas.MuxEndedTable
import Penguin.Lemmas.MuxIdle

namespace Penguin.PairAll
open Penguin.Mux

def dlvMsgs : List Mux.Op → List Msg
  | [] => []
  | .deliver (.msg m) :: r => m :: dlvMsgs r
  | _ :: r => dlvMsgs r

theorem dlvMsgs_append (a b : List Mux.Op) : dlvMsgs (a ++ b) = dlvMsgs a ++ dlvMsgs b := by
  induction a with
  | nil => rfl
  | cons op r ih =>
    cases op with
    | deliver w => cases w <;> simp [dlvMsgs, ih]
    | _ => simpa [dlvMsgs] using ih

/-- `D`: the messages delivered to the right endpoint so far. -/
structure WireInv (p : PS) (D : List Msg) : Prop where
  pre : D ++ p.ab <+: wireMsgs p.ga.evs
  eq : p.abOpen = true → D ++ p.ab = wireMsgs p.ga.evs

theorem WireInv.of {q : PS} {D ab : List Msg} {ao : Bool} {g : Ghost} (h1 : q.ab = ab) (h2 : q.abOpen = ao) (h3 : q.ga = g)
    (h : D ++ ab <+: wireMsgs g.evs ∧ (ao = true → D ++ ab = wireMsgs g.evs)) : WireInv q D := by
  subst h1 h2 h3; exact ⟨h.1, h.2⟩

theorem WireInv.stimA {p q : PS} {st : Stim} {D : List Msg} (h : WireInv p D) (hs : stimL p st = some q) :
    WireInv q D := by
  obtain ⟨op, ba', bo', -, -, rfl⟩ := stimL_elim hs
  refine .of (ab := send p.ab p.abOpen (applyOp p.a op).2.2) (ao := p.abOpen) (by simp only [actL]) (by simp only [actL])
    (actL_with_ga ..) ?_
  have hev : (stepG p.a p.ga op).2.evs = p.ga.evs ++ (applyOp p.a op).2.2 := by simp only [stepG]
  rw [hev, wireMsgs_append]
  unfold send
  cases ho : p.abOpen with
  | true =>
    simp only [if_true, ← List.append_assoc, h.eq ho]
    exact ⟨List.prefix_refl _, fun _ => trivial⟩
  | false => exact ⟨h.pre.trans (List.prefix_append _ _), fun k => by cases k⟩

theorem WireInv.stimB {p q : PS} {st : Stim} {D : List Msg} (h : WireInv p D) (hs : stimL p.swap st = some q) :
    ∃ op, stimOp p.swap st = some op ∧ WireInv q.swap (D ++ dlvMsgs [op]) := by
  obtain ⟨op, ab', ao', s, hop, rfl⟩ := stimL_elim hs
  refine ⟨op, hop, .of (ab := ab') (ao := ao') (by simp only [PS.swap, actL]) (by simp only [PS.swap, actL])
    (swap_actL_with_ga ..) ?_⟩
  have hpre : D ++ p.ab <+: wireMsgs p.ga.evs := h.pre
  cases s with
  | call _ hc =>
    have hd : dlvMsgs [op] = [] := by cases op <;> first | rfl | cases hc
    rw [hd, List.append_nil]
    exact ⟨hpre, h.eq⟩
  | dlv m _ hba hm =>
    have hab : p.ab = m :: ab' := hba
    rw [hab] at hpre
    refine ⟨by simpa [dlvMsgs] using hpre, fun ho => ?_⟩
    have := h.eq ho
    rw [hab] at this
    simpa [dlvMsgs] using this
  | dlvClose rest hba =>
    have hab : p.ab = .close :: rest := hba
    rw [hab] at hpre
    refine ⟨?_, fun ho => by cases ho⟩
    simp only [dlvMsgs, List.append_nil]
    exact (List.prefix_append (D ++ [.close]) rest).trans (by simpa using hpre)
  | cut w hw =>
    have hd : dlvMsgs [Mux.Op.deliver w] = [] := by rcases hw with rfl | rfl <;> rfl
    rw [hd, List.append_nil, List.append_nil]
    exact ⟨(List.prefix_append D p.ab).trans hpre, fun ho => by cases ho⟩

theorem WireInv.run (p : PS) (l : List (Side × Stim)) {D : List Msg} (h : WireInv p D) :
    WireInv (run p l) (D ++ dlvMsgs (opsB p l)) := by
  induction l generalizing p D with
  | nil => simpa [opsB, dlvMsgs, PairAll.run] using h
  | cons sa rest ih =>
    obtain ⟨s, st⟩ := sa
    rw [opsB_cons, dlvMsgs_append, ← List.append_assoc]
    unfold PairAll.run
    cases hs : PairAll.step p s st with
    | none =>
      have : opsB p [(s, st)] = [] := by simp [opsB, hs]
      rw [this]; simpa [dlvMsgs] using ih p h
    | some q =>
      simp only [Option.getD_some]
      refine ih q ?_
      cases s with
      | A =>
        have : opsB p [(Side.A, st)] = [] := by simp [opsB, hs]
        rw [this]; simpa [dlvMsgs] using h.stimA (stepL_spec hs).1
      | B =>
        obtain ⟨q', rfl, hq', hne'⟩ := step_B hs
        obtain ⟨op, hop, hw⟩ := h.stimB hq'
        have : opsB p [(Side.B, st)] = [op] := by simp [opsB, hs, hop]
        rw [this]; exact hw

theorem WireInv.init (oa ob : Opts) (ra rb : List Nat) : WireInv (init oa ob ra rb) [] :=
  ⟨by simp [PairAll.init, wireMsgs], fun _ => by simp [PairAll.init, wireMsgs]⟩

/-- The life-cycle flags stay, and (with a closed queue) what is handed to the transport comes off the front of
    the queue and nothing is added. -/
structure DK (e e' : EP) (evs : List Ev) : Prop where
  flags : Flags e e'
  msgs : e.outClosed = true → wireMsgs evs ++ e'.outq = e.outq

theorem DK.ofQK {e e' : EP} {evs : List Ev} (f : Flags e e') (q : QK e e' evs) : DK e e' evs :=
  ⟨f, fun h => by obtain ⟨_, h2, h3⟩ := q h; rw [h3, h2]; rfl⟩

theorem DK.refl (e : EP) : DK e e [] := ⟨Flags.refl e, fun _ => rfl⟩

theorem DK.trans {a b c : EP} {ev1 ev2 : List Ev} (s : DK a b ev1) (t : DK b c ev2) : DK a c (ev1 ++ ev2) :=
  ⟨s.flags.trans t.flags, fun h => by
    rw [wireMsgs_append, List.append_assoc, t.msgs (by rw [s.flags.outClosed]; exact h), s.msgs h]⟩

theorem DK.sendSome (e : EP) : DK e (sendSome e).1 (sendSome e).2 :=
  ⟨(Still.sendSome e).toFlags, fun _ => sendSome_msgs e⟩

theorem DK.hold (e : EP) (c : Bool) :
    DK e (if c then (e, ([] : List Ev)) else Mux.sendSome e).1 (if c then (e, ([] : List Ev)) else Mux.sendSome e).2 := by
  split
  · exact DK.refl e
  · exact DK.sendSome e

/-- `settle` is the task's loop followed by steps that keep the flags and only send from the front of the queue. -/
theorem settle_split (e : EP) :
    ∃ evsT, (settle e).2 = (settleLoop (2 * e.inbox.length + e.droppedq.length + 2) e []).2 ++ evsT ∧
      DK (settleLoop (2 * e.inbox.length + e.droppedq.length + 2) e []).1 (settle e).1 evsT :=
  settle_chain
    (P := fun a b x => ∃ evsT, x = (settleLoop (2 * a.inbox.length + a.droppedq.length + 2) a []).2 ++ evsT ∧
      DK (settleLoop (2 * a.inbox.length + a.droppedq.length + 2) a []).1 b evsT)
    (Q := DK)
    (fun ⟨t, hx, hd⟩ hq => ⟨t ++ _, by rw [hx, List.append_assoc], hd.trans hq⟩) DK.trans
    ⟨[], (List.append_nil _).symm, DK.refl _⟩ (fun a => DK.hold a _)
    (fun a => DK.ofQK ((⟨rfl, rfl, rfl, rfl⟩ : Flags a { a with doneq := [] }).trans (Still.runDone _ _).toFlags)
      (QK.runDoneq a))
    (fun a => DK.ofQK ((⟨rfl, rfl, rfl, rfl⟩ : Flags a { a with retryq := [] }).trans (Still.runRetries _ _).toFlags)
      (QK.runRetryq a))

/-- The endpoint drains or has drained; `E`: the events it has emitted so far; `T`: what its sink had taken when
    the drain began, followed by the queue at that moment. -/
def DPhase (e : EP) (E : List Ev) (T : List Msg) : Prop :=
  e.outClosed = true ∧
  ((e.dead = false ∧ (∃ res, e.draining = some res) ∧ wireMsgs E ++ e.outq = T) ∨
   ((e.dead = true ∨ (e.draining = none ∧ e.closing.isSome = true)) ∧ e.outq = [] ∧ wireMsgs E = T ++ [.close]))

/-- The drain is over: the sink has taken everything, then the Close. -/
def DDone (e : EP) : Prop := e.dead = true ∨ e.draining = none

theorem DPhase.done {e : EP} {E : List Ev} {T : List Msg} (h : DPhase e E T) (hd : DDone e) :
    wireMsgs E = T ++ [.close] ∧ e.outq = [] := by
  obtain ⟨_, ⟨h1, ⟨res, h2⟩, _⟩ | ⟨_, h3, h4⟩⟩ := h
  · rcases hd with hd | hd
    · rw [h1] at hd; cases hd
    · rw [h2] at hd; cases hd
  · exact ⟨h4, h3⟩

theorem DPhase.dk {e e' : EP} {E evs : List Ev} {T : List Msg} (h : DPhase e E T) (k : DK e e' evs) :
    DPhase e' (E ++ evs) T := by
  obtain ⟨hoc, hph⟩ := h
  have hm := k.msgs hoc
  refine ⟨by rw [k.flags.outClosed]; exact hoc, ?_⟩
  rcases hph with ⟨h1, ⟨res, h2⟩, h3⟩ | ⟨h1, h2, h3⟩
  · refine Or.inl ⟨by rw [k.flags.dead]; exact h1, ⟨res, by rw [k.flags.draining]; exact h2⟩, ?_⟩
    rw [wireMsgs_append, List.append_assoc, hm]; exact h3
  · rw [h2] at hm
    have hnil := List.append_eq_nil_iff.mp hm
    refine Or.inr ⟨by rw [k.flags.dead, k.flags.draining, k.flags.closing]; exact h1, hnil.2, ?_⟩
    rw [wireMsgs_append, hnil.1, List.append_nil]; exact h3

theorem windDownTail_phase (e1 : EP) (flushed : List Ev) (s : Bool) (res : ExitRes) (hoc : e1.outClosed = true)
    (hq : e1.outq = []) (hdr : e1.draining = none) :
    let r := windDownTail e1 flushed s res
    r.1.outClosed = true ∧ r.1.outq = [] ∧ (r.1.dead = true ∨ (r.1.draining = none ∧ r.1.closing.isSome = true)) ∧
      wireMsgs r.2 = wireMsgs flushed ++ [.close] := by
  have qi := QK.windDownInbox e1 e1.inbox hoc
  have fi := Flags.of_path (.windDownInbox e1 e1.inbox)
  simp only [Mux.windDownTail]
  split
  · have qf := QK.windDownFinish { (windDownInbox e1 e1.inbox).1 with inbox := [] } res qi.1
    refine ⟨qf.1, by rw [qf.2.1]; show (windDownInbox e1 e1.inbox).1.outq = []; rw [qi.2.1, hq],
      Or.inl (windDownFinish_resolves _ res).1, ?_⟩
    simp only [wireMsgs_append, qi.2.2, qf.2.2, wireMsgs, List.append_nil]
  · refine ⟨qi.1, by show (windDownInbox e1 e1.inbox).1.outq = []; rw [qi.2.1, hq], Or.inr ⟨?_, rfl⟩, ?_⟩
    · show (windDownInbox e1 e1.inbox).1.draining = none
      rw [fi.draining]; exact hdr
    · simp only [wireMsgs_append, qi.2.2, wireMsgs, List.append_nil]

theorem DPhase.ofDrainStep {e : EP} {E : List Ev} {T : List Msg} (res : ExitRes) (hoc : e.outClosed = true)
    (hd : e.dead = false) (hdr : e.draining = some res) (hT : wireMsgs E ++ e.outq = T) :
    DPhase (drainStep e res).1 (E ++ (drainStep e res).2) T := by
  have hm := sendSome_msgs e
  have hsc : (sendSome e).1.outClosed = true := by rw [sendSome_outClosed]; exact hoc
  simp only [Mux.drainStep]
  split
  · rename_i hemp
    have hq : (sendSome e).1.outq = [] := by simpa using hemp
    have ht := windDownTail_phase { (sendSome e).1 with draining := none } (sendSome e).2 e.srcEnded res hsc hq rfl
    simp only at ht
    refine ⟨ht.1, Or.inr ⟨ht.2.2.1, ht.2.1, ?_⟩⟩
    rw [wireMsgs_append, ht.2.2.2, ← List.append_assoc, ← hT]
    rw [hq, List.append_nil] at hm
    rw [hm]
  · refine ⟨hsc, Or.inl ⟨by rw [sendSome_dead]; exact hd, ⟨res, by rw [(Still.sendSome e).draining]; exact hdr⟩, ?_⟩⟩
    rw [wireMsgs_append, List.append_assoc, hm]; exact hT

theorem DPhase.applyOp {e : EP} {E : List Ev} {T : List Msg} (h : DPhase e E T) (op : Mux.Op) :
    DPhase (applyOp e op).1 (E ++ (applyOp e op).2.2) T := by
  have k1 : DK e (opStep e op).1 (opStep e op).2.2 := DK.ofQK (Still.opStep e op).toFlags (QK.opStep e op)
  have h1 := h.dk k1
  generalize hE1 : E ++ (opStep e op).2.2 = E1 at h1
  obtain ⟨evsT, hev, kT⟩ := settle_split (opStep e op).1
  have hres : (Mux.applyOp e op).1 = (settle (opStep e op).1).1 := applyOp_fst e op
  have hevs : E ++ (Mux.applyOp e op).2.2 = E1 ++ (settle (opStep e op).1).2 := by
    rw [← hE1, List.append_assoc, applyOp_evs]
  rw [hres, hevs, hev, ← List.append_assoc]
  refine DPhase.dk ?_ kT
  generalize (opStep e op).1 = e1 at h1 ⊢
  obtain ⟨hoc, hph⟩ := h1
  have hf : 2 * e1.inbox.length + e1.droppedq.length + 2 = (2 * e1.inbox.length + e1.droppedq.length + 1) + 1 := rfl
  rw [hf]
  rcases hph with ⟨hd, ⟨res, hdr⟩, hT⟩ | ⟨hfl, hq, hT⟩
  · have : settleLoop (2 * e1.inbox.length + e1.droppedq.length + 1 + 1) e1 [] =
        ((Mux.drainStep e1 res).1, [] ++ (Mux.drainStep e1 res).2) := by simp [settleLoop, hd, hdr]
    rw [this, List.nil_append]
    exact DPhase.ofDrainStep res hoc hd hdr hT
  · by_cases hdd : e1.dead = true
    · have : settleLoop (2 * e1.inbox.length + e1.droppedq.length + 1 + 1) e1 [] = (e1, []) := by
        simp [settleLoop, hdd]
      rw [this, List.append_nil]
      exact ⟨hoc, Or.inr ⟨hfl, hq, hT⟩⟩
    · have hd' : e1.dead = false := by simpa using hdd
      rcases hfl with hx | ⟨hdr, hcl⟩
      · exact absurd hx hdd
      · obtain ⟨res, hres'⟩ := Option.isSome_iff_exists.mp hcl
        have : settleLoop (2 * e1.inbox.length + e1.droppedq.length + 1 + 1) e1 [] =
            ((Mux.closingStep e1 res).1, [] ++ (Mux.closingStep e1 res).2) := by simp [settleLoop, hd', hdr, hres']
        rw [this, List.nil_append]
        have qc := QK.closingStep e1 res hoc
        refine ⟨qc.1, Or.inr ⟨?_, by rw [qc.2.1]; exact hq, by rw [wireMsgs_append, qc.2.2, List.append_nil]; exact hT⟩⟩
        simp only [Mux.closingStep]
        split
        · exact Or.inl (windDownFinish_resolves _ res).1
        · refine Or.inr ⟨?_, ?_⟩
          · show (windDownInbox e1 e1.inbox).1.draining = none
            rw [(Flags.of_path (.windDownInbox e1 e1.inbox)).draining]; exact hdr
          · show (windDownInbox e1 e1.inbox).1.closing.isSome = true
            rw [(Flags.of_path (.windDownInbox e1 e1.inbox)).closing]; exact hcl

def allResets (l : List Msg) : Prop := ∀ m ∈ l, ∃ fid, m = Msg.frame (.reset fid)

theorem enqReset_outq (e : EP) (fid : Nat) : ∃ rs, (e.enqFrame (.reset fid)).outq = e.outq ++ rs ∧ allResets rs := by
  unfold EP.enqFrame EP.enq
  split
  · exact ⟨[], by simp, fun m hm => by cases hm⟩
  · exact ⟨[.frame (.reset fid)], rfl, fun m hm => by simp at hm; exact ⟨fid, hm⟩⟩

theorem allResets_append {a b : List Msg} (ha : allResets a) (hb : allResets b) : allResets (a ++ b) := by
  intro m hm
  rcases List.mem_append.mp hm with h | h
  · exact ha m h
  · exact hb m h

theorem foldEnq_outq (l : List BindIn) (e : EP) :
    ∃ rs, (l.foldl (fun e b => e.enqFrame (.reset b.fid)) e).outq = e.outq ++ rs ∧ allResets rs := by
  rw [foldEnq_eq]
  split
  · exact ⟨[], by simp, fun m hm => by cases hm⟩
  · exact ⟨_, rfl, fun m hm => let ⟨b, _, hb⟩ := List.mem_map.mp hm; ⟨b.fid, hb.symm⟩⟩

theorem appDropMux_outq (e : EP) : ∃ rs, (appDropMux e).1.outq = e.outq ++ rs ∧ allResets rs := by
  unfold Mux.appDropMux
  exact foldEnq_outq _ _

theorem unpark_outq (e : EP) : ∃ rs, (unpark e).outq = e.outq ++ rs ∧ allResets rs := by
  have nil : ∃ rs, e.outq = e.outq ++ rs ∧ allResets rs := ⟨[], by simp, fun m hm => by cases hm⟩
  unfold Mux.unpark
  split
  · exact nil
  · split
    · split <;> exact nil
    · split <;> exact nil
  · split
    · rename_i b _ _
      exact enqReset_outq { e with park := none } b.fid
    · split <;> exact nil

theorem unpark_droppedq (e : EP) : ∃ ex, (unpark e).droppedq = e.droppedq ++ ex := by
  unfold Mux.unpark
  split
  · exact ⟨[], by simp⟩
  · split
    · split
      · exact ⟨_, rfl⟩
      · exact ⟨[], by simp⟩
    · split <;> exact ⟨[], by simp⟩
  · split
    · exact ⟨[], by simp [EP.enqFrame, EP.enq]; split <;> rfl⟩
    · split <;> exact ⟨[], by simp⟩

theorem DPhase.windDownDrain (e : EP) (E : List Ev) (res : ExitRes) (hd : e.dead = false) (hdr : e.draining = none) :
    DPhase (windDown e true res).1 (E ++ (windDown e true res).2) (wireMsgs E ++ e.outq) := by
  have hf := Flags.of_path (.disallowAll e e.flows)
  have hpq : (dropPrep e).outq = e.outq := dropPrep_outq e
  have hm := sendSome_msgs (dropPrep e)
  have hsc : (sendSome (dropPrep e)).1.outClosed = true := by rw [sendSome_outClosed]; rfl
  have hsd : (sendSome (dropPrep e)).1.dead = false := by
    rw [sendSome_dead]; show (disallowAll e e.flows).dead = false; rw [hf.dead]; exact hd
  simp only [Mux.windDown, if_true]
  split
  · rename_i hemp
    have hq : (sendSome (dropPrep e)).1.outq = [] := by simpa using hemp
    have hdr' : (sendSome (dropPrep e)).1.draining = none := by
      rw [(Still.sendSome _).draining]; show (disallowAll e e.flows).draining = none; rw [hf.draining]; exact hdr
    have ht := windDownTail_phase (sendSome (dropPrep e)).1 (sendSome (dropPrep e)).2 e.srcEnded res hsc hq hdr'
    simp only at ht
    refine ⟨ht.1, Or.inr ⟨ht.2.2.1, ht.2.1, ?_⟩⟩
    rw [wireMsgs_append, ht.2.2.2, ← List.append_assoc]
    rw [hq, List.append_nil, hpq] at hm
    rw [hm]
  · refine ⟨hsc, Or.inl ⟨hsd, ⟨res, rfl⟩, ?_⟩⟩
    rw [wireMsgs_append, List.append_assoc]
    show wireMsgs E ++ (wireMsgs (sendSome (dropPrep e)).2 ++ (sendSome (dropPrep e)).1.outq) = _
    rw [hm, hpq]

/-- Dropping the `Multiplexor` of a running, idle endpoint starts the drain: from then on (`DPhase`) the sink gets
    what it had taken (`wireMsgs E`), then the queue `Q` — the queue at the moment of the drop, followed only by
    the `Reset`s that reject the peer's unanswered bind requests — and then the Close. -/
theorem DPhase.drop (e : EP) (E : List Ev) (hd : e.dead = false) (hdr : e.draining = none) (hc : e.closing = none)
    (hi : e.inbox = []) (hq : e.droppedq = []) :
    ∃ rs, allResets rs ∧
      DPhase (Mux.applyOp e .dropMux).1 (E ++ (Mux.applyOp e .dropMux).2.2) (wireMsgs E ++ (e.outq ++ rs)) := by
  have fl := (Still.opStep e .dropMux).toFlags
  have k0 : (opStep e .dropMux).2.2 = [] := rfl
  obtain ⟨r1, ho1, a1⟩ := appDropMux_outq e
  have hi0 : (opStep e .dropMux).1.inbox = [] := by
    show (appDropMux e).1.inbox = []; rw [appDropMux_inbox]; exact hi
  have hq0 : (opStep e .dropMux).1.droppedq = [0] := by
    show (appDropMux e).1.droppedq = [0]
    simp [Mux.appDropMux, hd, hq, show ∀ l e', (List.foldl (fun e b => EP.enqFrame e (.reset b.fid)) e' l).droppedq = e'.droppedq from
      fun l e' => (Path.foldEnq l e').frame .droppedq]
  obtain ⟨evsT, hev, kT⟩ := settle_split (opStep e .dropMux).1
  have hres : (Mux.applyOp e .dropMux).1 = (settle (opStep e .dropMux).1).1 := applyOp_fst e .dropMux
  have hevs : E ++ (Mux.applyOp e .dropMux).2.2 = E ++ (settle (opStep e .dropMux).1).2 := by
    rw [applyOp_evs, k0, List.nil_append]
  have ho0 : (opStep e .dropMux).1.outq = e.outq ++ r1 := ho1
  generalize (opStep e .dropMux).1 = e0 at *
  have hd0 : e0.dead = false := by rw [fl.dead]; exact hd
  have hdr0 : e0.draining = none := by rw [fl.draining]; exact hdr
  have hc0 : e0.closing = none := by rw [fl.closing]; exact hc
  obtain ⟨r2, ho2, a2⟩ := unpark_outq e0
  obtain ⟨ex, hx⟩ := unpark_droppedq e0
  have cu := Ctl.unpark e0
  rw [hq0] at hx
  have hui : (unpark e0).inbox = [] := by rw [cu.inbox]; exact hi0
  have hloop : settleLoop (2 * e0.inbox.length + e0.droppedq.length + 2) e0 [] =
      ((windDown { unpark e0 with droppedq := ex } true .ok).1, [] ++ (windDown { unpark e0 with droppedq := ex } true .ok).2) := by
    have hf : 2 * e0.inbox.length + e0.droppedq.length + 2 = (2 * e0.inbox.length + e0.droppedq.length + 1) + 1 := rfl
    rw [hf]
    simp [settleLoop, hd0, hdr0, hc0, hui, hx]
  refine ⟨r1 ++ r2, allResets_append a1 a2, ?_⟩
  rw [hres, hevs, hev, ← List.append_assoc]
  refine DPhase.dk ?_ kT
  rw [hloop, List.nil_append]
  have := DPhase.windDownDrain { unpark e0 with droppedq := ex } E .ok (by show (unpark e0).dead = false; rw [cu.dead]; exact hd0)
    (by show (unpark e0).draining = none; rw [cu.draining]; exact hdr0)
  have hoq : ({ unpark e0 with droppedq := ex } : EP).outq = e.outq ++ (r1 ++ r2) := by
    show (unpark e0).outq = _; rw [ho2, ho0, List.append_assoc]
  rw [hoq] at this
  exact this

/-- The left endpoint drains (or has drained) towards `T`, and its application has written nothing since. -/
structure AfterDrop (p : PS) (T : List Msg) (Wr : List (Nat × Nat × Bytes)) : Prop where
  ph : DPhase p.a p.ga.evs T
  wr : p.ga.wrote = Wr

theorem wroteBy_closed (e : EP) (op : Mux.Op) (h : e.outClosed = true) : wroteBy e op (Mux.applyOp e op).2.1 = [] := by
  have := (SnT.applyOp e op).noW h
  simpa [wroteFrames] using this

theorem AfterDrop.stimA {p q : PS} {st : Stim} {T : List Msg} {Wr : List (Nat × Nat × Bytes)} (h : AfterDrop p T Wr)
    (hs : stimL p st = some q) : AfterDrop q T Wr := by
  obtain ⟨op, _, h1, h2, _, _⟩ := stimL_op hs
  refine ⟨?_, ?_⟩
  · rw [h1, h2]; exact h.ph.applyOp op
  · rw [h2]
    show p.ga.wrote ++ wroteBy p.a op (Mux.applyOp p.a op).2.1 = Wr
    rw [wroteBy_closed p.a op h.ph.1, List.append_nil]; exact h.wr

theorem AfterDrop.step {p q : PS} {s : Side} {st : Stim} {T : List Msg} {Wr : List (Nat × Nat × Bytes)}
    (h : AfterDrop p T Wr) (hs : step p s st = some q) : AfterDrop q T Wr := by
  cases s with
  | A => exact h.stimA (stepL_spec hs).1
  | B =>
    obtain ⟨q', rfl, hq', hne'⟩ := step_B hs
    obtain ⟨op, _, _, _, h3, h4⟩ := stimL_op hq'
    refine ⟨?_, ?_⟩
    · show DPhase q'.b q'.gb.evs T; rw [h3, h4]; exact h.ph
    · show q'.gb.wrote = Wr; rw [h4]; exact h.wr

theorem AfterDrop.run (p : PS) (l : List (Side × Stim)) {T : List Msg} {Wr : List (Nat × Nat × Bytes)}
    (h : AfterDrop p T Wr) : AfterDrop (run p l) T Wr :=
  run_induct (P := fun q => AfterDrop q T Wr) (fun h hs => h.step hs) p l h

structure Running (e : EP) : Prop where
  dead : e.dead = false
  draining : e.draining = none
  closing : e.closing = none
  inbox : e.inbox = []
  droppedq : e.droppedq = []
  outClosed : e.outClosed = false

theorem AfterDrop.start {p q : PS} (hr : Running p.a) (hs : PairAll.step p .A (.call .dropMux) = some q) :
    ∃ rs, allResets rs ∧ AfterDrop q (wireMsgs p.ga.evs ++ (p.a.outq ++ rs)) p.ga.wrote := by
  obtain ⟨rs, ha, hp⟩ := DPhase.drop p.a p.ga.evs hr.dead hr.draining hr.closing hr.inbox hr.droppedq
  have hs' : stepL p (.call .dropMux) = some q := hs
  obtain ⟨op, hop, h1, h2, _, _⟩ := stimL_op (stepL_spec hs').1
  obtain rfl : Op.dropMux = op := Option.some.inj hop
  refine ⟨rs, ha, ?_, by rw [h2]; show p.ga.wrote ++ wroteBy p.a .dropMux _ = p.ga.wrote; simp [wroteBy]⟩
  rw [h1, h2]; exact hp

/-- A local drop still flushes, for two endpoints and every history: the run is `l1`, then the left application
    drops its `Multiplexor` while its task is running, then `l2` — anything: calls at either side, deliveries,
    back-pressure, cuts.  As long as the drain lasts, what the left sink has taken followed by what is still
    queued is: what it had taken before, the queue at the moment of the drop, `Reset`s (for the peer's unanswered
    bind requests) — nothing lost, nothing reordered, nothing else added; when the drain is over the sink has
    taken exactly that and then the Close.  The wire is FIFO and loses nothing without a cut. -/
theorem drop_flushes (oa ob : Opts) (ra rb : List Nat) (l1 l2 : List (Side × Stim)) (q : PS)
    (hr : Running (run (init oa ob ra rb) l1).a)
    (hs : step (run (init oa ob ra rb) l1) .A (.call .dropMux) = some q) :
    let p1 := run (init oa ob ra rb) l1
    let l := l1 ++ (Side.A, Stim.call .dropMux) :: l2
    let pf := run (init oa ob ra rb) l
    ∃ rs, allResets rs ∧
      (DDone pf.a → wireMsgs pf.ga.evs = wireMsgs p1.ga.evs ++ (p1.a.outq ++ rs) ++ [.close] ∧ pf.a.outq = []) ∧
      (¬ DDone pf.a → wireMsgs pf.ga.evs ++ pf.a.outq = wireMsgs p1.ga.evs ++ (p1.a.outq ++ rs)) ∧
      dlvMsgs (opsB (init oa ob ra rb) l) ++ pf.ab <+: wireMsgs pf.ga.evs ∧
      (pf.abOpen = true → dlvMsgs (opsB (init oa ob ra rb) l) ++ pf.ab = wireMsgs pf.ga.evs) ∧
      pf.ga.wrote = p1.ga.wrote := by
  intro p1 l pf
  obtain ⟨rs, ha, h0⟩ := AfterDrop.start hr hs
  have hpf : pf = run q l2 := by
    show run (init oa ob ra rb) (l1 ++ (Side.A, Stim.call .dropMux) :: l2) = run q l2
    rw [run_append]
    show run ((step p1 .A (.call .dropMux)).getD p1) l2 = run q l2
    rw [hs]; rfl
  have h1 := AfterDrop.run q l2 h0
  rw [← hpf] at h1
  have hw := WireInv.run (init oa ob ra rb) l (WireInv.init oa ob ra rb)
  simp only [List.nil_append] at hw
  refine ⟨rs, ha, fun hd => h1.ph.done hd, fun hnd => ?_, hw.pre, hw.eq, h1.wr⟩
  obtain ⟨_, ⟨_, _, h3⟩ | ⟨h2, _, _⟩⟩ := h1.ph
  · exact h3
  · exfalso; apply hnd
    rcases h2 with h2 | h2
    · exact Or.inl h2
    · exact Or.inr h2.1

theorem pX_allResets (x : Nat) (rs : List Msg) (h : allResets rs) : pX x rs = [] := by
  induction rs with
  | nil => rfl
  | cons m r ih =>
    obtain ⟨fid, rfl⟩ := h m List.mem_cons_self
    simp only [pX]
    exact ih (fun m' hm' => h m' (List.mem_cons_of_mem _ hm'))

/-- After a drop that drained: every frame the left application had written on stream `x` is — as long as the
    right endpoint's object `j` for `x` accepts and the wire is intact — accepted into `j`, or delivered and not yet
    processed, or still on the wire, in order: nothing the application wrote before the drop is lost. -/
theorem drop_written_reaches_peer {ra rb : List Nat} (c : Cfg ra rb) (oa ob : Opts) (l1 l2 : List (Side × Stim)) (q : PS)
    (hr : Running (run (init oa ob ra rb) l1).a)
    (hs : PairAll.step (run (init oa ob ra rb) l1) .A (.call .dropMux) = some q) (x j : Nat) (o : Obj) :
    let pf := run (init oa ob ra rb) (l1 ++ (Side.A, Stim.call .dropMux) :: l2)
    pf.b.objs[j]? = some o → o.fid = x → canAcc x j pf.b = true → pf.abOpen = true → DDone pf.a →
    Log.dataOf pf.gb.accepted j ++ pX x (inMsgs pf.b.inbox) ++ pX x pf.ab = wroteX x pf.ga := by
  intro pf hj hx hcan hopen hdone
  obtain ⟨rs, ha, h1, _, _, _, hwr⟩ := drop_flushes oa ob ra rb l1 l2 q hr hs
  obtain ⟨hsent, _⟩ := h1 hdone
  -- the byte invariant at the final state
  have hp := PInv.reach c oa ob _ hj hx
  have hd4 := (hp.good.dir.d4 hcan).1 hopen
  -- sender integrity at the moment of the drop (the queue was open)
  have hrun := RunInv.reach oa ob ra rb l1
  have heq := hrun.la.tx.eq hr.outClosed
  simp only [pushesQ, List.nil_append] at heq
  have hW : wroteX x pf.ga = pX x (wireMsgs (run (init oa ob ra rb) l1).ga.evs) ++ pX x (run (init oa ob ra rb) l1).a.outq := by
    rw [wroteX_eq, hwr, ← heq, List.filter_append, List.map_append, ← pX_wireMsgs, ← pX_pushesQ]
  rw [hW]
  have hS : sentX x pf.ga = pX x (wireMsgs (run (init oa ob ra rb) l1).ga.evs) ++ pX x (run (init oa ob ra rb) l1).a.outq := by
    unfold sentX
    rw [hsent]
    simp [pX_append, pX_allResets x rs ha, pX]
  rw [← hS]
  exact hd4

end Penguin.PairAll
