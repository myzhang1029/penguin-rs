/-
Helper lemmas about the client's request builder (`Penguin.Model.ClientReq`): what `HeaderMap::insert`
does to the values stored under a name, for one insert and for the whole sequence of custom headers.
-/
import Penguin.Model.ClientReq

namespace Penguin.ClientReq
open Penguin Penguin.Gate Penguin.Constants

/-- Every value stored under `name`, in order (`HeaderMap::get_all`). -/
def valuesOf (hs : Headers) (name : String) : List Bytes :=
  (hs.filter fun e => e.1 == name).map (·.2)

/-- The value of the last custom header called `name`, if any. -/
def lastOf : List (String × Bytes) → String → Option Bytes
  | [], _ => none
  | (m, v) :: rest, n =>
    match lastOf rest n with
    | some w => some w
    | none => if m = n then some v else none

theorem get_eq_head_valuesOf (hs : Headers) (n : String) : Gate.get hs n = (valuesOf hs n).head? := by
  induction hs with
  | nil => rfl
  | cons e rest ih =>
    obtain ⟨m, w⟩ := e
    by_cases h : m = n
    · simp [Gate.get, valuesOf, h]
    · have h' : (m == n) = false := by simpa using h
      simp only [Gate.get, h, if_false, ih, valuesOf, List.filter_cons, h']
      simp

theorem valuesOf_cons (k : String) (w : Bytes) (rest : Headers) (n : String) :
    valuesOf ((k, w) :: rest) n = if k = n then w :: valuesOf rest n else valuesOf rest n := by
  by_cases h : k = n
  · simp [valuesOf, h]
  · have : (k == n) = false := by simpa using h
    simp [valuesOf, h, this]

private theorem valuesOf_filter_ne (hs : Headers) (m n : String) (h : m ≠ n) :
    valuesOf (hs.filter fun e => e.1 != m) n = valuesOf hs n := by
  induction hs with
  | nil => rfl
  | cons e rest ih =>
    obtain ⟨k, w⟩ := e
    by_cases hk : k = m
    · have hkn : k ≠ n := fun hkn => h (hk.symm.trans hkn)
      simp [hk, valuesOf_cons, ih, hk ▸ hkn]
    · have : (k != m) = true := by simpa using hk
      simp only [List.filter_cons, this, if_true, valuesOf_cons, ih]

private theorem valuesOf_filter_self (hs : Headers) (n : String) :
    valuesOf (hs.filter fun e => e.1 != n) n = [] := by
  induction hs with
  | nil => rfl
  | cons e rest ih =>
    obtain ⟨k, w⟩ := e
    by_cases hk : k = n
    · simp [hk, ih]
    · have : (k != n) = true := by simpa using hk
      simp only [List.filter_cons, this, if_true, valuesOf_cons, hk, if_false, ih]

/-- `HeaderMap::insert name v` leaves exactly the one value `v` under `name` and touches no other name. -/
theorem valuesOf_insert (hs : Headers) (m : String) (v : Bytes) (n : String) :
    valuesOf (insert hs m v) n = if m = n then [v] else valuesOf hs n := by
  induction hs with
  | nil =>
    by_cases h : m = n <;> simp [insert, valuesOf, h]
  | cons e rest ih =>
    obtain ⟨k, w⟩ := e
    by_cases hk : k = m
    · subst hk
      simp only [insert, if_true, valuesOf_cons]
      by_cases h : k = n
      · subst h
        simp [valuesOf_filter_self]
      · simp [h, valuesOf_filter_ne rest k n h]
    · simp only [insert, hk, if_false, valuesOf_cons, ih]
      by_cases h : m = n
      · subst h
        simp [hk]
      · simp [h]

theorem get_insert (hs : Headers) (m : String) (v : Bytes) (n : String) :
    Gate.get (insert hs m v) n = if m = n then some v else Gate.get hs n := by
  rw [get_eq_head_valuesOf, valuesOf_insert, get_eq_head_valuesOf]
  by_cases h : m = n <;> simp [h]

theorem valuesOf_insertAll (cs : List (String × Bytes)) (hs : Headers) (n : String) :
    valuesOf (insertAll hs cs) n =
      match lastOf cs n with
      | some v => [v]
      | none => valuesOf hs n := by
  induction cs generalizing hs with
  | nil => simp [insertAll, lastOf]
  | cons e rest ih =>
    obtain ⟨m, v⟩ := e
    have hstep : insertAll hs ((m, v) :: rest) = insertAll (insert hs m v) rest := by
      simp [insertAll]
    rw [hstep, ih, valuesOf_insert]
    simp only [lastOf]
    cases lastOf rest n with
    | some w => rfl
    | none => by_cases h : m = n <;> simp [h]

theorem get_insertAll (cs : List (String × Bytes)) (hs : Headers) (n : String) :
    Gate.get (insertAll hs cs) n =
      match lastOf cs n with
      | some v => some v
      | none => Gate.get hs n := by
  rw [get_eq_head_valuesOf, valuesOf_insertAll, get_eq_head_valuesOf]
  cases lastOf cs n <;> rfl

theorem lastOf_none_of_not_mem (cs : List (String × Bytes)) (n : String)
    (h : ∀ e ∈ cs, e.1 ≠ n) : lastOf cs n = none := by
  induction cs with
  | nil => rfl
  | cons e rest ih =>
    obtain ⟨m, v⟩ := e
    have h1 : m ≠ n := h (m, v) (by simp)
    have h2 := ih (fun e he => h e (by simp [he]))
    simp [lastOf, h2, h1]

theorem lastOf_append_single (cs : List (String × Bytes)) (n : String) (v : Bytes) :
    lastOf (cs ++ [(n, v)]) n = some v := by
  induction cs with
  | nil => simp [lastOf]
  | cons e rest ih =>
    obtain ⟨m, w⟩ := e
    simp [lastOf, ih]

theorem valuesOf_length_le_one (hs : Headers) (n : String) (h : (hs.map (·.1)).Nodup) :
    (valuesOf hs n).length ≤ 1 := by
  induction hs with
  | nil => simp [valuesOf]
  | cons e rest ih =>
    obtain ⟨m, w⟩ := e
    simp only [List.map_cons, List.nodup_cons] at h
    rw [valuesOf_cons]
    by_cases hm : m = n
    · subst hm
      have : valuesOf rest m = [] := by
        unfold valuesOf
        simp only [List.map_eq_nil_iff, List.filter_eq_nil_iff]
        intro e he
        have : e.1 ≠ m := fun heq => h.1 (by rw [← heq]; exact List.mem_map_of_mem he)
        simpa using this
      simp [this]
    · simpa [hm] using ih h.2

/-- Every header map the client builds arises from tungstenite's headers with the protocol header by `insert`s
    alone: what holds there and is kept by every `insert` holds of the request's headers. -/
theorem buildHeaders_induction {P : Headers → Prop} (hins : ∀ hs m v, P hs → P (insert hs m v))
    (c : ClientCfg) (key : Bytes)
    (h1 : P (insert (baseHeaders c.urlHost key) clientProtocolHeader (asciiBytes protocolName))) :
    P (buildHeaders c key) := by
  have hall : ∀ cs hs, P hs → P (insertAll hs cs) := by
    intro cs
    induction cs with
    | nil => exact fun _ h => h
    | cons e rest ih => exact fun hs h => ih _ (hins hs e.1 e.2 h)
  unfold buildHeaders
  apply hall
  cases c.hostname <;> cases c.psk <;> first | exact h1 | exact hins _ _ _ h1 | exact hins _ _ _ (hins _ _ _ h1)

theorem get_received (r : Gate.Request) (n : String) :
    (received r).get n = (r.get n).map trimOws := by
  unfold received Gate.Request.get
  simp only
  induction r.headers with
  | nil => rfl
  | cons e rest ih =>
    obtain ⟨m, w⟩ := e
    by_cases h : m = n <;> simp [Gate.get, h, ih]

/-- Neither the first nor the last byte is a space or a tab. -/
def NoOuterOws (v : Bytes) : Prop :=
  (∀ x, v.head? = some x → isOws x = false) ∧ (∀ x, v.getLast? = some x → isOws x = false)

private theorem head_dropWhile_not (p : UInt8 → Bool) (l : Bytes) :
    ∀ x, (l.dropWhile p).head? = some x → p x = false := by
  induction l with
  | nil => simp
  | cons a rest ih =>
    intro x hx
    by_cases ha : p a = true
    · simp only [List.dropWhile_cons, ha, if_true] at hx
      exact ih x hx
    · simp only [List.dropWhile_cons, ha] at hx
      simp at hx
      subst hx
      simpa using ha

private theorem dropWhile_eq_self (p : UInt8 → Bool) (l : Bytes) (h : ∀ x, l.head? = some x → p x = false) :
    l.dropWhile p = l := by
  cases l with
  | nil => rfl
  | cons a rest =>
    have := h a (by simp)
    simp [this]

theorem trimOws_of_noOuter (v : Bytes) (h : NoOuterOws v) : trimOws v = v := by
  unfold trimOws
  rw [dropWhile_eq_self _ v h.1, dropWhile_eq_self _ v.reverse (by simpa [List.head?_reverse] using h.2)]
  simp

theorem noOuter_trimOws (v : Bytes) : NoOuterOws (trimOws v) := by
  unfold trimOws
  generalize ha : v.dropWhile isOws = a
  have hahead : ∀ x, a.head? = some x → isOws x = false := ha ▸ head_dropWhile_not isOws v
  generalize hb : a.reverse.dropWhile isOws = b
  have hbhead : ∀ x, b.head? = some x → isOws x = false := hb ▸ head_dropWhile_not isOws a.reverse
  constructor
  · intro x hx
    rw [List.head?_reverse] at hx
    obtain ⟨t, ht⟩ : b <:+ a.reverse := hb ▸ List.dropWhile_suffix isOws
    have hlast : a.reverse.getLast? = some x := by
      rw [← ht, List.getLast?_append, hx]; rfl
    rw [List.getLast?_reverse] at hlast
    exact hahead x hlast
  · intro x hx
    rw [List.getLast?_reverse] at hx
    exact hbhead x hx

/-- A result for its own sake: the proofs use `noOuter_trimOws`. -/
theorem trimOws_idem (v : Bytes) : trimOws (trimOws v) = trimOws v :=
  trimOws_of_noOuter _ (noOuter_trimOws v)

end Penguin.ClientReq
