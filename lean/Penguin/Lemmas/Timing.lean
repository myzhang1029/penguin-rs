import Penguin.Model.Timing

namespace Penguin.Lemmas.Timing
open Penguin.Timing

theorem latest_ge (l : List Nat) (a : Nat) : a ≤ latest a l := by
  unfold latest
  induction l generalizing a with
  | nil => simp
  | cons x xs ih =>
    simp only [List.foldl_cons]
    exact Nat.le_trans (Nat.le_max_left a x) (ih _)

theorem latest_mem (l : List Nat) (a x : Nat) (h : x ∈ l) : x ≤ latest a l := by
  unfold latest
  induction l generalizing a with
  | nil => cases h
  | cons y ys ih =>
    simp only [List.foldl_cons]
    rcases List.mem_cons.mp h with rfl | h
    · exact Nat.le_trans (Nat.le_max_right a _) (latest_ge _ _)
    · exact ih _ h

theorem latest_le (l : List Nat) (a b : Nat) (ha : a ≤ b) (h : ∀ x ∈ l, x ≤ b) : latest a l ≤ b := by
  unfold latest
  induction l generalizing a with
  | nil => simpa
  | cons y ys ih =>
    simp only [List.foldl_cons]
    apply ih
    · exact Nat.max_le.mpr ⟨ha, h y (List.mem_cons_self ..)⟩
    · intro x hx; exact h x (List.mem_cons_of_mem _ hx)

/-- `last_pong_timestamp` is the start-up time or the arrival time of a pong that was read. -/
theorem latest_is (l : List Nat) (a : Nat) : latest a l = a ∨ latest a l ∈ l := by
  unfold latest
  induction l generalizing a with
  | nil => simp
  | cons y ys ih =>
    simp only [List.foldl_cons]
    rcases ih (max a y) with h | h
    · rw [h]
      rcases Nat.le_total a y with hay | hay
      · right; rw [Nat.max_eq_right hay]; exact List.mem_cons_self ..
      · left; exact Nat.max_eq_left hay
    · right; exact List.mem_cons_of_mem _ h

theorem cmpDuration_lt (T : OptionalDuration) (e : Nat) :
    OptionalDuration.cmpDuration T e = .lt ↔ ∃ T', T = some T' ∧ T' < e := by
  cases T with
  | none => simp [OptionalDuration.cmpDuration]
  | some d => simp [OptionalDuration.cmpDuration, Nat.compare_eq_lt]

theorem tickStep_alive (I : Nat) (T : OptionalDuration) (delay : Nat → Option Nat) (s : PingLoop)
    (h : s.dead = none) :
    let now := s.tick * I
    let lp := latest s.lastPong (s.inflight.filter (fun a => a ≤ now))
    let rest := s.inflight.filter (fun a => ¬ a ≤ now)
    ((∃ T', T = some T' ∧ T' < now - lp) ∧
        tickStep I T delay s = { s with lastPong := lp, inflight := rest, dead := some now }) ∨
    ((∀ T', T = some T' → now - lp ≤ T') ∧
        tickStep I T delay s =
          { tick := s.tick + 1, lastPong := lp, pings := now :: s.pings, dead := none,
            inflight := match delay s.tick with
              | some d => rest ++ [now + d]
              | none => rest }) := by
  intro now lp rest
  by_cases hc : OptionalDuration.cmpDuration T (now - lp) = .lt
  · left
    refine ⟨(cmpDuration_lt _ _).mp hc, ?_⟩
    simp only [tickStep, h]
    simp [now, lp, rest] at hc ⊢
    simp [hc]
  · right
    refine ⟨?_, ?_⟩
    · intro T' hT
      have := mt (cmpDuration_lt T (now - lp)).mpr hc
      simp only [not_exists, not_and] at this
      exact Nat.le_of_not_lt (this T' hT)
    · simp only [tickStep, h]
      simp [now, lp, rest] at hc ⊢
      simp [hc]
      cases delay s.tick <;> rfl

theorem tickStep_dead (I : Nat) (T : OptionalDuration) (delay : Nat → Option Nat) (s : PingLoop)
    (t : Nat) (h : s.dead = some t) : tickStep I T delay s = s := by
  simp [tickStep, h]

/-- A tick of a dead loop changes nothing: what a tick of a live loop keeps, every tick keeps. -/
theorem tickStep_keeps {P : PingLoop → Prop} (I : Nat) (T : OptionalDuration) (delay : Nat → Option Nat)
    (s : PingLoop) (hs : P s) (hlive : s.dead = none → P (tickStep I T delay s)) :
    P (tickStep I T delay s) := by
  cases hd : s.dead with
  | some t => rw [tickStep_dead I T delay s t hd]; exact hs
  | none => exact hlive hd

/-- Timing invariant: while alive, the last pong is not in the future and, when the latest tick
    passed the check, not older than `T` at that tick; once dead, the death tick failed the check
    and the tick before it (if any) passed it. -/
structure Inv (I : Nat) (T : OptionalDuration) (s : PingLoop) : Prop where
  lastPong_le : s.dead = none → (s.tick = 0 ∧ s.lastPong = 0) ∨ s.lastPong + I ≤ s.tick * I
  recent : s.dead = none → ∀ T', T = some T' → s.tick * I ≤ s.lastPong + T' + I
  window : ∀ t, s.dead = some t →
    t = s.tick * I ∧ ∃ T', T = some T' ∧ T' < t - s.lastPong ∧ t ≤ s.lastPong + T' + I

theorem inv_init (I : Nat) (T : OptionalDuration) (extra : List Nat) : Inv I T (PingLoop.init extra) := by
  refine ⟨?_, ?_, ?_⟩ <;> simp [PingLoop.init]

theorem inv_step (I : Nat) (T : OptionalDuration) (delay : Nat → Option Nat) (s : PingLoop)
    (hs : Inv I T s) : Inv I T (tickStep I T delay s) := by
  refine tickStep_keeps I T delay s hs fun hd => ?_
  have h1 := hs.lastPong_le hd
  have h2 := hs.recent hd
  have hge := latest_ge (s.inflight.filter (fun a => a ≤ s.tick * I)) s.lastPong
  have hle : latest s.lastPong (s.inflight.filter (fun a => a ≤ s.tick * I)) ≤ s.tick * I := by
    apply latest_le
    · rcases h1 with ⟨_, h0⟩ | h; · omega
      · omega
    · intro x hx
      have := (List.mem_filter.mp hx).2
      simpa using this
  have hmul : (s.tick + 1) * I = s.tick * I + I := Nat.succ_mul _ _
  rcases tickStep_alive I T delay s hd with ⟨⟨T', hT, hlt⟩, heq⟩ | ⟨hno, heq⟩
  · rw [heq]
    refine ⟨by simp, by simp, ?_⟩
    intro t ht
    simp only [Option.some.injEq] at ht
    subst ht
    refine ⟨rfl, T', hT, hlt, ?_⟩
    have := h2 T' hT
    simp only
    omega
  · rw [heq]
    refine ⟨?_, ?_, by simp⟩
    · intro _
      right
      simp only
      omega
    · intro _ T' hT
      have := hno T' hT
      simp only
      omega

theorem inv_run (I : Nat) (T : OptionalDuration) (delay : Nat → Option Nat) (extra : List Nat) (n : Nat) :
    Inv I T (run I T delay extra n) := by
  induction n with
  | zero => exact inv_init I T extra
  | succ n ih => exact inv_step I T delay _ ih

theorem run_dead_stays (I : Nat) (T : OptionalDuration) (delay : Nat → Option Nat) (extra : List Nat)
    (n m : Nat) (t : Nat) (h : (run I T delay extra n).dead = some t) :
    run I T delay extra (n + m) = run I T delay extra n := by
  induction m with
  | zero => rfl
  | succ m ih =>
    show tickStep I T delay (run I T delay extra (n + m)) = _
    rw [ih]; exact tickStep_dead I T delay _ t h

theorem run_alive_prefix (I : Nat) (T : OptionalDuration) (delay : Nat → Option Nat) (extra : List Nat)
    (n m : Nat) (hm : m ≤ n) (h : (run I T delay extra n).dead = none) :
    (run I T delay extra m).dead = none := by
  cases hd : (run I T delay extra m).dead with
  | none => rfl
  | some t =>
    have := run_dead_stays I T delay extra m (n - m) t hd
    rw [show m + (n - m) = n by omega] at this
    rw [this, hd] at h; cases h

/-- While alive, every tick so far has been served. -/
theorem run_alive_tick (I : Nat) (T : OptionalDuration) (delay : Nat → Option Nat) (extra : List Nat)
    (n : Nat) (h : (run I T delay extra n).dead = none) : (run I T delay extra n).tick = n := by
  induction n with
  | zero => rfl
  | succ n ih =>
    have hp := run_alive_prefix I T delay extra (n + 1) n (Nat.le_succ n) h
    have ihn := ih hp
    show (tickStep I T delay (run I T delay extra n)).tick = n + 1
    have h' : (tickStep I T delay (run I T delay extra n)).dead = none := h
    rcases tickStep_alive I T delay _ hp with ⟨_, heq⟩ | ⟨_, heq⟩
    · rw [heq] at h'; simp at h'
    · rw [heq]; simp [ihn]

/-- What the next tick does to a live run: it is tick number `n`, at time `n·I`, and with `lp` the newest pong arrived
    by then the loop dies there (the tick not served) when a timeout shorter than `n·I - lp` is configured, and
    otherwise lives on with the tick served. -/
theorem run_succ (I : Nat) (T : OptionalDuration) (delay : Nat → Option Nat) (extra : List Nat)
    (n : Nat) (h : (run I T delay extra n).dead = none) :
    let s := run I T delay extra n
    let lp := latest s.lastPong (s.inflight.filter (fun a => a ≤ n * I))
    ((∃ T', T = some T' ∧ T' < n * I - lp) ∧
      (run I T delay extra (n + 1)).dead = some (n * I) ∧ (run I T delay extra (n + 1)).tick = n) ∨
    ((∀ T', T = some T' → n * I - lp ≤ T') ∧
      (run I T delay extra (n + 1)).dead = none ∧ (run I T delay extra (n + 1)).tick = n + 1) := by
  have ht := run_alive_tick I T delay extra n h
  have := tickStep_alive I T delay _ h
  rw [ht] at this
  rcases this with ⟨hc, heq⟩ | ⟨hc, heq⟩
  · exact .inl ⟨hc, congrArg (·.dead) heq, congrArg (·.tick) heq⟩
  · exact .inr ⟨hc, congrArg (·.dead) heq, congrArg (·.tick) heq⟩

theorem run_tick_le (I : Nat) (T : OptionalDuration) (delay : Nat → Option Nat) (extra : List Nat)
    (n : Nat) : (run I T delay extra n).tick ≤ n := by
  induction n with
  | zero => exact Nat.le_refl 0
  | succ n ih =>
    show (tickStep I T delay (run I T delay extra n)).tick ≤ n + 1
    cases hd : (run I T delay extra n).dead with
    | some t => rw [tickStep_dead I T delay _ t hd]; omega
    | none =>
      rcases tickStep_alive I T delay _ hd with ⟨_, heq⟩ | ⟨_, heq⟩
      · rw [heq]; simp only; omega
      · rw [heq]; simp only; omega

/-- A ping at every tick that was served: `0, I, 2I, …`. -/
def PingsOk (I : Nat) (s : PingLoop) : Prop :=
  s.pings.reverse = (List.range s.tick).map (· * I)

theorem pingsOk_step (I : Nat) (T : OptionalDuration) (delay : Nat → Option Nat) (s : PingLoop)
    (hs : PingsOk I s) : PingsOk I (tickStep I T delay s) := by
  refine tickStep_keeps I T delay s hs fun hd => ?_
  rcases tickStep_alive I T delay s hd with ⟨_, heq⟩ | ⟨_, heq⟩
  · rw [heq]; exact hs
  · rw [heq]
    unfold PingsOk at hs ⊢
    simp [List.range_succ, hs]

theorem run_pings (I : Nat) (T : OptionalDuration) (delay : Nat → Option Nat) (extra : List Nat) (n : Nat) :
    PingsOk I (run I T delay extra n) := by
  induction n with
  | zero => rfl
  | succ n ih => exact pingsOk_step I T delay _ ih

/-- Every pong the peer sent for a ping is either read already or still on its way. -/
def Accounted (I : Nat) (delay : Nat → Option Nat) (s : PingLoop) : Prop :=
  ∀ j d, j < s.tick → delay j = some d → j * I + d ≤ s.lastPong ∨ j * I + d ∈ s.inflight

theorem Accounted.arrived_le_latest {I : Nat} {delay : Nat → Option Nat} {s : PingLoop} (hs : Accounted I delay s)
    {j d now : Nat} (hj : j < s.tick) (hdel : delay j = some d) (harr : j * I + d ≤ now) :
    j * I + d ≤ latest s.lastPong (s.inflight.filter (fun a => a ≤ now)) := by
  rcases hs j d hj hdel with h | h
  · exact Nat.le_trans h (latest_ge _ _)
  · exact latest_mem _ _ _ (List.mem_filter.mpr ⟨h, by simpa using harr⟩)

theorem accounted_step (I : Nat) (T : OptionalDuration) (delay : Nat → Option Nat) (s : PingLoop)
    (hs : Accounted I delay s) : Accounted I delay (tickStep I T delay s) := by
  refine tickStep_keeps I T delay s hs fun hd => ?_
  have old : ∀ j d, j < s.tick → delay j = some d →
      j * I + d ≤ latest s.lastPong (s.inflight.filter (fun a => a ≤ s.tick * I)) ∨
      j * I + d ∈ s.inflight.filter (fun a => ¬ a ≤ s.tick * I) := by
    intro j d hj hdel
    by_cases hnow : j * I + d ≤ s.tick * I
    · exact .inl (hs.arrived_le_latest hj hdel hnow)
    · rcases hs j d hj hdel with h | h
      · exact .inl (Nat.le_trans h (latest_ge _ _))
      · exact .inr (List.mem_filter.mpr ⟨h, by simpa using hnow⟩)
  rcases tickStep_alive I T delay s hd with ⟨_, heq⟩ | ⟨_, heq⟩
  · rw [heq]; intro j d hj hdel; exact old j d hj hdel
  · rw [heq]
    intro j d hj hdel
    simp only at hj ⊢
    by_cases hjt : j < s.tick
    · rcases old j d hjt hdel with h | h
      · left; exact h
      · right
        split
        · exact List.mem_append_left _ h
        · exact h
    · have : j = s.tick := by omega
      subst this
      right; rw [hdel]; simp

theorem accounted_run (I : Nat) (T : OptionalDuration) (delay : Nat → Option Nat) (extra : List Nat) (n : Nat) :
    Accounted I delay (run I T delay extra n) := by
  induction n with
  | zero => intro j d hj; cases hj
  | succ n ih => exact accounted_step I T delay _ ih

/-- If no pong ever arrives later than `P`, nothing in the state is later than `P`. -/
def Bounded (P : Nat) (s : PingLoop) : Prop := s.lastPong ≤ P ∧ ∀ a ∈ s.inflight, a ≤ P

theorem Bounded.latest_le {P : Nat} {s : PingLoop} (hs : Bounded P s) (p : Nat → Bool) :
    latest s.lastPong (s.inflight.filter p) ≤ P :=
  Timing.latest_le _ _ _ hs.1 (fun x hx => hs.2 x (List.mem_filter.mp hx).1)

theorem bounded_step (I : Nat) (T : OptionalDuration) (delay : Nat → Option Nat) (s : PingLoop) (P : Nat)
    (hdelay : ∀ j d, delay j = some d → j * I + d ≤ P) (hs : Bounded P s) :
    Bounded P (tickStep I T delay s) := by
  refine tickStep_keeps I T delay s hs fun hd => ?_
  have hlp := hs.latest_le (fun a => a ≤ s.tick * I)
  have hrest : ∀ a ∈ s.inflight.filter (fun a => ¬ a ≤ s.tick * I), a ≤ P :=
    fun a ha => hs.2 a (List.mem_filter.mp ha).1
  rcases tickStep_alive I T delay s hd with ⟨_, heq⟩ | ⟨_, heq⟩
  · rw [heq]; exact ⟨hlp, hrest⟩
  · rw [heq]
    refine ⟨hlp, ?_⟩
    intro a ha
    simp only at ha
    cases hdel : delay s.tick with
    | none => rw [hdel] at ha; exact hrest a ha
    | some d =>
      rw [hdel] at ha
      rcases List.mem_append.mp ha with h | h
      · exact hrest a h
      · simp only [List.mem_singleton] at h; rw [h]; exact hdelay _ _ hdel

theorem bounded_run (I : Nat) (T : OptionalDuration) (delay : Nat → Option Nat) (extra : List Nat) (P : Nat)
    (hextra : ∀ a ∈ extra, a ≤ P) (hdelay : ∀ j d, delay j = some d → j * I + d ≤ P) (n : Nat) :
    Bounded P (run I T delay extra n) := by
  induction n with
  | zero => exact ⟨Nat.zero_le _, hextra⟩
  | succ n ih => exact bounded_step I T delay _ P hdelay ih

theorem od_max_some_some (t i : Nat) :
    OptionalDuration.max (some t) (some i) = some (max t i) := by
  simp only [OptionalDuration.max, OptionalDuration.cmp]
  by_cases h : i < t
  · have : compare t i = .gt := Nat.compare_eq_gt.mpr h
    simp [this, Nat.max_eq_left (Nat.le_of_lt h)]
  · have : compare t i ≠ .gt := fun hc => h (Nat.compare_eq_gt.mp hc)
    simp [this, Nat.max_eq_right (Nat.le_of_not_lt h)]

theorem od_max_none_left (b : OptionalDuration) : OptionalDuration.max none b = none := by
  cases b <;> simp [OptionalDuration.max, OptionalDuration.cmp]

/-- The fourth case, for completeness: `clamp_good` meets only the two above. -/
theorem od_max_some_none (t : Nat) : OptionalDuration.max (some t) none = none := by
  simp [OptionalDuration.max, OptionalDuration.cmp]

/-- The effective timeout is the documented clamp of the requested timeout and the interval. -/
def Good (o : Options) : Prop :=
  o.keepaliveTimeout = clampTo o.keepaliveTimeoutRequested o.keepaliveInterval

theorem new_good : Good Options.new := by
  simp [Good, Options.new, clampTo]

theorem clamp_good (o : Options) : Good (Options.clampKeepaliveTimeout o) := by
  unfold Good Options.clampKeepaliveTimeout
  cases hi : o.keepaliveInterval with
  | none => cases hr : o.keepaliveTimeoutRequested <;> simp [clampTo]
  | some i =>
    cases hr : o.keepaliveTimeoutRequested with
    | none => simp [clampTo, od_max_none_left]
    | some t => simp [clampTo, od_max_some_some]

theorem apply_spec (o o1 : Options) (c : Setter) (h : Options.apply o c = some o1) :
    o1.keepaliveInterval = (match c with | .keepaliveInterval d => d | _ => o.keepaliveInterval) ∧
    o1.keepaliveTimeoutRequested = (match c with | .keepaliveTimeout d => d | _ => o.keepaliveTimeoutRequested) ∧
    (Good o → Good o1) := by
  cases c with
  | keepaliveInterval d =>
    simp only [Options.apply, Option.some.injEq] at h
    subst h
    exact ⟨rfl, rfl, fun _ => clamp_good _⟩
  | keepaliveTimeout d =>
    simp only [Options.apply, Option.some.injEq] at h
    subst h
    exact ⟨rfl, rfl, fun _ => clamp_good _⟩
  | bindBufferSize n =>
    simp only [Options.apply, Option.some.injEq] at h
    subst h
    exact ⟨rfl, rfl, fun g => g⟩
  | datagramBufferSize n | streamBufferSize n | maxFlowIdRetries n | rwnd n | defaultRwndThreshold n =>
    simp only [Options.apply] at h
    split at h
    · simp only [Option.some.injEq] at h
      subst h
      exact ⟨rfl, rfl, fun g => g⟩
    · cases h

theorem buildFrom_spec (calls : List Setter) : ∀ (o o' : Options), Options.buildFrom o calls = some o' →
    o'.keepaliveInterval = lastIntervalFrom o.keepaliveInterval calls ∧
    o'.keepaliveTimeoutRequested = lastTimeoutFrom o.keepaliveTimeoutRequested calls ∧
    (Good o → Good o') := by
  induction calls with
  | nil =>
    intro o o' h
    simp only [Options.buildFrom, Option.some.injEq] at h
    subst h
    exact ⟨rfl, rfl, fun g => g⟩
  | cons c cs ih =>
    intro o o' h
    simp only [Options.buildFrom] at h
    cases hc : Options.apply o c with
    | none => rw [hc] at h; cases h
    | some o1 =>
      rw [hc] at h
      obtain ⟨a1, a2, a3⟩ := apply_spec o o1 c hc
      obtain ⟨b1, b2, b3⟩ := ih o1 o' h
      refine ⟨?_, ?_, fun g => b3 (a3 g)⟩
      · rw [b1, a1]; cases c <;> rfl
      · rw [b2, a2]; cases c <;> rfl

end Penguin.Lemmas.Timing
