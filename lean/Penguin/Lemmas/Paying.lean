/-
A system in which every productive step pays at least one unit of a natural-number measure: a schedule of
productive steps is no longer than the measure of the state it starts in, an infinite schedule meets within
`mu s + 1` steps one that finds nothing to do, and some productive schedule runs the work out.  The system brings
its own `run` and its own notion of a productive schedule, with their defining equations.  The link model with the
transport's and the reader's actions (`Lemmas/LinkProgress.lean`) and the pair with the internal actions of its two
endpoints (`Lemmas/PairQuiesce.lean`) are the instances.  Core Lean only.
-/
namespace Penguin

structure Paying (σ α : Type) where
  next : σ → α → σ
  prod : σ → α → Bool
  mu : σ → Nat
  pays : ∀ s a, prod s a = true → mu (next s a) < mu s
  run : σ → List α → σ
  run_nil : ∀ s, run s [] = s
  run_cons : ∀ s a as, run s (a :: as) = run (next s a) as
  Sched : σ → List α → Prop
  sched_nil : ∀ s, Sched s []
  sched_cons : ∀ s a as, Sched s (a :: as) ↔ prod s a = true ∧ Sched (next s a) as

namespace Paying
variable {σ α : Type} (S : Paying σ α)

theorem run_append (s : σ) (as bs : List α) : S.run s (as ++ bs) = S.run (S.run s as) bs := by
  induction as generalizing s with
  | nil => rw [List.nil_append, S.run_nil]
  | cons a as ih => rw [List.cons_append, S.run_cons, S.run_cons, ih]

theorem sched_append (s : σ) (as bs : List α) : S.Sched s (as ++ bs) ↔ S.Sched s as ∧ S.Sched (S.run s as) bs := by
  induction as generalizing s with
  | nil => simp [S.sched_nil, S.run_nil]
  | cons a as ih => rw [List.cons_append, S.sched_cons, S.sched_cons, S.run_cons, ih, and_assoc]

theorem sched_measure (s : σ) (as : List α) (h : S.Sched s as) : as.length + S.mu (S.run s as) ≤ S.mu s := by
  induction as generalizing s with
  | nil => simp [S.run_nil]
  | cons a as ih =>
    rw [S.sched_cons] at h
    have h1 := S.pays s a h.1
    have h2 := ih (S.next s a) h.2
    rw [S.run_cons, List.length_cons]
    omega

/-- The first `k` steps of an infinite schedule.  `Link.pre` and `Pair.pre`, which the statements about the two instances
    use, are this definition at their types and unfold to it. -/
def pre (f : Nat → α) (k : Nat) : List α := (List.range k).map f

theorem hits_idle (s : σ) (f : Nat → α) :
    ∃ k, k ≤ S.mu s ∧ S.Sched s (pre f k) ∧ S.prod (S.run s (pre f k)) (f k) = false := by
  -- otherwise every prefix is productive, also the one of length `mu s + 1`
  apply Classical.byContradiction
  intro hno
  have hall : ∀ k, k ≤ S.mu s + 1 → S.Sched s (pre f k) := by
    intro k
    induction k with
    | zero => intro _; exact S.sched_nil s
    | succ k ih =>
      intro hk
      have hp := ih (by omega)
      rw [show pre f (k + 1) = pre f k ++ [f k] by simp [pre, List.range_succ], sched_append, S.sched_cons]
      refine ⟨hp, ?_, S.sched_nil _⟩
      cases hq : S.prod (S.run s (pre f k)) (f k) with
      | true => rfl
      | false => exact absurd ⟨k, by omega, hp, hq⟩ hno
  have := S.sched_measure s _ (hall (S.mu s + 1) (Nat.le_refl _))
  rw [show (pre f (S.mu s + 1)).length = S.mu s + 1 by simp [pre]] at this
  omega

theorem maximal_done (s : σ) (as : List α) (h : S.Sched s as) (hmax : ∀ a, ¬ S.Sched s (as ++ [a])) (a : α) :
    S.prod (S.run s as) a = false := by
  cases hq : S.prod (S.run s as) a with
  | false => rfl
  | true => exact absurd ((S.sched_append s as [a]).2 ⟨h, (S.sched_cons _ a []).2 ⟨hq, S.sched_nil _⟩⟩) (hmax a)

theorem exists_done (pick : σ → Option α) (hpick : ∀ s a, pick s = some a → S.prod s a = true) (s : σ) :
    ∃ as, S.Sched s as ∧ pick (S.run s as) = none := by
  generalize hm : S.mu s = m
  induction m using Nat.strongRecOn generalizing s with
  | _ m ih =>
    cases hp : pick s with
    | none => exact ⟨[], S.sched_nil s, by rw [S.run_nil]; exact hp⟩
    | some a =>
      have hpa := hpick s a hp
      obtain ⟨as, h1, h2⟩ := ih (S.mu (S.next s a)) (by have := S.pays s a hpa; omega) (S.next s a) rfl
      exact ⟨a :: as, (S.sched_cons s a as).2 ⟨hpa, h1⟩, by rw [S.run_cons]; exact h2⟩

end Paying

end Penguin
