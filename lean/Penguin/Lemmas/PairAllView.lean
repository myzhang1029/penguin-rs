/-
The view an endpoint state has with respect to ONE flow id `x` and ONE stream-object index `j`, and the relation
every endpoint function satisfies (`View`, `AStep`, `Star`: `Lemmas/PairAllSteps.lean`).

`view x j e l` keeps of an endpoint state `e` (with `l` for its inbox) the fields of `View`.  `SimX x j l e l' e' evs L X`
says that the endpoint function that led from `e` (inbox `l`) to `e'` (inbox `l'`), emitting `evs`, with accept log `L`, is
a sequence of small steps with records `X`; `Sim` is `SimX` with no record.  `Lemmas/PairAllSim*.lean` prove it for
every function of the endpoint model; the invariant of the pair (`Lemmas/PairAllGood.lean`) is then proved on small steps
only.
Core Lean only.
-/
import Penguin.Lemmas.PairAllSteps
import Penguin.Lemmas.PairAllStim
import Penguin.Lemmas.MuxIntegritySrc
import Penguin.Lemmas.MuxLeak
import Penguin.Lemmas.MuxEof

namespace Penguin.PairAll
open Penguin.Mux

theorem wireMsgs_map_openDone (l : List OpenReq) (c : OpenRes) :
    wireMsgs (l.map (fun r => Ev.openDone r.req c)) = [] := by
  induction l with
  | nil => rfl
  | cons r rest ih => simpa [wireMsgs] using ih

/-- A `Push x` arriving now is offered to object `j` (it is accepted if the bounded queue has room). -/
def canAccF (x j : Nat) (fl : List (Nat × Slot)) (objs : List Obj) : Bool :=
  match lookup fl x with
  | some (.established i) =>
    i == j && (match objs[j]? with | some o => o.senderAlive && o.rxOpen | none => false)
  | _ => false

def canAcc (x j : Nat) (e : EP) : Bool := canAccF x j e.flows e.objs

theorem canAccF_iff (x j : Nat) (fl : List (Nat × Slot)) (objs : List Obj) : canAccF x j fl objs = true ↔
    lookup fl x = some (.established j) ∧ ∃ o, objs[j]? = some o ∧ o.senderAlive = true ∧ o.rxOpen = true := by
  unfold canAccF
  cases lookup fl x with
  | none => simp
  | some s =>
    cases s with
    | established i => cases objs[j]? <;> simp
    | _ => simp

theorem canAcc_iff (x j : Nat) (e : EP) : canAcc x j e = true ↔
    lookup e.flows x = some (.established j) ∧ ∃ o, e.objs[j]? = some o ∧ o.senderAlive = true ∧ o.rxOpen = true :=
  canAccF_iff x j e.flows e.objs

section
variable {x j : Nat}

theorem canAcc_of_none (e : EP) (h : lookup e.flows x = none) : canAcc x j e = false := by
  simp [canAcc, canAccF, h]

end

def bindHeld (x : Nat) (e : EP) : Bool :=
  e.bindq.any (fun b => b.fid == x) || e.held.any (fun b => b.fid == x) ||
    (match e.park with | some (.bind b) => b.fid == x | _ => false)

def rxOpenJ (j : Nat) (objs : List Obj) : Bool :=
  match objs[j]? with | some o => o.rxOpen | none => false

/-- The view of `e`, with `l` for its inbox (most functions of the endpoint model neither read nor write
    the inbox; the task's loops pass it around as an argument). -/
def view (x j : Nat) (e : EP) (l : List WsIn) : View :=
  { slot := lookup e.flows x, nobj := e.objs.countP (fun o => o.fid == x), cnt := e.rng.count x,
    rngNil := e.rng.isEmpty, inbox := l, outq := e.outq, outClosed := e.outClosed,
    srcEnded := e.srcEnded, canJ := canAcc x j e, len := e.objs.length,
    nw := e.objs.countP (fun o => o.fid == x && !o.finishSent), bh := bindHeld x e, rxJ := rxOpenJ j e.objs }

def SimX (x j : Nat) (l : List WsIn) (e : EP) (l' : List WsIn) (e' : EP) (evs : List Ev) (L : Log) (X : List XL) : Prop :=
  Star x j (view x j e l) (view x j e' l') (wireMsgs evs) (Log.dataOf L j) X

def Sim (x j : Nat) (l : List WsIn) (e : EP) (l' : List WsIn) (e' : EP) (evs : List Ev) (L : Log) : Prop :=
  SimX x j l e l' e' evs L []

def finsOf (x j : Nat) (D : List EndEv) : List XL :=
  (D.filter (fun p => p == (j, EndCause.peerFinish x))).map (fun _ => XL.fin)

/-- The records of the successful writes on flow `x` (`Ghost.wrote` entries: object, flow id, payload). -/
def xlOfWrote (x : Nat) (W : List (Nat × Nat × Bytes)) : List XL :=
  (W.filter (fun t => t.2.1 == x)).map (fun t => XL.wrote t.2.2)

theorem xlOfWrote_append (x : Nat) (a b : List (Nat × Nat × Bytes)) : xlOfWrote x (a ++ b) = xlOfWrote x a ++ xlOfWrote x b := by
  simp [xlOfWrote]

@[simp] theorem xlOfWrote_nil (x : Nat) : xlOfWrote x [] = [] := rfl

theorem finsOf_append (x j : Nat) (a b : List EndEv) : finsOf x j (a ++ b) = finsOf x j a ++ finsOf x j b := by
  simp [finsOf]

@[simp] theorem finsOf_nil (x j : Nat) : finsOf x j [] = [] := rfl

theorem Log.dataOf_append (a b : Log) (i : Nat) : Log.dataOf (a ++ b) i = Log.dataOf a i ++ Log.dataOf b i := by
  simp [Log.dataOf]

@[simp] theorem Log.dataOf_nil (i : Nat) : Log.dataOf [] i = [] := rfl

theorem Log.dataOf_single_self (i : Nat) (d : Bytes) : Log.dataOf [(i, d)] i = [d] := by simp [Log.dataOf]
theorem Log.dataOf_single_ne (i k : Nat) (d : Bytes) (h : k ≠ i) : Log.dataOf [(k, d)] i = [] := by
  simp [Log.dataOf, h]

section
variable {x j : Nat}

theorem Sim.toX {l l' : List WsIn} {e e' : EP} {evs : List Ev} {L : Log} (s : Sim x j l e l' e' evs L) :
    SimX x j l e l' e' evs L [] := s

theorem SimX.trans {la lb lc : List WsIn} {a b c : EP} {ev1 ev2 : List Ev} {L1 L2 : Log} {X1 X2 : List XL}
    (s : SimX x j la a lb b ev1 L1 X1) (t : SimX x j lb b lc c ev2 L2 X2) :
    SimX x j la a lc c (ev1 ++ ev2) (L1 ++ L2) (X1 ++ X2) :=
  (Star.trans s t).cast rfl (wireMsgs_append _ _) (Log.dataOf_append _ _ _) rfl

theorem SimX.lbl {l l' : List WsIn} {e e' : EP} {evs evs' : List Ev} {L L' : Log} {X X' : List XL}
    (s : SimX x j l e l' e' evs L X) (hw : wireMsgs evs' = wireMsgs evs) (hl : Log.dataOf L' j = Log.dataOf L j)
    (hx : X' = X) : SimX x j l e l' e' evs' L' X' :=
  Star.cast s rfl hw hl hx

theorem SimX.evs {l l' : List WsIn} {e e' : EP} {evs evs' : List Ev} {L : Log} {X : List XL}
    (s : SimX x j l e l' e' evs L X) (h : evs' = evs) : SimX x j l e l' e' evs' L X := h ▸ s

theorem SimX.log {l l' : List WsIn} {e e' : EP} {evs : List Ev} {L L' : Log} {X : List XL}
    (s : SimX x j l e l' e' evs L X) (h : L' = L) : SimX x j l e l' e' evs L' X := h ▸ s

theorem SimX.rec {l l' : List WsIn} {e e' : EP} {evs : List Ev} {L : Log} {X X' : List XL}
    (s : SimX x j l e l' e' evs L X) (h : X' = X) : SimX x j l e l' e' evs L X' := h ▸ s

theorem SimX.congr {l l' : List WsIn} {e e' a a' : EP} {evs : List Ev} {L : Log} {X : List XL}
    (s : SimX x j l e l' e' evs L X) (h1 : view x j a l = view x j e l) (h2 : view x j a' l' = view x j e' l') :
    SimX x j l a l' a' evs L X := by
  unfold SimX at *; rw [h1, h2]; exact s

theorem SimX.one {l l' : List WsIn} {e e' : EP} {evs : List Ev} {L : Log} {v' : View} {w : List Msg} {a : List Bytes}
    {X X' : List XL} (s : AStep x j (view x j e l) v' w a X) (hv : view x j e' l' = v') (hw : wireMsgs evs = w)
    (hl : Log.dataOf L j = a) (hx : X' = X) : SimX x j l e l' e' evs L X' :=
  (Star.single s).cast hv hw hl hx

theorem SimX.inb {l l' l1 l1' : List WsIn} {e e' : EP} {evs : List Ev} {L : Log} {X : List XL}
    (s : SimX x j l e l' e' evs L X) (h1 : l1 = l) (h2 : l1' = l') : SimX x j l1 e l1' e' evs L X := by
  subst h1 h2; exact s

theorem Sim.inb {l l' l1 l1' : List WsIn} {e e' : EP} {evs : List Ev} {L : Log} (s : Sim x j l e l' e' evs L)
    (h1 : l1 = l) (h2 : l1' = l') : Sim x j l1 e l1' e' evs L := SimX.inb s h1 h2

theorem SimX.tr1 {la lb lc : List WsIn} {a b c : EP} {ev1 : List Ev} {L : Log} {X : List XL}
    (s : SimX x j la a lb b ev1 L X) (t : Sim x j lb b lc c [] []) : SimX x j la a lc c ev1 L X :=
  (((SimX.trans s t).evs (List.append_nil _).symm).log (List.append_nil _).symm).rec (List.append_nil _).symm

theorem Sim.refl (l : List WsIn) (e : EP) : Sim x j l e l e [] [] := Star.refl _

theorem Sim.trans {la lb lc : List WsIn} {a b c : EP} {ev1 ev2 : List Ev} {L1 L2 : Log}
    (s : Sim x j la a lb b ev1 L1) (t : Sim x j lb b lc c ev2 L2) : Sim x j la a lc c (ev1 ++ ev2) (L1 ++ L2) :=
  (SimX.trans s t).rec rfl

theorem Sim.after {la lb lc : List WsIn} {a b c : EP} {ev1 ev2 : List Ev} {L1 L2 : Log}
    (t : Sim x j lb b lc c ev2 L2) (s : Sim x j la a lb b ev1 L1) : Sim x j la a lc c (ev1 ++ ev2) (L1 ++ L2) :=
  s.trans t

theorem Sim.lbl {l l' : List WsIn} {e e' : EP} {evs evs' : List Ev} {L L' : Log} (s : Sim x j l e l' e' evs L)
    (hw : wireMsgs evs' = wireMsgs evs) (hl : Log.dataOf L' j = Log.dataOf L j) : Sim x j l e l' e' evs' L' :=
  SimX.lbl s hw hl rfl

theorem Sim.evs {l l' : List WsIn} {e e' : EP} {evs evs' : List Ev} {L : Log} (s : Sim x j l e l' e' evs L)
    (h : evs' = evs) : Sim x j l e l' e' evs' L := h ▸ s

theorem Sim.log {l l' : List WsIn} {e e' : EP} {evs : List Ev} {L L' : Log} (s : Sim x j l e l' e' evs L)
    (h : L' = L) : Sim x j l e l' e' evs L' := h ▸ s

theorem Sim.tr {la lb lc : List WsIn} {a b c : EP} {ev1 ev2 : List Ev} (s : Sim x j la a lb b ev1 [])
    (t : Sim x j lb b lc c ev2 []) : Sim x j la a lc c (ev1 ++ ev2) [] := (s.trans t).log rfl

theorem Sim.tr0 {la lb lc : List WsIn} {a b c : EP} {ev2 : List Ev} {L : Log} (s : Sim x j la a lb b [] [])
    (t : Sim x j lb b lc c ev2 L) : Sim x j la a lc c ev2 L :=
  ((s.trans t).evs (List.nil_append _).symm).log rfl

theorem Sim.tr1 {la lb lc : List WsIn} {a b c : EP} {ev1 : List Ev} {L : Log} (s : Sim x j la a lb b ev1 L)
    (t : Sim x j lb b lc c [] []) : Sim x j la a lc c ev1 L :=
  ((s.trans t).evs (List.append_nil _).symm).log (List.append_nil _).symm

theorem Sim.congr {l l' : List WsIn} {e e' a a' : EP} {evs : List Ev} {L : Log} (s : Sim x j l e l' e' evs L)
    (h1 : view x j a l = view x j e l) (h2 : view x j a' l' = view x j e' l') : Sim x j l a l' a' evs L :=
  SimX.congr s h1 h2

theorem Sim.same {l : List WsIn} {e e' : EP} {evs : List Ev} {L : Log} (hv : view x j e' l = view x j e l)
    (hw : wireMsgs evs = []) (hl : Log.dataOf L j = []) : Sim x j l e l e' evs L := by
  unfold Sim SimX; rw [hv, hw, hl]; exact Star.refl _

theorem Sim.one {l l' : List WsIn} {e e' : EP} {evs : List Ev} {L : Log} {v' : View} {w : List Msg} {a : List Bytes}
    (s : AStep x j (view x j e l) v' w a []) (hv : view x j e' l' = v') (hw : wireMsgs evs = w)
    (hl : Log.dataOf L j = a) : Sim x j l e l' e' evs L :=
  SimX.one s hv hw hl rfl

end

/-! ### Side conditions that hold in every reachable state and are inherited backwards / forwards -/

def SF (e : EP) : Prop :=
  ∀ fid i, lookup e.flows fid = some (.established i) → ∃ o, e.objs[i]? = some o ∧ o.fid = fid

theorem SF.grow {e e' : EP} (g : Grow e e') (h : SF e) : SF e' := by
  intro fid i hs
  rcases g.slots fid i hs with h1 | ⟨_, o', ho', hf'⟩
  · obtain ⟨o, ho, hf⟩ := h fid i h1
    obtain ⟨o1, ho1, hf1⟩ := g.fid i o ho
    exact ⟨o1, ho1, by rw [hf1, hf]⟩
  · exact ⟨o', ho', hf'⟩

theorem SF.init (o : Opts) (r : List Nat) : SF { opts := o, rng := r } := by
  intro fid i h; simp [lookup] at h

def J (x j : Nat) (e : EP) : Prop := ∀ o, e.objs[j]? = some o → o.fid = x

theorem J.back {x j : Nat} {e e' : EP} (g : Grow e e') (h : J x j e') : J x j e := by
  intro o ho
  obtain ⟨o', ho', hf⟩ := g.fid j o ho
  rw [← hf]; exact h o' ho'

theorem SF.noForeign {x j : Nat} {e : EP} (hs : SF e) (hj : J x j e) (y : Nat)
    (h : lookup e.flows y = some (.established j)) : y = x := by
  obtain ⟨o, ho, hf⟩ := hs y j h
  rw [← hf]; exact hj o ho

end Penguin.PairAll

namespace Penguin.Mux

/-! ### Facts about `opStep` and `recvOne` alone, for both developments over `Model/PairAll.lean` -/

theorem opStep_call_inbox (e : EP) (op : Op) (hc : PairAll.isCall op = true) : (opStep e op).1.inbox = e.inbox :=
  opStep_inbox_eq e op (fun w hw => by rw [hw] at hc; cases hc)

theorem opStep_deliver_evs (e : EP) (w : WsIn) : (opStep e (.deliver w)).2.2 = [] := by
  simp only [Mux.opStep]
  split
  · rfl
  · split <;> rfl

theorem recvOne_inbox (e : EP) (w : WsIn) (rest : List WsIn) : (recvOne e w rest).1.inbox = rest := by
  simp only [Mux.recvOne]
  rw [processIn_inbox]

end Penguin.Mux
