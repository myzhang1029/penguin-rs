/-
Lemmas/WakerNId — whose waker is in the one `AtomicWaker` cell (`Model/WakerN`).

Independent of the counting invariant (`Lemmas/WakerNInv`): the cell only ever holds the waker of the
LATEST `register` operation (`reg_last`); a waker is woken only after its poll registered it; a writer
whose registration is still the latest one on the stream has its waker in the cell or has been woken
(`last_live`); and while its waker is in the cell no wake-up has been delivered since it registered
(`reg_mark`).
-/
import Penguin.Lemmas.WakerN

namespace Penguin.Lemmas.WakerN
open Penguin.Waker (PollResult ActorKind APc Actor WPc)
open Penguin.WakerN

/-- One writer (thread `i`) and a view of the cell `reg`, the latest registration `last`, the wake-ups
    delivered `log` and their number `len`. -/
structure WId (reg last : Option WakerId) (log : List WakerId) (len i : Nat) (w : Writer) : Prop where
  last_le : ∀ k, last = some (i, k) → k ≤ w.cur
  last_cur : ∀ k, last = some (i, k) → (k = w.cur ↔ w.curRegistered = true)
  reg_mark : reg = some (i, w.cur) → w.regMark = len
  woken_le : ∀ k, (i, k) ∈ log → k ≤ w.cur
  woken_cur : (i, w.cur) ∈ log → w.curRegistered = true
  last_live : postReg w → last = some (i, w.cur) → reg = some (i, w.cur) ∨ (i, w.cur) ∈ log

theorem initWriter_wid (n i : Nat) : WId none none [] 0 i (initWriter n) := by
  constructor <;> simp

/-- An operation inside a poll other than `register`: the cell and the poll's index stay, only
    `last_live` reads what moves. -/
theorem WId.move {reg last : Option WakerId} {log : List WakerId} {len i : Nat} {w : Writer}
    (h : WId reg last log len i w) {pc : WPc} {c : Bool} {t : List Nat}
    (hp : postReg w ∨ pc ≠ .reloadFin ∧ pc ≠ .reloadCredit ∧ pc ≠ .finished) :
    WId reg last log len i { w with pc := pc, curStartClosed := c, takes := t } :=
  { h with last_live := fun a => h.last_live (hp.elim id fun hpc => absurd a (not_postReg hpc)) }

/-- The current poll returns: the next poll has a new waker, which nobody has seen yet. -/
theorem WId.finishPoll {reg last : Option WakerId} {log : List WakerId} {len i : Nat} {w : Writer}
    (h : WId reg last log len i w) (hrl : ∀ x, reg = some x → last = some x) {c : Bool} {n : Nat}
    {r : PollResult} (hp : r = .pending → postReg w) :
    WId reg last log len i (({ w with curStartClosed := c, sent := n } : Writer).finishPoll r) := by
  rcases finishPoll_cases { w with curStartClosed := c, sent := n } r with ⟨_, e⟩ | ⟨m, _, e⟩ <;> rw [e]
  · exact { h with last_live := fun a => h.last_live (hp (a.elim nofun (·.elim nofun pending_of_parked))) }
  · exact {
      last_le := fun k e => Nat.le_succ_of_le (h.last_le k e)
      last_cur := fun k e => ⟨fun e' => by have := h.last_le k e; simp only at e'; omega, nofun⟩
      reg_mark := fun e => by have := h.last_le _ (hrl _ e); simp only at this; omega
      woken_le := fun k e => Nat.le_succ_of_le (h.woken_le k e)
      woken_cur := fun e => by have := h.woken_le _ e; simp only at this; omega
      last_live := fun a => absurd a (not_postReg ⟨nofun, nofun, nofun⟩) }

/-- The writer's own operation: `register` makes its waker the latest registration and puts it into the cell. -/
theorem next_wid {reg last : Option WakerId} {log : List WakerId} {len i : Nat} {w : Writer}
    (h : WId reg last log len i w) (hrl : ∀ x, reg = some x → last = some x) (closed : Bool) (credit : Nat) :
    WId (if w.pc = .register then some (i, w.cur) else reg) (if w.pc = .register then some (i, w.cur) else last)
      log len i (w.next closed credit len) := by
  by_cases hr : w.pc = .register
  · simp only [Writer.next, hr, if_true]
    exact {
      last_le := fun k e => by simp at e; simp [e]
      last_cur := fun k e => by simp at e; simp [e]
      reg_mark := fun _ => rfl
      woken_le := h.woken_le
      woken_cur := fun _ => rfl
      last_live := fun _ _ => .inl rfl }
  rw [if_neg hr, if_neg hr]
  cases hpc : w.pc <;> simp only [Writer.next, hpc]
  case loadFin =>
    split
    · exact h.finishPoll hrl nofun
    · exact h.move (.inr ⟨nofun, nofun, nofun⟩)
  case loadCredit | cas => split <;> exact h.move (.inr ⟨nofun, nofun, nofun⟩)
  case register => exact absurd hpc hr
  case reloadFin =>
    split
    · exact h.finishPoll hrl nofun
    · exact h.move (.inl (.inl hpc))
  case reloadCredit =>
    split
    · exact h.finishPoll hrl fun _ => .inr (.inl hpc)
    · exact h.move (.inr ⟨nofun, nofun, nofun⟩)
  case send => exact h.finishPoll hrl nofun
  case finished => exact h

theorem wid_other_register {reg last : Option WakerId} {log : List WakerId} {len j a c : Nat} {w : Writer}
    (h : WId reg last log len j w) (ha : a ≠ j) :
    WId (some (a, c)) (some (a, c)) log len j w := by
  have hne (k : Nat) : some (a, c) ≠ some (j, k) := fun e => ha (congrArg Prod.fst (Option.some.inj e))
  exact ⟨fun k e => absurd e (hne k), fun k e => absurd e (hne k), fun e => absurd e (hne _),
    h.woken_le, h.woken_cur, fun _ e => absurd e (hne _)⟩

theorem wid_wake_some {last : Option WakerId} {log : List WakerId} {len j : Nat} {x : WakerId} {w : Writer}
    (h : WId (some x) last log len j w) (hl : last = some x) :
    WId none last (x :: log) (len + 1) j w := by
  obtain ⟨h1, h2, h3, h4, h5, h6⟩ := h
  refine ⟨h1, h2, by simp, ?_, ?_, ?_⟩
  · intro k hk
    simp only [List.mem_cons] at hk
    rcases hk with e | hk
    · exact h1 k (by rw [hl, e])
    · exact h4 k hk
  · intro hk
    simp only [List.mem_cons] at hk
    rcases hk with e | hk
    · exact (h2 w.cur (by rw [hl, e])).mp rfl
    · exact h5 hk
  · intro a b
    rcases h6 a b with e | e
    · right; simp at e; simp [e]
    · right; simp [e]

structure Inv2 (s : State) : Prop where
  reg_last : ∀ x, s.registered = some x → s.lastReg = some x
  wid : ∀ (j : Nat) (w : Writer), s.writers[j]? = some w →
    WId s.registered s.lastReg s.wakeLog s.wakeLog.length j w
  last_bound : ∀ i k, s.lastReg = some (i, k) → i < s.writers.length
  woken_bound : ∀ i k, (i, k) ∈ s.wakeLog → i < s.writers.length

theorem init_inv2 (sc : Scenario) : Inv2 (init sc) := by
  refine ⟨by simp [init], ?_, by simp [init], by simp [init]⟩
  intro j w h
  obtain ⟨n, rfl⟩ := init_writers h
  exact initWriter_wid n j

theorem writer_inv2 {s : State} (h : Inv2 s) (i : Nat) : Inv2 (writerStep s i) := by
  cases hw : s.writers[i]? with
  | none => rw [writerStep_none hw]; exact h
  | some w0 =>
    rw [writerStep_some hw]
    obtain ⟨h1, h2, h3, h4⟩ := h
    have hi : i < s.writers.length := by
      rcases Nat.lt_or_ge i s.writers.length with h | h
      · exact h
      · simp [List.getElem?_eq_none h] at hw
    refine ⟨?_, ?_, ?_, ?_⟩
    · intro x; simp only []
      split
      · exact id
      · exact h1 x
    · refine forall_set (fun j w hne hj => ?_) (next_wid (h2 _ w0 hw) h1 _ _)
      have := h2 j w hj
      simp only []
      split
      · exact wid_other_register this (fun e => hne e.symm)
      · exact this
    · intro a k; simp only [List.length_set]; split
      · intro e; simp at e; omega
      · exact h3 a k
    · intro a k; simp only [List.length_set]; exact h4 a k

theorem doWake_inv2 {s : State} (h : Inv2 s) : Inv2 (doWake s) := by
  obtain ⟨h1, h2, h3, h4⟩ := h
  unfold doWake
  split
  · next x hx =>
    refine ⟨by simp, ?_, h3, ?_⟩
    · intro j w hj
      have := h2 j w hj
      rw [hx] at this
      simpa using wid_wake_some this (h1 x hx)
    · intro a k hk
      simp only [List.mem_cons] at hk
      rcases hk with e | hk
      · exact h3 a k (by rw [h1 x hx, e])
      · exact h4 a k hk
  · exact ⟨h1, h2, h3, h4⟩

theorem actor_inv2 {s : State} (h : Inv2 s) (i : Nat) : Inv2 (actorStep s i) := by
  unfold actorStep
  split
  · exact h
  · split
    · split <;> exact ⟨h.1, h.2, h.3, h.4⟩
    · exact doWake_inv2 ⟨h.1, h.2, h.3, h.4⟩
    · exact h

theorem spurious_inv2 {s : State} (h : Inv2 s) (i : Nat) : Inv2 (spuriousStep s i) := by
  unfold spuriousStep
  split
  · exact h
  · next w0 hw =>
    split
    · next orig hpc =>
      obtain ⟨h1, h2, h3, h4⟩ := h
      refine ⟨h1, ?_, ?_, ?_⟩
      · exact forall_set (fun j w _ => h2 j w) ((h2 _ w0 hw).move (.inr ⟨nofun, nofun, nofun⟩))
      · intro a k; simp only [List.length_set]; exact h3 a k
      · intro a k; simp only [List.length_set]; exact h4 a k
    · exact h

theorem step_inv2 {s : State} (h : Inv2 s) (l : Label) : Inv2 (step s l) := by
  cases l with
  | writer i => exact writer_inv2 h i
  | casSpurious i => exact spurious_inv2 h i
  | actor i => exact actor_inv2 h i
  | shutdown =>
    show Inv2 (shutdownStep s)
    unfold shutdownStep
    split
    · exact h
    · exact ⟨h.1, h.2, h.3, h.4⟩

theorem run_inv2 (sc : Scenario) (ls : List Label) : Inv2 (run sc ls) :=
  Waker.foldl_keeps (P := Inv2) (fun _ l h => step_inv2 h l) ls _ (init_inv2 sc)

end Penguin.Lemmas.WakerN
