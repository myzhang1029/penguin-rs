/-
Each pending open request owns at most one slot — for every history in which the caller names a new
request differently from every request whose slot is still in the table.

Request numbers are names chosen by the caller of the model (the harness numbers the futures it
spawns).  `Uq e`: the flow table has one entry per id, no two `Requested` slots carry the same request
number, and a request that was told "rejected" and waits for its next round (`retryq`) has no slot.
It is preserved (`KeepsU`) by every step of the model but the one that reserves an id for an open
request (`KeepsU.bad`), and by that one where the request has no slot and does not wait for its next
round (`KeepsU.openRound`): so by every stimulus whose `open` uses a number no slot carries
(`freshRun`), hence by every such history.  Consequence:
`pendingOpens e ≤ e.opens.length` — the `Requested` slots whose caller still waits are no more than
the pending calls.  (Without the naming discipline the model lets a re-used number adopt the slot
of a cancelled request: see the example in Props C06.)
Core Lean only.
-/
import Penguin.Lemmas.MuxAccountCount

namespace Penguin.Mux

structure Uq (e : EP) : Prop where
  keys : (e.flows.map (·.1)).Nodup
  uniq : ∀ f1 f2 req, lookup e.flows f1 = some (.requested req) → lookup e.flows f2 = some (.requested req) → f1 = f2
  rq : ∀ req, req ∈ e.retryq → ∀ fid, lookup e.flows fid ≠ some (.requested req)
  rnd : e.retryq.Nodup

theorem Uq.clearRetry {e : EP} (h : Uq e) : Uq { e with retryq := [] } := ⟨h.keys, h.uniq, nofun, List.nodup_nil⟩

def KeepsU (e e' : EP) : Prop := Uq e → Uq e'

theorem KeepsU.refl (e : EP) : KeepsU e e := id
theorem KeepsU.trans {a b c : EP} (s : KeepsU a b) (t : KeepsU b c) : KeepsU a c := fun h => t (s h)

theorem KeepsU.sub {e e' : EP} (hr : e'.retryq = e.retryq)
    (hk : (e.flows.map (·.1)).Nodup → (e'.flows.map (·.1)).Nodup)
    (hs : ∀ fid req, lookup e'.flows fid = some (.requested req) → lookup e.flows fid = some (.requested req)) :
    KeepsU e e' := by
  intro h
  refine ⟨hk h.keys, ?_, ?_, by rw [hr]; exact h.rnd⟩
  · intro f1 f2 req h1 h2; exact h.uniq f1 f2 req (hs _ _ h1) (hs _ _ h2)
  · intro req hq fid hl; rw [hr] at hq; exact h.rq req hq fid (hs _ _ hl)

theorem KeepsU.same {e e' : EP} (hf : e'.flows = e.flows) (hr : e'.retryq = e.retryq) : KeepsU e e' :=
  KeepsU.sub hr (by rw [hf]; exact id) (by rw [hf]; exact fun _ _ h => h)

macro "ku" : tactic => `(tactic| exact KeepsU.same rfl rfl)

theorem KeepsU.erase (e : EP) (fid : Nat) : KeepsU e { e with flows := erase e.flows fid } :=
  KeepsU.sub rfl (keys_nodup_erase fid) (fun _ _ h => lookup_erase_some h)

theorem KeepsU.insertOther {e e' : EP} (fid : Nat) (s : Slot) (hs : ∀ req, s ≠ .requested req)
    (hf : e'.flows = insert e.flows fid s) (hr : e'.retryq = e.retryq) : KeepsU e e' := by
  refine KeepsU.sub hr (by rw [hf]; exact keys_nodup_insert fid s) ?_
  intro y req h
  rw [hf] at h
  exact lookup_insert_other (hs req).symm h

theorem KeepsU.onlyBinds {e e' : EP} (hr : e'.retryq = e.retryq) (hl : List.Sublist e'.flows e.flows)
    (hb : ∀ p ∈ e'.flows, p.2.isBind = true) : KeepsU e e' :=
  KeepsU.sub hr (fun h => h.sublist (hl.map _)) fun _ _ h => (Bool.false_ne_true (hb _ (lookup_mem _ _ _ h))).elim

/-- The peer rejects the id of a pending open request: its slot goes and the request waits for its next round, in one
    step — no other slot carries the request (`uniq`), and it was not waiting already (`rq`). -/
theorem KeepsU.rejectSlot (e : EP) (fid req : Nat) (hs : lookup e.flows fid = some (.requested req)) :
    KeepsU e { e with flows := Mux.erase e.flows fid, retryq := e.retryq ++ [req] } := by
  intro h
  have old : ∀ {y q}, lookup (Mux.erase e.flows fid) y = some (.requested q) → lookup e.flows y = some (.requested q) ∧ q ≠ req :=
    fun {y q} hl => ⟨lookup_erase_some hl, fun hq => by
      subst hq
      have := h.uniq y fid q (lookup_erase_some hl) hs
      subst this; rw [lookup_erase_self] at hl; cases hl⟩
  refine ⟨keys_nodup_erase fid h.keys, fun f1 f2 q h1 h2 => h.uniq f1 f2 q (old h1).1 (old h2).1, ?_, ?_⟩
  · intro q hq y hl
    rcases List.mem_append.mp hq with hq | hq
    · exact h.rq q hq y (old hl).1
    · exact (old hl).2 (List.mem_singleton.mp hq)
  · refine List.nodup_append.mpr ⟨h.rnd, by simp, ?_⟩
    intro a ha b hb hab
    rw [List.mem_singleton.mp hb] at hab
    exact h.rq req (hab ▸ ha) fid hs

/-- The one kind of step across which it fails: a `Requested` slot is inserted (whether the request has another slot, or
    waits for its next round, is known where the round is started: `KeepsU.openRound`). -/
def KeepsU.bad : Kinds := .of [.reqSlot]

theorem KeepsU.of_upd {k : Kind} {e e' : EP} {x : List Ev} (hk : k ∉ KeepsU.bad) (u : Upd k e x e') : KeepsU e e' := by
  cases u with
  | reqSlot => exact absurd (by decide +kernel) hk
  | erase | acceptBind | refuseBind => exact KeepsU.erase e _
  | startBind => exact KeepsU.insertOther _ (.bindRequested _) nofun rfl rfl
  | newStream => exact KeepsU.insertOther _ (.established _) nofun rfl rfl
  | dropSlots => exact .onlyBinds rfl List.filter_sublist fun p hp => (List.mem_filter.mp hp).2
  | drainBind _ _ _ rest h hb => exact .onlyBinds rfl (h ▸ List.sublist_cons_self ..) hb
  | rejectSlot _ fid req h => exact KeepsU.rejectSlot e fid req h
  | enq _ _ m => exact .same (enq_flows e m) (enq_frame e m .retryq)
  | send => exact .same ((Upd.send e).frame .flows) ((Upd.send e).frame .retryq)
  | queue q => exact .same (q.frame .flows) (q.frame .retryq)
  | req r => exact .same (r.frame .flows) (r.frame .retryq)
  | ctl c =>
    cases c with
    | retryClear => exact Uq.clearRetry
    | _ => ku
  | _ => ku

theorem KeepsU.of_path {A : Kinds} {e e' : EP} {x : List Ev} (p : Path A e x e')
    (hA : A.disj KeepsU.bad = true := by decide +kernel) : KeepsU e e' :=
  p.rel0 KeepsU.refl KeepsU.trans fun hk u => .of_upd (Kinds.not_mem_of_disj hA hk) u

def NoReqSlot (e : EP) (req : Nat) : Prop := ∀ fid, lookup e.flows fid ≠ some (.requested req)

@[simp] theorem openRound_retryq (e : EP) (r : OpenReq) : (openRound e r).1.retryq = e.retryq :=
  (Path.openRoundAny e r).frame .retryq

theorem openRound_requested (e : EP) (r : OpenReq) (y q : Nat)
    (h : lookup (openRound e r).1.flows y = some (.requested q)) :
    lookup e.flows y = some (.requested q) ∨ q = r.req := by
  rcases openRound_sends e r with ⟨-, hf⟩ | ⟨fid, -, -, -, hf⟩
  · rw [hf] at h; exact Or.inl h
  · rw [hf] at h
    exact (lookup_insert_some h).symm.imp (·.2) (fun h1 => Slot.requested.inj h1.2)

theorem KeepsU.openRound (e : EP) (r : OpenReq) (hn : NoReqSlot e r.req) (hq : r.req ∉ e.retryq) :
    KeepsU e (openRound e r).1 := by
  intro h
  rcases openRound_sends e r with ⟨-, hf⟩ | ⟨fid, -, -, -, hf⟩
  · exact ⟨by rw [hf]; exact h.keys, by rw [hf]; exact h.uniq, by rw [hf, openRound_retryq]; exact h.rq,
      by rw [openRound_retryq]; exact h.rnd⟩
  · have old : ∀ {y q}, lookup (insert e.flows fid (.requested r.req)) y = some (.requested q) →
        (y = fid ∧ q = r.req) ∨ (lookup e.flows y = some (.requested q) ∧ q ≠ r.req) := fun hl =>
      (lookup_insert_some hl).imp (fun h1 => ⟨h1.1, Slot.requested.inj h1.2⟩)
        (fun h1 => ⟨h1.2, fun hq => hn _ (hq ▸ h1.2)⟩)
    refine ⟨by rw [hf]; exact keys_nodup_insert _ _ h.keys, ?_, ?_, by rw [openRound_retryq]; exact h.rnd⟩
    · intro f1 f2 req h1 h2
      rw [hf] at h1 h2
      rcases old h1 with ⟨e1, q1⟩ | ⟨h1, q1⟩ <;> rcases old h2 with ⟨e2, q2⟩ | ⟨h2, q2⟩
      · rw [e1, e2]
      · exact absurd q1 q2
      · exact absurd q2 q1
      · exact h.uniq f1 f2 req h1 h2
    · intro req hrq y hl
      rw [openRound_retryq] at hrq
      rw [hf] at hl
      rcases old hl with ⟨_, rfl⟩ | ⟨hl, _⟩
      · exact hq hrq
      · exact h.rq req hrq y hl

theorem KeepsU.closeFlow (e : EP) (fid : Nat) (inh : Bool) : KeepsU e (closeFlow e fid inh).1 := .of_path (.closeFlow e fid inh)

theorem KeepsU.processFrame (e : EP) (f : Frame) (ig : Bool) : KeepsU e (processFrame e f ig).1 :=
  .of_path (.processFrame e f ig)

theorem KeepsU.unpark (e : EP) : KeepsU e (unpark e) := .of_path (.unpark e)

theorem KeepsU.windDown (e : EP) (drain : Bool) (res : ExitRes) : KeepsU e (windDown e drain res).1 :=
  .of_path (.windDown e drain res)

theorem KeepsU.settleLoop (fuel : Nat) (e : EP) (acc : List Ev) : KeepsU e (settleLoop fuel e acc).1 :=
  let ⟨_, _, p⟩ := Path.settleLoop fuel e acc; .of_path p

theorem runRetries_uq (e : EP) (l : List Nat) (h : Uq e) (hr : e.retryq = []) (hl : l.Nodup)
    (hn : ∀ req, req ∈ l → NoReqSlot e req) :
    Uq (runRetries e l).1 ∧ (runRetries e l).1.retryq = [] := by
  induction l generalizing e with
  | nil => exact ⟨h, hr⟩
  | cons req rest ih =>
    unfold Mux.runRetries
    have hl' := List.nodup_cons.mp hl
    split
    · exact ih e h hr hl'.2 (fun q hq => hn q (List.mem_cons_of_mem _ hq))
    · rename_i r hf
      have hreq : r.req = req := by simpa using List.find?_some hf
      simp only
      have hno : NoReqSlot e r.req := by rw [hreq]; exact hn req (List.mem_cons_self ..)
      have h1 : Uq (Mux.openRound e r).1 := KeepsU.openRound e r hno (by rw [hr]; simp) h
      have hr1 : (Mux.openRound e r).1.retryq = [] := by rw [openRound_retryq]; exact hr
      refine ih _ h1 hr1 hl'.2 ?_
      intro q hq fid hlk
      rcases openRound_requested e r fid q hlk with a | a
      · exact hn q (List.mem_cons_of_mem _ hq) fid a
      · rw [hreq] at a; subst a; exact hl'.1 hq

theorem KeepsU.runDone (e : EP) (l : List (Nat × Nat)) : KeepsU e (runDone e l).1 := .of_path (.runDone e l)

/-- The rejected requests have their next round: the retry queue is emptied first, so each of them is fresh; that none
    of them has a slot and that they are distinct is part of `Uq`. -/
theorem KeepsU.runRetryq (e : EP) : KeepsU e (runRetryq e).1 := fun h =>
  (runRetries_uq { e with retryq := [] } (sortNat e.retryq) h.clearRetry rfl
    ((sortNat_perm e.retryq).nodup_iff.mpr h.rnd) (fun req hq => h.rq req ((sortNat_perm e.retryq).mem_iff.mp hq))).1

theorem settle_uq (e : EP) (h : Uq e) : Uq (settle e).1 ∧ (settle e).1.retryq = [] := by
  refine ⟨settle_rel (P := KeepsU) (Q := KeepsU) KeepsU.trans KeepsU.trans (KeepsU.settleLoop _ e []) (fun a => .of_path (.holdSend a))
    (fun a => .of_path (.runDoneq a)) KeepsU.runRetryq h, ?_⟩
  rw [Mux.settle_eq]
  dsimp only [thenRun]
  exact ((Path.holdSend _).frame .retryq).trans ((Path.runRetries _ _).frame .retryq)

theorem KeepsU.appWrite (e : EP) (h : Nat) (d : Bytes) : KeepsU e (appWrite e h d).1 := .of_path (.appWrite e h d)
theorem KeepsU.fillBuf (fuel : Nat) (e : EP) (i : Nat) : KeepsU e (fillBuf fuel e i).1 := .of_path (.fillBuf fuel e i)
theorem KeepsU.appRead (e : EP) (h n : Nat) : KeepsU e (appRead e h n).1 := .of_path (.appRead e h n)
theorem KeepsU.appShutdown (e : EP) (h : Nat) : KeepsU e (appShutdown e h).1 := .of_path (.appShutdown e h)
theorem KeepsU.appDropStream (e : EP) (h : Nat) : KeepsU e (appDropStream e h).1 := .of_path (.appDropStream e h)
theorem KeepsU.appBindReq (e : EP) (req : Nat) (bt : BindType) (host : Bytes) (port : Nat) :
    KeepsU e (appBindReq e req bt host port).1 := .of_path (.appBindReq e req bt host port)
theorem KeepsU.appBindNext (e : EP) : KeepsU e (appBindNext e).1 := .of_path (.appBindNext e)
theorem KeepsU.appBindReply (e : EP) (k : Nat) (a : Bool) : KeepsU e (appBindReply e k a).1 := .of_path (.appBindReply e k a)
theorem KeepsU.appBindDrop (e : EP) (k : Nat) : KeepsU e (appBindDrop e k).1 := .of_path (.appBindDrop e k)

/-- The caller's naming discipline for one stimulus: a new request is not named like a request whose
    slot is still in the table. -/
def freshOp (e : EP) : Op → Bool
  | .open req _ _ => e.flows.all (fun p => p.2 != Slot.requested req)
  | _ => true

def freshRun (e : EP) : List Op → Bool
  | [] => true
  | op :: rest => freshOp e op && freshRun (applyOp e op).1 rest

theorem opStep_uq (e : EP) (op : Op) (h : Uq e) (hr : e.retryq = []) (hf : freshOp e op = true) :
    Uq (opStep e op).1 := by
  cases op with
  | «open» req host port =>
    simp only [Mux.opStep]
    split
    · exact h
    · refine KeepsU.openRound e _ ?_ (by rw [hr]; simp) h
      intro fid hl
      have hm := lookup_mem _ _ _ hl
      simp only [freshOp, List.all_eq_true] at hf
      have := hf _ hm
      simp at this
  | _ => exact KeepsU.of_path (Path.opStep e _) (by dsimp only [K.opStep]; decide +kernel) h

theorem applyOp_uq (e : EP) (op : Op) (h : Uq e) (hr : e.retryq = []) (hf : freshOp e op = true) :
    Uq (applyOp e op).1 ∧ (applyOp e op).1.retryq = [] := by
  rw [applyOp_fst]
  exact settle_uq _ (opStep_uq e op h hr hf)

theorem runOps_uq (e : EP) (ops : List Op) (h : Uq e) (hr : e.retryq = []) (hf : freshRun e ops = true) :
    Uq (runOps e ops) := by
  induction ops generalizing e with
  | nil => exact h
  | cons op rest ih =>
    simp only [freshRun, Bool.and_eq_true] at hf
    obtain ⟨h1, h2⟩ := applyOp_uq e op h hr hf.1
    rw [runOps_cons]
    exact ih _ h1 h2 hf.2

theorem init_uq (o : Opts) : Uq { opts := o } :=
  ⟨List.nodup_nil, fun _ _ _ h => (by simp at h), fun _ h => (by cases h), List.nodup_nil⟩

def Slot.reqOf : Slot → Nat
  | .requested req => req
  | _ => 0

/-- With one slot per request number, the `Requested` slots whose caller still waits are no more
    than the pending calls. -/
theorem pendingOpens_le (e : EP) (h : Uq e) : pendingOpens e ≤ e.opens.length := by
  rw [← List.length_map (as := e.opens) (f := (·.req))]
  refine slots_le h.keys (Slot.pendingIn e.opens) (fun _ s => s.reqOf) _ ?_ ?_
  · intro k1 s1 k2 s2 h1 h2 p1 p2 hr
    cases s1 <;> cases s2 <;> simp only [Slot.pendingIn, Bool.false_eq_true] at p1 p2
    cases hr
    exact h.uniq k1 k2 _ h1 h2
  · intro k s _ ps
    cases s <;> simp only [Slot.pendingIn, Bool.false_eq_true, List.any_eq_true, beq_iff_eq] at ps
    obtain ⟨x, hx, hxr⟩ := ps
    exact List.mem_map.mpr ⟨x, hx, hxr⟩

end Penguin.Mux
