/-
The frame codec (C09): the case analyses of the two byte decoders (`decodeOp_cases`, `decodeBindType_cases`) and the
three results proved from them here — `decode_encode`, `decode_ok_iff_valid`, `decode_fields` — which `Props/C09.lean`
restates under the property's names next to its other statements.
-/
import Penguin.Model.Frame
import Penguin.Spec.Layout

namespace Penguin.Lemmas.Frame
open Penguin Penguin.Constants

/-- The extracted constants, as one simp set. -/
macro "frame_consts" : tactic => `(tactic|
  simp only [protocolVersion, opConnect, opAcknowledge, opReset, opFinish, opPush, opBind, opDatagram,
    decOpConnect, decOpAcknowledge, decOpReset, decOpFinish, decOpPush, decOpBind, decOpDatagram,
    lenientVersionZero, bindStream, bindDatagram, decBindStream, decBindDatagram,
    minHeader, minConnect, minAcknowledge, minBind, minDatagramFixed, minDatagramAfterLen] at *)

theorem decodeOp_verOp_connect : decodeOp (verOp opConnect) = .ok .connect := by rfl
theorem decodeOp_verOp_acknowledge : decodeOp (verOp opAcknowledge) = .ok .acknowledge := by rfl
theorem decodeOp_verOp_reset : decodeOp (verOp opReset) = .ok .reset := by rfl
theorem decodeOp_verOp_finish : decodeOp (verOp opFinish) = .ok .finish := by rfl
theorem decodeOp_verOp_push : decodeOp (verOp opPush) = .ok .push := by rfl
theorem decodeOp_verOp_bind : decodeOp (verOp opBind) = .ok .bind := by rfl
theorem decodeOp_verOp_datagram : decodeOp (verOp opDatagram) = .ok .datagram := by rfl

theorem decodeBindType_code (bt : BindType) : decodeBindType (UInt8.ofNat bt.code) = .ok bt := by
  cases bt <;> rfl

theorem decode_encode (f : Frame) (h : f.wf) : decode (encode f) = .ok f := by
  cases f with
  | connect id rwnd port host =>
    obtain ⟨h1, h2, h3⟩ := h
    simp [encode, be32, be16, decode, decodeOp_verOp_connect, minHeader, minConnect,
      rd32_be32 id h1, rd32_be32 rwnd h2, rd16_be16 port h3]
    repeat' split
    all_goals first | rfl | omega
  | acknowledge id n =>
    obtain ⟨h1, h2⟩ := h
    simp [encode, be32, decode, decodeOp_verOp_acknowledge, minHeader, minAcknowledge,
      rd32_be32 id h1, rd32_be32 n h2]
  | reset id =>
    simp [encode, be32, decode, decodeOp_verOp_reset, minHeader, rd32_be32 id h]
  | finish id =>
    simp [encode, be32, decode, decodeOp_verOp_finish, minHeader, rd32_be32 id h]
  | push id data =>
    simp [encode, be32, decode, decodeOp_verOp_push, minHeader, rd32_be32 id h]
  | bind id bt port host =>
    obtain ⟨h1, h3⟩ := h
    simp [encode, be32, be16, decode, decodeOp_verOp_bind, minHeader, minBind, decodeBindType_code,
      rd32_be32 id h1, rd16_be16 port h3]
    repeat' split
    all_goals first | rfl | omega
  | datagram id port host data =>
    obtain ⟨h1, h3, h4⟩ := h
    have hl : (UInt8.ofNat host.length).toNat = host.length := by
      rw [UInt8.toNat_ofNat']; omega
    simp [encode, be32, be16, decode, decodeOp_verOp_datagram, minHeader, minDatagramFixed,
      minDatagramAfterLen, hl, rd32_be32 id h1, rd16_be16 port h3]
    repeat' split
    all_goals first | rfl | omega

/-- Complete case analysis of `OpCode::try_from`. -/
theorem decodeOp_cases (b : UInt8) :
    (b.toNat / 16 ≠ 7 ∧ b.toNat / 16 ≠ 0 ∧ decodeOp b = .error (.version (b.toNat / 16))) ∨
    ((b.toNat / 16 = 7 ∨ b.toNat / 16 = 0) ∧
      ((b.toNat % 16 = 0 ∧ decodeOp b = .ok .connect) ∨
       (b.toNat % 16 = 1 ∧ decodeOp b = .ok .acknowledge) ∨
       (b.toNat % 16 = 2 ∧ decodeOp b = .ok .reset) ∨
       (b.toNat % 16 = 3 ∧ decodeOp b = .ok .finish) ∨
       (b.toNat % 16 = 4 ∧ decodeOp b = .ok .push) ∨
       (b.toNat % 16 = 5 ∧ decodeOp b = .ok .bind) ∨
       (b.toNat % 16 = 6 ∧ decodeOp b = .ok .datagram) ∨
       (6 < b.toNat % 16 ∧ decodeOp b = .error (.opcode (b.toNat % 16))))) := by
  unfold decodeOp
  frame_consts
  simp only [ne_eq, Bool.true_eq_false, or_false]
  by_cases hv : ¬b.toNat / 16 = 7 ∧ ¬b.toNat / 16 = 0
  · left; simp [hv]
  · right
    rw [if_neg hv]
    refine ⟨by omega, ?_⟩
    by_cases h0 : b.toNat % 16 = 0; · simp [h0]
    by_cases h1 : b.toNat % 16 = 1; · simp [h1]
    by_cases h2 : b.toNat % 16 = 2; · simp [h2]
    by_cases h3 : b.toNat % 16 = 3; · simp [h3]
    by_cases h4 : b.toNat % 16 = 4; · simp [h4]
    by_cases h5 : b.toNat % 16 = 5; · simp [h5]
    by_cases h6 : b.toNat % 16 = 6; · simp [h6]
    simp [h0, h1, h2, h3, h4, h5, h6]; omega

/-- What a successful `OpCode::try_from` says of the two nibbles (`Op.ctorIdx` is the opcode number). -/
theorem decodeOp_ok {b : UInt8} {op : Op} (h : decodeOp b = .ok op) :
    (b.toNat / 16 = 7 ∨ b.toNat / 16 = 0) ∧ b.toNat % 16 = op.ctorIdx := by
  rcases decodeOp_cases b with ⟨_, _, h'⟩ | ⟨hv, h'⟩
  · rw [h'] at h; cases h
  · refine ⟨hv, ?_⟩
    rcases h' with ⟨ho, h'⟩ | ⟨ho, h'⟩ | ⟨ho, h'⟩ | ⟨ho, h'⟩ | ⟨ho, h'⟩ | ⟨ho, h'⟩ | ⟨ho, h'⟩ | ⟨ho, h'⟩
    all_goals rw [h'] at h; cases h
    all_goals exact ho

theorem decodeBindType_cases (t : UInt8) :
    (t.toNat = 1 ∧ decodeBindType t = .ok .stream) ∨ (t.toNat = 3 ∧ decodeBindType t = .ok .datagram) ∨
    (t.toNat ≠ 1 ∧ t.toNat ≠ 3 ∧ decodeBindType t = .error (.bindType t.toNat)) := by
  unfold decodeBindType
  frame_consts
  by_cases h1 : t.toNat = 1; · simp [h1]
  by_cases h3 : t.toNat = 3; · simp [h3]
  simp [h1, h3]

open Spec.Layout in
theorem decode_ok_iff_valid (bs : Bytes) : (∃ f, decode bs = .ok f) ↔ Valid bs = true := by
  match bs with
  | [] | [_] | [_, _] | [_, _, _] | [_, _, _, _] => simp +arith [decode, Valid, minHeader]
  | b0 :: i0 :: i1 :: i2 :: i3 :: rest =>
    rcases decodeOp_cases b0 with ⟨h7, h0, h⟩ | ⟨hv, h⟩
    · simp +arith [decode, Valid, minHeader, h, h7, h0]
    · have hver : (b0.toNat / 16 == 7 || b0.toNat / 16 == 0) = true := by
        rcases hv with hv | hv <;> simp +arith [hv]
      rcases h with ⟨ho, h⟩ | ⟨ho, h⟩ | ⟨ho, h⟩ | ⟨ho, h⟩ | ⟨ho, h⟩ | ⟨ho, h⟩ | ⟨ho, h⟩ | ⟨ho, h⟩
      · -- connect
        simp only [decode, Valid, h, ho, hver, minHeader, minConnect]
        match rest with
        | [] | [_] | [_, _] | [_, _, _] | [_, _, _, _] | [_, _, _, _, _] => simp +arith
        | _ :: _ :: _ :: _ :: _ :: _ :: _ => simp +arith
      · -- acknowledge
        simp only [decode, Valid, h, ho, hver, minHeader, minAcknowledge]
        match rest with
        | [] | [_] | [_, _] | [_, _, _] => simp +arith
        | _ :: _ :: _ :: _ :: _ => simp +arith
      · simp +arith [decode, Valid, h, ho, hver, minHeader]
      · simp +arith [decode, Valid, h, ho, hver, minHeader]
      · simp +arith [decode, Valid, h, ho, hver, minHeader]
      · -- bind
        simp only [decode, Valid, h, ho, hver, minHeader, minBind]
        match rest with
        | [] | [_] | [_, _] => simp +arith
        | t :: _ :: _ :: _ =>
          rcases decodeBindType_cases t with ⟨ht, hb⟩ | ⟨ht, hb⟩ | ⟨ht1, ht3, hb⟩
          · simp +arith [hb, ht]
          · simp +arith [hb, ht]
          · simp +arith [hb, ht1, ht3]
      · -- datagram
        simp only [decode, Valid, h, ho, hver, minHeader, minDatagramFixed, minDatagramAfterLen]
        match rest with
        | [] | [_] | [_, _] => simp +arith
        | l :: _ :: _ :: tail =>
          by_cases hl : l.toNat ≤ tail.length
          · simp +arith [hl]
            rw [if_neg (by omega)]; exact ⟨_, rfl⟩
          · simp +arith [hl]
            rw [if_pos (by omega)]; simp
      · -- unknown opcode
        have hm : (match b0.toNat % 16 with
            | 0 => decide (6 ≤ rest.length) | 1 => decide (4 ≤ rest.length)
            | 2 => true | 3 => true | 4 => true
            | 5 => (match rest with | t :: _ :: _ :: _ => t.toNat == 1 || t.toNat == 3 | _ => false)
            | 6 => (match rest with | l :: _ :: _ :: tail => decide (l.toNat ≤ tail.length) | _ => false)
            | _ => false) = false := by
          split <;> first | omega | rfl
        simp +arith [decode, Valid, h, hver, minHeader]
        exact hm

open Spec.Layout in
theorem decode_fields (bs : Bytes) (f : Frame) (h : decode bs = .ok f) :
    f.wf ∧ ∃ tail, normalizeVersion bs = build f ++ tail ∧
      (tail = [] ∨ (∃ id n, f = .acknowledge id n) ∨ (∃ id, f = .reset id) ∨ (∃ id, f = .finish id)) := by
  revert h
  fun_cases decode bs <;> intro h <;> cases h
  all_goals have ho := (decodeOp_ok ‹decodeOp _ = .ok _›).2
  -- the seven successful paths, in the order of the opcodes
  · exact ⟨⟨rd32_lt .., rd32_lt .., rd16_lt ..⟩, [],
      by simp +zetaDelta [normalizeVersion, build, header, ho, Op.ctorIdx, be32_rd32, be16_rd16], Or.inl rfl⟩
  · rename_i tail _ _ _
    exact ⟨⟨rd32_lt .., rd32_lt ..⟩, tail,
      by simp +zetaDelta [normalizeVersion, build, header, ho, Op.ctorIdx, be32_rd32], Or.inr (Or.inl ⟨_, _, rfl⟩)⟩
  · rename_i rest _ _ _
    exact ⟨rd32_lt .., rest, by simp +zetaDelta [normalizeVersion, build, header, ho, Op.ctorIdx, be32_rd32],
      Or.inr (Or.inr (Or.inl ⟨_, rfl⟩))⟩
  · rename_i rest _ _ _
    exact ⟨rd32_lt .., rest, by simp +zetaDelta [normalizeVersion, build, header, ho, Op.ctorIdx, be32_rd32],
      Or.inr (Or.inr (Or.inr ⟨_, rfl⟩))⟩
  · exact ⟨rd32_lt .., [], by simp +zetaDelta [normalizeVersion, build, header, ho, Op.ctorIdx, be32_rd32], Or.inl rfl⟩
  · rename_i t _ _ _ bt hbt _ _ _
    have ht : UInt8.ofNat (bindCode bt) = t := by
      rcases decodeBindType_cases t with ⟨ht, hb⟩ | ⟨ht, hb⟩ | ⟨_, _, hb⟩
      all_goals rw [hb] at hbt; cases hbt
      all_goals simp [bindCode, ← ht]
    exact ⟨⟨rd32_lt .., rd16_lt ..⟩, [],
      by simp +zetaDelta [normalizeVersion, build, header, ho, Op.ctorIdx, be32_rd32, be16_rd16, ht], Or.inl rfl⟩
  · rename_i l _ _ tail _ hl _ _
    have hlen : (List.take l.toNat tail).length = l.toNat := by
      simp only [List.length_cons, minDatagramAfterLen] at hl
      rw [List.length_take]; omega
    exact ⟨⟨rd32_lt .., rd16_lt .., by have := l.toNat_lt; omega⟩, [],
      by simp +zetaDelta [normalizeVersion, build, header, ho, Op.ctorIdx, be32_rd32, be16_rd16, hlen], Or.inl rfl⟩
end Penguin.Lemmas.Frame
