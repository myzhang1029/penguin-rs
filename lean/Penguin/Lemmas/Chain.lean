/-
Definitions used by the C20 theorems (abstraction to a plain byte vector, the invariant, the
reference run) and the helper lemmas about the loops of `Penguin.Model.Chain`.
-/
import Penguin.Model.Chain
import Penguin.Spec.Vec

namespace Penguin.C20
open Penguin Penguin.Chain

def flat : List Seg → Bytes
  | [] => []
  | s :: r => s.bytes ++ flat r

def total : List Seg → Nat
  | [] => 0
  | s :: r => s.bytes.length + total r

/-- The plain byte vector a chain stands for. -/
def abs (c : Chain) : Bytes := flat c.segs

def NoEmpty (l : List Seg) : Prop := ∀ s ∈ l, s.bytes ≠ []

def Inv (c : Chain) : Prop := c.cachedLen = total c.segs ∧ NoEmpty c.segs

/-- `Inv` as a `Bool` (evaluated by `decide` in the examples). -/
def invB (c : Chain) : Bool := (c.cachedLen == total c.segs) && c.segs.all (fun s => !s.bytes.isEmpty)

theorem invB_iff (c : Chain) : invB c = true ↔ Inv c := by
  simp [invB, Inv, NoEmpty]

instance (c : Chain) : Decidable (Inv c) := decidable_of_iff _ (invB_iff c)

@[simp] theorem seg_len (s : Seg) : s.len = s.bytes.length := by
  cases s with | mk t b => cases t <;> rfl
@[simp] theorem seg_remaining (s : Seg) : s.remaining = s.bytes.length := by
  cases s with | mk t b => cases t <;> rfl
@[simp] theorem seg_isEmpty (s : Seg) : s.isEmpty = s.bytes.isEmpty := by
  cases s with | mk t b => cases t <;> rfl
@[simp] theorem seg_chunk (s : Seg) : s.chunk = s.bytes := by
  cases s with | mk t b => cases t <;> rfl
@[simp] theorem seg_asRef (s : Seg) : s.asRef = s.bytes := by
  cases s with | mk t b => cases t <;> rfl
@[simp] theorem seg_intoStatic (s : Seg) : s.intoStatic = s.bytes := by
  cases s with | mk t b => cases t <;> rfl

theorem seg_splitOff_ok (s : Seg) (n : Nat) (h : n ≤ s.bytes.length) :
    s.splitOff n = .ok (⟨s.tag, s.bytes.take n⟩, ⟨s.tag, s.bytes.drop n⟩) := by
  cases s with | mk t b => cases t <;> simp [Seg.splitOff, Nat.not_lt.mpr h]

theorem seg_splitOff_err (s : Seg) (n : Nat) (h : s.bytes.length < n) : s.splitOff n = .error ⟨s⟩ := by
  cases s with | mk t b => cases t <;> simp [Seg.splitOff, h]

theorem seg_splitTo_ok (s : Seg) (n : Nat) (h : n ≤ s.bytes.length) :
    s.splitTo n = .ok (⟨s.tag, s.bytes.drop n⟩, ⟨s.tag, s.bytes.take n⟩) := by
  cases s with | mk t b => cases t <;> simp [Seg.splitTo, Nat.not_lt.mpr h]

theorem seg_splitTo_err (s : Seg) (n : Nat) (h : s.bytes.length < n) : s.splitTo n = .error ⟨s⟩ := by
  cases s with | mk t b => cases t <;> simp [Seg.splitTo, h]

theorem seg_advance_ok (s : Seg) (n : Nat) (h : n ≤ s.bytes.length) :
    s.advance n = .ok (⟨s.tag, s.bytes.drop n⟩, ()) := by
  cases s with | mk t b => cases t <;> simp [Seg.advance, Nat.not_lt.mpr h]

theorem seg_advance_err (s : Seg) (n : Nat) (h : s.bytes.length < n) : s.advance n = .error ⟨s⟩ := by
  cases s with | mk t b => cases t <;> simp [Seg.advance, h]

theorem seg_truncate_lt (s : Seg) (n : Nat) (h : n < s.bytes.length) :
    s.truncate n = .ok (⟨s.tag, s.bytes.take n⟩, ()) := by
  cases s with
  | mk t b => cases t <;> simp [Seg.truncate, h, Nat.not_lt.mpr (Nat.le_of_lt h)]

@[simp] theorem flat_nil : flat [] = [] := rfl
@[simp] theorem flat_cons (s : Seg) (r : List Seg) : flat (s :: r) = s.bytes ++ flat r := rfl
@[simp] theorem total_nil : total [] = 0 := rfl
@[simp] theorem total_cons (s : Seg) (r : List Seg) : total (s :: r) = s.bytes.length + total r := rfl

@[simp] theorem flat_append (a b : List Seg) : flat (a ++ b) = flat a ++ flat b := by
  induction a with
  | nil => rfl
  | cons s r ih => simp [ih, List.append_assoc]

@[simp] theorem total_append (a b : List Seg) : total (a ++ b) = total a + total b := by
  induction a with
  | nil => simp
  | cons s r ih => simp [ih, Nat.add_assoc]

@[simp] theorem length_flat (l : List Seg) : (flat l).length = total l := by
  induction l with
  | nil => rfl
  | cons s r ih => simp [ih]

theorem seg_eq_mk {s : Seg} {t : Tag} {b : Bytes} (ht : s.tag = t) (hb : s.bytes = b) : s = ⟨t, b⟩ := by
  cases s; simp_all

theorem length_abs (c : Chain) : (abs c).length = total c.segs := length_flat c.segs

@[simp] theorem noEmpty_nil : NoEmpty [] := by simp [NoEmpty]
@[simp] theorem noEmpty_cons (s : Seg) (r : List Seg) : NoEmpty (s :: r) ↔ s.bytes ≠ [] ∧ NoEmpty r := by
  simp [NoEmpty]
@[simp] theorem noEmpty_append (a b : List Seg) : NoEmpty (a ++ b) ↔ NoEmpty a ∧ NoEmpty b := by
  simp only [NoEmpty, List.mem_append]
  constructor
  · intro h; exact ⟨fun s hs => h s (Or.inl hs), fun s hs => h s (Or.inr hs)⟩
  · rintro ⟨h1, h2⟩ s (hs | hs)
    · exact h1 s hs
    · exact h2 s hs

/-- A chain with a segment holds a byte (a result for its own sake). -/
theorem total_pos_of_noEmpty {s : Seg} {r : List Seg} (h : NoEmpty (s :: r)) : 0 < total (s :: r) := by
  have := (noEmpty_cons s r).mp h
  have : 0 < s.bytes.length := List.length_pos_iff.mpr this.1
  simp; omega

theorem noEmpty_take (l : List Seg) (i : Nat) (h : NoEmpty l) : NoEmpty (l.take i) :=
  fun s hs => h s (List.mem_of_mem_take hs)

theorem noEmpty_drop (l : List Seg) (i : Nat) (h : NoEmpty l) : NoEmpty (l.drop i) :=
  fun s hs => h s (List.mem_of_mem_drop hs)

theorem take_drop_of_append {v a b : Bytes} {n : Nat} (h : v = a ++ b) (hn : a.length = n) :
    v.take n = a ∧ v.drop n = b := by
  subst h; exact ⟨List.take_left' hn, List.drop_left' hn⟩

theorem splitScan_spec (l : List Seg) (n : Nat) :
    ∀ f b r, splitScan l n = (f, b, r) →
      l = f ++ b ∧ n = total f + r ∧ (∀ s rest, b = s :: rest → r < s.bytes.length) := by
  induction l generalizing n with
  | nil =>
    intro f b r h
    simp [splitScan] at h
    obtain ⟨rfl, rfl, rfl⟩ := h
    simp
  | cons s rest ih =>
    intro f b r h
    simp only [splitScan, seg_len] at h
    split at h
    · rename_i hlt
      simp at h
      obtain ⟨rfl, rfl, rfl⟩ := h
      refine ⟨by simp, by simp, ?_⟩
      intro s' rest' hb
      simp at hb
      obtain ⟨rfl, _⟩ := hb
      exact hlt
    · rename_i hge
      generalize hsc : splitScan rest (n - s.bytes.length) = res at h
      obtain ⟨f', b', r'⟩ := res
      simp at h
      obtain ⟨rfl, rfl, rfl⟩ := h
      obtain ⟨h1, h2, h3⟩ := ih _ _ _ _ hsc
      refine ⟨by simp [h1], by simp; omega, h3⟩

theorem truncScan_spec (l : List Seg) (n : Nat) (hl : NoEmpty l) (hn : n ≤ total l) :
    ∃ k, truncScan l n = some k ∧ NoEmpty k ∧ total k = n ∧ flat k = (flat l).take n := by
  induction l generalizing n with
  | nil =>
    simp at hn; subst hn
    exact ⟨[], by simp [truncScan]⟩
  | cons s rest ih =>
    have hne := (noEmpty_cons s rest).mp hl
    simp only [truncScan, seg_len]
    by_cases h0 : n = 0
    · subst h0; exact ⟨[], by simp⟩
    · simp only [h0, if_false]
      by_cases hlt : n < s.bytes.length
      · simp only [hlt, if_true, seg_truncate_lt s n hlt]
        refine ⟨[⟨s.tag, s.bytes.take n⟩], rfl, ?_, ?_, ?_⟩
        · simp; exact ⟨h0, hne.1⟩
        · simp; omega
        · simp [List.take_append_of_le_length (Nat.le_of_lt hlt)]
      · simp only [hlt, if_false]
        have hge : s.bytes.length ≤ n := Nat.le_of_not_lt hlt
        simp at hn
        obtain ⟨k, hk, hk1, hk2, hk3⟩ := ih (n - s.bytes.length) hne.2 (by omega)
        refine ⟨s :: k, by simp [hk], by simp [hne.1, hk1], by simp [hk2]; omega, ?_⟩
        simp [hk3, List.take_append, List.take_of_length_le hge]

theorem advLoop_zero (l : List Seg) (len : Nat) : advLoop l 0 len = .ok ⟨l, len⟩ := by
  cases l <;> simp [advLoop]

/-- One iteration of the loop, with the (never failing) `CowBytes::advance` resolved. -/
theorem advLoop_cons (s : Seg) (rest : List Seg) (m len : Nat) :
    advLoop (s :: rest) (m + 1) len =
      if s.bytes.length ≤ m + 1 then advLoop rest (m + 1 - s.bytes.length) (len - s.bytes.length)
      else .ok ⟨⟨s.tag, s.bytes.drop (m + 1)⟩ :: rest, len - (m + 1)⟩ := by
  rw [advLoop]
  simp only [seg_remaining]
  have hmin : min s.bytes.length (m + 1) ≤ s.bytes.length := Nat.min_le_left _ _
  split
  · rename_i p heq
    rw [seg_remaining, seg_advance_ok s _ hmin] at heq
    cases heq
  · rename_i s' u heq
    rw [seg_remaining, seg_advance_ok s _ hmin] at heq
    injection heq with heq
    injection heq with h1 h2
    subst h1
    by_cases hle : s.bytes.length ≤ m + 1
    · have hm : min s.bytes.length (m + 1) = s.bytes.length := Nat.min_eq_left hle
      simp [hm, hle]
    · have hm := Nat.min_eq_right (Nat.le_of_lt (Nat.lt_of_not_le hle))
      have h0 : ¬ (s.bytes.length - (m + 1) = 0) := by omega
      simp [hm, hle, h0, advLoop_zero]

theorem advLoop_nil_succ (m len : Nat) : advLoop [] (m + 1) len = .error ⟨⟨[], len⟩⟩ := by
  rw [advLoop]

theorem advLoop_spec (l : List Seg) (n len : Nat) (hl : NoEmpty l) (hn : n ≤ total l) :
    ∃ k, advLoop l n len = .ok ⟨k, len - n⟩ ∧ NoEmpty k ∧ total k = total l - n ∧
      flat k = (flat l).drop n := by
  induction l generalizing n len with
  | nil =>
    simp at hn; subst hn
    exact ⟨[], by simp [advLoop_zero]⟩
  | cons s rest ih =>
    have hne := (noEmpty_cons s rest).mp hl
    have hpos : 0 < s.bytes.length := List.length_pos_iff.mpr hne.1
    cases n with
    | zero => exact ⟨s :: rest, by simp [advLoop_zero, hl]⟩
    | succ m =>
      rw [advLoop_cons]
      by_cases hle : s.bytes.length ≤ m + 1
      · simp only [hle, if_true]
        simp at hn
        obtain ⟨k, hk, hk1, hk2, hk3⟩ := ih (m + 1 - s.bytes.length) (len - s.bytes.length) hne.2 (by omega)
        refine ⟨k, ?_, hk1, by simp [hk2]; omega, ?_⟩
        · rw [hk]; congr 2; omega
        · simp [hk3, List.drop_append, List.drop_of_length_le hle]
      · have hlt : m + 1 < s.bytes.length := Nat.lt_of_not_le hle
        simp only [hle, if_false]
        refine ⟨⟨s.tag, s.bytes.drop (m + 1)⟩ :: rest, rfl, ?_, ?_, ?_⟩
        · simp [hne.2]; omega
        · simp; omega
        · simp [List.drop_append_of_le_length (Nat.le_of_lt hlt)]

theorem splitOff_spec (c : Chain) (n : Nat) (hi : Inv c) :
    (n ≤ total c.segs → ∃ c' p, c.splitOff n = .ok (c', p) ∧ Inv c' ∧ Inv p ∧
        abs c = abs c' ++ abs p ∧ total c'.segs = n) ∧
    (total c.segs < n → c.splitOff n = .error ⟨c⟩) := by
  obtain ⟨h1, h2⟩ := hi
  unfold Chain.splitOff
  generalize hsc : splitScan c.segs n = res
  obtain ⟨f, b, r⟩ := res
  obtain ⟨e1, e2, e3⟩ := splitScan_spec _ _ _ _ _ hsc
  have hne : NoEmpty f ∧ NoEmpty b := by rw [e1] at h2; exact (noEmpty_append f b).mp h2
  have ht : total c.segs = total f + total b := by rw [e1]; simp
  simp only
  by_cases hr : r = 0
  · subst hr
    simp only [if_true]
    constructor
    · intro _
      refine ⟨_, _, rfl, ⟨by simp [e2], hne.1⟩, ⟨by simp; omega, hne.2⟩, by simp [abs, e1], by simp [e2]⟩
    · intro hlt; omega
  · simp only [hr, if_false]
    cases b with
    | nil =>
      simp at ht
      exact ⟨fun hle => by omega, fun _ => rfl⟩
    | cons s rest =>
      have hlt := e3 s rest rfl
      have hs := (noEmpty_cons s rest).mp hne.2
      simp only [seg_splitOff_ok s r (Nat.le_of_lt hlt)]
      constructor
      · intro _
        refine ⟨_, _, rfl, ⟨?_, ?_⟩, ⟨?_, ?_⟩, ?_, ?_⟩
        · simp [List.length_take]; omega
        · simp [hne.1]; exact ⟨hr, hs.1⟩
        · simp at ht; simp [List.length_drop]; omega
        · simp [hs.2]; omega
        · simp [abs, e1]
          rw [← List.append_assoc (List.take r s.bytes), List.take_append_drop]
        · simp [List.length_take]; omega
      · intro hgt; simp at ht; omega

theorem truncate_spec (c : Chain) (n : Nat) (hi : Inv c) :
    (n < total c.segs → ∃ c', c.truncate n = .ok (c', ()) ∧ Inv c' ∧ abs c' = (abs c).take n) ∧
    (total c.segs ≤ n → c.truncate n = .ok (c, ())) := by
  obtain ⟨h1, h2⟩ := hi
  unfold Chain.truncate
  constructor
  · intro hlt
    obtain ⟨k, hk, hk1, hk2, hk3⟩ := truncScan_spec c.segs n h2 (Nat.le_of_lt hlt)
    have : ¬ n ≥ c.cachedLen := by omega
    simp only [this, if_false, hk]
    exact ⟨_, rfl, ⟨by simp [hk2], hk1⟩, by simp [abs, hk3]⟩
  · intro hle
    have : n ≥ c.cachedLen := by omega
    simp [this]

theorem advance_spec (c : Chain) (n : Nat) (hi : Inv c) :
    (n ≤ total c.segs → ∃ c', c.advance n = .ok (c', ()) ∧ Inv c' ∧ abs c' = (abs c).drop n) ∧
    (total c.segs < n → c.advance n = .error ⟨c⟩) := by
  obtain ⟨h1, h2⟩ := hi
  unfold Chain.advance
  constructor
  · intro hle
    obtain ⟨k, hk, hk1, hk2, hk3⟩ := advLoop_spec c.segs n c.cachedLen h2 hle
    have : ¬ n > c.cachedLen := by omega
    simp only [this, if_false, hk]
    exact ⟨_, rfl, ⟨by simp [hk2, h1], hk1⟩, by simp [abs, hk3]⟩
  · intro hlt
    have : n > c.cachedLen := by omega
    simp [this]

/-! ### `Chain.step` is `Except.map` over the operation: what a returned value says of the operation -/

theorem map_ok {ε α β : Type} {f : α → β} {x : Except ε α} {y : β} (h : x.map f = .ok y) :
    ∃ a, x = .ok a ∧ f a = y := by
  cases x with
  | error e => simp [Except.map] at h
  | ok a => exact ⟨a, rfl, by simpa [Except.map] using h⟩

theorem map_ok_of {ε α β : Type} {f : α → β} {x : Except ε α} {a : α} (h : x = .ok a) :
    x.map f = .ok (f a) := by
  rw [h]; rfl

def offset (c : Chain) (i : Nat) : Nat := total (c.segs.take i)

def segLen (c : Chain) (i : Nat) : Nat :=
  match c.segs[i]? with
  | some s => s.bytes.length
  | none => 0

def lastLen (c : Chain) : Nat :=
  match c.segs.getLast? with
  | some s => s.bytes.length
  | none => 0

/-- The arguments the property calls in range: an index within the segments, a length within the
    bytes, a non-empty segment. -/
def InRange (c : Chain) : Op → Prop
  | .push s => s.bytes ≠ []
  | .insert i s => i ≤ c.segs.length ∧ s.bytes ≠ []
  | .pop => True
  | .remove i => i < c.segs.length
  | .splitTo n => n ≤ (abs c).length
  | .splitOff n => n ≤ (abs c).length
  | .truncate n => n ≤ (abs c).length
  | .advance n => n ≤ (abs c).length
  | .clear => True
  | .copyToBytes n => n ≤ (abs c).length
  | .copyToSlice n => n ≤ (abs c).length
  | .getU8 => 1 ≤ (abs c).length
  | .getU16 => 2 ≤ (abs c).length
  | .getU32 => 4 ≤ (abs c).length

instance (c : Chain) (op : Op) : Decidable (InRange c op) := by
  cases op <;> unfold InRange <;> infer_instance

/-- What an operation returns, as plain bytes. -/
inductive RefOut where
  | unit
  | bytes (b : Option Bytes)
  | part (b : Bytes)
  | copied (b : Bytes)
  | num (n : Nat)
deriving DecidableEq, Repr

def outAbs : Out → RefOut
  | .unit => .unit
  | .popped s => .bytes (s.map Seg.bytes)
  | .removed s => .bytes (some s.bytes)
  | .part c => .part (abs c)
  | .copied b => .copied b
  | .u8 v => .num v.toNat
  | .u16 v => .num v.toNat
  | .u32 v => .num v.toNat

/-- One operation on the plain byte vector `v` run alongside the chain `c`; `c` is consulted only to
    turn the segment indices of `insert` / `pop` / `remove` into byte ranges. -/
def refStep (c : Chain) (v : Bytes) : Op → Bytes × RefOut
  | .push s => (Spec.Vec.append v s.bytes, .unit)
  | .insert i s => (Spec.Vec.insertAt v (offset c i) s.bytes, .unit)
  | .pop =>
    (Spec.Vec.truncate v (v.length - lastLen c),
      .bytes (if c.segs = [] then none else some (Spec.Vec.tail v (lastLen c))))
  | .remove i =>
    (Spec.Vec.removeRange v (offset c i) (segLen c i), .bytes (some (Spec.Vec.slice v (offset c i) (segLen c i))))
  | .splitTo n => ((Spec.Vec.splitTo v n).1, .part (Spec.Vec.splitTo v n).2)
  | .splitOff n => ((Spec.Vec.splitOff v n).1, .part (Spec.Vec.splitOff v n).2)
  | .truncate n => (Spec.Vec.truncate v n, .unit)
  | .advance n => (Spec.Vec.advance v n, .unit)
  | .clear => (Spec.Vec.clear v, .unit)
  | .copyToBytes n => ((Spec.Vec.copyOut v n).1, .copied (Spec.Vec.copyOut v n).2)
  | .copyToSlice n => ((Spec.Vec.copyOut v n).1, .copied (Spec.Vec.copyOut v n).2)
  | .getU8 => ((Spec.Vec.getBe v 1).1, .num (Spec.Vec.getBe v 1).2)
  | .getU16 => ((Spec.Vec.getBe v 2).1, .num (Spec.Vec.getBe v 2).2)
  | .getU32 => ((Spec.Vec.getBe v 4).1, .num (Spec.Vec.getBe v 4).2)

/-- The plain byte vector subjected to the same operations as the chain (until the chain panics). -/
def refRun (c : Chain) (v : Bytes) : List Op → Bytes × List RefOut
  | [] => (v, [])
  | op :: ops =>
    match c.step op with
    | .error _ => (v, [])
    | .ok (c', _) =>
      ((refRun c' (refStep c v op).1 ops).1, (refStep c v op).2 :: (refRun c' (refStep c v op).1 ops).2)

/-- Every value a caller can get hold of: the new chain, what an operation leaves in place, what a
    split returns, and what a panicking operation leaves behind (seen after catching the unwind). -/
inductive Reachable : Chain → Prop where
  | new : Reachable Chain.new
  | step {c c' : Chain} {op : Op} {o : Out} : Reachable c → c.step op = .ok (c', o) → Reachable c'
  | part {c c' p : Chain} {op : Op} : Reachable c → c.step op = .ok (c', .part p) → Reachable p
  | left {c : Chain} {op : Op} {p : Panic Chain} : Reachable c → c.step op = .error p → Reachable p.left

/-! ### Changing the variants (borrowed / owned) of the segments -/

def retagSeg (f : Tag → Tag) (s : Seg) : Seg := ⟨f s.tag, s.bytes⟩

def retagChain (f : Tag → Tag) (c : Chain) : Chain := ⟨c.segs.map (retagSeg f), c.cachedLen⟩

def retagOp (f : Tag → Tag) : Op → Op
  | .push s => .push (retagSeg f s)
  | .insert i s => .insert i (retagSeg f s)
  | op => op

def retagOut (f : Tag → Tag) : Out → Out
  | .unit => .unit
  | .popped s => .popped (s.map (retagSeg f))
  | .removed s => .removed (retagSeg f s)
  | .part c => .part (retagChain f c)
  | .copied b => .copied b
  | .u8 v => .u8 v
  | .u16 v => .u16 v
  | .u32 v => .u32 v

def retagRes (f : Tag → Tag) : Res Chain Out → Res Chain Out
  | .error p => .error ⟨retagChain f p.left⟩
  | .ok (c, o) => .ok (retagChain f c, retagOut f o)

@[simp] theorem retagSeg_bytes (f : Tag → Tag) (s : Seg) : (retagSeg f s).bytes = s.bytes := rfl
@[simp] theorem retagSeg_tag (f : Tag → Tag) (s : Seg) : (retagSeg f s).tag = f s.tag := rfl

theorem splitScan_retag (f : Tag → Tag) (l : List Seg) (n : Nat) :
    splitScan (l.map (retagSeg f)) n =
      (((splitScan l n).1).map (retagSeg f), ((splitScan l n).2.1).map (retagSeg f), (splitScan l n).2.2) := by
  induction l generalizing n with
  | nil => simp [splitScan]
  | cons s rest ih =>
    simp only [List.map_cons, splitScan, seg_len, retagSeg_bytes]
    split
    · simp
    · rw [ih]; simp

theorem truncScan_retag (f : Tag → Tag) (l : List Seg) (n : Nat) :
    truncScan (l.map (retagSeg f)) n = (truncScan l n).map (List.map (retagSeg f)) := by
  induction l generalizing n with
  | nil => simp [truncScan]
  | cons s rest ih =>
    simp only [List.map_cons, truncScan, seg_len, retagSeg_bytes]
    split
    · simp
    · split
      · rename_i hlt
        rw [seg_truncate_lt _ n (by simpa using hlt), seg_truncate_lt s n hlt]
        simp [retagSeg]
      · rw [ih]
        cases truncScan rest (n - s.bytes.length) <;> simp

theorem advLoop_retag (f : Tag → Tag) (l : List Seg) (n len : Nat) :
    advLoop (l.map (retagSeg f)) n len =
      match advLoop l n len with
      | .error p => .error ⟨retagChain f p.left⟩
      | .ok c => .ok (retagChain f c) := by
  induction l generalizing n len with
  | nil =>
    cases n with
    | zero => simp [advLoop_zero, retagChain]
    | succ m => simp [advLoop_nil_succ, retagChain]
  | cons s rest ih =>
    cases n with
    | zero => simp [advLoop_zero, retagChain]
    | succ m =>
      simp only [List.map_cons, advLoop_cons, retagSeg_bytes]
      by_cases hle : s.bytes.length ≤ m + 1
      · simp only [hle, if_true]; exact ih _ _
      · simp [hle, retagChain, retagSeg]

theorem seg_splitOff_retag (f : Tag → Tag) (s : Seg) (n : Nat) :
    (retagSeg f s).splitOff n =
      match s.splitOff n with
      | .error _ => .error ⟨retagSeg f s⟩
      | .ok (a, b) => .ok (retagSeg f a, retagSeg f b) := by
  by_cases h : n ≤ s.bytes.length
  · rw [seg_splitOff_ok s n h, seg_splitOff_ok _ n (by simpa using h)]; rfl
  · have h' := Nat.lt_of_not_le h
    rw [seg_splitOff_err s n h', seg_splitOff_err _ n (by simpa using h')]

theorem splitOff_retag (f : Tag → Tag) (c : Chain) (n : Nat) :
    (retagChain f c).splitOff n =
      match c.splitOff n with
      | .error p => .error ⟨retagChain f p.left⟩
      | .ok (a, b) => .ok (retagChain f a, retagChain f b) := by
  unfold Chain.splitOff
  simp only [retagChain, splitScan_retag]
  generalize splitScan c.segs n = res
  obtain ⟨fr, b, r⟩ := res
  simp only
  by_cases hr : r = 0
  · simp [hr]
  · simp only [hr, if_false]
    cases b with
    | nil => simp
    | cons s rest =>
      simp only [List.map_cons, seg_splitOff_retag]
      cases s.splitOff r with
      | error e => simp
      | ok v => obtain ⟨a, b⟩ := v; simp

theorem truncate_retag (f : Tag → Tag) (c : Chain) (n : Nat) :
    (retagChain f c).truncate n =
      match c.truncate n with
      | .error p => .error ⟨retagChain f p.left⟩
      | .ok (a, _) => .ok (retagChain f a, ()) := by
  unfold Chain.truncate
  simp only [retagChain, truncScan_retag]
  split
  · simp
  · cases truncScan c.segs n <;> simp

theorem advance_retag (f : Tag → Tag) (c : Chain) (n : Nat) :
    (retagChain f c).advance n =
      match c.advance n with
      | .error p => .error ⟨retagChain f p.left⟩
      | .ok (a, _) => .ok (retagChain f a, ()) := by
  unfold Chain.advance
  simp only [retagChain, advLoop_retag]
  split
  · simp
  · cases advLoop c.segs n c.cachedLen <;> simp

end Penguin.C20
