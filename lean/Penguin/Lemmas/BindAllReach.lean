/-
The invariant of the pair of bind views holds in every reachable state of `Model/PairAll.lean` (with the
observers' records of `Lemmas/BindAllMain.lean`), under the id discipline `PairAll.Cfg`: first `Inv`, then
the second layer `Inv3` and the ORDER layer `Inv4` (`Lemmas/BindAllOrd.lean`); and `bind_buffer_size` never
changes along a run.
Core Lean only.
-/
import Penguin.Lemmas.BindAllMain
import Penguin.Lemmas.BindAllOrdStep

namespace Penguin.BindAll
open Penguin.Mux Penguin.PairAll
open Penguin.PairAll (inMsgs inMsgs_append wireMsgs)

def absB (q : PB) : BC :=
  { a := bview q.p.a q.p.a.inbox, b := bview q.p.b q.p.b.inbox, ab := q.p.ab, ba := q.p.ba, abOpen := q.p.abOpen,
    baOpen := q.p.baOpen, ga := q.ha, gb := q.hb }

def PB.swap (q : PB) : PB := { p := q.p.swap, ha := q.hb, hb := q.ha }

theorem absB_swap (q : PB) : absB q.swap = (absB q).swap := rfl

structure Closed (I : BC → Prop) : Prop where
  swap : ∀ {c : BC}, I c → I c.swap
  starL : ∀ {c : BC} {v : BV} {ws : List Msg} {gs : List BEv}, I c → BStar c.a v ws gs → v.rng ≠ [] → I (c.actL v ws gs)
  stepL : ∀ {c c' : BC}, I c → CStepL c c' → c'.a.rng ≠ [] → I c'

theorem closed_inv : Closed Inv := ⟨Inv.swap, Inv.starL, fun h st hn => h.stepL st hn⟩

structure PInv (I : BC → Prop) (q : PB) : Prop where
  inv : I (absB q)
  neA : q.p.a.rng ≠ []
  neB : q.p.b.rng ≠ []

variable {I : BC → Prop}

theorem PInv.swap (hI : Closed I) {q : PB} (h : PInv I q) : PInv I q.swap :=
  ⟨by rw [absB_swap]; exact hI.swap h.inv, h.neB, h.neA⟩

theorem ne_nil_of_isEmpty {l : List Nat} (h : l.isEmpty = false) : l ≠ [] := by
  intro h0; rw [h0] at h; cases h

/-- The pair of bind views after the endpoint stimulus `op` at the left endpoint. Stated once: left to the
    unifier, this equation makes it unfold the endpoint model. -/
theorem absB_actL (q : PB) (op : Mux.Op) (ba : List Msg) (bo : Bool) :
    absB { p := { PairAll.actL q.p op with ba := ba, baOpen := bo }, ha := bgStep q.p.a q.ha op, hb := q.hb } =
      BC.actL { absB q with ba := ba, baOpen := bo } (bview (applyOp q.p.a op).1 (applyOp q.p.a op).1.inbox)
        (wireMsgs (applyOp q.p.a op).2.2) (callEvs q.p.a op (applyOp q.p.a op).2.1 ++ doneEvs (applyOp q.p.a op).2.2) := by
  simp only [absB, BC.actL, PairAll.actL, bgStep, send, stepG]
  rfl

theorem inv_settleL (hI : Closed I) {q : PB} {c1 : BC} {w : WsIn} (h1 : I c1)
    (ha : c1.a = bview (opStep q.p.a (.deliver w)).1 (opStep q.p.a (.deliver w)).1.inbox)
    (hne : (applyOp q.p.a (.deliver w)).1.rng ≠ []) :
    I (c1.actL (bview (applyOp q.p.a (.deliver w)).1 (applyOp q.p.a (.deliver w)).1.inbox)
      (wireMsgs (applyOp q.p.a (.deliver w)).2.2)
      (callEvs q.p.a (.deliver w) (applyOp q.p.a (.deliver w)).2.1 ++ doneEvs (applyOp q.p.a (.deliver w)).2.2)) :=
  hI.starL h1 (by rw [ha]; exact bstar_deliver q.p.a w) hne

/-- The total `stimOp` of `Lemmas/BindAllMain.lean` is the stimulus an enabled stimulus of the pair applies. -/
theorem stimOp_of_some {p : PS} {st : Stim} {op : Mux.Op} (h : PairAll.stimOp p st = some op) : stimOp p st = op := by
  cases st with
  | call o => simp only [PairAll.stimOp] at h; split at h <;> cases h; rfl
  | deliver =>
    cases hba : p.ba with
    | nil => simp [PairAll.stimOp, hba] at h
    | cons m r => simp only [PairAll.stimOp, hba] at h; cases h; simp only [stimOp, hba]
  | cut eof => cases h; rfl

/-- A stimulus of the LEFT endpoint: a call runs from the present views; a delivery, a delivered Close or a cut is first
    one receiving step of the pair of views, then the task runs. -/
theorem PInv.stepA (hI : Closed I) {q : PB} (h : PInv I q) {st : Stim} {p' : PS} (hs : stepL q.p st = some p') :
    PInv I { p := p', ha := bgStep q.p.a q.ha (stimOp q.p st), hb := q.hb } := by
  obtain ⟨hst, hemp⟩ := stepL_spec hs
  obtain ⟨op, ba', bo', s, hop, rfl⟩ := stimL_elim hst
  have hne0 := ne_nil_of_isEmpty hemp
  refine ⟨?_, hne0, h.neB⟩
  have hne : (applyOp q.p.a op).1.rng ≠ [] := by rw [actL_with_a] at hne0; exact hne0
  rw [stimOp_of_some hop, absB_actL]
  cases s with
  | call _ hc => exact hI.starL h.inv (bstar_call q.p.a op hc) hne
  -- (`have g … exact g`: the goal's pair still has the old left view, which `BC.actL` replaces; stated first, `g` is
  -- compared with the goal after unfolding `BC.actL`)
  | dlv m _ hba hm =>
    have g := inv_settleL hI (hI.stepL h.inv (CStepL.dlv (absB q) m _ (deafE q.p.a) hba (deafE_eq q.p.a)) h.neA)
      (bview_deliver_msg q.p.a m hm).symm hne
    exact g
  | dlvClose rest hba =>
    have g := inv_settleL hI (hI.stepL h.inv (CStepL.lose (absB q) [.msg .close, .eof] (deafE q.p.a) (Or.inr rfl)) h.neA)
      (bview_deliver_close q.p.a).symm hne
    exact g
  | cut w hw =>
    have g := inv_settleL hI (hI.stepL h.inv (CStepL.lose (absB q) [w] (deafE q.p.a)
      (Or.inl (by rcases hw with rfl | rfl <;> rfl))) h.neA) (bview_deliver_end q.p.a w hw).symm hne
    exact g

theorem PInv.step (hI : Closed I) {q : PB} (h : PInv I q) (s : Side) (st : Stim) : PInv I (stepB q s st) := by
  cases s with
  | A =>
    simp only [stepB]
    cases hs : stepL q.p st with
    | none => exact h
    | some p' => exact h.stepA hI hs
  | B =>
    simp only [stepB]
    cases hs : stepL q.p.swap st with
    | none => exact h
    | some p' =>
      have e : PB.swap { p := p', ha := bgStep q.swap.p.a q.swap.ha (stimOp q.swap.p st), hb := q.swap.hb } =
          { p := p'.swap, ha := q.ha, hb := bgStep q.p.b q.hb (stimOp q.p.swap st) } := by
        simp only [PB.swap, PS.swap]
      show PInv I { p := p'.swap, ha := q.ha, hb := bgStep q.p.b q.hb (stimOp q.p.swap st) }
      rw [← e]
      exact ((h.swap hI).stepA hI hs).swap hI

theorem PInv.run (hI : Closed I) {q : PB} (h : PInv I q) (l : List (Side × Stim)) : PInv I (runB q l) := by
  induction l generalizing q with
  | nil => exact h
  | cons a l ih => obtain ⟨s, st⟩ := a; exact ih (h.step hI s st)

theorem count_le_one_of_nodup {l : List Nat} (h : l.Nodup) (x : Nat) : l.count x ≤ 1 :=
  List.nodup_iff_count.mp h x

theorem PInv.init (oa ob : Opts) {ra rb : List Nat} (cfg : Cfg ra rb) : PInv Inv { p := PairAll.init oa ob ra rb } := by
  refine ⟨⟨?_, ?_, ?_, ?_, ?_, ⟨?_, ?_, ?_⟩, ⟨?_, ?_, ?_⟩⟩, cfg.neA, cfg.neB⟩
  · intro x
    have hc : (ra ++ rb).count x ≤ 1 := count_le_one_of_nodup cfg.nodup x
    rw [List.count_append] at hc
    refine ⟨?_, ?_, ⟨?_, ?_, ?_⟩, ⟨?_, ?_, ?_⟩⟩ <;>
      simp [sm, Sm.swap, absB, PairAll.init, bview, BC.path, BC.swap, enX, parkX, bindPark, inMsgs] <;> omega
  · intro k b hk; simp [absB, PairAll.init, bview] at hk
  · intro k b hk; simp [absB, PairAll.init, bview] at hk
  · intro y r hm; simp [absB, PairAll.init, bview] at hm
  · intro y r hm; simp [absB, PairAll.init, bview] at hm
  · intro x bt host port hit
    simp [ItemAt, absB, PairAll.init, bview, BC.path, bindPark, inMsgs] at hit
  · intro x hf; simp [absB, PairAll.init, bview, BC.path, BC.swap, inMsgs] at hf
  · intro req hd; simp [absB] at hd
  · intro x bt host port hit
    simp [ItemAt, absB, PairAll.init, bview, BC.path, BC.swap, bindPark, inMsgs] at hit
  · intro x hf; simp [absB, PairAll.init, bview, BC.path, BC.swap, inMsgs] at hf
  · intro req hd; simp [absB, BC.swap] at hd

theorem reach_inv (oa ob : Opts) {ra rb : List Nat} (cfg : Cfg ra rb) (l : List (Side × Stim)) :
    Inv (absB (runB { p := PairAll.init oa ob ra rb } l)) :=
  ((PInv.init oa ob cfg).run closed_inv l).inv

theorem Inv.once {c : BC} (h : Inv c) (x : Nat) : c.gb.countP (isShown x) ≤ 1 ∧ c.ga.countP (isAsked x) ≤ 1 := by
  have h1 := (h.num x).l.nobind
  have h2 := (h.num x).l.binda
  simp only [sm] at h1 h2
  omega

theorem lookup_of_no_stream_slot {fl : List (Nat × Slot)} {x : Nat} (h1 : fl.countP (isRQ x) = 0)
    (h2 : fl.countP (isES x) = 0) :
    lookup fl x = none ∨ ∃ r, lookup fl x = some (.bindRequested r) ∧ 1 ≤ fl.countP (isBR x) := by
  cases hl : lookup fl x with
  | none => exact Or.inl rfl
  | some s =>
    have hm := lookup_mem _ _ _ hl
    cases s with
    | requested r => exact absurd (one_le_countP_of_mem hm (P := isRQ x) (by simp)) (by omega)
    | bindRequested r => exact Or.inr ⟨r, rfl, one_le_countP_of_mem hm (by simp)⟩
    | established i => exact absurd (one_le_countP_of_mem hm (P := isES x) (by simp)) (by omega)

/-- An id the left side asked with is no stream's: no stream object carries it on either side, the right
    side has no slot for it, and the left side's slot, if any, is that of a pending bind request. -/
theorem Inv.asked_no_stream {c : BC} (h : Inv c) {x : Nat} (ha : 1 ≤ c.ga.countP (isAsked x)) :
    x ∉ c.a.fids ∧ x ∉ c.b.fids ∧ lookup c.b.flows x = none ∧
    (lookup c.a.flows x = none ∨ ∃ r, lookup c.a.flows x = some (.bindRequested r)) := by
  have hb := (h.num x).l.binda ha
  simp only [sm] at hb
  refine ⟨fun hm => ?_, fun hm => ?_, ?_, ?_⟩
  · have := List.count_pos_iff.mpr hm; omega
  · have := List.count_pos_iff.mpr hm; omega
  · rcases lookup_of_no_stream_slot (fl := c.b.flows) (x := x) (by omega) (by omega) with h0 | ⟨r, _, h0⟩
    · exact h0
    · omega
  · rcases lookup_of_no_stream_slot (fl := c.a.flows) (x := x) (by omega) (by omega) with h0 | ⟨r, h0, _⟩
    · exact Or.inl h0
    · exact Or.inr ⟨r, h0⟩

theorem closed_inv3 : Closed Inv3 := ⟨Inv3.swap, starL_of_act Inv3.act, fun h st hn => h.stepL st hn⟩

theorem Loc.init (o : Opts) (r : List Nat) : Loc (bview { opts := o, rng := r } []) [] := by
  refine ⟨?_, ?_, ?_, ?_, ?_⟩
  · intro h; simp [bview] at h
  · intro y hy; simp [bview] at hy
  · intro k hk; simp at hk
  · intro k b hk; simp [bview] at hk
  · intro k b hk; simp [bview] at hk

theorem PInv.init3 (oa ob : Opts) {ra rb : List Nat} (cfg : Cfg ra rb) : PInv Inv3 { p := PairAll.init oa ob ra rb } := by
  have h0 := PInv.init oa ob cfg
  refine ⟨⟨h0.inv, Loc.init oa ra, Loc.init ob rb, ⟨?_, ?_, ?_⟩, ⟨?_, ?_, ?_⟩⟩, cfg.neA, cfg.neB⟩
  · intro x hf; simp [absB, PairAll.init, bview, BC.path, BC.swap, inMsgs] at hf
  · intro req hd; simp [absB] at hd
  · intro x _ hm; simp [absB, PairAll.init, bview, BC.path, inMsgs] at hm
  · intro x hf; simp [absB, PairAll.init, bview, BC.path, BC.swap, inMsgs] at hf
  · intro req hd; simp [absB, BC.swap] at hd
  · intro x _ hm; simp [absB, PairAll.init, bview, BC.path, BC.swap, inMsgs] at hm

theorem reach_inv3 (oa ob : Opts) {ra rb : List Nat} (cfg : Cfg ra rb) (l : List (Side × Stim)) :
    Inv3 (absB (runB { p := PairAll.init oa ob ra rb } l)) :=
  ((PInv.init3 oa ob cfg).run closed_inv3 l).inv

/-- No step of the endpoint model writes the options (`Lemmas/MuxTrace.lean`). -/
theorem applyOp_bindCap (e : EP) (op : Mux.Op) : (applyOp e op).1.opts.bindCap = e.opts.bindCap :=
  congrArg Opts.bindCap ((Path.applyOpAny e op).frame .opts)

theorem stepL_caps {p p' : PS} {st : Stim} (h : stepL p st = some p') :
    p'.a.opts.bindCap = p.a.opts.bindCap ∧ p'.b = p.b := by
  obtain ⟨op, ba', bo', -, -, rfl⟩ := stimL_elim (stepL_spec h).1
  exact ⟨by rw [actL_with_a, applyOp_bindCap], by simp only [PairAll.actL]⟩

theorem runB_caps (q : PB) (l : List (Side × Stim)) :
    (runB q l).p.a.opts.bindCap = q.p.a.opts.bindCap ∧ (runB q l).p.b.opts.bindCap = q.p.b.opts.bindCap := by
  induction l generalizing q with
  | nil => exact ⟨rfl, rfl⟩
  | cons a l ih =>
    obtain ⟨s, st⟩ := a
    simp only [runB]
    obtain ⟨i1, i2⟩ := ih (stepB q s st)
    rw [i1, i2]
    cases s with
    | A =>
      simp only [stepB]
      cases hs : stepL q.p st with
      | none => exact ⟨rfl, rfl⟩
      | some p' =>
        obtain ⟨c1, c2⟩ := stepL_caps hs
        exact ⟨c1, by simp only; rw [c2]⟩
    | B =>
      simp only [stepB]
      cases hs : stepL q.p.swap st with
      | none => exact ⟨rfl, rfl⟩
      | some p' =>
        obtain ⟨c1, c2⟩ := stepL_caps hs
        exact ⟨by show p'.b.opts.bindCap = _; rw [c2]; rfl, c1⟩

theorem closed_inv4 : Closed Inv4 := ⟨Inv4.swap, starL_of_act Inv4.act, fun h st hn => h.stepL st hn⟩

theorem PInv.init4 (oa ob : Opts) {ra rb : List Nat} (cfg : Cfg ra rb) : PInv Inv4 { p := PairAll.init oa ob ra rb } := by
  have h0 := PInv.init3 oa ob cfg
  refine ⟨⟨h0.inv, ⟨?_, ?_, ?_, ?_⟩, ?_, ?_, ?_, ?_, ?_, ?_⟩, cfg.neA, cfg.neB⟩
  · intro _; rfl
  · intro _; rfl
  · intro hd; simp [absB, PairAll.init, bview, deafV] at hd
  · intro hd; simp [absB, PairAll.init, bview, deafV] at hd
  · intro k y bt h p hm; simp [absB] at hm
  · intro k y bt h p hm; simp [absB] at hm
  · intro x k bt host port _ hs; simp [absB] at hs
  · intro x k bt host port _ hs; simp [absB, BC.swap] at hs
  · intro req hd; simp [absB] at hd
  · intro req hd; simp [absB, BC.swap] at hd

theorem reach_inv4 (oa ob : Opts) {ra rb : List Nat} (cfg : Cfg ra rb) (l : List (Side × Stim)) :
    Inv4 (absB (runB { p := PairAll.init oa ob ra rb } l)) :=
  ((PInv.init4 oa ob cfg).run closed_inv4 l).inv

end Penguin.BindAll
