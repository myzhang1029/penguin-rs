/-
The stimuli of `Model/PairAll.lean`, read once: a stimulus of the pair applies ONE stimulus of the endpoint model
to the acting endpoint (`stimOp`) and replaces the wire to it (`StimL`, `stimL_elim`); a step of the right endpoint
is a stimulus of the left endpoint of the swapped pair (`step_B`).  The stream and the bind development both start
from here.
Core Lean only.
-/
import Penguin.Model.PairAll

namespace Penguin.PairAll
open Penguin.Mux

theorem wireMsgs_append (a b : List Ev) : wireMsgs (a ++ b) = wireMsgs a ++ wireMsgs b := by
  induction a with
  | nil => rfl
  | cons ev r ih => cases ev <;> simp [wireMsgs, ih]

theorem wireMsgs_wires (l : List Msg) : wireMsgs (l.map Ev.wire) = l := by
  induction l with
  | nil => rfl
  | cons m r ih => simp [wireMsgs, ih]

theorem wireMsgs_eq_nil {evs : List Ev} (h : ∀ ev ∈ evs, ev.sort ≠ .wire ∧ ev.sort ≠ .wireClose) : wireMsgs evs = [] := by
  induction evs with
  | nil => rfl
  | cons ev r ih =>
    have h1 := h ev (List.mem_cons_self ..)
    have h2 := ih fun ev' h' => h ev' (List.mem_cons_of_mem _ h')
    cases ev <;> first | exact h2 | exact absurd rfl h1.1 | exact absurd rfl h1.2

/-- Rewrite with this: compared by the unifier, `(stepG e g op).1` and `(applyOp e op).1` make it evaluate the
    endpoint model. -/
theorem stepG_fst (e : EP) (g : Ghost) (op : Mux.Op) : (stepG e g op).1 = (applyOp e op).1 := by
  simp only [stepG]

theorem PS.swap_a (p : PS) : p.swap.a = p.b := rfl

def stimOp (p : PS) : Stim → Option Mux.Op
  | .call op => if isCall op then some op else none
  | .deliver => match p.ba with | [] => none | m :: _ => some (.deliver (.msg m))
  | .cut eof => some (.deliver (if eof then .eof else .err))

/-- The enabled stimuli of the left endpoint: the stimulus `op` of the endpoint model, and what is left of the wire to
    it (`ba'`, open or not). -/
inductive StimL (p : PS) : Mux.Op → List Msg → Bool → Prop
  | call (op : Mux.Op) (hc : isCall op = true) : StimL p op p.ba p.baOpen
  | dlv (m : Msg) (rest : List Msg) (h : p.ba = m :: rest) (hm : m ≠ .close) : StimL p (.deliver (.msg m)) rest p.baOpen
  | dlvClose (rest : List Msg) (h : p.ba = .close :: rest) : StimL p (.deliver (.msg .close)) [] false
  | cut (w : WsIn) (hw : w = .eof ∨ w = .err) : StimL p (.deliver w) [] false

theorem actL_with_self (p : PS) (op : Mux.Op) : ({ actL p op with ba := p.ba, baOpen := p.baOpen } : PS) = actL p op := by
  simp only [actL]

theorem stimL_elim {p q : PS} {st : Stim} (hs : stimL p st = some q) :
    ∃ op ba' bo', StimL p op ba' bo' ∧ stimOp p st = some op ∧ q = { actL p op with ba := ba', baOpen := bo' } := by
  cases st with
  | call op =>
    simp only [stimL] at hs
    split at hs
    · rename_i hc
      exact ⟨op, _, _, .call op hc, by simp [stimOp, hc], (Option.some.inj hs).symm.trans (actL_with_self p op).symm⟩
    · cases hs
  | deliver =>
    simp only [stimL] at hs
    split at hs
    · cases hs
    · rename_i m rest hba
      have hop : stimOp p .deliver = some (.deliver (.msg m)) := by simp [stimOp, hba]
      split at hs
      · rename_i hm
        subst hm
        exact ⟨_, _, _, .dlvClose rest hba, hop, (Option.some.inj hs).symm⟩
      · rename_i hm
        exact ⟨_, _, _, .dlv m rest hba hm, hop, (Option.some.inj hs).symm⟩
  | cut eof =>
    exact ⟨_, _, _, .cut _ (by cases eof <;> simp), rfl, (Option.some.inj hs).symm⟩

theorem actL_with_a (p : PS) (op : Mux.Op) (ba' : List Msg) (bo' : Bool) :
    ({ actL p op with ba := ba', baOpen := bo' } : PS).a = (applyOp p.a op).1 := by simp only [actL, stepG]

theorem actL_with_ga (p : PS) (op : Mux.Op) (ba' : List Msg) (bo' : Bool) :
    ({ actL p op with ba := ba', baOpen := bo' } : PS).ga = (stepG p.a p.ga op).2 := by simp only [actL]

theorem swap_actL_with_b (p : PS) (op : Mux.Op) (ab' : List Msg) (ao' : Bool) :
    ({ actL p.swap op with ba := ab', baOpen := ao' } : PS).swap.b = (applyOp p.b op).1 := by
  simp only [PS.swap, actL, stepG]

theorem swap_actL_with_gb (p : PS) (op : Mux.Op) (ab' : List Msg) (ao' : Bool) :
    ({ actL p.swap op with ba := ab', baOpen := ao' } : PS).swap.gb = (stepG p.b p.gb op).2 := by
  simp only [PS.swap, actL]

theorem swap_actL_with_a (p : PS) (op : Mux.Op) (ab' : List Msg) (ao' : Bool) :
    ({ actL p.swap op with ba := ab', baOpen := ao' } : PS).swap.a = p.a := by simp only [PS.swap, actL]

theorem swap_actL_with_ga (p : PS) (op : Mux.Op) (ab' : List Msg) (ao' : Bool) :
    ({ actL p.swap op with ba := ab', baOpen := ao' } : PS).swap.ga = p.ga := by simp only [PS.swap, actL]

theorem stimL_op {p q : PS} {st : Stim} (h : stimL p st = some q) :
    ∃ op, stimOp p st = some op ∧ q.a = (applyOp p.a op).1 ∧ q.ga = (stepG p.a p.ga op).2 ∧ q.b = p.b ∧ q.gb = p.gb := by
  obtain ⟨op, ba', bo', -, hop, rfl⟩ := stimL_elim h
  exact ⟨op, hop, actL_with_a .., by simp only [actL], by simp only [actL], by simp only [actL]⟩

theorem stepL_spec {p q : PS} {st : Stim} (h : stepL p st = some q) : stimL p st = some q ∧ q.a.rng.isEmpty = false := by
  unfold stepL at h
  split at h
  · rename_i q' hq'
    split at h
    · cases h
    · rename_i hne
      have := Option.some.inj h; subst this
      exact ⟨hq', by simpa using hne⟩
  · cases h

theorem step_B {p q : PS} {st : Stim} (hs : step p .B st = some q) :
    ∃ q', q = q'.swap ∧ stimL p.swap st = some q' ∧ q'.a.rng.isEmpty = false := by
  simp only [PairAll.step, Option.map_eq_some_iff] at hs
  obtain ⟨q', hq', rfl⟩ := hs
  exact ⟨q', rfl, stepL_spec hq'⟩

theorem run_induct {P : PS → Prop} (hstep : ∀ {p q s st}, P p → step p s st = some q → P q) (p : PS)
    (l : List (Side × Stim)) (h : P p) : P (run p l) := by
  induction l generalizing p with
  | nil => exact h
  | cons sa rest ih =>
    unfold PairAll.run
    cases hs : PairAll.step p sa.1 sa.2 with
    | none => exact ih p h
    | some q => exact ih q (hstep h hs)

theorem run_append (p : PS) (l1 l2 : List (Side × Stim)) : run p (l1 ++ l2) = run (run p l1) l2 := by
  induction l1 generalizing p with
  | nil => rfl
  | cons sa rest ih => obtain ⟨s, st⟩ := sa; simp only [List.cons_append, PairAll.run]; exact ih _

def Side.flip : Side → Side
  | .A => .B
  | .B => .A

theorem PS.swap_swap (p : PS) : p.swap.swap = p := rfl

theorem step_swap (p : PS) (s : Side) (st : Stim) : step p.swap s.flip st = (step p s st).map PS.swap := by
  cases s with
  | A =>
    show (stepL p.swap.swap st).map PS.swap = (stepL p st).map PS.swap
    rw [PS.swap_swap]
  | B =>
    show stepL p.swap st = ((stepL p.swap st).map PS.swap).map PS.swap
    cases stepL p.swap st <;> rfl

theorem run_swap (p : PS) (l : List (Side × Stim)) :
    run p.swap (l.map (fun sa => (sa.1.flip, sa.2))) = (run p l).swap := by
  induction l generalizing p with
  | nil => rfl
  | cons sa rest ih =>
    obtain ⟨s, st⟩ := sa
    simp only [List.map_cons, PairAll.run]
    rw [step_swap]
    cases hs : step p s st with
    | none => exact ih p
    | some q => exact ih q

theorem run_init_swap (oa ob : Opts) (ra rb : List Nat) (l : List (Side × Stim)) :
    run (init ob oa rb ra) (l.map (fun sa => (sa.1.flip, sa.2))) = (run (init oa ob ra rb) l).swap :=
  run_swap (init oa ob ra rb) l

theorem Cfg.excl {ra rb : List Nat} (c : Cfg ra rb) (x : Nat) : ¬(x ∈ ra ∧ x ∈ rb) := by
  intro h
  have := (List.nodup_append.mp c.nodup).2.2 x h.1 x h.2
  exact this rfl

theorem Cfg.count {ra rb : List Nat} (c : Cfg ra rb) (x : Nat) : ra.count x + rb.count x ≤ 1 := by
  have := List.nodup_iff_count.mp c.nodup x
  simpa [List.count_append] using this

theorem Cfg.swap {ra rb : List Nat} (c : Cfg ra rb) : Cfg rb ra := by
  refine ⟨?_, c.neB, c.neA⟩
  have := List.nodup_append.mp c.nodup
  exact List.nodup_append.mpr ⟨this.2.1, this.1, fun a ha b hb hab => this.2.2 b hb a ha hab.symm⟩

end Penguin.PairAll
