/-
The SOCKS session handler (`Model/SocksSession.lean`): what a reader may have written (`FinalWrite`); effects performed
on a prefix of the input are never revised by what arrives later (`run_ext`); the handler on well-formed dialogues and
the dispatch on the command in closed form; and `shape`, the nine-way case analysis of every input that the "for every
input" statements of `Props/C18Session.lean` are made of.
This lemma file imports a property file, `Props/C18.lean`: what C18 states about the readers alone is what the
session-level statements are assembled from, and each of those is a property in its own right.  A reader-level fact that
C18 does not state goes to `Lemmas/Socks.lean`.
-/
import Penguin.Model.SocksSession
import Penguin.Lemmas.Socks
import Penguin.Props.C18

namespace Penguin.Lemmas.SocksSession
open Penguin Penguin.Socks Penguin.SocksSession Penguin.Constants Penguin.Lemmas.Socks

section script
variable {α : Type}

/-- The only write a reader makes, if any, is `ob`, immediately before it fails. -/
inductive FinalWrite (ob : Option Bytes) : Script α → Prop where
  | ret (a : α) : FinalWrite ob (.ret a)
  | fail (e : ErrKind) : FinalWrite ob (.fail e)
  | writeFail (bs : Bytes) (e : ErrKind) (h : ob = some bs) : FinalWrite ob (.write bs (.fail e))
  | readN (ctx : Ctx) (n : Nat) (k : Bytes → Script α) (h : ∀ bs, FinalWrite ob (k bs)) :
      FinalWrite ob (.readN ctx n k)
  | readUntilNul (ctx : Ctx) (k : Bytes → Script α) (h : ∀ bs, FinalWrite ob (k bs)) :
      FinalWrite ob (.readUntilNul ctx k)

theorem FinalWrite.run {ob : Option Bytes} {s : Script α} (hs : FinalWrite ob s) (inp : Bytes)
    (e : Bool) (c : Nat) (w : Bytes) :
    (∀ a c' w', s.run inp e c w = .done a c' w' → w' = w) ∧
    (∀ err w', s.run inp e c w = .error err w' → w' = w ∨ ∃ bs, ob = some bs ∧ w' = w ++ bs) := by
  induction hs generalizing inp c with
  | ret a0 => simp only [Script.run, Result.done.injEq]; exact ⟨fun _ _ _ h => h.2.2.symm, nofun⟩
  | fail err0 => simp only [Script.run, Result.error.injEq]; exact ⟨nofun, fun _ _ h => Or.inl h.2.symm⟩
  | writeFail bs err0 hb =>
    simp only [Script.run, Result.error.injEq]
    exact ⟨nofun, fun _ _ h => Or.inr ⟨bs, hb, h.2.symm⟩⟩
  | readN ctx n k _ ih =>
    simp only [Script.run]
    cases splitAtN n inp with
    | none => cases e <;> simp [eq_comm]
    | some xr => exact ih xr.1 xr.2 _
  | readUntilNul ctx k _ ih =>
    simp only [Script.run]
    cases splitNul inp with
    | none => cases e <;> simp [eq_comm]
    | some fr => exact ih fr.1 fr.2 _

theorem FinalWrite.run_done {ob : Option Bytes} {s : Script α} (hs : FinalWrite ob s) (inp : Bytes)
    (e : Bool) (c : Nat) (w : Bytes) (a : α) (c' : Nat) (w' : Bytes)
    (h : s.run inp e c w = .done a c' w') : w' = w :=
  (hs.run inp e c w).1 a c' w' h

theorem FinalWrite.run_error {ob : Option Bytes} {s : Script α} (hs : FinalWrite ob s) (inp : Bytes)
    (e : Bool) (c : Nat) (w : Bytes) (err : ErrKind) (w' : Bytes)
    (h : s.run inp e c w = .error err w') : w' = w ∨ ∃ bs, ob = some bs ∧ w' = w ++ bs :=
  (hs.run inp e c w).2 err w' h

end script

/-- Steps through a reader script, discharging `FinalWrite`. -/
macro "final_write" : tactic => `(tactic|
  repeat (first
    | apply FinalWrite.ret
    | apply FinalWrite.fail
    | exact FinalWrite.writeFail _ _ rfl
    | (apply FinalWrite.readN; intro _; try dsimp only)
    | (apply FinalWrite.readUntilNul; intro _; try dsimp only)
    | split))

theorem readVersion_quiet : FinalWrite none readVersion := by
  unfold readVersion readU8; final_write

theorem readAuthMethods_quiet : FinalWrite none readAuthMethods := by
  unfold readAuthMethods readU8; final_write

theorem readRequest4_quiet : FinalWrite none readRequest4 := by
  unfold readRequest4 readU8 readU16 readU32; final_write

theorem readRequest5_finalWrite : FinalWrite (some atypUnsupReply) readRequest5 := by
  unfold readRequest5 readAddress5 readU8 readU16; final_write

theorem readVersion_run (b : Bytes) (eof : Bool) :
    readVersion.run b eof 0 [] =
      match b with
      | [] => if eof then .error (.eof .version) [] else .needMore
      | v :: _ => .done v 1 [] := by
  cases b with
  | nil => simp [readVersion, readU8, Script.run, splitAtN]
  | cons v rest => simp [readVersion, run_readU8_cons, Script.run]

theorem writes_append (a b : List Event) : writes (a ++ b) = writes a ++ writes b := by
  simp [writes]

@[simp] theorem written_append (a b : List Event) : written (a ++ b) = written a ++ written b := by
  simp [written, writes_append]

@[simp] theorem requests_append (a b : List Event) :
    requests (a ++ b) = requests a ++ requests b := by
  simp [requests]

@[simp] theorem relays_append (a b : List Event) : relays (a ++ b) = relays a ++ relays b := by
  simp [relays]

@[simp] theorem wroteIf_nil : wroteIf [] = [] := rfl

@[simp] theorem requests_wroteIf (w : Bytes) : requests (wroteIf w) = [] := by
  unfold wroteIf; split <;> simp [requests]

@[simp] theorem relays_wroteIf (w : Bytes) : relays (wroteIf w) = [] := by
  unfold wroteIf; split <;> simp [relays]

@[simp] theorem written_wroteIf (w : Bytes) : written (wroteIf w) = w := by
  unfold wroteIf; split <;> simp_all [written, writes]

/-- The outcome on a longer input of a run that had already ended on the shorter one: the same,
    except that a bridge receives what came later, too. -/
def extend (o : Outcome) (q : Bytes) : Outcome :=
  match o.result with
  | .bridge => { o with leftover := o.leftover ++ q }
  | _ => o

theorem run_trace_prefix (S : Sess) (inp : Bytes) (e : Bool) (c : Nat) (tr : List Event) :
    tr <+: (S.run inp e c tr).trace ∧ c ≤ (S.run inp e c tr).consumed := by
  induction S generalizing inp c tr with
  | ret r =>
    cases r with
    | ok u => cases u; simp [Sess.run]
    | error err => simp [Sess.run]
  | emit ev k ih =>
    simp only [Sess.run]
    obtain ⟨h1, h2⟩ := ih inp c (tr ++ [ev])
    exact ⟨(List.prefix_append tr [ev]).trans h1, h2⟩
  | read s k ih =>
    simp only [Sess.run]
    cases hs : s.run inp e 0 [] with
    | needMore | error err w => simp
    | done a n w =>
      simp only
      obtain ⟨h1, h2⟩ := ih a (inp.drop n) (c + n) (tr ++ wroteIf w)
      exact ⟨(List.prefix_append tr _).trans h1, by omega⟩
  | readIgnored k ih =>
    simp only [Sess.run]
    cases inp with
    | nil =>
      cases e
      · simp
      · simpa using ih [] c tr
    | cons x rest =>
      simp only
      obtain ⟨h1, h2⟩ := ih rest (c + 1) tr
      exact ⟨h1, by omega⟩
  | bridge => simp [Sess.run]

/-- The run on a longer input, whether or not the stream then ends: if the run on `p` (stream open) has ended —
    returned, or entered the bridge — it is that run (a bridge receives what came later, too); if it waits, the
    longer run goes on from there: everything done so far comes first. -/
theorem run_ext (S : Sess) (p q : Bytes) (e : Bool) (c : Nat) (tr : List Event) :
    if (S.run p false c tr).result = .needMore then
      ∃ (S' : Sess) (rest : Bytes),
        S.run (p ++ q) e c tr = S'.run rest e (S.run p false c tr).consumed (S.run p false c tr).trace
    else S.run (p ++ q) e c tr = extend (S.run p false c tr) q := by
  induction S generalizing p c tr with
  | ret r =>
    cases r with
    | ok u => cases u; simp [Sess.run, extend]
    | error err => simp [Sess.run, extend]
  | emit ev k ih => exact ih p c _
  | read s k ih =>
    simp only [Sess.run]
    cases hs : s.run p false 0 [] with
    | needMore => exact ⟨.read s k, p ++ q, by simp only [Sess.run]⟩
    | error err w =>
      rw [run_append s p q e 0 [] (by simp [hs]), hs]
      simp [extend]
    | done a n w =>
      rw [run_append s p q e 0 [] (by simp [hs]), hs]
      have hn := (run_done_consumed s p false 0 [] a n w hs).2
      simp only
      rw [List.drop_append_of_le_length (by omega)]
      exact ih a (p.drop n) (c + n) _
  | readIgnored k ih =>
    cases p with
    | nil => exact ⟨.readIgnored k, q, by simp [Sess.run]⟩
    | cons x rest => exact ih rest (c + 1) tr
  | bridge => simp [Sess.run, extend]

theorem run_stable (S : Sess) (p q : Bytes) (e : Bool) (c : Nat) (tr : List Event)
    (h : (S.run p false c tr).result ≠ .needMore) :
    S.run (p ++ q) e c tr = extend (S.run p false c tr) q := by
  have := run_ext S p q e c tr
  rwa [if_neg h] at this

theorem run_mono (S : Sess) (p q : Bytes) (e : Bool) (c : Nat) (tr : List Event) :
    (S.run p false c tr).trace <+: (S.run (p ++ q) e c tr).trace ∧
      (S.run p false c tr).consumed ≤ (S.run (p ++ q) e c tr).consumed := by
  have := run_ext S p q e c tr
  split at this
  · obtain ⟨S', rest, h⟩ := this
    rw [h]
    exact run_trace_prefix S' rest e _ _
  · rw [this]
    unfold extend
    split <;> exact ⟨List.prefix_refl _, Nat.le_refl _⟩

open Penguin.Spec

theorem read_run_done {α : Type} (s : Script α) (k : α → Sess) (inp : Bytes) (eof : Bool) (c : Nat)
    (tr : List Event) (a : α) (n : Nat) (h : s.run inp eof 0 [] = .done a n []) :
    (Sess.read s k).run inp eof c tr = (k a).run (inp.drop n) eof (c + n) tr := by
  simp [Sess.run, h]

theorem session_nil (eof : Bool) (env : Env) :
    session ⟨[], eof⟩ env
      = ⟨[], 0, [], if eof then .err (.socks (.reader (.eof .version))) else .needMore⟩ := by
  cases eof <;> simp [session, onSocksAccept, Sess.run, readVersion_run]

theorem session_cons (v : UInt8) (rest : Bytes) (eof : Bool) (env : Env) :
    session ⟨v :: rest, eof⟩ env
      = if v = 4 then (socks4 env).run rest eof 1 []
        else if v = 5 then (socks5 env).run rest eof 1 []
        else ⟨[], 1, [], .err (.socks (.reader (.version v)))⟩ := by
  have e4 : (v.toNat = socksVer4) = (v = 4) := propext (toNat_eq_iff v rfl)
  have e5 : (v.toNat = socksVer5) = (v = 5) := propext (toNat_eq_iff v rfl)
  simp only [session, onSocksAccept, Sess.run, readVersion_run, e4, e5, wroteIf_nil, List.append_nil,
    List.drop_succ_cons, List.drop_zero, Nat.zero_add]
  split
  · rfl
  · split <;> simp [Sess.run]

theorem session_greeting (ms : Bytes) (hl : ms.length ≤ 255) (X : Bytes) (eof : Bool) (env : Env) :
    session ⟨Rfc1928.greeting ms ++ X, eof⟩ env
      = if 0 ∈ ms then
          (socks5Request env).run X eof (Rfc1928.greeting ms).length
            [.wrote (Rfc1928.methodSelection 0x00)]
        else ⟨[.wrote (Rfc1928.methodSelection 0xFF)], (Rfc1928.greeting ms).length, [],
              .err .otherAuth⟩ := by
  have hw := C18.authMethods_wellformed ms hl X eof
  simp only [readMethods, Rfc1928.greeting, List.drop_succ_cons, List.drop_zero, List.length_cons] at hw
  have hd : List.drop (ms.length + 1) (UInt8.ofNat ms.length :: (ms ++ X)) = X := by
    simp
  simp only [Rfc1928.greeting, List.cons_append, session_cons]
  simp only [socks5, Sess.run]
  simp only [List.cons_append] at hw
  simp only [show ((5 : UInt8) = 4) = False by decide, if_false, if_true]
  rw [hw]
  simp only [Nat.add_sub_cancel, hd, wroteIf_nil, List.append_nil]
  by_cases h0 : (0 : UInt8) ∈ ms
  · have hc : ms.contains (u8 socksAuthNoauth) = true := by
      simpa [u8, socksAuthNoauth] using h0
    simp [h0, Sess.run, writeAuthMethod, Rfc1928.methodSelection, u8, socksVer5,
      socksAuthNoauth, Nat.add_comm]
  · have hc : ms.contains (u8 socksAuthNoauth) = false := by
      simpa [u8, socksAuthNoauth] using h0
    simp [h0, Sess.run, writeAuthMethod, Rfc1928.methodSelection, u8, socksVer5,
      socksAuthNoaccept, socksAuthNoauth, Nat.add_comm]

theorem socks5Request_run (r : Rfc1928.Request) (hr : r.wf) (rsv : UInt8) (X : Bytes) (eof : Bool)
    (env : Env) (c : Nat) (tr : List Event) :
    (socks5Request env).run (requestRsv r rsv ++ X) eof c tr
      = (dispatch5 env ⟨r.cmd, hostOf r.addr, r.port⟩).run X eof
          (c + (requestRsv r rsv).length) tr := by
  have hw := read5_wellformed_rsv r hr rsv X eof
  unfold read5 at hw
  rw [socks5Request, read_run_done _ _ _ _ _ _ _ _ hw]
  simp

theorem session_request5 (ms : Bytes) (hl : ms.length ≤ 255) (h0 : (0 : UInt8) ∈ ms)
    (r : Rfc1928.Request) (hr : r.wf) (rsv : UInt8) (Y : Bytes) (eof : Bool) (env : Env) :
    session ⟨Rfc1928.greeting ms ++ requestRsv r rsv ++ Y, eof⟩ env
      = (dispatch5 env ⟨r.cmd, hostOf r.addr, r.port⟩).run Y eof
          ((Rfc1928.greeting ms).length + (requestRsv r rsv).length)
          [.wrote (Rfc1928.methodSelection 0x00)] := by
  rw [List.append_assoc, session_greeting ms hl, if_pos h0, socks5Request_run r hr]

/-- `hreq` and `h` have the shape in which `C18.read4_wellformed` / `read4a_wellformed` deliver them: the request without
    its version byte as `tail`, the count as `req.length - 1`. -/
theorem socks4_run_of_read {req tail : Bytes} (hreq : req = 4 :: tail) (X : Bytes) (eof : Bool) (env : Env)
    (q : Req) (h : read4 (tail ++ X) eof = .done q (req.length - 1) []) :
    session ⟨req ++ X, eof⟩ env = (dispatch4 env q).run X eof req.length [] := by
  subst hreq
  simp only [List.length_cons, Nat.add_sub_cancel] at h
  unfold read4 at h
  rw [List.cons_append, session_cons, if_pos rfl, socks4, read_run_done _ _ _ _ _ _ _ _ h, List.drop_left,
    List.length_cons, Nat.add_comm]

theorem socks4_run_request4 (r : Socks4a.Request4) (hr : r.wf) (X : Bytes) (eof : Bool)
    (env : Env) :
    session ⟨Socks4a.request4 r ++ X, eof⟩ env
      = (dispatch4 env ⟨r.cmd, ⟨.ipv4, [r.a, r.b, r.c, r.d]⟩, r.port⟩).run X eof
          (Socks4a.request4 r).length [] :=
  socks4_run_of_read (tail := (Socks4a.request4 r).drop 1) rfl X eof env _ (C18.read4_wellformed r hr X eof)

theorem socks4_run_request4a (r : Socks4a.Request4a) (hr : r.wf) (X : Bytes) (eof : Bool)
    (env : Env) :
    session ⟨Socks4a.request4a r ++ X, eof⟩ env
      = (dispatch4 env ⟨r.cmd, ⟨.domain, r.domain⟩, r.port⟩).run X eof
          (Socks4a.request4a r).length [] :=
  socks4_run_of_read (tail := (Socks4a.request4a r).drop 1) rfl X eof env _ (C18.read4a_wellformed r hr X eof)

theorem cmd_connect_eq (c : UInt8) : (c.toNat = socksCmdConnect) = (c = 1) := propext (toNat_eq_iff c rfl)

theorem cmd_assoc_eq (c : UInt8) : (c.toNat = socksCmdAssoc) = (c = 3) := propext (toNat_eq_iff c rfl)

/-- `handle_connect` behind `reserve()`, whatever the environment answers. -/
def connectRun (env : Env) (host : Host) (port : Nat) (okReply : Bytes) (X : Bytes) (c : Nat)
    (tr : List Event) : Outcome :=
  if env.reserveOk = false then ⟨tr, c, [], .err .fatalRequestStream⟩
  else if env.streamOk = false then
    ⟨tr ++ [.reserved, .requested host port], c, [], .err .fatalMainLoopExit⟩
  else ⟨tr ++ [.reserved, .requested host port, .gotStream, .wrote okReply], c, X, .bridge⟩

theorem dispatch4_run (env : Env) (q : Req) (X : Bytes) (eof : Bool) (c : Nat) (tr : List Event) :
    (dispatch4 env q).run X eof c tr =
      if q.cmd = 1 then connectRun env q.host q.port (Socks4a.reply4 90) X c tr
      else ⟨tr ++ [.wrote (Socks4a.reply4 91)], c, [], .err (.socks (.invalidCommand q.cmd))⟩ := by
  obtain ⟨ro, so, u⟩ := env
  simp only [dispatch4, cmd_connect_eq]
  by_cases hc : q.cmd = 1
  · cases ro <;> cases so <;>
      simp [hc, reserveThen, handleConnect, connectRun, Sess.run, writeResponse4, Socks4a.reply4, u8,
        socksVerRep4, socksRepV4Succ]
  · simp [hc, Sess.run, writeResponse4, Socks4a.reply4, u8, socksVerRep4, socksRepV4Fail]

/-- `handle_associate`, whatever the environment answers and the client does next. -/
def assocRun (env : Env) (X : Bytes) (eof : Bool) (c : Nat) (tr : List Event) : Outcome :=
  match env.udp with
  | .bindFails =>
    ⟨tr ++ [.wrote (Rfc1928.reply 0x01 (.ipv4 0 0 0 0) 0)], c, [], .err (.socks .bindUdp)⟩
  | .localAddrFails =>
    ⟨tr ++ [.wrote (Rfc1928.reply 0x01 (.ipv4 0 0 0 0) 0)], c, [], .err (.socks .udpLocalAddr)⟩
  | .bound a =>
    match X with
    | _ :: _ => ⟨tr ++ [.relayStarted a, .wrote (writeResponse5 0 a), .relayAborted], c + 1, [], .ok⟩
    | [] =>
      if eof then ⟨tr ++ [.relayStarted a, .wrote (writeResponse5 0 a), .relayAborted], c, [], .ok⟩
      else ⟨tr ++ [.relayStarted a, .wrote (writeResponse5 0 a)], c, [], .needMore⟩

theorem dispatch5_run (env : Env) (q : Req) (X : Bytes) (eof : Bool) (c : Nat) (tr : List Event) :
    (dispatch5 env q).run X eof c tr =
      if q.cmd = 1 then connectRun env q.host q.port (Rfc1928.reply 0x00 (.ipv4 0 0 0 0) 0) X c tr
      else if q.cmd = 3 then assocRun env X eof c tr
      else ⟨tr ++ [.wrote (Rfc1928.reply 0x07 (.ipv4 0 0 0 0) 0)], c, [],
            .err (.socks (.invalidCommand q.cmd))⟩ := by
  obtain ⟨ro, so, u⟩ := env
  simp only [dispatch5, cmd_connect_eq, cmd_assoc_eq]
  by_cases hc : q.cmd = 1
  · cases ro <;> cases so <;>
      simp [hc, reserveThen, handleConnect, connectRun, Sess.run, C18.writeResponseUnspecified_eq_rfc,
        u8, socksRepSucc]
  · by_cases ha : q.cmd = 3
    · simp only [ha, if_true, handleAssociate, assocRun]
      cases u with
      | bindFails | localAddrFails => simp [Sess.run, C18.writeResponseUnspecified_eq_rfc, u8, socksRepGenfail]
      | bound a =>
        cases X with
        | nil => cases eof <;> simp [Sess.run, u8, socksRepSucc]
        | cons x rest => simp [Sess.run, u8, socksRepSucc]
    · simp [hc, ha, Sess.run, C18.writeResponseUnspecified_eq_rfc, u8, socksRepCmdunsup]

theorem session_request5_run (ms : Bytes) (hl : ms.length ≤ 255) (h0 : (0 : UInt8) ∈ ms)
    (r : Rfc1928.Request) (hr : r.wf) (rsv : UInt8) (Y : Bytes) (eof : Bool) (env : Env) :
    session ⟨Rfc1928.greeting ms ++ requestRsv r rsv ++ Y, eof⟩ env =
      if r.cmd = 1 then
        connectRun env (hostOf r.addr) r.port (Rfc1928.reply 0x00 (.ipv4 0 0 0 0) 0) Y
          ((Rfc1928.greeting ms).length + (requestRsv r rsv).length) [.wrote (Rfc1928.methodSelection 0x00)]
      else if r.cmd = 3 then
        assocRun env Y eof ((Rfc1928.greeting ms).length + (requestRsv r rsv).length)
          [.wrote (Rfc1928.methodSelection 0x00)]
      else ⟨[.wrote (Rfc1928.methodSelection 0x00)] ++ [.wrote (Rfc1928.reply 0x07 (.ipv4 0 0 0 0) 0)],
            (Rfc1928.greeting ms).length + (requestRsv r rsv).length, [],
            .err (.socks (.invalidCommand r.cmd))⟩ :=
  (session_request5 ms hl h0 r hr rsv Y eof env).trans (dispatch5_run ..)

theorem session_request4_run (r : Socks4a.Request4) (hr : r.wf) (X : Bytes) (eof : Bool) (env : Env) :
    session ⟨Socks4a.request4 r ++ X, eof⟩ env =
      if r.cmd = 1 then
        connectRun env ⟨.ipv4, [r.a, r.b, r.c, r.d]⟩ r.port (Socks4a.reply4 90) X (Socks4a.request4 r).length []
      else ⟨[] ++ [.wrote (Socks4a.reply4 91)], (Socks4a.request4 r).length, [],
            .err (.socks (.invalidCommand r.cmd))⟩ :=
  (socks4_run_request4 r hr X eof env).trans (dispatch4_run ..)

theorem session_request4a_run (r : Socks4a.Request4a) (hr : r.wf) (X : Bytes) (eof : Bool) (env : Env) :
    session ⟨Socks4a.request4a r ++ X, eof⟩ env =
      if r.cmd = 1 then
        connectRun env ⟨.domain, r.domain⟩ r.port (Socks4a.reply4 90) X (Socks4a.request4a r).length []
      else ⟨[] ++ [.wrote (Socks4a.reply4 91)], (Socks4a.request4a r).length, [],
            .err (.socks (.invalidCommand r.cmd))⟩ :=
  (socks4_run_request4a r hr X eof env).trans (dispatch4_run ..)

/-- How far the client's bytes `b` get the handler: the case analysis all the "for every input"
    statements are made of. -/
inductive Shape (b : Bytes) (eof : Bool) (env : Env) : Prop where
  | empty (hb : b = [])
  | badVersion (v : UInt8) (rest : Bytes) (hb : b = v :: rest) (h4 : v ≠ 4) (h5 : v ≠ 5)
  /-- SOCKS4, the request is not complete (or not terminated) -/
  | short4 (rest : Bytes) (hb : b = 4 :: rest) (res : Res)
      (hs : session ⟨b, eof⟩ env = ⟨[], 1, [], res⟩)
  | req4 (r : Socks4a.Request4) (X : Bytes) (hr : r.wf) (hb : b = Socks4a.request4 r ++ X)
  | req4a (r : Socks4a.Request4a) (X : Bytes) (hr : r.wf) (hb : b = Socks4a.request4a r ++ X)
  /-- SOCKS5, the method list is not complete -/
  | shortMethods (rest : Bytes) (hb : b = 5 :: rest) (res : Res)
      (hs : session ⟨b, eof⟩ env = ⟨[], 1, [], res⟩)
  | noNoauth (ms X : Bytes) (hl : ms.length ≤ 255) (h0 : (0 : UInt8) ∉ ms)
      (hb : b = Rfc1928.greeting ms ++ X)
  /-- SOCKS5, NOAUTH selected, the request is not complete or is refused by `read_request` -/
  | shortRequest (ms X : Bytes) (hl : ms.length ≤ 255) (h0 : (0 : UInt8) ∈ ms)
      (hb : b = Rfc1928.greeting ms ++ X) (w : Bytes) (hw : w = [] ∨ w = atypUnsupReply)
      (res : Res)
      (hs : session ⟨b, eof⟩ env
        = ⟨.wrote (Rfc1928.methodSelection 0x00) :: wroteIf w, (Rfc1928.greeting ms).length, [], res⟩)
  | req5 (ms : Bytes) (r : Rfc1928.Request) (rsv : UInt8) (Y : Bytes) (hl : ms.length ≤ 255)
      (h0 : (0 : UInt8) ∈ ms) (hr : r.wf)
      (hb : b = Rfc1928.greeting ms ++ requestRsv r rsv ++ Y)

theorem shape (b : Bytes) (eof : Bool) (env : Env) : Shape b eof env := by
  cases b with
  | nil => exact .empty rfl
  | cons v rest =>
    by_cases h4 : v = 4
    · subst h4
      cases hs : readRequest4.run rest eof 0 [] with
      | needMore =>
        refine .short4 rest rfl .needMore ?_
        simp [session_cons, socks4, Sess.run, hs]
      | error e w =>
        have hw : w = [] := by
          rcases readRequest4_quiet.run_error _ _ _ _ _ _ hs with h | ⟨bs, hb, _⟩
          · exact h
          · cases hb
        subst hw
        refine .short4 rest rfl (.err (.socks (.reader e))) ?_
        simp [session_cons, socks4, Sess.run, hs]
      | done q n w =>
        obtain ⟨_, rest', h⟩ := C18.read4_done_wellformed rest eof q n w hs
        rcases h with ⟨r, hr, _, hb, _⟩ | ⟨r, hr, _, hb, _⟩
        · exact .req4 r rest' hr (by rw [hb]; simp [Socks4a.request4])
        · exact .req4a r rest' hr (by rw [hb]; simp [Socks4a.request4a])
    · by_cases h5 : v = 5
      · subst h5
        cases hs : readAuthMethods.run rest eof 0 [] with
        | needMore =>
          refine .shortMethods rest rfl .needMore ?_
          simp [session_cons, socks5, Sess.run, hs]
        | error e w =>
          have hw : w = [] := by
            rcases readAuthMethods_quiet.run_error _ _ _ _ _ _ hs with h | ⟨bs, hb, _⟩
            · exact h
            · cases hb
          subst hw
          refine .shortMethods rest rfl (.err (.socks (.reader e))) ?_
          simp [session_cons, socks5, Sess.run, hs]
        | done ms n w =>
          obtain ⟨_, hl, _, X, hb⟩ := C18.readMethods_done_wellformed rest eof ms n w hs
          have hb' : (5 : UInt8) :: rest = Rfc1928.greeting ms ++ X := by
            rw [hb]; simp [Rfc1928.greeting]
          by_cases h0 : (0 : UInt8) ∈ ms
          · cases hq : readRequest5.run X eof 0 [] with
            | needMore =>
              refine .shortRequest ms X hl h0 hb' [] (Or.inl rfl) .needMore ?_
              rw [hb', session_greeting ms hl, if_pos h0]
              simp [socks5Request, Sess.run, hq]
            | error e w =>
              have hw : w = [] ∨ w = atypUnsupReply := by
                rcases readRequest5_finalWrite.run_error _ _ _ _ _ _ hq with h | ⟨bs, hb, h⟩
                · exact Or.inl h
                · cases hb; exact Or.inr (by simpa using h)
              refine .shortRequest ms X hl h0 hb' w hw (.err (.socks (.reader e))) ?_
              rw [hb', session_greeting ms hl, if_pos h0]
              simp [socks5Request, Sess.run, hq]
            | done q n' w' =>
              obtain ⟨_, r, rsv, Y, hr, _, hX, _⟩ := C18.read5_done_wellformed X eof q n' w' hq
              exact .req5 ms r rsv Y hl h0 hr (by rw [hb', hX, List.append_assoc])
          · exact .noNoauth ms X hl h0 hb'
      · exact .badVersion v rest rfl h4 h5

theorem connectRun_requests (env : Env) (h : Host) (p : Nat) (ok X : Bytes) (c : Nat)
    (tr : List Event) :
    (connectRun env h p ok X c tr).requests
      = requests tr ++ (if env.reserveOk = true then [(h, p)] else []) := by
  obtain ⟨ro, so, u⟩ := env
  cases ro <;> cases so <;> simp [connectRun, Outcome.requests, requests]

theorem connectRun_written (env : Env) (h : Host) (p : Nat) (ok X : Bytes) (c : Nat)
    (tr : List Event) :
    (connectRun env h p ok X c tr).written
      = written tr ++ (if env.reserveOk = true ∧ env.streamOk = true then ok else []) := by
  obtain ⟨ro, so, u⟩ := env
  cases ro <;> cases so <;> simp [connectRun, Outcome.written, written, writes]

theorem beforeRequest_append_requested (t rest : List Event) (h : Host) (p : Nat) (ht : requests t = []) :
    beforeRequest (t ++ .requested h p :: rest) = t := by
  induction t with
  | nil => rfl
  | cons e t ih =>
    cases e
    case requested => simp [requests] at ht
    all_goals exact congrArg (List.cons _) (ih ht)

theorem connectRun_beforeRequest (env : Env) (h : Host) (p : Nat) (ok X : Bytes) (c : Nat)
    (tr : List Event) (htr : requests tr = []) (hres : env.reserveOk = true) :
    written (beforeRequest (connectRun env h p ok X c tr).trace) = written tr := by
  have hb : ∀ rest, beforeRequest (tr ++ .reserved :: .requested h p :: rest) = tr ++ [.reserved] := fun rest => by
    have := beforeRequest_append_requested (tr ++ [.reserved]) rest h p (by rw [requests_append, htr]; rfl)
    rwa [List.append_assoc] at this
  have hw : written (tr ++ [.reserved]) = written tr := by simp [written, writes]
  unfold connectRun
  rw [if_neg (by simp [hres])]
  split <;> exact (congrArg written (hb _)).trans hw

theorem assocRun_requests (env : Env) (X : Bytes) (eof : Bool) (c : Nat) (tr : List Event) :
    (assocRun env X eof c tr).requests = requests tr := by
  unfold assocRun
  cases env.udp with
  | bindFails | localAddrFails => simp [Outcome.requests, requests]
  | bound a =>
    cases X with
    | nil => cases eof <;> simp [Outcome.requests, requests]
    | cons x r => simp [Outcome.requests, requests]

theorem assocRun_written (env : Env) (X : Bytes) (eof : Bool) (c : Nat) (tr : List Event) :
    ∃ x, (assocRun env X eof c tr).written = written tr ++ x ∧
      (x = Rfc1928.reply 0x01 (.ipv4 0 0 0 0) 0 ∨ ∃ a, env.udp = .bound a ∧ x = writeResponse5 0 a) := by
  unfold assocRun
  cases hu : env.udp with
  | bindFails | localAddrFails => exact ⟨_, by simp [Outcome.written, written, writes], Or.inl rfl⟩
  | bound a =>
    refine ⟨writeResponse5 0 a, ?_, Or.inr ⟨a, rfl, rfl⟩⟩
    cases X with
    | nil => cases eof <;> simp [Outcome.written, written, writes]
    | cons x r => simp [Outcome.written, written, writes]

end Penguin.Lemmas.SocksSession
