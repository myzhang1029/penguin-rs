/-
Object-local updates of the endpoint model: `LocalUpd e e' i o' em dq` says that going from `e` to
`e'` only replaced stream object `i` by `o'`, appended `em` to the outbound queue and `dq` to the
notification queue.  The application calls on a stream handle are object-local; their exact effect is given case
by case, and their footprint (`Eff`, Lemmas/PairEff.lean) is read off it.  A read in ANY state is object-local
too and leaves the object's sending role alone.  Then the task's side: the slot of a flow is removed and its object
closed (`RemUpd`), and what a frame does to a flow whose slot is established, that has no slot, or — in
`Penguin.Pair` — whose id has no STREAM slot (the id of a bind request).
-/
import Penguin.Model.Mux
import Penguin.Lemmas.MuxBasic
import Penguin.Lemmas.PairEff
import Penguin.Lemmas.MuxStep

namespace Penguin.Mux

structure LocalUpd (e e' : EP) (i : Nat) (o' : Obj) (em : List Msg) (dq : List Nat) : Prop where
  flows : e'.flows = e.flows
  rng : e'.rng = e.rng
  opts : e'.opts = e.opts
  others : ∀ k, k ≠ i → e'.objs[k]? = e.objs[k]?
  self : e'.objs[i]? = some o'
  outq : e'.outq = e.outq ++ em
  dq : e'.droppedq = e.droppedq ++ dq

namespace LocalUpd

theorem refl (e : EP) (i : Nat) (o : Obj) (ho : e.objs[i]? = some o) : LocalUpd e e i o [] [] :=
  ⟨rfl, rfl, rfl, fun _ _ => rfl, ho, by simp, by simp⟩

theorem trans {a b c : EP} {i : Nat} {o1 o2 : Obj} {em1 em2 : List Msg} {dq1 dq2 : List Nat}
    (s : LocalUpd a b i o1 em1 dq1) (t : LocalUpd b c i o2 em2 dq2) : LocalUpd a c i o2 (em1 ++ em2) (dq1 ++ dq2) :=
  ⟨by rw [t.flows, s.flows], by rw [t.rng, s.rng], by rw [t.opts, s.opts],
   fun k hk => by rw [t.others k hk, s.others k hk], t.self,
   by rw [t.outq, s.outq, List.append_assoc], by rw [t.dq, s.dq, List.append_assoc]⟩

theorem modObj (e : EP) (i : Nat) (f : Obj → Obj) (o o' : Obj) (ho : e.objs[i]? = some o) (hf : f o = o') :
    LocalUpd e (e.modObj i f) i o' [] [] :=
  ⟨rfl, rfl, rfl, fun k hk => modObj_get_ne e i k f hk, by rw [modObj_get_self, ho, ← hf]; rfl, by simp, by simp⟩

theorem enqFrame (e : EP) (fr : Frame) (i : Nat) (o : Obj) (ho : e.objs[i]? = some o) (hoc : e.outClosed = false) :
    LocalUpd e (e.enqFrame fr) i o [.frame fr] [] :=
  ⟨by simp [EP.enqFrame], by simp [EP.enqFrame], by simp [EP.enqFrame], fun _ _ => by simp [EP.enqFrame],
   by simpa [EP.enqFrame] using ho, by simp [EP.enqFrame, enq_outq, hoc], by simp [EP.enqFrame]⟩

theorem dqPush (e : EP) (y : Nat) (i : Nat) (o : Obj) (ho : e.objs[i]? = some o) :
    LocalUpd e { e with droppedq := e.droppedq ++ [y] } i o [] [y] :=
  ⟨rfl, rfl, rfl, fun _ _ => rfl, ho, by simp, rfl⟩

theorem silent {e e' : EP} (i : Nat) (o : Obj) (ho : e.objs[i]? = some o)
    (h1 : e'.flows = e.flows) (h2 : e'.rng = e.rng) (h3 : e'.opts = e.opts) (h4 : e'.objs = e.objs)
    (h5 : e'.outq = e.outq) (h6 : e'.droppedq = e.droppedq) : LocalUpd e e' i o [] [] :=
  ⟨h1, h2, h3, fun _ _ => by rw [h4], by rw [h4]; exact ho, by simp [h5], by simp [h6]⟩

theorem modEnq (e : EP) (i : Nat) (f : Obj → Obj) (fr : Frame) (o o' : Obj) (ho : e.objs[i]? = some o) (hf : f o = o')
    (hoc : e.outClosed = false) : LocalUpd e ((e.modObj i f).enqFrame fr) i o' [.frame fr] [] := by
  have s1 := modObj e i f o o' ho hf
  have s2 := enqFrame (e.modObj i f) fr i o' s1.self hoc
  simpa using s1.trans s2

theorem unique {e e' : EP} {i : Nat} {o1 o2 : Obj} {em1 em2 : List Msg} {dq1 dq2 : List Nat}
    (s : LocalUpd e e' i o1 em1 dq1) (t : LocalUpd e e' i o2 em2 dq2) : o1 = o2 ∧ em1 = em2 ∧ dq1 = dq2 := by
  refine ⟨?_, ?_, ?_⟩
  · have := s.self; rw [t.self] at this; cases this; rfl
  · have := s.outq; rw [t.outq] at this; exact (List.append_cancel_left this).symm
  · have := s.dq; rw [t.dq] at this; exact (List.append_cancel_left this).symm

theorem eff {e e' : EP} {i : Nat} {o o' : Obj} {em : List Msg} {dq : List Nat} (u : LocalUpd e e' i o' em dq)
    (ho : e.objs[i]? = some o) (hf : o'.fid = o.fid) (h1 : e'.outClosed = e.outClosed) (h2 : e'.muxAlive = e.muxAlive)
    (h3 : e'.dead = e.dead) (hem : ∀ m ∈ em, m.isConnect = false ∧ ∀ y, Msg.flow? m = some y → y = o.fid)
    (hdq : ∀ x ∈ dq, x = o.fid) : Eff (· = o.fid) e e' := by
  have hi : i < e.objs.length := (List.getElem?_eq_some_iff.mp ho).1
  have hlen : e.objs.length ≤ e'.objs.length := by
    rcases Nat.lt_or_ge e'.objs.length e.objs.length with h | h
    · have hk : e'.objs.length ≠ i := fun hk => by
        have := u.self; rw [← hk, List.getElem?_eq_none (Nat.le_refl _)] at this; cases this
      have := u.others _ hk
      rw [List.getElem?_eq_none (Nat.le_refl _)] at this
      have h' : e.objs[e'.objs.length]? = some e.objs[e'.objs.length] := List.getElem?_eq_getElem h
      rw [h'] at this; cases this
    · exact h
  refine ⟨u.opts, h1, h2, h3, fun _ _ => by rw [u.flows], hlen, ?_, ?_, ?_, ⟨em, u.outq, fun m hm y hy => ?_⟩, ?_,
    fun _ _ => by rw [u.rng], by rw [u.rng]; exact List.Sublist.refl _, ?_⟩
  · intro k x hk hy
    by_cases hki : k = i
    · subst hki; rw [ho] at hk; cases hk; exact absurd rfl hy
    · rw [u.others k hki]; exact hk
  · intro k x hk
    by_cases hki : k = i
    · subst hki; rw [ho] at hk; cases hk; exact ⟨o', u.self, hf⟩
    · exact ⟨x, by rw [u.others k hki]; exact hk, rfl⟩
  · intro k x hk hx
    have hki : k ≠ i := by omega
    rw [u.others k hki, List.getElem?_eq_none hk] at hx; cases hx
  · exact ⟨(hem m hm).2 y hy, fun hc => by rw [(hem m hm).1] at hc; cases hc⟩
  · intro x hx
    rw [u.dq, List.mem_append]
    exact ⟨fun h => h.elim id fun h => absurd (hdq x h) hx, Or.inl⟩
  · intro hs y k hy
    rw [u.flows] at hy
    obtain ⟨x, hx, hxf⟩ := hs y k hy
    by_cases hki : k = i
    · subst hki; rw [ho] at hx; cases hx; exact ⟨o', u.self, hf.trans hxf⟩
    · exact ⟨x, by rw [u.others k hki]; exact hx, hxf⟩

end LocalUpd

/-! ### A call on a handle that refers to nothing -/

theorem appWrite_none (e : EP) (h : Nat) (d : Bytes) (hh : e.handleObj h = none) : appWrite e h d = (e, .badHandle) := by
  unfold appWrite; rw [hh]
theorem appRead_none (e : EP) (h n : Nat) (hh : e.handleObj h = none) : appRead e h n = (e, .badHandle) := by
  unfold appRead; rw [hh]
theorem appShutdown_none (e : EP) (h : Nat) (hh : e.handleObj h = none) : appShutdown e h = (e, .badHandle) := by
  unfold appShutdown; rw [hh]
theorem appDropStream_none (e : EP) (h : Nat) (hh : e.handleObj h = none) : appDropStream e h = (e, .badHandle) := by
  unfold appDropStream; rw [hh]

theorem Eff.of_handle {e e' : EP} {h : Nat} (f1 : e'.outClosed = e.outClosed) (f2 : e'.muxAlive = e.muxAlive)
    (f3 : e'.dead = e.dead) (hnone : e.handleObj h = none → e' = e)
    (hsome : ∀ i o, e.handleObj h = some (i, o) → ∃ o' em dq, LocalUpd e e' i o' em dq ∧ o'.fid = o.fid ∧
      (∀ m ∈ em, m.isConnect = false ∧ ∀ y, Msg.flow? m = some y → y = o.fid) ∧ ∀ x ∈ dq, x = o.fid) :
    Eff (· = hfid e h) e e' := by
  unfold hfid
  cases hh : e.handleObj h with
  | none => rw [hnone hh]; exact Eff.refl _ e
  | some io =>
    obtain ⟨o', em, dq, u, hf, hem, hdq⟩ := hsome io.1 io.2 hh
    exact u.eff (handleObj_some hh) hf f1 f2 f3 hem hdq

theorem flow_one {m : Msg} {y : Nat} (hc : m.isConnect = false) (hy : Msg.flow? m = some y) :
    ∀ m' ∈ [m], m'.isConnect = false ∧ ∀ z, Msg.flow? m' = some z → z = y :=
  fun m' hm => by rw [List.mem_singleton.mp hm]; exact ⟨hc, fun z hz => (Option.some.inj (hy.symm.trans hz)).symm⟩

/-! ### `poll_write` -/

theorem appWrite_local (e : EP) (h i : Nat) (o : Obj) (d : Bytes)
    (hh : e.handleObj h = some (i, o)) (hoc : e.outClosed = false) :
    (o.finishSent = true ∧ (appWrite e h d).2 = .brokenPipe ∧
        LocalUpd e (appWrite e h d).1 i { o with parked := false } [] []) ∨
    (o.finishSent = false ∧ d = [] ∧ (appWrite e h d).2 = .wrote 0 ∧
        LocalUpd e (appWrite e h d).1 i { o with parked := false } [] []) ∨
    (o.finishSent = false ∧ d ≠ [] ∧ o.credit = 0 ∧ (appWrite e h d).2 = .pending ∧
        LocalUpd e (appWrite e h d).1 i { o with parked := true, woken := false } [] []) ∨
    (o.finishSent = false ∧ d ≠ [] ∧ o.credit ≠ 0 ∧ (appWrite e h d).2 = .wrote d.length ∧
        LocalUpd e (appWrite e h d).1 i { o with credit := o.credit - 1, parked := false }
          [.frame (.push o.fid d)] []) := by
  have ho := handleObj_some hh
  by_cases hf : o.finishSent = true
  · left
    have hres : appWrite e h d = (e.modObj i (fun o => { o with parked := false }), .brokenPipe) := by
      unfold appWrite; rw [hh]; simp [hf]
    rw [hres]
    exact ⟨hf, rfl, LocalUpd.modObj e i _ o _ ho rfl⟩
  · have hf' : o.finishSent = false := by simpa using hf
    right
    by_cases hd : d = []
    · left
      have hres : appWrite e h d = (e.modObj i (fun o => { o with parked := false }), .wrote 0) := by
        unfold appWrite; rw [hh]; simp [hf', hd]
      rw [hres]
      exact ⟨hf', hd, rfl, LocalUpd.modObj e i _ o _ ho rfl⟩
    · right
      have hde : d.isEmpty = false := by cases d <;> simp_all
      by_cases hc : o.credit = 0
      · left
        have hres : appWrite e h d = (e.modObj i (fun o => { o with parked := true, woken := false }), .pending) := by
          unfold appWrite; rw [hh]; simp [hf', hde, hc]
        rw [hres]
        exact ⟨hf', hd, hc, rfl, LocalUpd.modObj e i _ o _ ho rfl⟩
      · right
        have hres : appWrite e h d =
            ((e.modObj i (fun o => { o with credit := o.credit - 1, parked := false })).enqFrame (.push o.fid d),
             .wrote d.length) := by
          unfold appWrite; rw [hh]; simp [hf', hde, hc, hoc]
        rw [hres]
        exact ⟨hf', hd, hc, rfl, LocalUpd.modEnq e i _ _ o _ ho rfl hoc⟩

theorem appWrite_eff (e : EP) (h : Nat) (d : Bytes) (hoc : e.outClosed = false) : Eff (· = hfid e h) e (appWrite e h d).1 :=
  have p := Path.appWrite e h d
  .of_handle (p.frame .outClosed) (p.frame .muxAlive) (p.frame .dead) (fun hh => by rw [appWrite_none e h d hh]) fun i o hh => by
    rcases appWrite_local e h i o d hh hoc with ⟨_, _, u⟩ | ⟨_, _, _, u⟩ | ⟨_, _, _, _, u⟩ | ⟨_, _, _, _, u⟩
    · exact ⟨_, _, _, u, rfl, List.forall_mem_nil _, List.forall_mem_nil _⟩
    · exact ⟨_, _, _, u, rfl, List.forall_mem_nil _, List.forall_mem_nil _⟩
    · exact ⟨_, _, _, u, rfl, List.forall_mem_nil _, List.forall_mem_nil _⟩
    · exact ⟨_, _, _, u, rfl, flow_one rfl rfl, List.forall_mem_nil _⟩

/-! ### `poll_shutdown` -/

theorem appShutdown_local (e : EP) (h i : Nat) (o : Obj)
    (hh : e.handleObj h = some (i, o)) (hoc : e.outClosed = false) :
    (o.finishSent = true ∧ LocalUpd e (appShutdown e h).1 i { o with parked := false } [] []) ∨
    (o.finishSent = false ∧
        LocalUpd e (appShutdown e h).1 i { o with finishSent := true, parked := false } [.frame (.finish o.fid)] []) := by
  have ho := handleObj_some hh
  by_cases hf : o.finishSent = true
  · left
    have hres : appShutdown e h = (e.modObj i (fun o => { o with parked := false }), .unit) := by
      unfold appShutdown; rw [hh]; simp [hf]
    rw [hres]
    exact ⟨hf, LocalUpd.modObj e i _ o _ ho rfl⟩
  · right
    have hf' : o.finishSent = false := by simpa using hf
    have hres : appShutdown e h = ((e.modObj i (fun o => { o with finishSent := true, parked := false })).enqFrame (.finish o.fid), .unit) := by
      unfold appShutdown; rw [hh]; simp [hf']
    rw [hres]
    exact ⟨hf', LocalUpd.modEnq e i _ _ o _ ho rfl hoc⟩

theorem appShutdown_eff (e : EP) (h : Nat) (hoc : e.outClosed = false) : Eff (· = hfid e h) e (appShutdown e h).1 :=
  have p := Path.appShutdown e h
  .of_handle (p.frame .outClosed) (p.frame .muxAlive) (p.frame .dead) (fun hh => by rw [appShutdown_none e h hh]) fun i o hh => by
    rcases appShutdown_local e h i o hh hoc with ⟨_, u⟩ | ⟨_, u⟩
    · exact ⟨_, _, _, u, rfl, List.forall_mem_nil _, List.forall_mem_nil _⟩
    · exact ⟨_, _, _, u, rfl, flow_one rfl rfl, List.forall_mem_nil _⟩

/-! ### Dropping a `MuxStream` -/

theorem appDropStream_local (e : EP) (h i : Nat) (o : Obj)
    (hh : e.handleObj h = some (i, o)) (hd : e.dead = false) :
    LocalUpd e (appDropStream e h).1 i { o with rxOpen := false, rxq := [], parked := false } [] [o.fid] := by
  have ho := handleObj_some hh
  have hres : appDropStream e h =
      ({ (e.modObj i (fun o => { o with rxOpen := false, rxq := [], parked := false })) with
          droppedq := e.droppedq ++ [o.fid] }, .unit) := by
    unfold appDropStream; rw [hh]; simp [hd]
  rw [hres]
  have s1 := LocalUpd.modObj e i (fun o => { o with rxOpen := false, rxq := [], parked := false }) o _ ho rfl
  have s2 := LocalUpd.dqPush (e.modObj i (fun o => { o with rxOpen := false, rxq := [], parked := false })) o.fid i _ s1.self
  simpa using s1.trans s2

theorem appDropStream_eff (e : EP) (h : Nat) (hd : e.dead = false) : Eff (· = hfid e h) e (appDropStream e h).1 :=
  have p := Path.appDropStream e h
  .of_handle (p.frame .outClosed) (p.frame .muxAlive) (p.frame .dead) (fun hh => by rw [appDropStream_none e h hh]) fun i o hh =>
    ⟨_, _, _, appDropStream_local e h i o hh hd, rfl, List.forall_mem_nil _, fun _ hx => List.mem_singleton.mp hx⟩

/-! ### `poll_read` -/

/-- `increment_psh_recvd_since` as an object-local update. -/
theorem ackStep_local (e : EP) (i : Nat) (o x : Obj) (hx : e.objs[i]? = some x) (hoc : e.outClosed = false) :
    (o.recvdSince + 1 ≥ o.threshold ∧
        LocalUpd e (ackStep e i o) i { x with recvdSince := 0 } [.frame (.acknowledge o.fid (o.recvdSince + 1))] []) ∨
    (¬ o.recvdSince + 1 ≥ o.threshold ∧
        LocalUpd e (ackStep e i o) i { x with recvdSince := o.recvdSince + 1 } [] []) := by
  by_cases ht : o.recvdSince + 1 ≥ o.threshold
  · left
    have hres : ackStep e i o = (e.modObj i (fun x => { x with recvdSince := 0 })).enqFrame (.acknowledge o.fid (o.recvdSince + 1)) := by
      unfold ackStep; rw [if_pos ht]
    rw [hres]
    exact ⟨ht, LocalUpd.modEnq e i _ _ x _ hx rfl hoc⟩
  · right
    have hres : ackStep e i o = e.modObj i (fun x => { x with recvdSince := o.recvdSince + 1 }) := by
      unfold ackStep; rw [if_neg ht]
    rw [hres]
    exact ⟨ht, LocalUpd.modObj e i _ x _ hx rfl⟩

/-- A read on an object whose queued frames are all non-empty (true whenever the peer conforms):
    the four outcomes. -/
theorem appRead_local (e : EP) (h i n : Nat) (o : Obj)
    (hh : e.handleObj h = some (i, o)) (hoc : e.outClosed = false) (hne : ∀ d ∈ o.rxq, d ≠ []) :
    (o.buf ≠ [] ∧ (appRead e h n).2 = .data (o.buf.take n) ∧
        LocalUpd e (appRead e h n).1 i { o with buf := o.buf.drop n } [] []) ∨
    (o.buf = [] ∧ ∃ f rest, o.rxq = f :: rest ∧ (appRead e h n).2 = .data (f.take n) ∧
        ((o.recvdSince + 1 ≥ o.threshold ∧
          LocalUpd e (appRead e h n).1 i { o with rxq := rest, buf := f.drop n, recvdSince := 0 }
            [.frame (.acknowledge o.fid (o.recvdSince + 1))] []) ∨
         (¬ o.recvdSince + 1 ≥ o.threshold ∧
          LocalUpd e (appRead e h n).1 i { o with rxq := rest, buf := f.drop n, recvdSince := o.recvdSince + 1 } [] []))) ∨
    (o.buf = [] ∧ o.rxq = [] ∧ o.senderAlive = true ∧ (appRead e h n).2 = .pending ∧ (appRead e h n).1 = e) ∨
    (o.buf = [] ∧ o.rxq = [] ∧ o.senderAlive = false ∧ (appRead e h n).2 = .eof ∧
        LocalUpd e (appRead e h n).1 i { o with rxOpen := false } [] []) := by
  have ho := handleObj_some hh
  by_cases hb : o.buf = []
  · right
    cases hq : o.rxq with
    | nil =>
      right
      by_cases hal : o.senderAlive = true
      · left
        have hfill : fillBuf (o.rxq.length + 2) e i = (e, .pending) := by
          rw [hq]; unfold fillBuf; rw [ho]; simp [hb, hq, hal]
        have hres : appRead e h n = (e, .pending) := by
          unfold appRead; rw [hh]; simp only; rw [hfill]
        rw [hres]
        exact ⟨hb, rfl, hal, rfl, rfl⟩
      · right
        have hal' : o.senderAlive = false := by simpa using hal
        have hfill : fillBuf (o.rxq.length + 2) e i = (e.modObj i (fun o => { o with rxOpen := false }), .eof) := by
          rw [hq]; unfold fillBuf; rw [ho]; simp [hb, hq, hal']
        have hres : appRead e h n = (e.modObj i (fun o => { o with rxOpen := false }), .eof) := by
          unfold appRead; rw [hh]; simp only; rw [hfill]
        rw [hres]
        exact ⟨hb, rfl, hal', rfl, LocalUpd.modObj e i _ o _ ho (by simp [hq])⟩
    | cons f rest =>
      left
      have hfne : f ≠ [] := hne f (by rw [hq]; simp)
      have hfe : f.isEmpty = false := by cases f <;> simp_all
      refine ⟨hb, f, rest, rfl, ?_⟩
      have s1 := LocalUpd.modObj e i (fun o => { o with rxq := rest, buf := f }) o _ ho rfl
      have hfill : fillBuf (o.rxq.length + 2) e i =
          (ackStep (e.modObj i (fun o => { o with rxq := rest, buf := f })) i { o with rxq := rest, buf := f }, .data f) := by
        rw [hq, show (f :: rest).length + 2 = (rest.length + 2) + 1 by simp]
        unfold fillBuf; rw [ho]; simp [hb, hq, hfe]
      have hres : appRead e h n =
          ((ackStep (e.modObj i (fun o => { o with rxq := rest, buf := f })) i { o with rxq := rest, buf := f }).modObj i
              (fun o => { o with buf := f.drop n }), .data (f.take n)) := by
        unfold appRead; rw [hh]; simp only; rw [hfill]
      rw [hres]
      have hoc1 : (e.modObj i (fun o => { o with rxq := rest, buf := f })).outClosed = false := hoc
      rcases ackStep_local _ i { o with rxq := rest, buf := f } _ s1.self hoc1 with ⟨ht, s2⟩ | ⟨ht, s2⟩
      · refine ⟨rfl, Or.inl ⟨ht, ?_⟩⟩
        have s3 := LocalUpd.modObj _ i (fun o => { o with buf := f.drop n }) _ _ s2.self rfl
        simpa using (s1.trans s2).trans s3
      · refine ⟨rfl, Or.inr ⟨ht, ?_⟩⟩
        have s3 := LocalUpd.modObj _ i (fun o => { o with buf := f.drop n }) _ _ s2.self rfl
        simpa using (s1.trans s2).trans s3
  · left
    have hbe : o.buf.isEmpty = false := by cases hbb : o.buf <;> simp_all
    have hfill : fillBuf (o.rxq.length + 2) e i = (e, .data o.buf) := by
      rw [show o.rxq.length + 2 = (o.rxq.length + 1) + 1 by omega]
      unfold fillBuf; rw [ho]; simp [hbe]
    have hres : appRead e h n = (e.modObj i (fun x => { x with buf := o.buf.drop n }), .data (o.buf.take n)) := by
      unfold appRead; rw [hh]; simp only; rw [hfill]
    rw [hres]
    exact ⟨hb, rfl, LocalUpd.modObj e i _ o _ ho rfl⟩

/-! ### A read in any state -/

/-- What a read can never change: the object's sending role, its window parameters and its id. -/
structure SenderSame (o o' : Obj) : Prop where
  credit : o'.credit = o.credit
  finishSent : o'.finishSent = o.finishSent
  cap : o'.cap = o.cap
  threshold : o'.threshold = o.threshold
  fid : o'.fid = o.fid
  alive : o'.senderAlive = o.senderAlive
  rxOpen : o'.rxOpen = true → o.rxOpen = true

theorem SenderSame.refl (o : Obj) : SenderSame o o := ⟨rfl, rfl, rfl, rfl, rfl, rfl, id⟩
theorem SenderSame.trans {a b c : Obj} (s : SenderSame a b) (t : SenderSame b c) : SenderSame a c :=
  ⟨by rw [t.credit, s.credit], by rw [t.finishSent, s.finishSent], by rw [t.cap, s.cap],
   by rw [t.threshold, s.threshold], by rw [t.fid, s.fid], by rw [t.alive, s.alive], fun h => s.rxOpen (t.rxOpen h)⟩

abbrev AcksOf (y : Nat) (em : List Msg) : Prop := ∀ m ∈ em, ∃ n, m = .frame (.acknowledge y n)

theorem AcksOf.append {y : Nat} {a b : List Msg} (ha : AcksOf y a) (hb : AcksOf y b) : AcksOf y (a ++ b) := by
  intro m hm
  rcases List.mem_append.mp hm with h | h
  · exact ha m h
  · exact hb m h

/-- `poll_fill_buf` in any state: object-local, sending role untouched, only acknowledgements emitted. -/
theorem fillBuf_coarse (fuel : Nat) (e : EP) (i : Nat) (o : Obj) (ho : e.objs[i]? = some o) (hoc : e.outClosed = false) :
    ∃ o' em, LocalUpd e (fillBuf fuel e i).1 i o' em [] ∧ SenderSame o o' ∧ AcksOf o.fid em := by
  induction fuel generalizing e o with
  | zero => exact ⟨o, [], LocalUpd.refl e i o ho, SenderSame.refl o, by intro m hm; cases hm⟩
  | succ n ih =>
    unfold fillBuf
    rw [ho]
    simp only
    split
    · exact ⟨o, [], LocalUpd.refl e i o ho, SenderSame.refl o, by intro m hm; cases hm⟩
    · split
      · rename_i f rest hq
        have s1 := LocalUpd.modObj e i (fun o => { o with rxq := rest, buf := f }) o _ ho rfl
        have hoc1 : (e.modObj i (fun o => { o with rxq := rest, buf := f })).outClosed = false := hoc
        have key : ∃ o2 em2, LocalUpd e (ackStep (e.modObj i (fun o => { o with rxq := rest, buf := f })) i
              { o with rxq := rest, buf := f }) i o2 em2 [] ∧ SenderSame o o2 ∧ AcksOf o.fid em2 := by
          rcases ackStep_local _ i { o with rxq := rest, buf := f } _ s1.self hoc1 with ⟨_, s2⟩ | ⟨_, s2⟩
          · have u := s1.trans s2
            simp only [List.nil_append, List.append_nil] at u
            exact ⟨_, _, u, ⟨rfl, rfl, rfl, rfl, rfl, rfl, id⟩, by intro m hm; simp at hm; exact ⟨_, hm⟩⟩
          · have u := s1.trans s2
            simp only [List.append_nil] at u
            exact ⟨_, _, u, ⟨rfl, rfl, rfl, rfl, rfl, rfl, id⟩, by intro m hm; cases hm⟩
        obtain ⟨o2, em2, u2, ss2, ak2⟩ := key
        split
        · have hoc2 : (ackStep (e.modObj i (fun o => { o with rxq := rest, buf := f })) i
              { o with rxq := rest, buf := f }).outClosed = false := by
            unfold ackStep; split <;> simp [EP.enqFrame, hoc]
          obtain ⟨o3, em3, u3, ss3, ak3⟩ := ih _ o2 u2.self hoc2
          have u := u2.trans u3
          simp only [List.append_nil] at u
          refine ⟨o3, em2 ++ em3, u, ss2.trans ss3, ak2.append ?_⟩
          rw [← ss2.fid]; exact ak3
        · exact ⟨o2, em2, u2, ss2, ak2⟩
      · split
        · exact ⟨o, [], LocalUpd.refl e i o ho, SenderSame.refl o, by intro m hm; cases hm⟩
        · exact ⟨_, [], LocalUpd.modObj e i _ o _ ho rfl, ⟨rfl, rfl, rfl, rfl, rfl, rfl, fun h => by cases h⟩, by intro m hm; cases hm⟩

theorem appRead_coarse (e : EP) (h i n : Nat) (o : Obj) (hh : e.handleObj h = some (i, o)) (hoc : e.outClosed = false) :
    ∃ o' em, LocalUpd e (appRead e h n).1 i o' em [] ∧ SenderSame o o' ∧ AcksOf o.fid em := by
  have ho := handleObj_some hh
  obtain ⟨o1, em1, u1, ss1, ak1⟩ := fillBuf_coarse (o.rxq.length + 2) e i o ho hoc
  unfold appRead
  rw [hh]
  simp only
  generalize fillBuf (o.rxq.length + 2) e i = r at u1
  obtain ⟨e1, res⟩ := r
  cases res with
  | data b =>
    have s2 := LocalUpd.modObj e1 i (fun o => { o with buf := b.drop n }) o1 _ u1.self rfl
    have u := u1.trans s2
    simp only [List.append_nil] at u
    exact ⟨_, _, u, ss1.trans ⟨rfl, rfl, rfl, rfl, rfl, rfl, id⟩, ak1⟩
  | _ => exact ⟨o1, em1, u1, ss1, ak1⟩

theorem appRead_eff (e : EP) (h n : Nat) (hoc : e.outClosed = false) : Eff (· = hfid e h) e (appRead e h n).1 :=
  have p := Path.appRead e h n
  .of_handle (p.frame .outClosed) (p.frame .muxAlive) (p.frame .dead) (fun hh => by rw [appRead_none e h n hh]) fun i o hh => by
    obtain ⟨o', em, u, ss, ak⟩ := appRead_coarse e h i n o hh hoc
    exact ⟨o', em, [], u, ss.fid, fun m hm => by obtain ⟨k, rfl⟩ := ak m hm; exact flow_one rfl rfl _ (List.mem_singleton.mpr rfl),
      List.forall_mem_nil _⟩

/-! ### The task's side: a flow is released; a frame for a flow with or without a slot -/

abbrev ResetsOf (x : Nat) (em : List Msg) : Prop := ∀ m ∈ em, m = .frame (.reset x)

/-- The slot of flow `x` (established, object `i`) is removed: the object is closed in both
    directions, at most one `Reset` is queued, nothing else changes. -/
structure RemUpd (e e' : EP) (x i : Nat) (o' : Obj) (em : List Msg) : Prop where
  flows : e'.flows = erase e.flows x
  rng : e'.rng = e.rng
  opts : e'.opts = e.opts
  others : ∀ k, k ≠ i → e'.objs[k]? = e.objs[k]?
  self : e'.objs[i]? = some o'
  outq : e'.outq = e.outq ++ em
  dq : e'.droppedq = e.droppedq

theorem closeFlow_est (e : EP) (x i : Nat) (o : Obj) (inh : Bool)
    (hs : lookup e.flows x = some (.established i)) (ho : e.objs[i]? = some o) (hoc : e.outClosed = false) :
    RemUpd e (closeFlow e x inh).1 x i { o.disallowWrite with senderAlive := false }
      (if !o.finishSent && !inh then [.frame (.reset x)] else []) := by
  have ho' : EP.obj? { e with flows := erase e.flows x } i = some o := ho
  unfold closeFlow
  rw [hs]
  simp only [closeLocal, ho']
  split
  · refine ⟨by simp [EP.enqFrame], by simp [EP.enqFrame], by simp [EP.enqFrame], ?_, ?_, ?_, by simp [EP.enqFrame]⟩
    · intro k hk; simp only [EP.enqFrame, enq_objs]; exact modObj_get_ne _ _ _ _ hk
    · simp only [EP.enqFrame, enq_objs]; rw [modObj_get_self]; simp [ho]
    · simp [EP.enqFrame, enq_outq, hoc]
  · refine ⟨rfl, rfl, rfl, ?_, ?_, by simp, rfl⟩
    · intro k hk; exact modObj_get_ne _ _ _ _ hk
    · rw [modObj_get_self]; simp [ho]

/-- A frame (not a `Connect`) for a flow whose slot is established: either the slot is
    removed (`Reset`, or a `Push` beyond the window), or the effect is local to the stream object. -/
theorem processFrame_est (e : EP) (f : Frame) (ig : Bool) (x i : Nat) (o : Obj)
    (hs : lookup e.flows x = some (.established i)) (ho : e.objs[i]? = some o) (hid : f.id = x)
    (hnc : (Msg.frame f).isConnect = false) (hoc : e.outClosed = false) :
    (RemUpd e (processFrame e f ig).1 x i { o.disallowWrite with senderAlive := false } [] ∧ f = .reset x) ∨
    (∃ d, f = .push x d ∧ o.senderAlive = true ∧ o.rxOpen = true ∧ ¬ o.rxq.length < o.cap ∧
        RemUpd e (processFrame e f ig).1 x i { o.disallowWrite with senderAlive := false }
          (if !o.finishSent then [.frame (.reset x)] else [])) ∨
    ∃ o' em, LocalUpd e (processFrame e f ig).1 i o' em [] ∧
      ((∃ n, f = .acknowledge x n ∧ o' = { o.wake with credit := (o.credit + n) % 4294967296 } ∧ em = []) ∨
       (f = .finish x ∧ o' = { o with senderAlive := false } ∧ em = []) ∨
       (∃ d, f = .push x d ∧
          ((o.senderAlive = true ∧ o.rxOpen = true ∧ o.rxq.length < o.cap ∧ o' = { o with rxq := o.rxq ++ [d] } ∧ em = []) ∨
           (o.senderAlive = false ∧ o' = o ∧ em = [.frame (.reset x)]) ∨
           (o.senderAlive = true ∧ o.rxOpen = false ∧ o' = o ∧ em = []))) ∨
       ((∃ bt port host, f = .bind x bt port host) ∨ (∃ port host d, f = .datagram x port host d))) := by
  have ho' : e.obj? i = some o := ho
  cases f with
  | connect fid rwnd port host => simp [Msg.isConnect] at hnc
  | acknowledge fid n =>
    simp only [Frame.id] at hid; subst hid
    right; right
    refine ⟨_, [], ?_, Or.inl ⟨n, rfl, rfl, rfl⟩⟩
    simp only [processFrame, hs]
    exact LocalUpd.modObj e i _ o _ ho rfl
  | finish fid =>
    simp only [Frame.id] at hid; subst hid
    right; right
    refine ⟨_, [], ?_, Or.inr (Or.inl ⟨rfl, rfl, rfl⟩)⟩
    simp only [processFrame, hs]
    exact LocalUpd.modObj e i _ o _ ho rfl
  | reset fid =>
    simp only [Frame.id] at hid; subst hid
    left
    simp only [processFrame]
    have := closeFlow_est e fid i o true hs ho hoc
    simp only [Bool.not_true, Bool.and_false, Bool.false_eq_true, if_false] at this
    exact ⟨this, trivial⟩
  | push fid d =>
    simp only [Frame.id] at hid; subst hid
    by_cases ha : o.senderAlive = true
    · by_cases hr : o.rxOpen = true
      · by_cases hroom : o.rxq.length < o.cap
        · right; right
          have hres : (processFrame e (.push fid d) ig).1 = e.modObj i (fun o => { o with rxq := o.rxq ++ [d] }) := by
            simp [processFrame, hs, ho', ha, hr, hroom]
          rw [hres]
          exact ⟨_, [], LocalUpd.modObj e i _ o _ ho rfl,
            Or.inr (Or.inr (Or.inl ⟨d, rfl, Or.inl ⟨ha, hr, hroom, rfl, rfl⟩⟩))⟩
        · right; left
          have hres : (processFrame e (.push fid d) ig).1 = (closeFlow e fid false).1 := by
            simp [processFrame, hs, ho', ha, hr, hroom]
          rw [hres]
          have := closeFlow_est e fid i o false hs ho hoc
          simp only [Bool.not_false, Bool.and_true] at this
          exact ⟨d, rfl, ha, hr, hroom, this⟩
      · right; right
        have hr' : o.rxOpen = false := by simpa using hr
        have hres : (processFrame e (.push fid d) ig).1 = e := by
          simp [processFrame, hs, ho', ha, hr']
        rw [hres]
        exact ⟨o, [], LocalUpd.refl e i o ho,
          Or.inr (Or.inr (Or.inl ⟨d, rfl, Or.inr (Or.inr ⟨ha, hr', rfl, rfl⟩)⟩))⟩
    · right; right
      have ha' : o.senderAlive = false := by simpa using ha
      have hres : (processFrame e (.push fid d) ig).1 = e.enqFrame (.reset fid) := by
        simp [processFrame, hs, ho', ha']
      rw [hres]
      exact ⟨o, [.frame (.reset fid)], LocalUpd.enqFrame e _ i o ho hoc,
        Or.inr (Or.inr (Or.inl ⟨d, rfl, Or.inr (Or.inl ⟨ha', rfl, rfl⟩)⟩))⟩
  | bind fid bt port host =>
    simp only [Frame.id] at hid; subst hid
    right; right
    simp only [processFrame]
    split
    · exact ⟨o, [.frame (.reset fid)], LocalUpd.enqFrame e _ i o ho hoc, Or.inr (Or.inr (Or.inr (Or.inl ⟨bt, port, host, rfl⟩)))⟩
    · split
      · exact ⟨o, [], LocalUpd.refl e i o ho, Or.inr (Or.inr (Or.inr (Or.inl ⟨bt, port, host, rfl⟩)))⟩
      · split
        · exact ⟨o, [.frame (.reset fid)], LocalUpd.enqFrame e _ i o ho hoc, Or.inr (Or.inr (Or.inr (Or.inl ⟨bt, port, host, rfl⟩)))⟩
        · refine ⟨o, [], ?_, Or.inr (Or.inr (Or.inr (Or.inl ⟨bt, port, host, rfl⟩)))⟩
          unfold offerBind
          split <;> exact LocalUpd.silent i o ho rfl rfl rfl rfl rfl rfl
  | datagram fid port host d =>
    simp only [Frame.id] at hid; subst hid
    right; right
    refine ⟨o, [], ?_, Or.inr (Or.inr (Or.inr (Or.inr ⟨port, host, d, rfl⟩)))⟩
    simp only [processFrame]
    repeat' split
    all_goals first | exact LocalUpd.refl e i o ho | exact LocalUpd.silent i o ho rfl rfl rfl rfl rfl rfl

/-- A frame (not a `Connect`, not a `Bind`) for a flow that has no slot: no object is touched; the
    answer is at most one `Reset`. -/
theorem processFrame_none_local (e : EP) (f : Frame) (ig : Bool) (x i : Nat) (o : Obj)
    (hs : lookup e.flows x = none) (ho : e.objs[i]? = some o) (hid : f.id = x)
    (hnc : (Msg.frame f).isConnect = false) (hnb : ∀ a b c d, f ≠ .bind a b c d) (hoc : e.outClosed = false) :
    ∃ em, LocalUpd e (processFrame e f ig).1 i o em [] ∧ ResetsOf x em := by
  cases f with
  | connect fid rwnd port host => simp [Msg.isConnect] at hnc
  | bind fid bt port host => exact absurd rfl (hnb _ _ _ _)
  | acknowledge fid n =>
    simp only [Frame.id] at hid; subst hid
    simp only [processFrame, hs]
    exact ⟨_, LocalUpd.enqFrame e _ i o ho hoc, by intro m hm; simpa using hm⟩
  | finish fid =>
    simp only [Frame.id] at hid; subst hid
    simp only [processFrame, hs]
    exact ⟨_, LocalUpd.enqFrame e _ i o ho hoc, by intro m hm; simpa using hm⟩
  | reset fid =>
    simp only [Frame.id] at hid; subst hid
    simp only [processFrame, closeFlow, hs]
    exact ⟨[], LocalUpd.refl e i o ho, by intro m hm; cases hm⟩
  | push fid d =>
    simp only [Frame.id] at hid; subst hid
    simp only [processFrame, hs]
    exact ⟨_, LocalUpd.enqFrame e _ i o ho hoc, by intro m hm; simpa using hm⟩
  | datagram fid port host d =>
    simp only [Frame.id] at hid; subst hid
    refine ⟨[], ?_, by intro m hm; cases hm⟩
    simp only [processFrame]
    repeat' split
    all_goals first | exact LocalUpd.refl e i o ho | exact LocalUpd.silent i o ho rfl rfl rfl rfl rfl rfl

/-! ### A frame that creates the flow's object, a datagram -/

@[simp] theorem offerAccept_droppedq (e : EP) (i : Nat) : (offerAccept e i).droppedq = e.droppedq := by
  unfold offerAccept; split <;> rfl
@[simp] theorem offerAccept_rng (e : EP) (i : Nat) : (offerAccept e i).rng = e.rng := by
  unfold offerAccept; split <;> rfl
@[simp] theorem offerAccept_opts (e : EP) (i : Nat) : (offerAccept e i).opts = e.opts := by
  unfold offerAccept; split <;> rfl

/-- `Connect` on a free non-zero id at a running endpoint: everything the flow's view depends on. -/
theorem processFrame_connect_spec (e : EP) (fid rwnd port : Nat) (host : Bytes) (ig : Bool)
    (h0 : fid ≠ 0) (hfree : lookup e.flows fid = none) (hoc : e.outClosed = false) (hm : e.muxAlive = true) :
    let e' := (processFrame e (.connect fid rwnd port host) ig).1
    e'.objs = e.objs ++ [newObj e.opts fid rwnd host port] ∧
    lookup e'.flows fid = some (.established e.objs.length) ∧
    e'.outq = e.outq ++ [.frame (.acknowledge fid e.opts.rwnd)] ∧
    e'.droppedq = e.droppedq ∧ e'.rng = e.rng ∧ e'.opts = e.opts := by
  have hnot : ¬ (fid = 0 ∨ (lookup e.flows fid).isSome = true) := by simp [h0, hfree]
  simp only [processFrame, hnot, if_false, hoc, hm, EP.enqFrame, enq_muxAlive]
  simp [offerAccept_objs, offerAccept_flows, offerAccept_outq, lookup_insert_self, enq_outq]

theorem modify_append_last {α : Type} (l : List α) (a : α) (f : α → α) :
    (l ++ [a]).modify l.length f = l ++ [f a] := by
  induction l with
  | nil => rfl
  | cons x xs ih => simp [ih]

/-- `Acknowledge` on a requested slot: the object is created; if the requester has given up it is
    dropped at once (its notification is queued). -/
theorem processFrame_ack_spec (e : EP) (fid n req : Nat) (ig : Bool)
    (hs : lookup e.flows fid = some (.requested req)) :
    let e' := (processFrame e (.acknowledge fid n) ig).1
    lookup e'.flows fid = some (.established e.objs.length) ∧ e'.outq = e.outq ∧ e'.rng = e.rng ∧ e'.opts = e.opts ∧
    ((e'.objs = e.objs ++ [newObj e.opts fid n [] 0] ∧ e'.droppedq = e.droppedq) ∨
     (e'.objs = e.objs ++ [{ newObj e.opts fid n [] 0 with rxOpen := false }] ∧ e'.droppedq = e.droppedq ++ [fid])) := by
  simp only [processFrame, hs]
  cases hf : e.opens.find? (·.req = req) with
  | some r => simp [lookup_insert_self]
  | none =>
    simp only
    refine ⟨?_, rfl, rfl, rfl, Or.inr ⟨?_, trivial⟩⟩
    · show lookup (insert e.flows fid (Slot.established e.objs.length)) fid = _
      exact lookup_insert_self _ _ _
    · show setObj (e.objs ++ [newObj e.opts fid n [] 0]) e.objs.length _ = _
      exact modify_append_last _ _ _

theorem processFrame_dgram_eff (e : EP) (fid port : Nat) (host d : Bytes) (ig : Bool) :
    Eff (fun _ => False) e (processFrame e (.datagram fid port host d) ig).1 := by
  simp only [processFrame]
  repeat' split
  all_goals first | exact Eff.refl _ e | exact Eff.silent rfl rfl rfl rfl rfl rfl rfl rfl rfl

end Penguin.Mux

namespace Penguin.Pair
open Penguin.Mux

/-! ### A flow id without a stream slot

The id of a bind request has no stream slot (at most the requester's `BindRequested` slot) and no stream object.  The
functions that can be called with such an id leave the stream objects alone and at most remove the slot. -/

def NoStreamSlot (e : EP) (x : Nat) : Prop :=
  lookup e.flows x = none ∨ ∃ r, lookup e.flows x = some (.bindRequested r)

theorem closeFlow_bound (e : EP) (x : Nat) (inh : Bool) (hs : NoStreamSlot e x) :
    (closeFlow e x inh).1.objs = e.objs := by
  unfold Mux.closeFlow
  rcases hs with hs | ⟨r, hs⟩
  · rw [hs]
  · rw [hs]; rfl

theorem processFrame_bound (e : EP) (f : Frame) (ig : Bool) (hs : NoStreamSlot e f.id)
    (hnc : ∀ a b c d, f ≠ .connect a b c d) :
    (processFrame e f ig).1.objs = e.objs ∧
    (lookup (processFrame e f ig).1.flows f.id = lookup e.flows f.id ∨ lookup (processFrame e f ig).1.flows f.id = none) := by
  cases f with
  | connect fid rwnd port host => exact absurd rfl (hnc _ _ _ _)
  | acknowledge fid n =>
    simp only [Frame.id] at hs
    simp only [Mux.processFrame, Frame.id]
    rcases hs with hs | ⟨r, hs⟩ <;> rw [hs] <;> simp [EP.enqFrame, hs]
  | finish fid =>
    simp only [Frame.id] at hs
    simp only [Mux.processFrame, Frame.id]
    rcases hs with hs | ⟨r, hs⟩ <;> rw [hs]
    · simp [EP.enqFrame, hs]
    · exact ⟨rfl, Or.inr (lookup_erase_self _ _)⟩
  | reset fid =>
    simp only [Frame.id] at hs
    simp only [Mux.processFrame, Frame.id]
    exact ⟨closeFlow_bound e fid true hs, Or.inr (closeFlow_slot_none _ _ _)⟩
  | push fid d =>
    simp only [Frame.id] at hs
    simp only [Mux.processFrame, Frame.id]
    rcases hs with hs | ⟨r, hs⟩ <;> rw [hs] <;> simp [EP.enqFrame, hs]
  | bind fid bt port host =>
    simp only [Mux.processFrame, Frame.id]
    repeat' split
    all_goals simp [EP.enqFrame, Mux.offerBind]
    all_goals (split <;> simp)
  | datagram fid port host d =>
    simp only [Mux.processFrame, Frame.id]
    repeat' split
    all_goals simp

theorem processFrame_none_stays (e : EP) (f : Frame) (ig : Bool) (x : Nat)
    (hs : lookup e.flows x = none) (hid : f.id = x) (hnc : (Msg.frame f).isConnect = false) :
    lookup (processFrame e f ig).1.flows x = none := by
  subst hid
  rcases (processFrame_bound e f ig (.inl hs) (fun a b c d hf => by subst hf; cases hnc)).2 with h | h
  · rw [h]; exact hs
  · exact h

end Penguin.Pair
