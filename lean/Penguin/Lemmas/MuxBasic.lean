/-
Basic lemmas about the endpoint model (`Penguin.Mux`): the flow table as an association list, what `enq` and
`modObj` leave alone, handles, two classifications of messages, and the few facts about single functions that the trace
layer rests on.
-/
import Penguin.Model.Mux

namespace Penguin.Mux

/-! ### The flow table -/

@[simp] theorem lookup_nil (k : Nat) : lookup [] k = none := rfl

theorem lookup_cons (k' : Nat) (v : Slot) (m : List (Nat × Slot)) (k : Nat) :
    lookup ((k', v) :: m) k = if k' = k then some v else lookup m k := rfl

theorem lookup_mem (m : List (Nat × Slot)) (k : Nat) (v : Slot) (h : lookup m k = some v) : (k, v) ∈ m := by
  induction m with
  | nil => simp at h
  | cons p m ih =>
    obtain ⟨k', v'⟩ := p
    rw [lookup_cons] at h
    split at h
    · rename_i hk; subst hk; simp only [Option.some.injEq] at h; subst h; simp
    · exact List.mem_cons_of_mem _ (ih h)

/-- The test `process_frame` makes before it creates a stream for a `Connect`: the id is free. -/
theorem lookup_free {fl : List (Nat × Slot)} {fid : Nat} (h : ¬(fid = 0 ∨ (lookup fl fid).isSome = true)) :
    lookup fl fid = none := by
  cases hl : lookup fl fid with
  | none => rfl
  | some s => simp [hl] at h

theorem lookup_erase_self (m : List (Nat × Slot)) (k : Nat) : lookup (erase m k) k = none := by
  induction m with
  | nil => rfl
  | cons p m ih =>
    obtain ⟨k', v⟩ := p
    unfold erase at *
    by_cases h : k' = k
    · simp only [List.filter, h, ne_eq, not_true_eq_false, decide_false]; exact ih
    · simp only [List.filter, h, ne_eq, not_false_eq_true, decide_true, lookup_cons, if_false]; exact ih

theorem lookup_erase_ne (m : List (Nat × Slot)) (k y : Nat) (h : y ≠ k) :
    lookup (erase m k) y = lookup m y := by
  induction m with
  | nil => rfl
  | cons p m ih =>
    obtain ⟨k', v⟩ := p
    unfold erase at *
    by_cases h1 : k' = k
    · have h2 : ¬ k' = y := by omega
      simp only [List.filter, h1, ne_eq, not_true_eq_false, decide_false, lookup_cons]
      rw [if_neg (by omega)]; exact ih
    · simp only [List.filter, h1, ne_eq, not_false_eq_true, decide_true, lookup_cons]
      by_cases h2 : k' = y
      · simp [h2]
      · simp only [h2, if_false]; exact ih

theorem lookup_erase_some {m : List (Nat × Slot)} {k y : Nat} {s : Slot} (h : lookup (erase m k) y = some s) :
    lookup m y = some s := by
  by_cases hy : y = k
  · subst hy; rw [lookup_erase_self] at h; cases h
  · rw [lookup_erase_ne _ _ _ hy] at h; exact h

theorem mem_erase {m : List (Nat × Slot)} {k : Nat} {p : Nat × Slot} (h : p ∈ erase m k) : p ∈ m :=
  (List.mem_filter.mp h).1

theorem mem_insert {m : List (Nat × Slot)} {k : Nat} {v : Slot} {p : Nat × Slot} (h : p ∈ insert m k v) :
    p = (k, v) ∨ p ∈ m := by
  rcases List.mem_cons.mp h with h | h
  · exact Or.inl h
  · exact Or.inr (mem_erase h)

theorem lookup_insert_self (m : List (Nat × Slot)) (k : Nat) (v : Slot) :
    lookup (insert m k v) k = some v := by
  simp [insert, lookup_cons]

theorem lookup_insert_ne (m : List (Nat × Slot)) (k y : Nat) (v : Slot) (h : y ≠ k) :
    lookup (insert m k v) y = lookup m y := by
  have : k ≠ y := fun e => h e.symm
  simp [insert, lookup_cons, this, lookup_erase_ne m k y h]

theorem lookup_insert_some {m : List (Nat × Slot)} {k y : Nat} {v s : Slot} (h : lookup (insert m k v) y = some s) :
    (y = k ∧ s = v) ∨ (y ≠ k ∧ lookup m y = some s) := by
  by_cases hy : y = k
  · subst hy; rw [lookup_insert_self] at h; exact Or.inl ⟨rfl, (Option.some.inj h).symm⟩
  · rw [lookup_insert_ne _ _ _ _ hy] at h; exact Or.inr ⟨hy, h⟩

theorem lookup_insert_other {m : List (Nat × Slot)} {k y : Nat} {s t : Slot} (hne : t ≠ s)
    (h : lookup (insert m k s) y = some t) : lookup m y = some t :=
  (lookup_insert_some h).elim (fun h1 => absurd h1.2 hne) (·.2)

theorem getElem?_append_keep {α : Type} {l : List α} (i : α) {k : Nat} {j : α} (h : l[k]? = some j) :
    (l ++ [i])[k]? = some j := by
  rw [List.getElem?_append_left (List.getElem?_eq_some_iff.mp h).1]; exact h

/-! ### The outbound queue -/

theorem enq_outq (e : EP) (m : Msg) :
    (e.enq m).outq = if e.outClosed then e.outq else e.outq ++ [m] := by
  unfold EP.enq; split <;> rfl

@[simp] theorem enq_flows (e : EP) (m : Msg) : (e.enq m).flows = e.flows := by
  unfold EP.enq; split <;> rfl
@[simp] theorem enq_objs (e : EP) (m : Msg) : (e.enq m).objs = e.objs := by
  unfold EP.enq; split <;> rfl
@[simp] theorem enq_outClosed (e : EP) (m : Msg) : (e.enq m).outClosed = e.outClosed := by
  unfold EP.enq; split <;> rfl
@[simp] theorem enq_dead (e : EP) (m : Msg) : (e.enq m).dead = e.dead := by
  unfold EP.enq; split <;> rfl
@[simp] theorem enq_dgramq (e : EP) (m : Msg) : (e.enq m).dgramq = e.dgramq := by
  unfold EP.enq; split <;> rfl
@[simp] theorem enq_opens (e : EP) (m : Msg) : (e.enq m).opens = e.opens := by
  unfold EP.enq; split <;> rfl
@[simp] theorem enq_muxAlive (e : EP) (m : Msg) : (e.enq m).muxAlive = e.muxAlive := by
  unfold EP.enq; split <;> rfl
@[simp] theorem enq_opts (e : EP) (m : Msg) : (e.enq m).opts = e.opts := by
  unfold EP.enq; split <;> rfl
@[simp] theorem enq_park (e : EP) (m : Msg) : (e.enq m).park = e.park := by
  unfold EP.enq; split <;> rfl

/-! ### Stream objects and handles -/

@[simp] theorem modObj_dead (e : EP) (i : Nat) (f : Obj → Obj) : (e.modObj i f).dead = e.dead := rfl
@[simp] theorem modObj_park (e : EP) (i : Nat) (f : Obj → Obj) : (e.modObj i f).park = e.park := rfl
@[simp] theorem modObj_flows (e : EP) (i : Nat) (f : Obj → Obj) : (e.modObj i f).flows = e.flows := rfl
@[simp] theorem modObj_outq (e : EP) (i : Nat) (f : Obj → Obj) : (e.modObj i f).outq = e.outq := rfl
@[simp] theorem modObj_outClosed (e : EP) (i : Nat) (f : Obj → Obj) : (e.modObj i f).outClosed = e.outClosed := rfl
@[simp] theorem modObj_opts (e : EP) (i : Nat) (f : Obj → Obj) : (e.modObj i f).opts = e.opts := rfl

theorem modObj_get_ne (e : EP) (i j : Nat) (f : Obj → Obj) (h : j ≠ i) :
    (e.modObj i f).objs[j]? = e.objs[j]? := by
  simp [EP.modObj, setObj, Ne.symm h]

theorem modObj_get_self (e : EP) (i : Nat) (f : Obj → Obj) :
    (e.modObj i f).objs[i]? = (e.objs[i]?).map f := by
  simp [EP.modObj, setObj]

@[simp] theorem modObj_length (e : EP) (i : Nat) (f : Obj → Obj) :
    (e.modObj i f).objs.length = e.objs.length := by
  simp [EP.modObj, setObj]

theorem handleObj_some {e : EP} {h i : Nat} {o : Obj} (hh : e.handleObj h = some (i, o)) :
    e.objs[i]? = some o := by
  unfold EP.handleObj at hh
  split at hh
  · cases hh
  · split at hh
    · cases hh
    · simp at hh; obtain ⟨rfl, rfl⟩ := hh; assumption

theorem handleObj_handle {e : EP} {h i : Nat} {o : Obj} (hh : e.handleObj h = some (i, o)) : e.handles[h]? = some i := by
  unfold EP.handleObj at hh
  split at hh
  · cases hh
  · rename_i j hj
    split at hh
    · cases hh
    · simp at hh; rw [hj, hh.1]

theorem handleObj_of {e : EP} {h i : Nat} {o : Obj} (hh : e.handles[h]? = some i) (ho : e.objs[i]? = some o) :
    e.handleObj h = some (i, o) := by
  simp [EP.handleObj, hh, ho]

/-! ### Histories -/

theorem runOps_cons (e : EP) (op : Op) (rest : List Op) : runOps e (op :: rest) = runOps (applyOp e op).1 rest := by
  simp only [Mux.runOps, List.foldl_cons]

theorem runOps_ind {P : EP → Prop} (step : ∀ e op, P e → P (applyOp e op).1) (e : EP) (ops : List Op) (h : P e) :
    P (runOps e ops) := by
  induction ops generalizing e with
  | nil => exact h
  | cons op rest ih => rw [runOps_cons]; exact ih _ (step e op h)

theorem runOps_append (e : EP) (l1 l2 : List Op) : runOps e (l1 ++ l2) = runOps (runOps e l1) l2 := by
  simp [Mux.runOps, List.foldl_append]

/-! ### Messages -/

def Msg.isReset : Msg → Bool
  | .frame (.reset _) => true
  | _ => false

/-- The flow a message belongs to (`none` for control messages and datagrams, which use their own
    id space). -/
def Msg.flow? : Msg → Option Nat
  | .frame (.datagram ..) => none
  | .frame f => some f.id
  | _ => none

/-! ### Single functions, upstream of the trace layer

What `Lemmas/MuxTrace.lean` needs before it exists, and a few closed forms and list facts of the model's helpers that
several downstream files share.  Everything else about single functions is in `Lemmas/MuxStep.lean`, downstream of the
layer. -/

/-! ### Flow-id generation -/

theorem drawScript_spec (flows : List (Nat × Slot)) (script : List Nat) (k : Nat) (rest : List Nat)
    (h : drawScript flows script = some (k, rest)) : k ≠ 0 ∧ lookup flows k = none := by
  induction script with
  | nil => simp [drawScript] at h
  | cons a script ih =>
    unfold drawScript at h
    split at h
    · rename_i hc
      simp only [Option.some.injEq, Prod.mk.injEq] at h
      obtain ⟨rfl, _⟩ := h
      exact ⟨hc.1, by simpa using hc.2⟩
    · exact ih h

theorem drawFallback_spec (flows : List (Nat × Slot)) (fb fuel : Nat) (r : Nat × Nat)
    (h : drawFallback flows fb fuel = some r) : r.1 ≠ 0 ∧ lookup flows r.1 = none := by
  induction fuel generalizing fb with
  | zero => simp [drawFallback] at h
  | succ n ih =>
    unfold drawFallback at h
    simp only at h
    split at h
    · rename_i hc
      simp only [Option.some.injEq] at h
      subst h
      exact ⟨hc.1, by simpa using hc.2⟩
    · exact ih _ h

/-- An endpoint never proposes flow id 0 or an id it already uses, whatever the generator yields. -/
theorem drawId_spec (flows : List (Nat × Slot)) (script : List Nat) (fb fuel k : Nat) (rest : List Nat) (fb' : Nat)
    (h : drawId flows script fb fuel = some (k, rest, fb')) : k ≠ 0 ∧ lookup flows k = none := by
  unfold drawId at h
  split at h
  · rename_i k0 rest0 hs
    simp only [Option.some.injEq, Prod.mk.injEq] at h
    obtain ⟨rfl, _, _⟩ := h
    exact drawScript_spec flows script _ _ hs
  · cases hf : drawFallback flows fb fuel with
    | none => simp [hf] at h
    | some r =>
      simp only [hf, Option.map_some, Option.some.injEq, Prod.mk.injEq] at h
      obtain ⟨rfl, _, _⟩ := h
      exact drawFallback_spec flows fb fuel r hf

/-! ### `closeLocal` and the flow table -/

theorem openRejected_flows (e : EP) (req : Nat) (final : Bool) : (openRejected e req final).1.flows = e.flows := by
  fun_cases openRejected e req final <;> rfl

/-- `closeLocal` works on the queues, the objects and the request lists; the flow table it leaves to its caller. -/
theorem closeLocal_flows (e : EP) (s : Slot) (fid : Nat) (inh final : Bool) :
    (closeLocal e s fid inh final).1.flows = e.flows := by
  fun_cases closeLocal e s fid inh final
  case case2 => simp +zetaDelta only; split <;> simp [EP.enqFrame]
  case case3 => exact openRejected_flows _ _ _
  all_goals rfl

theorem closeFlow_flows (e : EP) (fid : Nat) (inh : Bool) :
    ((closeFlow e fid inh).1.flows = e.flows ∧ lookup e.flows fid = none) ∨ (closeFlow e fid inh).1.flows = erase e.flows fid := by
  unfold Mux.closeFlow
  cases h : lookup e.flows fid with
  | none => exact .inl ⟨rfl, rfl⟩
  | some s => exact .inr (closeLocal_flows _ s fid inh false)

/-! ### The send path -/

theorem sendSome_split (e : EP) :
    ∃ sent, (sendSome e).2 = sent.map Ev.wire ∧ sent ++ (sendSome e).1.outq = e.outq := by
  unfold sendSome
  cases h : e.sinkRoom with
  | none => exact ⟨e.outq, rfl, by simp⟩
  | some n => exact ⟨e.outq.take n, rfl, by simp⟩

/-! ### A new stream object; dropping the `Multiplexor` -/

@[simp] theorem newObj_fid (o : Opts) (fid r : Nat) (h : Bytes) (p : Nat) : (newObj o fid r h p).fid = fid := rfl

theorem thresholdFor_le (o : Opts) (w : Nat) : thresholdFor o w ≤ o.rwnd := by
  unfold thresholdFor; omega

/-- Dropping the `Multiplexor` rejects the queued bind requests: their `Reset`s are queued, all or (queue closed) none. -/
theorem foldEnq_eq (bs : List BindIn) (e : EP) :
    bs.foldl (fun e b => e.enqFrame (.reset b.fid)) e =
      if e.outClosed then e else { e with outq := e.outq ++ bs.map (fun b => Msg.frame (.reset b.fid)) } := by
  induction bs generalizing e with
  | nil => simp
  | cons b rest ih =>
    rw [List.foldl_cons, ih]
    cases hoc : e.outClosed <;> simp [EP.enqFrame, EP.enq, hoc]

/-! ### The order the open futures run in: the model's two insertion sorts -/

theorem insertSorted_perm (x : Nat) (l : List Nat) : List.Perm (insertSorted x l) (x :: l) := by
  induction l with
  | nil => exact List.Perm.refl _
  | cons y ys ih =>
    unfold Mux.insertSorted
    split
    · exact List.Perm.refl _
    · exact (List.Perm.cons y ih).trans (List.Perm.swap x y ys)

theorem sortNat_perm (l : List Nat) : List.Perm (sortNat l) l := by
  unfold sortNat
  induction l with
  | nil => exact List.Perm.refl _
  | cons x xs ih => exact (insertSorted_perm x _).trans (List.Perm.cons x ih)

theorem insertDone_perm (x : Nat × Nat) (l : List (Nat × Nat)) : List.Perm (insertDone x l) (x :: l) := by
  induction l with
  | nil => exact List.Perm.refl _
  | cons y ys ih =>
    unfold Mux.insertDone
    split
    · exact List.Perm.refl _
    · exact (List.Perm.cons y ih).trans (List.Perm.swap x y ys)

theorem sortDone_perm (l : List (Nat × Nat)) : List.Perm (l.foldr insertDone []) l := by
  induction l with
  | nil => exact List.Perm.refl _
  | cons x xs ih => exact (insertDone_perm x _).trans (List.Perm.cons x ih)

/-! ### Closed stream objects -/

/-- Both directions of the object are shut: writes fail, reads drain what is queued and then end. -/
def Obj.closed (o : Obj) : Prop := o.finishSent = true ∧ o.senderAlive = false

def closedAt (e : EP) (i : Nat) : Prop := ∀ o, e.objs[i]? = some o → o.closed

/-! ### One stimulus -/

/-- `applyOp` with projections in place of its pattern-matching `let`s.  Rewrite with the three projections
    below instead of unfolding: `rfl`, or unifying against the tuple, makes the unifier evaluate `settle`. -/
theorem applyOp_eq (e : EP) (op : Op) :
    applyOp e op = ((settle (opStep e op).1).1, (opStep e op).2.1, (opStep e op).2.2 ++ (settle (opStep e op).1).2) := by
  unfold applyOp
  rcases opStep e op with ⟨e1, r, evs⟩
  simp only

theorem applyOp_fst (e : EP) (op : Op) : (applyOp e op).1 = (settle (opStep e op).1).1 := by rw [applyOp_eq]
theorem applyOp_res (e : EP) (op : Op) : (applyOp e op).2.1 = (opStep e op).2.1 := by rw [applyOp_eq]
theorem applyOp_evs (e : EP) (op : Op) : (applyOp e op).2.2 = (opStep e op).2.2 ++ (settle (opStep e op).1).2 := by
  rw [applyOp_eq]

end Penguin.Mux
