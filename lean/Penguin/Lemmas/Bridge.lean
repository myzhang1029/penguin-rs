/-
For C13, over `Model/Bridge`.  Every property of a poll is read off two tables, `ROut` for `poll_read_us` and `WOut`
for `poll_write_us`: one constructor per way the sub-poll can go, giving the calls it appends, what it returns and the
fields of its direction afterwards in terms of those before.  The tables are proved once (`pollRead_spec`,
`pollWrite_spec`), by one walk of the model that uses one statement per operation (`localFill_spec`, …: what the
operation appends to `calls`, what it does to its own direction's fields, and that it leaves the other direction's
alone).  The calls of loop iterations that went through are not listed but described (`Call.plain`, no error): what a
property needs of a sub-poll's calls is in the one or two calls that ended it.

Each property is a read-off of the tables (termination: no constructor returns `diverged`, and the fuel suffices by the
last conjunct of `coalesce_spec` and the hypothesis `hm` of `readLoop_spec`); `poll_spec` joins the two tables as
`Future::poll` joins the sub-polls.

Three views of the state: `rpart` / `wpart` are ALL the fields a direction works on (what the other direction leaves
alone; the tables' `p`, `p'` are `rpart`s because the read loop's measure reads the scripts); `wcore` is `wpart` without
the scripts, which is all `InvWc` reads.  `InvR` is over `St` and reads only fields of `rpart` (`invR_of_rpart`); a new
clause about a direction goes into `InvR` resp. `InvWc`, a new field of `St` into `RPart` or `WPart` (and `WCore` if an
invariant reads it).
-/
import Penguin.Model.Bridge

namespace Penguin.Bridge
open Penguin

/-! ### What the calls of a sub-poll say about its result -/

/-- `cs` is what a sub-poll of direction `d` returning `r` may have appended to `calls`. -/
structure CallsOk (d : Dir) (cs : List Call) (r : P) : Prop where
  dir : ∀ c ∈ cs, c.dir = d
  pend : r = .pending → ∃ c ∈ cs, c.pendingSite.isSome = true
  noErr : (∀ e, r ≠ .err e) → errors cs = []
  err : ∀ e, r = .err e → e ∈ errors cs

def Appends (d : Dir) (s s' : St) (r : P) : Prop :=
  ∃ cs, s'.calls = s.calls ++ cs ∧ CallsOk d cs r

theorem errors_eq_nil {cs : List Call} : errors cs = [] ↔ ∀ c ∈ cs, c.error = none := by
  simp [errors, List.filterMap_eq_nil_iff]

theorem mem_errors {e : Err} {cs : List Call} : e ∈ errors cs ↔ ∃ c ∈ cs, c.error = some e := by
  simp [errors, List.mem_filterMap]

theorem CallsOk.of_mem {d : Dir} {cs : List Call} {r : P} (hd : ∀ c ∈ cs, c.dir = d)
    (hp : r = .pending → ∃ c ∈ cs, c.pendingSite.isSome = true)
    (hn : (∀ e, r ≠ .err e) → ∀ c ∈ cs, c.error = none) (he : ∀ e, r = .err e → ∃ c ∈ cs, c.error = some e) :
    CallsOk d cs r :=
  ⟨hd, hp, fun h => errors_eq_nil.mpr (hn h), fun e h => mem_errors.mpr (he e h)⟩

theorem CallsOk.single {d : Dir} {c : Call} {r : P} (hd : c.dir = d) (hp : r = .pending → c.pendingSite.isSome = true)
    (hn : (∀ e, r ≠ .err e) → c.error = none) (he : ∀ e, r = .err e → c.error = some e) : CallsOk d [c] r :=
  .of_mem (fun x hx => by rw [List.mem_singleton.mp hx]; exact hd) (fun h => ⟨c, List.mem_singleton.mpr rfl, hp h⟩)
    (fun h x hx => by rw [List.mem_singleton.mp hx]; exact hn h) (fun e h => ⟨c, List.mem_singleton.mpr rfl, he e h⟩)

theorem Appends.single {d : Dir} {s s' : St} {r : P} {c : Call}
    (hc : s'.calls = s.calls ++ [c]) (hd : c.dir = d)
    (hp : r = .pending → c.pendingSite.isSome = true)
    (hn : (∀ e, r ≠ .err e) → c.error = none)
    (he : ∀ e, r = .err e → c.error = some e) : Appends d s s' r :=
  ⟨[c], hc, .single hd hp hn he⟩

/-- One more call `c` in front of what would have returned `r'`: a `Pending` or an error that is returned is the one
    there was, or that of `c`. -/
theorem CallsOk.cons {d : Dir} {c : Call} {cs : List Call} {r' r : P} (hd : c.dir = d) (ok : CallsOk d cs r')
    (hp : r = .pending → r' = .pending ∨ c.pendingSite.isSome = true)
    (hn : (∀ e, r ≠ .err e) → (∀ e, r' ≠ .err e) ∧ c.error = none)
    (he : ∀ e, r = .err e → r' = .err e ∨ c.error = some e) : CallsOk d (c :: cs) r := by
  refine .of_mem (fun x hx => ?_) (fun h => ?_) (fun h x hx => ?_) (fun e h => ?_)
  · rcases List.mem_cons.mp hx with rfl | hx
    · exact hd
    · exact ok.dir x hx
  · rcases hp h with h | h
    · obtain ⟨x, hx, hs⟩ := ok.pend h; exact ⟨x, List.mem_cons_of_mem _ hx, hs⟩
    · exact ⟨c, List.mem_cons_self, h⟩
  · rcases List.mem_cons.mp hx with rfl | hx
    · exact (hn h).2
    · exact errors_eq_nil.mp (ok.noErr (hn h).1) x hx
  · rcases he e h with h | h
    · obtain ⟨x, hx, hs⟩ := mem_errors.mp (ok.err e h); exact ⟨x, List.mem_cons_of_mem _ hx, hs⟩
    · exact ⟨c, List.mem_cons_self, h⟩

theorem CallsOk.cons_plain {d : Dir} {c : Call} {cs : List Call} {r : P} (hd : c.dir = d) (he : c.error = none)
    (ok : CallsOk d cs r) : CallsOk d (c :: cs) r :=
  .cons hd ok .inl (fun h => ⟨h, he⟩) (fun _ => .inl)

/-- In front of a sub-poll's last calls: the calls of the loop iterations that went through. -/
theorem CallsOk.prepend {d : Dir} {body tail : List Call} {r : P} (hb : ∀ x ∈ body, x.dir = d ∧ x.error = none)
    (ok : CallsOk d tail r) : CallsOk d (body ++ tail) r := by
  induction body with
  | nil => exact ok
  | cons c body ih =>
    exact .cons_plain (hb c List.mem_cons_self).1 (hb c List.mem_cons_self).2
      (ih fun x hx => hb x (List.mem_cons_of_mem _ hx))

/-! ### The two directions work on disjoint fields -/

/-- The fields `poll_read_us` works on. -/
structure RPart where
  rs : ReadState
  lwrite : List (Ans Nat)
  lshut : List (Ans Unit)
  mrecv : List MRecv
  mbuf : Bytes
  muxGot : Bytes
  toLocal : Bytes
  lshutOk : Nat

/-- The fields `poll_write_us` works on. -/
structure WPart where
  ws : WriteState
  lfill : List (Ans Bytes)
  lflush : List (Ans Unit)
  lbuf : Bytes
  mcredit : List MCredit
  msend : List MSend
  localGot : Bytes
  fromLocal : Bytes
  frames : List Bytes
  lost : Bytes
  credits : Nat
  failedSends : Nat
  finishes : Nat

def St.rpart (s : St) : RPart :=
  ⟨s.rs, s.lwrite, s.lshut, s.mrecv, s.mbuf, s.muxGot, s.toLocal, s.lshutOk⟩

def St.wpart (s : St) : WPart :=
  ⟨s.ws, s.lfill, s.lflush, s.lbuf, s.mcredit, s.msend, s.localGot, s.fromLocal, s.frames, s.lost,
   s.credits, s.failedSends, s.finishes⟩

/-- Read direction (mux → local). -/
structure InvR (s : St) : Prop where
  relay : s.toLocal ++ s.mbuf = s.muxGot
  count : s.rs.count = s.toLocal.length
  drained : (∀ n, s.rs ≠ .transferring n) → s.mbuf = []
  shut : s.lshutOk = if s.rs.isDone then 1 else 0

/-- The write direction's fields the invariant speaks about. -/
structure WCore where
  ws : WriteState
  lbuf : Bytes
  localGot : Bytes
  fromLocal : Bytes
  frames : List Bytes
  lost : Bytes
  credits : Nat
  failedSends : Nat
  finishes : Nat

def St.wcore (s : St) : WCore :=
  ⟨s.ws, s.lbuf, s.localGot, s.fromLocal, s.frames, s.lost, s.credits, s.failedSends, s.finishes⟩

/-- Write direction (local → mux), between polls none of which failed. -/
structure InvWc (c : WCore) : Prop where
  buf : c.fromLocal ++ c.lbuf = c.localGot
  relay : c.frames.flatten = c.fromLocal
  count : c.ws.count = c.fromLocal.length
  credit : c.credits = c.frames.length
  fin : c.finishes = if c.ws.isDone then 1 else 0
  drained : c.ws.isDone = true → c.lbuf = []
  nonempty : ∀ f ∈ c.frames, f ≠ []
  lost : c.lost = []
  failed : c.failedSends = 0

/-- Write direction after any poll, failed or not. -/
structure WeakWc (c : WCore) : Prop where
  buf : c.fromLocal ++ c.lbuf = c.localGot
  relay : c.frames.flatten ++ c.lost = c.fromLocal
  credit : c.credits = c.frames.length + c.failedSends
  failed : c.failedSends ≤ 1
  nonempty : ∀ f ∈ c.frames, f ≠ []
  fin : c.finishes ≤ 1

theorem InvWc.weak {c : WCore} (h : InvWc c) : WeakWc c :=
  ⟨h.buf, by rw [h.lost, h.relay]; simp, by rw [h.failed, h.credit]; rfl, by rw [h.failed]; omega, h.nonempty,
   by rw [h.fin]; split <;> omega⟩

/-! ### The operations: what each appends to `calls` and does to its direction's fields; the other direction's
are left alone -/

theorem localFill_spec {s s1 : St} {a : Ans Bytes} (h : localFill s = (a, s1)) :
    s1.calls = s.calls ++ [.lfill a] ∧ s1.rpart = s.rpart ∧
    ∃ d, s1.wcore = { s.wcore with lbuf := s.wcore.lbuf ++ d, localGot := s.wcore.localGot ++ d } ∧
      (∀ x, a = .ready x → x = s.wcore.lbuf ++ d) ∧ ((∀ x, a ≠ .ready x) → d = []) ∧
      (d ≠ [] → s1.lfill.length < s.lfill.length) := by
  unfold localFill at h
  split at h
  · cases h; exact ⟨rfl, rfl, [], by simp [St.wcore], by simp [St.wcore], by simp, by simp⟩
  · next he =>
    have he : s.lbuf = [] := by simpa using he
    split at h <;> cases h
    · exact ⟨rfl, rfl, [], by simp [St.wcore], by simp [St.wcore, he], by simp, by simp⟩
    · next d rest hl => exact ⟨rfl, rfl, d, by simp [St.wcore, he], by simp [St.wcore, he], by simp, by simp [hl]⟩
    · exact ⟨rfl, rfl, [], by simp [St.wcore], by simp, by simp, by simp⟩
    · exact ⟨rfl, rfl, [], by simp [St.wcore], by simp, by simp, by simp⟩

theorem localFlush_spec {s s1 : St} {a : Ans Unit} (h : localFlush s = (a, s1)) :
    s1.calls = s.calls ++ [.lflush a] ∧ s1.rpart = s.rpart ∧ s1.wcore = s.wcore := by
  unfold localFlush at h
  split at h <;> cases h <;> exact ⟨rfl, rfl, rfl⟩

def creditN : MCredit → Nat
  | .granted => 1
  | _ => 0

theorem muxCredit_spec {s s1 : St} {a : MCredit} (h : muxCredit s = (a, s1)) :
    s1.calls = s.calls ++ [.credit a] ∧ s1.rpart = s.rpart ∧
    s1.wcore = { s.wcore with credits := s.wcore.credits + creditN a } := by
  unfold muxCredit at h
  split at h <;> cases h
  · exact ⟨rfl, rfl, rfl⟩
  · exact ⟨rfl, rfl, rfl⟩
  · next a rest hl hg => exact ⟨rfl, rfl, by cases a <;> simp_all [creditN, St.wcore]⟩

theorem muxSend_spec {s s1 : St} {p : Bytes} {a : MSend} (h : muxSend s p = (a, s1)) :
    s1.calls = s.calls ++ [.send p a] ∧ s1.rpart = s.rpart ∧
    s1.wcore = (match a with
      | .ok => { s.wcore with frames := s.wcore.frames ++ [p] }
      | .closed => { s.wcore with lost := s.wcore.lost ++ p, failedSends := s.wcore.failedSends + 1 }) := by
  unfold muxSend at h
  split at h <;> cases h <;> exact ⟨rfl, rfl, rfl⟩

theorem localWrite_spec {s s1 : St} {buf : Bytes} {a : Ans Nat} (h : localWrite s buf = (a, s1)) :
    s1.calls = s.calls ++ [.lwrite buf.length a] ∧ s1.wpart = s.wpart ∧
    ∃ w rest, s1.rpart = { s.rpart with lwrite := rest, toLocal := s.rpart.toLocal ++ w } ∧
      (∀ k, a = .ready k → k ≤ buf.length ∧ w = buf.take k) ∧ ((∀ k, a ≠ .ready k) → w = []) ∧
      (rest.length < s.rpart.lwrite.length ∨ rest = [] ∧ a = .ready buf.length) := by
  unfold localWrite at h
  split at h <;> cases h
  · next hl => exact ⟨rfl, rfl, buf, [], by simp [St.rpart, hl], by simp, by simp, .inr ⟨rfl, rfl⟩⟩
  · next n rest hl =>
    exact ⟨rfl, rfl, _, rest, rfl, fun k hk => by cases hk; exact ⟨Nat.min_le_right _ _, rfl⟩, by simp,
      .inl (by simp [St.rpart, hl])⟩
  · next b rest hl => exact ⟨rfl, rfl, [], rest, by simp [St.rpart], by simp, by simp, .inl (by simp [St.rpart, hl])⟩
  · next c rest hl => exact ⟨rfl, rfl, [], rest, by simp [St.rpart], by simp, by simp, .inl (by simp [St.rpart, hl])⟩

def shutN : Ans Unit → Nat
  | .ready () => 1
  | _ => 0

theorem localShutdown_spec {s s1 : St} {a : Ans Unit} (h : localShutdown s = (a, s1)) :
    s1.calls = s.calls ++ [.lshut a] ∧ s1.wpart = s.wpart ∧
    ∃ rest, s1.rpart = { s.rpart with lshut := rest, lshutOk := s.rpart.lshutOk + shutN a } := by
  unfold localShutdown at h
  split at h <;> cases h
  · next hl => exact ⟨rfl, rfl, [], by simp [St.rpart, hl, shutN]⟩
  all_goals exact ⟨rfl, rfl, _, rfl⟩

theorem muxRecv_length (l : List MRecv) :
    (muxRecv l).2.length ≤ l.length ∧ ((muxRecv l).1.isSome → (muxRecv l).2.length < l.length) := by
  fun_induction muxRecv l <;> simp_all <;> omega

theorem muxFill_spec {s s1 : St} {a : Option Bytes} (h : muxFill s = (a, s1)) :
    s1.calls = s.calls ++ [.mfill a] ∧ s1.wpart = s.wpart ∧
    ∃ g rest, s1.rpart = { s.rpart with mrecv := rest, mbuf := s.rpart.mbuf ++ g, muxGot := s.rpart.muxGot ++ g } ∧
      (∀ buf, a = some buf → buf = s.rpart.mbuf ++ g) ∧ (a = none → g = []) ∧
      rest.length ≤ s.rpart.mrecv.length ∧ (g ≠ [] → rest.length < s.rpart.mrecv.length) := by
  unfold muxFill at h
  split at h
  · cases h; exact ⟨rfl, rfl, [], s.mrecv, by simp [St.rpart], by simp [St.rpart], by simp, Nat.le_refl _, by simp⟩
  · next he =>
    have he : s.mbuf = [] := by simpa using he
    have hl := muxRecv_length s.mrecv
    split at h <;> cases h <;> rename_i hr <;> rw [hr] at hl
    · exact ⟨rfl, rfl, [], _, by simp [St.rpart], by simp, by simp, hl.1, by simp⟩
    · next d rest =>
      exact ⟨rfl, rfl, d, rest, by simp [St.rpart, he], by simp [St.rpart, he], by simp, hl.1, fun _ => hl.2 rfl⟩

theorem localConsume_spec (s : St) (n : Nat) :
    (localConsume s n).calls = s.calls ++ [.lconsume n] ∧ (localConsume s n).rpart = s.rpart ∧
    (localConsume s n).wcore = { s.wcore with lbuf := s.wcore.lbuf.drop n,
                                              fromLocal := s.wcore.fromLocal ++ s.wcore.lbuf.take n } ∧
    (localConsume s n).lfill = s.lfill := ⟨rfl, rfl, rfl, rfl⟩

theorem finishMux_spec (s : St) (n : Nat) :
    (finishMux s n).calls = s.calls ++ [.finish] ∧ (finishMux s n).rpart = s.rpart ∧
    (finishMux s n).wcore = { s.wcore with ws := .done n, finishes := s.wcore.finishes + 1 } := ⟨rfl, rfl, rfl⟩

theorem muxConsume_spec (s : St) (n : Nat) :
    (muxConsume s n).calls = s.calls ++ [.mconsume n] ∧ (muxConsume s n).wpart = s.wpart ∧
    (muxConsume s n).rpart = { s.rpart with mbuf := s.rpart.mbuf.drop n } := ⟨rfl, rfl, rfl⟩

@[simp] theorem muxConsume_calls (s : St) (n : Nat) :
    (muxConsume s n).calls = s.calls ++ [.mconsume n] := rfl

/-! ### `poll_write_us` -/

/-- A call of a loop iteration that went through: of direction `d`, no end-of-file, not `do_shutdown`. -/
def Call.plain (d : Dir) (c : Call) : Prop :=
  c.dir = d ∧ c ≠ .mfill (some []) ∧ c ≠ .lfill (.ready []) ∧ c ≠ .finish

/-- The last `poll_fill_buf` of the coalescing loop. -/
inductive StopTail : Stop → List Call → Prop
  | eof : StopTail .eof [.lfill (.ready [])]
  | pending (b : Bool) : StopTail .pending [.lfill (.pending b)]
  | err (c : Nat) : StopTail (.err c) [.lfill (.err c)]
  | diverged : StopTail .diverged []

theorem localFill_stop {s s1 : St} {a : Ans Bytes} (hl : s.lbuf = []) (hf : localFill s = (a, s1))
    (ha : ∀ x, a = .ready x → x = []) :
    s1.calls = s.calls ++ [.lfill a] ∧ s1.rpart = s.rpart ∧ s1.wcore = s.wcore := by
  obtain ⟨hc, hr, d, hw, hrd, hn, -⟩ := localFill_spec hf
  have hd : d = [] := by
    cases a with
    | ready x => simpa [St.wcore, hl] using (ha x rfl).symm.trans (hrd x rfl)
    | pending b => exact hn nofun
    | err c => exact hn nofun
  subst hd
  exact ⟨hc, hr, by rw [hw]; simp⟩

theorem coalesce_spec (fuel : Nat) (acc : Bytes) (s : St) (hl : s.lbuf = []) :
    ∃ extra body tail,
      (coalesce fuel acc s).1 = acc ++ extra ∧
      (coalesce fuel acc s).2.2.calls = s.calls ++ (body ++ tail) ∧
      (∀ c ∈ body, c.plain .write ∧ c.error = none) ∧ StopTail (coalesce fuel acc s).2.1 tail ∧
      (coalesce fuel acc s).2.2.rpart = s.rpart ∧
      (coalesce fuel acc s).2.2.wcore =
        { s.wcore with localGot := s.wcore.localGot ++ extra, fromLocal := s.wcore.fromLocal ++ extra } ∧
      ((coalesce fuel acc s).2.1 = .diverged → fuel ≤ s.lfill.length) := by
  fun_induction coalesce fuel acc s
  case case1 => exact ⟨[], [], [], by simp, by simp, by simp, .diverged, rfl, by simp, by simp⟩
  case case2 hf =>
    obtain ⟨hc, hr, hw⟩ := localFill_stop hl hf (by simp)
    exact ⟨[], [], _, by simp, hc, by simp, .eof, hr, by rw [hw]; simp, nofun⟩
  case case3 k acc s x s1 hf hx ih =>
    obtain ⟨hc, hr, d, hw, hrd, -, hlt⟩ := localFill_spec hf
    obtain rfl : x = d := by simpa [St.wcore, hl] using hrd x rfl
    obtain ⟨hc1, hr1, hw1, hl1⟩ := localConsume_spec s1 x.length
    rw [hw] at hw1
    have hl0 : s.wcore.lbuf = [] := hl
    simp only [hl0, List.nil_append, List.drop_length, List.take_length] at hw1
    obtain ⟨extra, body, tail, h1, h2, h3, h5, h6, h7, h8⟩ := ih (by have := congrArg WCore.lbuf hw1; exact this)
    refine ⟨x ++ extra, [.lfill (.ready x), .lconsume x.length] ++ body, tail, by rw [h1]; simp,
      by rw [h2, hc1, hc]; simp, ?_, h5,
      h6.trans (hr1.trans hr), by rw [h7, hw1]; simp [hl0], fun hdv => ?_⟩
    · intro c hc
      rcases List.mem_append.mp hc with hc | hc
      · simp at hc; rcases hc with rfl | rfl <;> simp [Call.plain, Call.dir, Call.error, hx]
      · exact h3 c hc
    · have h9 : s1.lfill.length < s.lfill.length := hlt hx
      have : k ≤ s1.lfill.length := hl1 ▸ h8 hdv
      omega
  case case4 b s1 hf =>
    obtain ⟨hc, hr, hw⟩ := localFill_stop hl hf nofun
    exact ⟨[], [], _, by simp, hc, by simp, .pending b, hr, by rw [hw]; simp, nofun⟩
  case case5 c s1 hf =>
    obtain ⟨hc, hr, hw⟩ := localFill_stop hl hf nofun
    exact ⟨[], [], _, by simp, hc, by simp, .err c, hr, by rw [hw]; simp, nofun⟩

def flushP : Ans Unit → P
  | .err c => .err (.localErr c)
  | _ => .pending

def creditP : MCredit → P
  | .closed => .err .brokenPipe
  | _ => .pending

/-- After the frame was sent: the write state, the `do_shutdown` call and the result, by why the coalescing loop stopped. -/
def Stop.ws (n : Nat) : Stop → WriteState
  | .eof => .done n
  | _ => .transferring n

def Stop.fin : Stop → List Call
  | .eof => [.finish]
  | _ => []

def Stop.res (fx : Fix) (n : Nat) : Stop → P
  | .eof => .ready n
  | .err c => if fx.fillErr then .err (.localErr c) else .pending
  | _ => .pending

/-- Everything one `poll_write_us` can do: the calls it makes, what it returns, and the fields of the write direction
    after it (`c'`) in terms of those before (`c`). -/
inductive WOut (fx : Fix) (c c' : WCore) : List Call → P → Prop
  | done (n : Nat) (h : c.ws = .done n) (e : c' = c) : WOut fx c c' [] (.ready n)
  | idle (n : Nat) (h : c.ws = .transferring n) (b : Bool) (a : Ans Unit) (e : c' = c) :
      WOut fx c c' [.lfill (.pending b), .lflush a] (flushP a)
  | fillErr (n : Nat) (h : c.ws = .transferring n) (k : Nat) (e : c' = c) :
      WOut fx c c' [.lfill (.err k)] (.err (.localErr k))
  | eof (n : Nat) (h : c.ws = .transferring n) (hb : c.lbuf = [])
      (e : c' = { c with ws := .done n, finishes := c.finishes + 1 }) :
      WOut fx c c' [.lfill (.ready []), .finish] (.ready n)
  | noCredit (n : Nat) (h : c.ws = .transferring n) (d : Bytes) (hx : c.lbuf ++ d ≠ []) (g : MCredit)
      (hg : g ≠ .granted) (e : c' = { c with lbuf := c.lbuf ++ d, localGot := c.localGot ++ d }) :
      WOut fx c c' [.lfill (.ready (c.lbuf ++ d)), .credit g] (creditP g)
  /-- a frame `p` was gathered (`d`: what the first `poll_fill_buf` newly got, `extra`: the coalescing loop) -/
  | sendFailed (n : Nat) (h : c.ws = .transferring n) (d extra p : Bytes) (hp : p = c.lbuf ++ d ++ extra)
      (hx : c.lbuf ++ d ≠ []) (body tail : List Call) (stop : Stop) (hbody : ∀ x ∈ body, x.plain .write ∧ x.error = none)
      (ht : StopTail stop tail) (hs : stop ≠ .diverged)
      (e : c' = { c with lbuf := [], localGot := c.localGot ++ d ++ extra, fromLocal := c.fromLocal ++ p,
                         lost := c.lost ++ p, credits := c.credits + 1, failedSends := c.failedSends + 1 }) :
      WOut fx c c' (body ++ (tail ++ [.send p .closed])) (.err .brokenPipe)
  | sent (n : Nat) (h : c.ws = .transferring n) (d extra p : Bytes) (hp : p = c.lbuf ++ d ++ extra)
      (hx : c.lbuf ++ d ≠ []) (body tail : List Call) (stop : Stop) (hbody : ∀ x ∈ body, x.plain .write ∧ x.error = none)
      (ht : StopTail stop tail) (hs : stop ≠ .diverged)
      (e : c' = { c with ws := stop.ws (n + p.length), lbuf := [], localGot := c.localGot ++ d ++ extra,
                         fromLocal := c.fromLocal ++ p, frames := c.frames ++ [p], credits := c.credits + 1,
                         finishes := c.finishes + stop.fin.length }) :
      WOut fx c c' (body ++ (tail ++ .send p .ok :: stop.fin)) (stop.res fx (n + p.length))

theorem WOut.term {fx : Fix} {c c' : WCore} {cs : List Call} {r : P} (o : WOut fx c c' cs r) : r ≠ .diverged := by
  cases o
  case idle n h b a e => cases a <;> simp [flushP]
  case noCredit n h d hx g hg e => cases g <;> simp [creditP]
  case sent stop _ _ hs _ => cases stop <;> simp [Stop.res] at hs ⊢ <;> split <;> simp
  all_goals nofun

theorem WOut.ready {fx : Fix} {c c' : WCore} {cs : List Call} {r : P} (o : WOut fx c c' cs r) (m : Nat)
    (hr : r = .ready m) : c'.ws = .done m := by
  cases o
  case done n h e => cases hr; rw [e, h]
  case idle n h b a e => cases a <;> cases hr
  case eof n h hb e => cases hr; rw [e]
  case noCredit n h d hx g hg e => cases g <;> cases hr
  case sent stop _ _ _ e =>
    rw [e]
    cases stop <;> first | (cases hr; rfl) | cases hr | (simp only [Stop.res] at hr; split at hr <;> cases hr)
  all_goals cases hr

theorem WOut.pend {fx : Fix} {c c' : WCore} {cs : List Call} {r : P} (o : WOut fx c c' cs r) (hr : r = .pending) :
    c'.ws.isDone = false := by
  cases o
  case idle n h b a e => rw [e, h]; rfl
  case noCredit n h d hx g hg e => rw [e, h]; rfl
  case sent stop _ _ _ e => rw [e]; cases stop <;> first | rfl | cases hr
  all_goals cases hr

theorem gathered {s s1 s2 s3 : St} {x p : Bytes} {fuel : Nat} {stop : Stop} (hf : localFill s = (.ready x, s1))
    (hx : x ≠ []) (hc : muxCredit s1 = (.granted, s2)) (hco : coalesce fuel x (localConsume s2 x.length) = (p, stop, s3)) :
    ∃ d extra body tail, x = s.wcore.lbuf ++ d ∧ p = s.wcore.lbuf ++ d ++ extra ∧
      s3.calls = s.calls ++ (body ++ tail) ∧
      (∀ c ∈ body, c.plain .write ∧ c.error = none) ∧ StopTail stop tail ∧ s3.rpart = s.rpart ∧
      s3.wcore = { s.wcore with lbuf := [], localGot := s.wcore.localGot ++ d ++ extra,
                                fromLocal := s.wcore.fromLocal ++ p, credits := s.wcore.credits + 1 } ∧
      (stop = .diverged → fuel ≤ s2.lfill.length) := by
  obtain ⟨c1, r1, d, w1, hr, -, -⟩ := localFill_spec hf
  obtain ⟨c2, r2, w2⟩ := muxCredit_spec hc
  obtain ⟨c3, r3, w3, l3⟩ := localConsume_spec s2 x.length
  obtain rfl := hr x rfl
  rw [w2, w1] at w3
  simp only [List.drop_length, List.take_length] at w3
  obtain ⟨extra, body, tail, h1, h2, h3, h5, h6, h7, h8⟩ :=
    coalesce_spec fuel (s.wcore.lbuf ++ d) (localConsume s2 (s.wcore.lbuf ++ d).length) (congrArg WCore.lbuf w3)
  rw [hco] at h1 h2 h5 h6 h7 h8
  simp only at h1 h2 h5 h6 h7 h8
  refine ⟨d, extra, .lfill (.ready (s.wcore.lbuf ++ d)) :: .credit .granted :: .lconsume (s.wcore.lbuf ++ d).length :: body,
    tail, rfl, h1, by rw [h2, c3, c2, c1]; simp, ?_, h5, h6.trans (r3.trans (r2.trans r1)),
    by rw [h7, w3, h1]; simp [creditN, List.append_assoc], l3 ▸ h8⟩
  intro c hc
  simp only [List.mem_cons] at hc
  rcases hc with rfl | rfl | rfl | hc
  · simpa [Call.plain, Call.dir, Call.error] using hx
  · simp [Call.plain, Call.dir, Call.error]
  · simp [Call.plain, Call.dir, Call.error]
  · exact h3 c hc

def WSpec (fx : Fix) (s : St) (x : P × St) : Prop :=
  ∃ cs, x.2.calls = s.calls ++ cs ∧ x.2.rpart = s.rpart ∧ WOut fx s.wcore x.2.wcore cs x.1

theorem pollWrite_spec (fx : Fix) (s : St) : WSpec fx s (pollWrite fx s) := by
  -- the local reader has nothing and says so, then `poll_flush`
  have idle : ∀ {n b s1 a s2}, s.ws = .transferring n → localFill s = (.pending b, s1) → localFlush s1 = (a, s2) →
      WSpec fx s (flushP a, s2) := by
    intro n b s1 a s2 h hf hfl
    obtain ⟨c1, r1, d, w1, -, hn, -⟩ := localFill_spec hf
    obtain ⟨c2, r2, w2⟩ := localFlush_spec hfl
    obtain rfl := hn nofun
    exact ⟨_, by rw [c2, c1]; simp, r2.trans r1, .idle n h b a (by rw [w2, w1]; simp)⟩
  have noCredit : ∀ {n x s1 g s2}, s.ws = .transferring n → localFill s = (.ready x, s1) → x ≠ [] →
      muxCredit s1 = (g, s2) → g ≠ .granted →
      WSpec fx s (creditP g, s2) := by
    intro n x s1 g s2 h hf hx hc hg
    obtain ⟨c1, r1, d, w1, hr, -, -⟩ := localFill_spec hf
    obtain ⟨c2, r2, w2⟩ := muxCredit_spec hc
    obtain rfl := hr x rfl
    have h0 : creditN g = 0 := by cases g <;> first | rfl | exact absurd rfl hg
    exact ⟨_, by rw [c2, c1]; simp, r2.trans r1, .noCredit n h d hx g hg (by rw [w2, w1, h0]; simp)⟩
  have sent : ∀ {n x s1 s2 fuel p stop s3 s4}, s.ws = .transferring n → localFill s = (.ready x, s1) → x ≠ [] →
      muxCredit s1 = (.granted, s2) → coalesce fuel x (localConsume s2 x.length) = (p, stop, s3) →
      stop ≠ .diverged → muxSend s3 p = (.ok, s4) → ∀ s5 : St, s5.calls = s4.calls ++ stop.fin → s5.rpart = s4.rpart →
      s5.wcore = { s4.wcore with ws := stop.ws (n + p.length), finishes := s4.wcore.finishes + stop.fin.length } →
      WSpec fx s (stop.res fx (n + p.length), s5) := by
    intro n x s1 s2 fuel p stop s3 s4 h hf hx hc hco hs hms s5 c5 r5 w5
    obtain ⟨d, extra, body, tail, rfl, hp, c3, hb, ht, r3, w3, -⟩ := gathered hf hx hc hco
    obtain ⟨c4, r4, w4⟩ := muxSend_spec hms
    exact ⟨_, by rw [c5, c4, c3]; simp, r5.trans (r4.trans r3),
      .sent n h d extra p hp hx body tail stop hb ht hs (by rw [w5, w4, w3])⟩
  -- the cases are the paths of `Model/Bridge.pollWrite` from top to bottom, named by position
  fun_cases pollWrite fx s
  -- 1: already `Done`
  case case1 n h => exact ⟨[], by simp, rfl, .done n h rfl⟩
  -- 2-4: `poll_fill_buf` pending, then `poll_flush` ready / pending / failed;  5: `poll_fill_buf` failed;  6: end of file
  case case2 h _ _ hf _ hfl => exact idle h hf hfl
  case case3 h _ _ hf _ _ hfl => exact idle h hf hfl
  case case4 h _ _ hf _ _ hfl => exact idle h hf hfl
  case case5 n h k s1 hf =>
    obtain ⟨c1, r1, d, w1, -, hn, -⟩ := localFill_spec hf
    obtain rfl := hn nofun
    exact ⟨_, c1, r1, .fillErr n h k (by rw [w1]; simp)⟩
  case case6 n h s1 hf =>
    obtain ⟨c1, r1, d, w1, hr, -, -⟩ := localFill_spec hf
    obtain ⟨c2, r2, w2⟩ := finishMux_spec s1 n
    obtain ⟨hb, rfl⟩ := List.append_eq_nil_iff.mp (hr [] rfl).symm
    exact ⟨_, by rw [c2, c1]; simp, r2.trans r1, .eof n h hb (by rw [w2, w1]; simp [hb])⟩
  -- 7, 8: data, but the credit is pending / the stream closed
  case case7 h _ _ hf hx _ hc => exact noCredit h hf hx hc nofun
  case case8 h _ _ hf hx _ hc => exact noCredit h hf hx hc nofun
  -- 9: the coalescing loop out of fuel (it is not: `coalesce_spec`);  10: the frame cannot be sent
  case case9 n h x s1 hf hx s2 hc s3 p s4 hco =>
    obtain ⟨_, _, _, _, _, _, _, _, _, _, _, h9⟩ := gathered hf hx hc hco
    have := h9 rfl
    simp [fuelW, s3, localConsume] at this
    omega
  case case10 n h x s1 hf hx s2 hc s3 p stop s4 hs hco s5 hms =>
    obtain ⟨d, extra, body, tail, rfl, hp, c3, hb, ht, r3, w3, -⟩ := gathered hf hx hc hco
    obtain ⟨c4, r4, w4⟩ := muxSend_spec hms
    exact ⟨_, by rw [c4, c3]; simp, r4.trans r3,
      .sendFailed n h d extra p hp hx body tail stop hb ht hs (by rw [w4, w3])⟩
  -- 11-14: the frame was sent; the loop had stopped at end of file / at an error (repaired, pinned code) / pending
  case case11 n h x s1 hf hx s2 hc s3 p s4 s5 hms n' hs hco =>
    obtain ⟨c6, r6, w6⟩ := finishMux_spec s5 n'
    exact sent h hf hx hc hco hs hms _ c6 r6 w6
  case case12 n h x s1 hf hx s2 hc s3 p s4 s5 hms n' k hfe hs hco =>
    have := sent h hf hx hc hco hs hms { s5 with ws := .transferring n' } (List.append_nil _).symm rfl rfl
    simpa only [Stop.res, hfe, if_true] using this
  case case13 n h x s1 hf hx s2 hc s3 p s4 s5 hms n' k hfe hs hco =>
    have := sent h hf hx hc hco hs hms { s5 with ws := .transferring n' } (List.append_nil _).symm rfl rfl
    simpa only [Stop.res, if_neg hfe] using this
  case case14 n h x s1 hf hx s2 hc s3 p stop s4 hs hco s5 hms n' h1 h2 =>
    obtain rfl : stop = .pending := by
      cases stop with
      | eof => exact (h1 rfl).elim
      | err c => exact (h2 c rfl).elim
      | diverged => exact (hs rfl).elim
      | pending => rfl
    exact sent h hf hx hc hco hs hms { s5 with ws := .transferring n' } (List.append_nil _).symm rfl rfl

def P.isOk : P → Bool
  | .ready _ | .pending => true
  | _ => false

theorem WOut.inv {fx : Fix} {c c' : WCore} {cs : List Call} {r : P} (o : WOut fx c c' cs r) (inv : InvWc c) :
    WeakWc c' ∧ (r.isOk = true → InvWc c') := by
  have full : ∀ {c'}, InvWc c' → WeakWc c' ∧ (r.isOk = true → InvWc c') := fun h => ⟨h.weak, fun _ => h⟩
  obtain ⟨i1, i2, i3, i4, i5, i6, i7, i8, i9⟩ := inv
  cases o
  case done n h e => subst e; exact full ⟨i1, i2, i3, i4, i5, i6, i7, i8, i9⟩
  case idle n h b a e => subst e; exact full ⟨i1, i2, i3, i4, i5, i6, i7, i8, i9⟩
  case fillErr n h k e => subst e; exact full ⟨i1, i2, i3, i4, i5, i6, i7, i8, i9⟩
  case eof n h hb e =>
    subst e
    simp only [h, WriteState.count, WriteState.isDone] at i3 i5
    exact full ⟨i1, i2, i3, i4, by simp [WriteState.isDone, i5], fun _ => hb, i7, i8, i9⟩
  case noCredit n h d hx g hg e =>
    subst e
    exact full ⟨by simp [← i1], i2, i3, i4, i5, by simp [h, WriteState.isDone], i7, i8, i9⟩
  case sendFailed n h d extra p hp hx body tail stop hb ht hs e =>
    subst e hp
    exact ⟨⟨by simp [← i1], by simp [i2, i8], by simp [i4, i9], by simp [i9], i7, by rw [i5]; split <;> omega⟩, nofun⟩
  case sent n h d extra p hp hx body tail stop hb ht hs e =>
    subst e
    simp only [h, WriteState.count, WriteState.isDone] at i3 i5
    have hne : p ≠ [] := by subst hp; simp at hx ⊢; exact fun h => (hx h).elim
    exact full
      ⟨by subst hp; simp [← i1], by simp [i2], by cases stop <;> simp [Stop.ws, WriteState.count, i3],
        by simp [i4], by cases stop <;> simp [Stop.ws, Stop.fin, WriteState.isDone, i5], fun _ => rfl,
        by intro f hf; rcases List.mem_append.mp hf with h' | h'
           · exact i7 f h'
           · rw [List.mem_singleton.mp h']; exact hne,
        i8, i9⟩

theorem StopTail.dir {stop : Stop} {tail : List Call} (ht : StopTail stop tail) : ∀ c ∈ tail, c.dir = .write := by
  cases ht <;> simp [Call.dir]

theorem WOut.dir {fx : Fix} {c c' : WCore} {cs : List Call} {r : P} (o : WOut fx c c' cs r) : ∀ x ∈ cs, x.dir = .write := by
  have frame : ∀ {body tail post : List Call} {stop : Stop}, (∀ x ∈ body, x.plain .write ∧ x.error = none) →
      StopTail stop tail → (∀ x ∈ post, x.dir = .write) → ∀ x ∈ body ++ (tail ++ post), x.dir = .write := by
    intro body tail post stop hb ht hpost x hm
    rcases List.mem_append.mp hm with hm | hm
    · exact (hb x hm).1.1
    · exact (List.mem_append.mp hm).elim (ht.dir x) (hpost x)
  cases o
  case sendFailed hb ht _ _ => exact frame hb ht (by simp [Call.dir])
  case sent stop hb ht _ _ => exact frame hb ht (by cases stop <;> simp [Call.dir, Stop.fin])
  all_goals simp [Call.dir]

theorem WOut.callsOk {fx : Fix} {c c' : WCore} {cs : List Call} {r : P} (hf : fx.fillErr = true)
    (o : WOut fx c c' cs r) : CallsOk .write cs r := by
  have hd := o.dir
  cases o
  case done => exact .of_mem (by simp) nofun (by simp) nofun
  case idle n h b a e =>
    cases a with
    -- the last call went through: taken alone it would allow any result that neither pends nor fails, say `.ready 0`;
    -- the `Pending` that is returned is that of the call before it
    | ready _ | pending _ =>
      exact .cons rfl (.single (r := .ready 0) rfl nofun (fun _ => rfl) nofun) (fun _ => .inr rfl) (fun _ => ⟨nofun, rfl⟩) nofun
    | err k => exact .cons_plain rfl rfl (.single rfl nofun (fun h => absurd rfl (h _)) (fun _ h => by cases h; rfl))
  case fillErr => exact .single rfl nofun (fun h => absurd rfl (h _)) (fun _ h => by cases h; rfl)
  case eof => exact .cons_plain rfl rfl (.single rfl nofun (fun _ => rfl) nofun)
  case noCredit n h d hx g hg e =>
    refine .cons_plain rfl rfl ?_
    cases g with
    | granted => exact absurd rfl hg
    | pending => exact .single rfl (fun _ => rfl) (fun _ => rfl) nofun
    | closed => exact .single rfl nofun (fun h => absurd rfl (h _)) (fun _ h => by cases h; rfl)
  case sendFailed n h d extra p hp hx body tail stop hb ht hs e =>
    exact .of_mem hd nofun (fun h => absurd rfl (h _))
      (fun _ he => ⟨.send p .closed, List.mem_append.mpr (.inr (List.mem_append.mpr (.inr (List.mem_singleton.mpr rfl)))),
        by cases he; rfl⟩)
  case sent n h d extra p hp hx body tail stop hb ht hs e =>
    refine .prepend (fun x hx => ⟨(hb x hx).1.1, (hb x hx).2⟩) ?_
    cases ht with
    | eof => exact .cons_plain rfl rfl (.cons_plain rfl rfl (.single rfl nofun (fun _ => rfl) nofun))
    | pending b =>
      exact .cons rfl (.single (r := .ready 0) rfl nofun (fun _ => rfl) nofun) (fun _ => .inr rfl) (fun _ => ⟨nofun, rfl⟩) nofun
    | err k =>
      have hr : Stop.res fx (n + p.length) (.err k) = .err (.localErr k) := by simp [Stop.res, hf]
      rw [hr]
      exact .cons rfl (.single (r := .ready 0) rfl nofun (fun _ => rfl) nofun) nofun (fun h => absurd rfl (h _))
        (fun _ h => .inr (by cases h; rfl))
    | diverged => exact absurd rfl hs

/-- Write direction: only its own operations; the local end-of-file is followed by `do_shutdown` in
    the same sub-poll, which leaves the direction `Done` — unless the frame gathered before it could
    not be sent (`BrokenPipe`); `do_shutdown` only follows an end-of-file; a `Done` direction does nothing. -/
structure WriteCalls (c : WCore) (cs : List Call) (r : P) (c' : WCore) : Prop where
  eof : Call.lfill (.ready []) ∈ cs →
    (Call.finish ∈ cs ∧ c'.ws.isDone = true ∧ ∃ m, r = .ready m) ∨ r = .err .brokenPipe
  fin : Call.finish ∈ cs → Call.lfill (.ready []) ∈ cs
  done : c.ws.isDone = true → cs = []

theorem WOut.writeCalls {fx : Fix} {c c' : WCore} {cs : List Call} {r : P} (o : WOut fx c c' cs r) :
    WriteCalls c cs r c' := by
  -- a frame: its calls have an end-of-file iff the coalescing loop stopped at one, and `do_shutdown` only after the send
  have frame : ∀ {body tail post : List Call} {stop : Stop}, (∀ x ∈ body, x.plain .write ∧ x.error = none) →
      StopTail stop tail → Call.lfill (.ready []) ∉ post →
      (Call.lfill (.ready []) ∈ body ++ (tail ++ post) ↔ stop = .eof) ∧
      (Call.finish ∈ body ++ (tail ++ post) ↔ Call.finish ∈ post) := by
    intro body tail post stop hb ht hpost
    have h1 : Call.lfill (.ready []) ∉ body := fun h => (hb _ h).1.2.2.1 rfl
    have h2 : Call.finish ∉ body := fun h => (hb _ h).1.2.2.2 rfl
    cases ht <;> simp [h1, h2, hpost]
  cases o
  case done n h e => exact ⟨by simp, by simp, fun _ => rfl⟩
  case idle n h b a e => exact ⟨by simp, by simp, by simp [h, WriteState.isDone]⟩
  case fillErr n h k e => exact ⟨by simp, by simp, by simp [h, WriteState.isDone]⟩
  case eof n h hb e =>
    subst e; exact ⟨fun _ => .inl ⟨by simp, rfl, n, rfl⟩, by simp, by simp [h, WriteState.isDone]⟩
  case noCredit n h d hx g hg e => exact ⟨by simp [hx], by simp, by simp [h, WriteState.isDone]⟩
  case sendFailed n h d extra p hp hx body tail stop hb ht hs e =>
    obtain ⟨-, f2⟩ := frame (post := [.send p .closed]) hb ht (by simp)
    exact ⟨fun _ => .inr rfl, fun hm => by simp [f2] at hm, by simp [h, WriteState.isDone]⟩
  case sent n h d extra p hp hx body tail stop hb ht hs e =>
    obtain ⟨f1, f2⟩ := frame (post := .send p .ok :: stop.fin) hb ht (by cases stop <;> simp [Stop.fin])
    have f3 : Call.finish ∈ Call.send p .ok :: stop.fin ↔ stop = .eof := by cases stop <;> simp [Stop.fin]
    subst e
    refine ⟨fun hm => ?_, fun hm => f1.mpr (f3.mp (f2.mp hm)), by simp [h, WriteState.isDone]⟩
    obtain rfl := f1.mp hm
    exact .inl ⟨f2.mpr (f3.mpr rfl), rfl, _, rfl⟩

/-! ### `poll_read_us` -/

/-- What a sub-poll that has counted `n` bytes returns after `poll_shutdown` answered `a`. -/
def shutP (n : Nat) : Ans Unit → P
  | .ready () => .ready n
  | .pending _ => .pending
  | .err c => .err (.localErr c)

/-- The read state after `poll_shutdown` answered `a`. -/
def shutRs (n : Nat) : Ans Unit → ReadState
  | .ready () => .done n
  | _ => .shuttingDown n

/-- What a sub-poll returns after a `poll_write` that accepted nothing answered `a`. -/
def writeP : Ans Nat → P
  | .err c => .err (.localErr c)
  | _ => .pending

theorem shutdownLocal_spec (n : Nat) (s : St) (hrs : s.rs = .shuttingDown n) :
    ∃ a rest, (shutdownLocal n s).1 = shutP n a ∧ (shutdownLocal n s).2.calls = s.calls ++ [.lshut a] ∧
      (shutdownLocal n s).2.wpart = s.wpart ∧
      (shutdownLocal n s).2.rpart =
        { s.rpart with rs := shutRs n a, lshut := rest, lshutOk := s.rpart.lshutOk + shutN a } := by
  have hrs' : s.rpart.rs = .shuttingDown n := hrs
  fun_cases shutdownLocal n s <;> rename_i hl <;> obtain ⟨c1, w1, rest, r1⟩ := localShutdown_spec hl
  · exact ⟨_, rest, rfl, c1, w1, congrArg (fun p : RPart => { p with rs := .done n }) r1⟩
  · exact ⟨_, rest, rfl, c1, w1, by rw [r1]; simp [shutRs, ← hrs']⟩
  · exact ⟨_, rest, rfl, c1, w1, by rw [r1]; simp [shutRs, ← hrs']⟩

theorem setRs_spec (s : St) (rs : ReadState) :
    ({ s with rs := rs } : St).calls = s.calls ∧ ({ s with rs := rs } : St).wpart = s.wpart ∧
    ({ s with rs := rs } : St).rpart = { s.rpart with rs := rs } := ⟨rfl, rfl, rfl⟩

/-- How a sub-poll of the read direction that has counted `m` bytes ends: its last calls and the result; `mbuf'`,
    `rs'` are the stream's buffer and the read state then, `k` the number of shutdowns completed. -/
inductive REnd (fx : Fix) (m : Nat) (mbuf' : Bytes) (rs' : ReadState) (k : Nat) : List Call → P → Prop
  | starved (hrs : rs' = .transferring m) (hk : k = 0) : REnd fx m mbuf' rs' k [.mfill none] .pending
  | eof (a : Ans Unit) (h : mbuf' = []) (hrs : rs' = shutRs m a) (hk : k = shutN a) :
      REnd fx m mbuf' rs' k [.mfill (some []), .lshut a] (shutP m a)
  | blocked (buf : Bytes) (hb : buf ≠ []) (a : Ans Nat) (ha : ∀ k, a ≠ .ready k) (hrs : rs' = .transferring m)
      (hk : k = 0) : REnd fx m mbuf' rs' k [.mfill (some buf), .lwrite buf.length a] (writeP a)
  | zero (buf : Bytes) (hb : buf ≠ []) (hz : fx.writeZero = true) (hrs : rs' = .transferring m) (hk : k = 0) :
      REnd fx m mbuf' rs' k [.mfill (some buf), .lwrite buf.length (.ready 0)] (.err .writeZero)

def rmeasure (p : RPart) : Nat := 2 * (p.lwrite.length + p.mrecv.length) + (if p.mbuf = [] then 0 else 1)

/-- `x` is a result of `poll_read_us` on `s` in `Transferring(n)`: `W` went to the local side, `G` came out of the
    stream's channel, and the write direction's fields are untouched.  An iteration that went through has no failed
    call only in the repaired code: the pinned code takes a `poll_write` of 0 bytes as an iteration, and `Call.error`
    counts that call as `WriteZero`. -/
def Moved (fx : Fix) (n : Nat) (s : St) (x : P × St) : Prop :=
  ∃ W G body tail k, x.2.calls = s.calls ++ (body ++ tail) ∧ x.2.wpart = s.wpart ∧
    x.2.rpart.toLocal = s.rpart.toLocal ++ W ∧ x.2.rpart.muxGot = s.rpart.muxGot ++ G ∧
    s.rpart.mbuf ++ G = W ++ x.2.rpart.mbuf ∧
    (∀ c ∈ body, c.plain .read ∧ (fx.writeZero = true → c.error = none)) ∧
    REnd fx (n + W.length) x.2.rpart.mbuf x.2.rpart.rs k tail x.1 ∧ x.2.rpart.lshutOk = s.rpart.lshutOk + k

theorem fillWrite {s s1 s2 : St} {buf : Bytes} {a : Ans Nat} (hf : muxFill s = (some buf, s1))
    (hw : localWrite s1 buf = (a, s2)) (hb : buf ≠ []) :
    ∃ g w rest rest', s.rpart.mbuf ++ g = buf ∧
      s2.calls = s.calls ++ [.mfill (some buf), .lwrite buf.length a] ∧ s2.wpart = s.wpart ∧
      s2.rpart = { s.rpart with lwrite := rest', mrecv := rest, mbuf := buf, muxGot := s.rpart.muxGot ++ g,
                                toLocal := s.rpart.toLocal ++ w } ∧
      (∀ k, a = .ready k → k ≤ buf.length ∧ w = buf.take k) ∧ ((∀ k, a ≠ .ready k) → w = []) ∧
      2 * rest.length + 1 ≤ 2 * s.rpart.mrecv.length + (if s.rpart.mbuf = [] then 0 else 1) ∧
      (rest'.length < s.rpart.lwrite.length ∨ rest' = [] ∧ a = .ready buf.length) := by
  obtain ⟨c1, w1, g, rest, r1, hbuf, -, hle, hlt⟩ := muxFill_spec hf
  obtain ⟨c2, w2, w, rest', r2, hk, hn, hl⟩ := localWrite_spec hw
  obtain rfl := hbuf buf rfl
  refine ⟨g, w, rest, rest', rfl, by rw [c2, c1]; simp, w2.trans w1, by rw [r2, r1], hk, hn, ?_,
    by simpa [r1] using hl⟩
  by_cases h0 : s.rpart.mbuf = []
  · have := hlt (by simpa [h0] using hb); simp [h0]; omega
  · simp [h0]; omega

theorem stopped {fx : Fix} {n : Nat} {s s1 s2 : St} {buf : Bytes} {a : Ans Nat} {r : P} (hf : muxFill s = (some buf, s1))
    (hw : localWrite s1 buf = (a, s2)) (hb : buf ≠ []) (ha : ∀ k, a = .ready k → k = 0)
    (hend : REnd fx n buf s.rpart.rs 0 [.mfill (some buf), .lwrite buf.length a] r) :
    Moved fx n s (r, s2) := by
  obtain ⟨g, w, rest, rest', hg, c2, w2, r2, hk, hn, -, -⟩ := fillWrite hf hw hb
  obtain rfl : w = [] := by
    cases a with
    | ready k => obtain rfl := ha k rfl; simpa using (hk 0 rfl).2
    | pending b => exact hn nofun
    | err c => exact hn nofun
  exact ⟨[], g, [], _, 0, c2, w2, by simp [r2], by simp [r2], by simp [r2, hg], by simp, by simpa [r2] using hend,
    by simp [r2]⟩

theorem readLoop_spec (fx : Fix) (fuel n : Nat) (s : St) (hrs : s.rpart.rs = .transferring n)
    (hm : rmeasure s.rpart < fuel) : Moved fx n s (readLoop fx fuel n s) := by
  fun_induction readLoop fx fuel n s
  case case1 => omega
  case case2 k n s s1 hf =>
    obtain ⟨c1, w1, g, rest, r1, -, hg, -, -⟩ := muxFill_spec hf
    obtain rfl := hg rfl
    exact ⟨[], [], [], _, 0, c1, w1, by simp [r1], by simp [r1], by simp [r1], by simp,
      by simpa [r1] using REnd.starved (by simpa using hrs) rfl, by simp [r1]⟩
  case case3 k n s s1 hf =>
    obtain ⟨c1, w1, g, rest, r1, hb, -, -, -⟩ := muxFill_spec hf
    obtain ⟨hb0, rfl⟩ := List.append_eq_nil_iff.mp (hb [] rfl).symm
    obtain ⟨c0, w0, r0⟩ := setRs_spec s1 (.shuttingDown n)
    generalize ({ s1 with rs := .shuttingDown n } : St) = s2 at c0 w0 r0 ⊢
    obtain ⟨a, rest', hr, c2, w2, r2⟩ := shutdownLocal_spec n s2 (congrArg RPart.rs r0)
    rw [r0, r1] at r2
    exact ⟨[], [], [], [.mfill (some []), .lshut a], shutN a, by rw [c2, c0, c1]; simp, w2.trans (w0.trans w1),
      by simp [r2], by simp [r2], by simp [r2, hb0], by simp,
      by rw [hr, r2]; exact .eof a (by simpa using hb0) rfl rfl, by simp [r2]⟩
  case case4 k n s buf s1 hf hb b s2 hw =>
    exact stopped hf hw hb (fun _ => nofun) (.blocked buf hb (.pending b) nofun hrs rfl)
  case case5 k n s buf s1 hf hb c s2 hw =>
    exact stopped hf hw hb (fun _ => nofun) (.blocked buf hb (.err c) nofun hrs rfl)
  case case6 k n s buf s1 hf hb v s2 hw hz =>
    simp only [Bool.and_eq_true, beq_iff_eq] at hz
    obtain ⟨hz, rfl⟩ := hz
    exact stopped hf hw hb (fun k h => by cases h; rfl) (.zero buf hb hz hrs rfl)
  case case7 k n s buf s1 hf hb v s2 hw hz s3 ih =>
    obtain ⟨g, w, rest, rest', hg, c2, w2, r2, hk, -, hm1, hm2⟩ := fillWrite hf hw hb
    obtain ⟨hv, rfl⟩ := hk v rfl
    obtain ⟨c3, w3, r3⟩ := muxConsume_spec s2 v
    obtain ⟨c4, w4, r4⟩ := setRs_spec s3 (.transferring (n + v))
    generalize ({ s3 with rs := .transferring (n + v) } : St) = s4 at c4 w4 r4 ih ⊢
    rw [show s3 = muxConsume s2 v from rfl, r3, r2] at r4
    have hlen : (buf.take v).length = v := by simp [hv]
    obtain ⟨W, G, body, tail, j, h1, h2, h3, h4, h5, h6, h7, h8⟩ := ih (by rw [r4]) (by
      rw [r4]; unfold rmeasure at hm ⊢; simp only
      rcases hm2 with h | ⟨rfl, h⟩
      · split <;> omega
      · cases h; simp at hm ⊢; omega)
    rw [r4] at h3 h4 h5 h8
    simp only at h3 h4 h5 h8
    refine ⟨buf.take v ++ W, g ++ G, [.mfill (some buf), .lwrite buf.length (.ready v), .mconsume v] ++ body, tail, j,
      by rw [h1, c4, show s3 = muxConsume s2 v from rfl, c3, c2]; simp, h2.trans (w4.trans (w3.trans w2)),
      by rw [h3]; simp, by rw [h4]; simp, ?_, ?_, by simpa [hlen, Nat.add_assoc] using h7, h8⟩
    · rw [← List.append_assoc, hg, List.append_assoc, ← h5, ← List.append_assoc, List.take_append_drop]
    · intro x hx
      rcases List.mem_append.mp hx with hx | hx
      · simp at hx
        rcases hx with rfl | rfl | rfl
        · simpa [Call.plain, Call.dir, Call.error] using hb
        · refine ⟨by simp [Call.plain, Call.dir], fun hfz => ?_⟩
          have : v ≠ 0 := by simpa [hfz] using hz
          simp [Call.error, this]
        · simp [Call.plain, Call.dir, Call.error]
      · exact h6 x hx

/-- Everything one `poll_read_us` can do: the calls it makes, what it returns, and the fields of the read direction
    after it (`p'`) in terms of those before (`p`). -/
inductive ROut (fx : Fix) (p p' : RPart) : List Call → P → Prop
  | done (n : Nat) (h : p.rs = .done n) (e : p' = p) : ROut fx p p' [] (.ready n)
  | retry (n : Nat) (h : p.rs = .shuttingDown n) (a : Ans Unit) (rest : List (Ans Unit))
      (e : p' = { p with rs := shutRs n a, lshut := rest, lshutOk := p.lshutOk + shutN a }) :
      ROut fx p p' [.lshut a] (shutP n a)
  /-- `W` went to the local side, `G` came out of the stream's channel -/
  | moved (n : Nat) (h : p.rs = .transferring n) (W G : Bytes) (body tail : List Call) (r : P) (k : Nat)
      (hW : p'.toLocal = p.toLocal ++ W) (hG : p'.muxGot = p.muxGot ++ G) (hbuf : p.mbuf ++ G = W ++ p'.mbuf)
      (hbody : ∀ x ∈ body, x.plain .read ∧ (fx.writeZero = true → x.error = none))
      (hend : REnd fx (n + W.length) p'.mbuf p'.rs k tail r) (hk : p'.lshutOk = p.lshutOk + k) :
      ROut fx p p' (body ++ tail) r

theorem pollRead_spec (fx : Fix) (s : St) :
    ∃ cs, (pollRead fx s).2.calls = s.calls ++ cs ∧ (pollRead fx s).2.wpart = s.wpart ∧
      ROut fx s.rpart (pollRead fx s).2.rpart cs (pollRead fx s).1 := by
  unfold pollRead
  split
  · next n h =>
    obtain ⟨W, G, body, tail, k, h1, h2, h3, h4, h5, h6, h7, h8⟩ := readLoop_spec fx (fuelR s) n s h
      (by unfold rmeasure fuelR; simp only [St.rpart]; by_cases h0 : s.mbuf = [] <;> simp [h0] <;> omega)
    exact ⟨_, h1, h2, .moved n h W G body tail _ k h3 h4 h5 h6 h7 h8⟩
  · next n h =>
    obtain ⟨a, rest, hr, c1, w1, r1⟩ := shutdownLocal_spec n s h
    exact ⟨_, c1, w1, hr ▸ .retry n h a rest r1⟩
  · next n h => exact ⟨[], by simp, rfl, .done n h rfl⟩

theorem ROut.term {fx : Fix} {p p' : RPart} {cs : List Call} {r : P} (o : ROut fx p p' cs r) : r ≠ .diverged := by
  cases o
  case done => nofun
  case retry n h a rest e => cases a <;> simp [shutP]
  case moved hend =>
    cases hend with
    | starved | zero => nofun
    | eof a => cases a <;> simp [shutP]
    | blocked buf hb a => cases a <;> simp [writeP]

theorem ROut.ready {fx : Fix} {p p' : RPart} {cs : List Call} {r : P} (o : ROut fx p p' cs r) (m : Nat)
    (hr : r = .ready m) : p'.rs = .done m := by
  cases o
  case done n h e => cases hr; rw [e, h]
  case retry n h a rest e => rw [e]; cases a <;> first | (cases hr; rfl) | cases hr
  case moved hend =>
    cases hend with
    | starved | zero => cases hr
    | eof a _ hrs => rw [hrs]; cases a <;> first | (cases hr; rfl) | cases hr
    | blocked buf hb a => cases a <;> cases hr

theorem ROut.pend {fx : Fix} {p p' : RPart} {cs : List Call} {r : P} (o : ROut fx p p' cs r) (hr : r = .pending) :
    p'.rs.isDone = false := by
  cases o
  case done => cases hr
  case retry n h a rest e => rw [e]; cases a <;> first | rfl | cases hr
  case moved hend =>
    cases hend with
    | starved hrs | blocked _ _ _ _ hrs | zero _ _ _ hrs => rw [hrs]; rfl
    | eof a _ hrs => rw [hrs]; cases a <;> first | rfl | cases hr

theorem ROut.inv {fx : Fix} {s s' : St} {cs : List Call} {r : P} (o : ROut fx s.rpart s'.rpart cs r) (inv : InvR s) :
    InvR s' := by
  obtain ⟨i1, i2, i3, i4⟩ := inv
  cases o
  case done n h e =>
    simp only [St.rpart, RPart.mk.injEq] at e
    obtain ⟨e1, -, -, -, e2, e3, e4, e5⟩ := e
    exact ⟨by rw [e4, e2, e3]; exact i1, by rw [e1, e4]; exact i2, by rw [e1, e2]; exact i3, by rw [e1, e5]; exact i4⟩
  case retry n h a rest e =>
    simp only [St.rpart, RPart.mk.injEq] at e h
    obtain ⟨e1, -, -, -, e2, e3, e4, e5⟩ := e
    have hm : s.mbuf = [] := i3 (by simp [h])
    simp only [h, ReadState.count, ReadState.isDone] at i2 i4
    exact ⟨by rw [e4, e2, e3]; exact i1, by rw [e1, e4, ← i2]; cases a <;> rfl, fun _ => e2.trans hm,
      by rw [e1, e5, i4]; cases a <;> rfl⟩
  case moved n h W G body tail k hW hG hbuf hbody hk hend =>
    simp only [St.rpart] at h hW hG hbuf hend hk
    simp only [h, ReadState.count, ReadState.isDone] at i2 i4
    have relay : s'.toLocal ++ s'.mbuf = s'.muxGot := by
      rw [hW, hG, List.append_assoc, ← hbuf, ← List.append_assoc, i1]
    have count : n + W.length = s'.toLocal.length := by rw [hW, List.length_append, i2]
    have tr : s'.rs = .transferring (n + W.length) → k = 0 → InvR s' := fun e e0 =>
      ⟨relay, by rw [e]; exact count, fun hn => absurd e (hn _), by rw [e, hk, i4, e0]; rfl⟩
    cases hend
    case starved hrs h0 => exact tr hrs h0
    case eof a hm hrs h0 =>
      exact ⟨relay, by rw [hrs, ← count]; cases a <;> rfl, fun _ => hm, by rw [hrs, hk, i4, h0]; cases a <;> rfl⟩
    case blocked buf hb a ha hrs h0 => exact tr hrs h0
    case zero buf hb hz hrs h0 => exact tr hrs h0

theorem REnd.dir {fx : Fix} {m : Nat} {b : Bytes} {tail : List Call} {r : P} {rs : ReadState} {k : Nat}
    (h : REnd fx m b rs k tail r) : ∀ c ∈ tail, c.dir = .read := by
  cases h <;> simp [Call.dir]

theorem ROut.dir {fx : Fix} {p p' : RPart} {cs : List Call} {r : P} (o : ROut fx p p' cs r) : ∀ c ∈ cs, c.dir = .read := by
  cases o
  case done => simp
  case retry => simp [Call.dir]
  case moved hbody _ hend =>
    intro x hm
    rcases List.mem_append.mp hm with hm | hm
    · exact (hbody x hm).1.1
    · exact hend.dir x hm

theorem shut_callsOk (n : Nat) (a : Ans Unit) : CallsOk .read [.lshut a] (shutP n a) := by
  cases a with
  | ready v => exact .single rfl nofun (fun _ => rfl) nofun
  | pending w => exact .single rfl (fun _ => rfl) (fun _ => rfl) nofun
  | err k => exact .single rfl nofun (fun h => absurd rfl (h _)) (fun _ h => by cases h; rfl)

theorem REnd.callsOk {fx : Fix} {m : Nat} {b : Bytes} {tail : List Call} {r : P} {rs : ReadState} {k : Nat}
    (h : REnd fx m b rs k tail r) : CallsOk .read tail r := by
  cases h with
  | starved => exact .single rfl (fun _ => rfl) (fun _ => rfl) nofun
  | eof a => exact .cons_plain rfl rfl (shut_callsOk m a)
  | blocked buf hb a ha =>
    refine .cons_plain rfl rfl ?_
    cases a with
    | ready v => exact absurd rfl (ha v)
    | pending w => exact .single rfl (fun _ => rfl) (fun _ => rfl) nofun
    | err c => exact .single rfl nofun (fun h => absurd rfl (h _)) (fun _ h => by cases h; rfl)
  | zero buf hb =>
    have hl : buf.length ≠ 0 := fun h => hb (List.eq_nil_of_length_eq_zero h)
    exact .cons_plain rfl rfl (.single rfl nofun (fun h => absurd rfl (h _))
      (fun _ h => by cases h; simp [Call.error, hl]))

theorem ROut.callsOk {fx : Fix} {p p' : RPart} {cs : List Call} {r : P} (hz : fx.writeZero = true)
    (o : ROut fx p p' cs r) : CallsOk .read cs r := by
  cases o
  case done => exact .of_mem (by simp) nofun (by simp) nofun
  case retry n h a rest e => exact shut_callsOk n a
  case moved hbody _ hend => exact .prepend (fun x hx => ⟨(hbody x hx).1.1, (hbody x hx).2 hz⟩) hend.callsOk

/-- Read direction: the stream's end-of-file is followed by `poll_shutdown` of the local side in the same
    sub-poll; once the stream has ended only `poll_shutdown` is called, at least once until it has completed,
    then nothing. -/
structure ReadCalls (p : RPart) (cs : List Call) : Prop where
  eof : Call.mfill (some []) ∈ cs → ∃ a, Call.lshut a ∈ cs
  ended : (∀ n, p.rs ≠ .transferring n) → ∀ c ∈ cs, ∃ a, c = .lshut a
  shut : ∀ n, p.rs = .shuttingDown n → ∃ a, Call.lshut a ∈ cs
  done : p.rs.isDone = true → cs = []

theorem ROut.readCalls {fx : Fix} {p p' : RPart} {cs : List Call} {r : P} (o : ROut fx p p' cs r) : ReadCalls p cs := by
  cases o
  case done n h e => exact ⟨by simp, by simp, by simp [h], fun _ => rfl⟩
  case retry n h a rest e => exact ⟨fun _ => ⟨a, by simp⟩, by simp, fun _ _ => ⟨a, by simp⟩, by simp [h, ReadState.isDone]⟩
  case moved n h W G body tail k hW hG hbuf hbody hk hend =>
    refine ⟨fun hm => ?_, fun hn => absurd h (hn n), by simp [h], by simp [h, ReadState.isDone]⟩
    rcases List.mem_append.mp hm with hm | hm
    · exact absurd rfl (hbody _ hm).1.2.1
    · cases hend with
      | eof a _ _ _ => exact ⟨a, List.mem_append.mpr (.inr (by simp))⟩
      | blocked buf hb a ha _ _ => simp at hm; exact absurd hm hb
      | zero buf hb _ _ _ => simp at hm; exact absurd hm hb
      | starved => simp at hm

/-! ### `Future::poll` -/

theorem pollRead_wpart (fx : Fix) (s : St) : (pollRead fx s).2.wpart = s.wpart :=
  (pollRead_spec fx s).elim fun _ h => h.2.1

theorem pollWrite_rpart (fx : Fix) (s : St) : (pollWrite fx s).2.rpart = s.rpart :=
  (pollWrite_spec fx s).elim fun _ h => h.2.1

/-- `Ready(Ok((ready!(r), ready!(w))))` after `poll_write_us(cx)?`. -/
def join : P → P → Res
  | _, .err e => .err e
  | _, .diverged => .diverged
  | .ready a, .ready b => .ok a b
  | _, _ => .pending

/-- One poll: the read direction (`sR` after it), then — unless that failed — the write direction. -/
theorem poll_spec (fx : Fix) (s : St) :
    ∃ sR csR rR, sR.calls = csR ∧ sR.wpart = s.wpart ∧ ROut fx s.rpart sR.rpart csR rR ∧
      ((∃ e, rR = .err e ∧ poll fx s = (.err e, sR)) ∨
       (∃ csW rW, (∀ e, rR ≠ .err e) ∧ (poll fx s).2.calls = csR ++ csW ∧ (poll fx s).2.rpart = sR.rpart ∧
          WOut fx sR.wcore (poll fx s).2.wcore csW rW ∧ (poll fx s).1 = join rR rW)) := by
  obtain ⟨csR, c1, w1, o⟩ := pollRead_spec fx { s with calls := [] }
  obtain ⟨csW, c2, r2, w⟩ := pollWrite_spec fx (pollRead fx { s with calls := [] }).2
  have ht := o.term
  unfold poll
  generalize pollRead fx { s with calls := [] } = x at c1 w1 o c2 r2 w ht ⊢
  obtain ⟨rR, sR⟩ := x
  simp only [List.nil_append] at c1 w1 o c2 r2 w ht
  refine ⟨sR, csR, rR, c1, w1, o, ?_⟩
  cases rR with
  | err e => exact .inl ⟨e, rfl, rfl⟩
  | diverged => exact absurd rfl ht
  | ready n | pending =>
    refine .inr ⟨csW, (pollWrite fx sR).1, nofun, ?_⟩
    simp only
    generalize pollWrite fx sR = y at c2 r2 w ⊢
    obtain ⟨rW, s2⟩ := y
    cases rW <;> exact ⟨c1 ▸ c2, r2, w, rfl⟩

theorem rs_of_rpart {s s' : St} (h : s'.rpart = s.rpart) : s'.rs = s.rs := congrArg RPart.rs h

theorem ws_of_wpart {s s' : St} (h : s'.wpart = s.wpart) : s'.ws = s.ws := congrArg WPart.ws h

theorem wcore_of_wpart {s s' : St} (h : s'.wpart = s.wpart) : s'.wcore = s.wcore := by
  simp only [St.wpart, WPart.mk.injEq] at h
  obtain ⟨h1, _, _, h4, _, _, h7, h8, h9, h10, h11, h12, h13⟩ := h
  simp [St.wcore, h1, h4, h7, h8, h9, h10, h11, h12, h13]

theorem invR_of_rpart {s s' : St} (h : s'.rpart = s.rpart) (inv : InvR s) : InvR s' := by
  simp only [St.rpart, RPart.mk.injEq] at h
  obtain ⟨h1, _, _, _, h5, h6, h7, h8⟩ := h
  exact ⟨by rw [h7, h5, h6]; exact inv.relay, by rw [h1, h7]; exact inv.count,
    by rw [h1, h5]; exact inv.drained, by rw [h1, h8]; exact inv.shut⟩

theorem poll_terminates (fx : Fix) (s : St) : (poll fx s).1 ≠ .diverged := by
  obtain ⟨sR, csR, rR, -, -, o, ⟨e, -, h⟩ | ⟨csW, rW, -, -, -, w, h⟩⟩ := poll_spec fx s
  · rw [h]; nofun
  · have := o.term
    have := w.term
    rw [h]; cases rR <;> cases rW <;> simp_all [join]

/-- The invariant between polls none of which failed. -/
structure Inv (s : St) : Prop where
  r : InvR s
  w : InvWc s.wcore

theorem poll_post (fx : Fix) (s : St) (inv : Inv s) :
    InvR (poll fx s).2 ∧ WeakWc (poll fx s).2.wcore ∧
    ((∀ e, (poll fx s).1 ≠ .err e) → Inv (poll fx s).2) ∧
    (∀ r w, (poll fx s).1 = .ok r w → (poll fx s).2.rs = .done r ∧ (poll fx s).2.ws = .done w) ∧
    ((poll fx s).1 = .pending → ((poll fx s).2.rs.isDone && (poll fx s).2.ws.isDone) = false) := by
  obtain ⟨sR, csR, rR, -, hw, o, alt⟩ := poll_spec fx s
  have invr0 : InvR sR := o.inv inv.r
  have invw : InvWc sR.wcore := wcore_of_wpart hw ▸ inv.w
  rcases alt with ⟨e, -, h⟩ | ⟨csW, rW, hne, -, hr, w, h⟩
  · rw [h]; exact ⟨invr0, invw.weak, by simp, nofun, nofun⟩
  · obtain ⟨weak, full⟩ := w.inv invw
    have ht := w.term
    have invr := invR_of_rpart hr invr0
    have hrs := rs_of_rpart hr
    have hws : (poll fx s).2.ws = (poll fx s).2.wcore.ws := rfl
    rw [h, hrs, hws]
    refine ⟨invr, weak, fun hn => ⟨invr, full ?_⟩, fun a b hj => ?_, fun hj => ?_⟩
    · cases rW <;> first | rfl | exact absurd rfl ht | exact absurd (by cases rR <;> rfl) (hn _)
    · cases rR <;> cases rW <;> cases hj
      exact ⟨o.ready _ rfl, w.ready _ rfl⟩
    · cases rR <;> cases rW <;> cases hj <;>
        first | exact absurd rfl (hne _) | exact absurd rfl o.term | simp [show sR.rs.isDone = false from o.pend rfl]
              | simp [w.pend rfl]

theorem poll_calls (s : St) :
    (∀ e ∈ errors (poll fixed s).2.calls, ∃ e', (poll fixed s).1 = .err e' ∧ e' ∈ errors (poll fixed s).2.calls) ∧
    (∀ e, (poll fixed s).1 = .err e → e ∈ errors (poll fixed s).2.calls) ∧
    ((poll fixed s).1 = .pending →
      ((poll fixed s).2.rs.isDone = false →
        ∃ c ∈ (poll fixed s).2.calls, c.dir = .read ∧ c.pendingSite.isSome = true) ∧
      ((poll fixed s).2.ws.isDone = false →
        ∃ c ∈ (poll fixed s).2.calls, c.dir = .write ∧ c.pendingSite.isSome = true)) := by
  obtain ⟨sR, csR, rR, hc, -, o, alt⟩ := poll_spec fixed s
  have okR := o.callsOk rfl
  rcases alt with ⟨e, rfl, h⟩ | ⟨csW, rW, hne, hcs, hr, w, h⟩
  · rw [h, hc]; exact ⟨fun _ _ => ⟨e, rfl, okR.err e rfl⟩, fun e' he => by cases he; exact okR.err e rfl, nofun⟩
  · have okW := w.callsOk rfl
    have hws : (poll fixed s).2.ws = (poll fixed s).2.wcore.ws := rfl
    have hnoR := errors_eq_nil.mp (okR.noErr hne)
    -- an error among the calls is one of the write direction, which then returns one
    have werr : ∀ e, rW = .err e → e ∈ errors (csR ++ csW) := fun e he =>
      (mem_errors.mp (okW.err e he)).elim fun c hc => mem_errors.mpr ⟨c, List.mem_append.mpr (.inr hc.1), hc.2⟩
    rw [h, hcs, rs_of_rpart hr, hws]
    refine ⟨fun e he => ?_, fun e hj => werr e (by cases rR <;> cases rW <;> cases hj <;> rfl), fun hj => ⟨fun hd => ?_, fun hd => ?_⟩⟩
    · obtain ⟨c, hc, hce⟩ := mem_errors.mp he
      rcases List.mem_append.mp hc with hc | hc
      · rw [hnoR c hc] at hce; cases hce
      · cases rW with
        | err e' => exact ⟨e', by cases rR <;> rfl, werr e' rfl⟩
        | _ => rw [errors_eq_nil.mp (okW.noErr nofun) c hc] at hce; cases hce
    · obtain ⟨c, hc, hp⟩ := okR.pend (by
        cases rR with
        | ready m => rw [show sR.rs = .done m from o.ready m rfl] at hd; cases hd
        | pending => rfl
        | err e => exact absurd rfl (hne e)
        | diverged => exact absurd rfl o.term)
      exact ⟨c, List.mem_append.mpr (.inl hc), okR.dir c hc, hp⟩
    · obtain ⟨c, hc, hp⟩ := okW.pend (by
        cases rW with
        | ready m => rw [w.ready m rfl] at hd; cases hd
        | pending => rfl
        | err e => cases rR <;> cases hj
        | diverged => exact absurd rfl w.term)
      exact ⟨c, List.mem_append.mpr (.inr hc), okW.dir c hc, hp⟩

theorem poll_halfclose (fx : Fix) (s : St) :
    (Call.mfill (some []) ∈ (poll fx s).2.calls → ∃ a, Call.lshut a ∈ (poll fx s).2.calls) ∧
    (∀ n, s.rs = .shuttingDown n → ∃ a, Call.lshut a ∈ (poll fx s).2.calls) ∧
    ((∀ n, s.rs ≠ .transferring n) → ∀ c ∈ (poll fx s).2.calls, c.dir = .read → ∃ a, c = .lshut a) ∧
    (s.rs.isDone = true → ∀ c ∈ (poll fx s).2.calls, c.dir = .write) ∧
    (Call.lfill (.ready []) ∈ (poll fx s).2.calls →
      (Call.finish ∈ (poll fx s).2.calls ∧ (poll fx s).2.ws.isDone = true) ∨
      (poll fx s).1 = .err .brokenPipe) ∧
    (Call.finish ∈ (poll fx s).2.calls → Call.lfill (.ready []) ∈ (poll fx s).2.calls) ∧
    (s.ws.isDone = true → ∀ c ∈ (poll fx s).2.calls, c.dir = .read) := by
  obtain ⟨sR, csR, rR, hc, hw, o, alt⟩ := poll_spec fx s
  have rc := o.readCalls
  have rd := o.dir
  -- the calls of the read direction are neither `poll_fill_buf` of the local side nor `do_shutdown`
  have nr : ∀ {c : Call}, c.dir = .write → c ∉ csR := fun hd hm => by rw [rd _ hm] at hd; cases hd
  rcases alt with ⟨e, -, h⟩ | ⟨csW, rW, -, hcs, -, w, h⟩
  · rw [h, hc]
    exact ⟨rc.eof, rc.shut, fun hn c hm _ => rc.ended hn c hm, fun hd c hm => (by rw [rc.done hd] at hm; cases hm),
      fun hm => absurd hm (nr (c := .lfill (.ready [])) rfl), fun hm => absurd hm (nr (c := .finish) rfl), fun _ => rd⟩
  · have wc := w.writeCalls
    have wd := w.dir
    have nw : ∀ {c : Call}, c.dir = .read → c ∉ csW := fun hd hm => by rw [wd _ hm] at hd; cases hd
    have hws : (poll fx s).2.ws = (poll fx s).2.wcore.ws := rfl
    have hws0 : sR.wcore.ws = s.ws := ws_of_wpart hw
    simp only [hcs, hws, List.mem_append]
    refine ⟨fun hm => ?_, fun n hn => (rc.shut n hn).imp fun _ => .inl, fun hn c hm hd => ?_, fun hd c hm => ?_,
      fun hm => ?_, fun hm => ?_, fun hd c hm => ?_⟩
    · exact (rc.eof (hm.resolve_right (nw (c := .mfill (some [])) rfl))).imp fun _ => .inl
    · exact rc.ended hn c (hm.resolve_right (nw hd))
    · exact hm.elim (fun hm => by rw [rc.done hd] at hm; cases hm) (wd c)
    · rcases wc.eof (hm.resolve_left (nr (c := .lfill (.ready [])) rfl)) with ⟨hf, hdn, -⟩ | hb
      · exact .inl ⟨.inr hf, hdn⟩
      · rw [h, hb]; cases rR <;> exact .inr rfl
    · exact .inr (wc.fin (hm.resolve_left (nr (c := .finish) rfl)))
    · exact hm.elim (rd c) (fun hm => by rw [wc.done (hws0 ▸ hd)] at hm; cases hm)

end Penguin.Bridge
