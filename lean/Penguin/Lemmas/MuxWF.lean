/-
A well-formedness invariant of the endpoint model that holds in EVERY reachable state (every
sequence of stimuli): established slots refer to distinct existing stream objects, and every
stream object that is still open in some direction is referred to by a slot. It is what makes
"when the connection ends, every stream is closed" (C08) a statement about all reachable states.
-/
import Penguin.Model.Mux
import Penguin.Lemmas.MuxBasic
import Penguin.Lemmas.MuxStep
import Penguin.Lemmas.MuxSettle
import Penguin.Lemmas.MuxTrace

namespace Penguin.Mux

/-- Some direction of the object is still open. -/
def Obj.live (o : Obj) : Prop := o.senderAlive = true ∨ o.finishSent = false

theorem Obj.closed_iff_not_live (o : Obj) : o.closed ↔ ¬ o.live := by
  unfold Obj.closed Obj.live
  cases o.senderAlive <;> cases o.finishSent <;> simp

structure WF (e : EP) : Prop where
  range : ∀ fid i, lookup e.flows fid = some (.established i) → i < e.objs.length
  inj : ∀ f1 f2 i, lookup e.flows f1 = some (.established i) → lookup e.flows f2 = some (.established i) → f1 = f2
  live : ∀ i o, e.objs[i]? = some o → o.live → ∃ fid, lookup e.flows fid = some (.established i)

theorem WF_init (o : Opts) : WF { opts := o } :=
  ⟨by intro fid i h; simp at h, by intro f1 f2 i h; simp at h, by intro i o h; simp at h⟩

/-- The hypothesis comes first so that `rfl` arguments elaborate against known terms. -/
theorem WF_of {e e' : EP} (h : WF e) (hf : e'.flows = e.flows) (ho : e'.objs = e.objs) : WF e' :=
  ⟨by rw [hf, ho]; exact h.range, by rw [hf]; exact h.inj, by rw [hf, ho]; exact h.live⟩

theorem WF_enq {e : EP} (m : Msg) (h : WF e) : WF (e.enq m) := WF_of h (by simp) (by simp)

theorem WF_modObj {e : EP} (i : Nat) (f : Obj → Obj) (hmono : ∀ o, e.objs[i]? = some o → (f o).live → o.live) (h : WF e) :
    WF (e.modObj i f) := by
  refine ⟨?_, h.inj, ?_⟩
  · intro fid j hj; rw [modObj_length]; exact h.range fid j hj
  · intro j o ho hl
    obtain ⟨o0, h0, rfl | r⟩ := modObj_back (R := fun o o' => o'.live → o.live) hmono ho
    · exact h.live j o h0 hl
    · exact h.live j o0 h0 (r hl)

theorem WF_erase {e : EP} (fid : Nat) (h : WF e)
    (hc : ∀ i, lookup e.flows fid = some (.established i) → closedAt e i) :
    WF { e with flows := erase e.flows fid } := by
  refine ⟨fun f i hf => h.range f i (lookup_erase_some hf),
    fun f1 f2 i h1 h2 => h.inj f1 f2 i (lookup_erase_some h1) (lookup_erase_some h2), ?_⟩
  intro i o ho hl
  obtain ⟨f, hf⟩ := h.live i o ho hl
  by_cases hff : f = fid
  · subst hff
    exact absurd hl ((Obj.closed_iff_not_live o).mp (hc i hf o ho))
  · exact ⟨f, by simp only [lookup_erase_ne _ _ _ hff]; exact hf⟩

theorem WF_insert_pending {e : EP} (fid : Nat) (s : Slot) (hs : ∀ i, s ≠ .established i)
    (hfree : lookup e.flows fid = none) (h : WF e) : WF { e with flows := insert e.flows fid s } := by
  have old : ∀ {f i}, lookup (insert e.flows fid s) f = some (.established i) → lookup e.flows f = some (.established i) :=
    lookup_insert_other (hs _).symm
  refine ⟨fun f i hf => h.range f i (old hf), fun f1 f2 i h1 h2 => h.inj f1 f2 i (old h1) (old h2), ?_⟩
  intro i o ho hl
  obtain ⟨f, hf⟩ := h.live i o ho hl
  have hff : f ≠ fid := by intro hc; subst hc; rw [hfree] at hf; cases hf
  exact ⟨f, by simp only [lookup_insert_ne _ _ _ _ hff]; exact hf⟩

theorem WF_new_stream {e : EP} (fid : Nat) (o : Obj)
    (hno : ∀ i, lookup e.flows fid ≠ some (.established i)) (h : WF e) :
    WF { e with objs := e.objs ++ [o], flows := insert e.flows fid (.established e.objs.length) } := by
  have old : ∀ {f i}, lookup (insert e.flows fid (.established e.objs.length)) f = some (.established i) →
      (f = fid ∧ i = e.objs.length) ∨ (lookup e.flows f = some (.established i) ∧ i < e.objs.length) := fun hf =>
    (lookup_insert_some hf).imp (fun h1 => ⟨h1.1, Slot.established.inj h1.2⟩) (fun h1 => ⟨h1.2, h.range _ _ h1.2⟩)
  refine ⟨?_, ?_, ?_⟩
  · intro f i hf
    simp only [List.length_append, List.length_cons, List.length_nil]
    rcases old hf with ⟨_, hi⟩ | ⟨_, hi⟩ <;> omega
  · intro f1 f2 i h1 h2
    rcases old h1 with ⟨e1, i1⟩ | ⟨h1, i1⟩ <;> rcases old h2 with ⟨e2, i2⟩ | ⟨h2, i2⟩
    · rw [e1, e2]
    · omega
    · omega
    · exact h.inj f1 f2 i h1 h2
  · intro i o' ho hl
    by_cases hi : i < e.objs.length
    · have : (e.objs ++ [o])[i]? = e.objs[i]? := List.getElem?_append_left hi
      simp only [this] at ho
      obtain ⟨f, hf⟩ := h.live i o' ho hl
      have hff : f ≠ fid := by intro hc; subst hc; exact hno i hf
      exact ⟨f, by simp only [lookup_insert_ne _ _ _ _ hff]; exact hf⟩
    · have hi' : i = e.objs.length := by
        have : i < (e.objs ++ [o]).length := by
          obtain ⟨hlt, _⟩ := List.getElem?_eq_some_iff.mp ho
          exact hlt
        simp at this; omega
      subst hi'
      exact ⟨fid, by simp [lookup_insert_self]⟩

theorem OUpd.not_reopen {k : OKind} {o o' : Obj} (u : OUpd k o o') : o'.live → o.live := by
  cases u with
  | closeWrite => intro hl; unfold Obj.live at hl; simp [Obj.disallowWrite] at hl
  | disallowWrite => unfold Obj.disallowWrite Obj.wake Obj.live; split <;> simp <;> intro h <;> exact Or.inl h
  | grant n => intro hl; unfold Obj.live Obj.wake at *; split at hl <;> simpa using hl
  | senderGone => intro hl; unfold Obj.live at *; simp at hl; exact Or.inr hl
  | shutdown => intro hl; unfold Obj.live at *; simp at hl; exact Or.inl hl
  | _ => exact id

theorem WF_drainBind {e : EP} {fid req : Nat} {rest : List (Nat × Slot)} (h : WF e)
    (hfl : e.flows = (fid, .bindRequested req) :: rest) (hb : ∀ p ∈ rest, p.2.isBind = true) :
    WF { e with flows := rest } := by
  have none : ∀ {f i}, lookup rest f ≠ some (.established i) :=
    fun hf => Bool.false_ne_true (hb _ (lookup_mem _ _ _ hf))
  refine ⟨fun f i hf => (none hf).elim, fun f1 _ i hf => (none hf).elim, ?_⟩
  intro i o ho hl
  obtain ⟨f, hf⟩ := h.live i o ho hl
  rw [hfl, lookup_cons] at hf
  split at hf
  · cases hf
  · exact (none hf).elim

theorem WF_dropSlots {e : EP} (h : WF e) (hc : ∀ fid i, (fid, Slot.established i) ∈ e.flows → closedAt e i) :
    WF { e with flows := e.flows.filter (·.2.isBind) } := by
  have none : ∀ {f i}, lookup (e.flows.filter (·.2.isBind)) f ≠ some (.established i) :=
    fun hf => Bool.false_ne_true (List.mem_filter.mp (lookup_mem _ _ _ hf)).2
  refine ⟨fun f i hf => (none hf).elim, fun f1 _ i hf => (none hf).elim, ?_⟩
  intro i o ho hl
  obtain ⟨f, hf⟩ := h.live i o ho hl
  exact absurd hl ((Obj.closed_iff_not_live o).mp (hc f i (lookup_mem _ _ _ hf) o ho))

theorem closeLocal_final_objs_length (e : EP) (s : Slot) (fid : Nat) (inh : Bool) :
    (closeLocal e s fid inh true).1.objs.length = e.objs.length := by
  fun_cases closeLocal e s fid inh true
  case case2 => simp +zetaDelta only; split <;> simp [EP.enqFrame]
  case case3 => rw [openRejected_objs]
  all_goals rfl

theorem WF.of_upd {k : Kind} {e e' : EP} {x : List Ev} (u : Upd k e x e') (h : WF e) : WF e' := by
  cases u with
  | dropSlots _ hc => exact WF_dropSlots h hc
  | obj ok _ i f hu => exact WF_modObj i f (fun o ho => (hu o ho).not_reopen) h
  | erase _ fid _ hc => exact WF_erase fid h hc
  | reqSlot _ fid _ _ hfree | startBind _ fid _ _ hfree => exact WF_insert_pending fid _ nofun hfree h
  | newStream _ fid _ _ _ hslot =>
    refine WF_new_stream fid _ (fun i hi => ?_) h
    rcases hslot with ⟨_, hn⟩ | ⟨_, hr⟩ <;> simp_all
  | acceptBind _ fid _ hl | refuseBind _ fid _ hl | rejectSlot _ fid _ hl =>
    exact WF_of (WF_erase fid h fun i hi => by rw [hl] at hi; cases hi) rfl rfl
  | drainBind _ _ _ _ hfl hb => exact WF_drainBind h hfl hb
  | enq _ _ m => exact WF_enq m h
  | send => exact WF_of h ((Upd.send e).frame .flows) ((Upd.send e).frame .objs)
  | queue q => exact WF_of h (q.frame .flows) (q.frame .objs)
  | ctl c => exact WF_of h (c.frame .flows) (c.frame .objs)
  | req r => exact WF_of h (r.frame .flows) (r.frame .objs)
  | _ => exact WF_of h rfl rfl

theorem WF.of_path {A : Kinds} {e e' : EP} {x : List Ev} (p : Path A e x e') (h : WF e) : WF e' :=
  p.rel0 (R := fun e e' => WF e → WF e') (fun _ => id) (fun s t h => t (s h)) (fun _ u => .of_upd u) h

theorem WF_disallowAll {e : EP} (l : List (Nat × Slot)) (h : WF e) : WF (disallowAll e l) := .of_path (.disallowAll e l) h

theorem sendSome_dead (e : EP) : (sendSome e).1.dead = e.dead := (Path.sendSome e).frame .dead
theorem unpark_dead (e : EP) : (unpark e).dead = e.dead := (Path.unpark e).frame .dead
theorem recvOne_dead (e : EP) (w : WsIn) (rest : List WsIn) : (recvOne e w rest).1.dead = e.dead :=
  (Path.recvOne e w rest).frame .dead

/-! ### Once the task has finished no slot refers to a stream -/

def NoStreams (e : EP) : Prop := ∀ fid i, lookup e.flows fid ≠ some (.established i)

def DeadInv (e : EP) : Prop := e.dead = true → NoStreams e

theorem NoStreams.of_upd {k : Kind} {e e' : EP} {x : List Ev} (hk : k ∉ Kinds.of [.newStream]) (u : Upd k e x e')
    (h : NoStreams e) : NoStreams e' := by
  cases u with
  | newStream => exact absurd (by decide +kernel) hk
  | erase | acceptBind | refuseBind | rejectSlot => exact fun f i hf => h f i (lookup_erase_some hf)
  | reqSlot | startBind => exact fun f i hf => h f i (lookup_insert_other (by intro h; cases h) hf)
  | dropSlots => exact fun f i hf => Bool.false_ne_true (List.mem_filter.mp (lookup_mem _ _ _ hf)).2
  | drainBind _ _ _ _ _ hb => exact fun f i hf => Bool.false_ne_true (hb _ (lookup_mem _ _ _ hf))
  | enq _ _ m => exact fun f i => by rw [enq_flows]; exact h f i
  | send => exact fun f i => by rw [show (sendSome e).1.flows = e.flows from (Upd.send e).frame .flows]; exact h f i
  | queue q => exact fun f i => by rw [show e'.flows = e.flows from q.frame .flows]; exact h f i
  | ctl c => exact fun f i => by rw [show e'.flows = e.flows from c.frame .flows]; exact h f i
  | req r => exact fun f i => by rw [show e'.flows = e.flows from r.frame .flows]; exact h f i
  | _ => exact h

/-! ### The invariant of the reachable states -/

def Inv2 (e : EP) : Prop := WF e ∧ DeadInv e

theorem Inv2_of_alive {e : EP} (h : WF e) (hd : e.dead = false) : Inv2 e :=
  ⟨h, by intro hc; rw [hd] at hc; cases hc⟩

/-! ### The task dies only in `windDownFinish`, and nothing happens after it

What holds of a finished endpoint because of HOW the task finishes (no slot refers to a stream: `DeadInv`; the open requests
still listed wait for their next round: `Tidy`, Lemmas/MuxStartEnd) needs `e.dead = false` before each function of the task
and so does not compose along the task's run (`Mux.Walk`): after the task has died nothing must happen.  It is read off
`windDownFinish_resolves` through this. -/

def AliveOrFinished (e' : EP) : Prop := e'.dead = false ∨ ∃ e0 res, e' = (windDownFinish e0 res).1

theorem windDownTail_aof (e1 : EP) (flushed : List Ev) (s : Bool) (res : ExitRes) (hd : e1.dead = false) :
    AliveOrFinished (windDownTail e1 flushed s res).1 := by
  rcases windDownTail_cases e1 flushed s res with ⟨h, -⟩ | ⟨-, h, -⟩ <;> rw [h]
  · exact .inr ⟨_, res, rfl⟩
  · exact .inl (((Path.windDownInbox e1 e1.inbox).frame .dead).trans hd)

theorem windDown_aof (e : EP) (drain : Bool) (res : ExitRes) (hd : e.dead = false) :
    AliveOrFinished (windDown e drain res).1 := by
  simp only [windDown]
  have hdd : (sendSome (dropPrep e)).1.dead = false := (((Path.dropPrep e).trans (.sendSome _)).frame .dead).trans hd
  split
  · split
    · exact windDownTail_aof _ _ _ _ hdd
    · exact .inl hdd
  · exact windDownTail_aof _ _ _ _ (((Path.windDownPrep e).frame .dead).trans hd)

theorem drainStep_aof (e : EP) (res : ExitRes) (hd : e.dead = false) : AliveOrFinished (drainStep e res).1 := by
  have hsd : (sendSome e).1.dead = false := by rw [sendSome_dead]; exact hd
  simp only [drainStep]
  split
  · exact windDownTail_aof { (sendSome e).1 with draining := none } _ _ _ hsd
  · exact .inl hsd

theorem closingStep_aof (e : EP) (res : ExitRes) (hd : e.dead = false) : AliveOrFinished (closingStep e res).1 := by
  simp only [closingStep]
  split
  · exact .inr ⟨_, res, rfl⟩
  · exact .inl (((Path.windDownInbox e e.inbox).frame .dead).trans hd)

theorem settleLoop_aof (fuel : Nat) (e : EP) (acc : List Ev) (hd : e.dead = false) :
    AliveOrFinished (settleLoop fuel e acc).1 := by
  revert hd
  fun_induction settleLoop fuel e acc
  case case1 => exact .inl
  case case2 h => exact fun hd => absurd h (by simp [hd])
  case case3 => exact fun hd => drainStep_aof _ _ hd
  case case4 => exact fun hd => closingStep_aof _ _ hd
  case case5 => exact fun hd => windDown_aof _ false _ (by rw [recvOne_dead, unpark_dead]; exact hd)
  case case6 ih => exact fun hd => ih (by rw [recvOne_dead, unpark_dead]; exact hd)
  case case7 => exact fun hd => windDown_aof _ true .ok (by show (unpark _).dead = false; rw [unpark_dead]; exact hd)
  case case8 ih =>
    exact fun hd => ih (((Path.closeFlow _ _ false).frame .dead).trans ((unpark_dead _).trans hd))
  case case9 => exact fun hd => .inl (by rw [unpark_dead]; exact hd)

theorem DeadInv.of_aof {e' : EP} (h : AliveOrFinished e') : DeadInv e' := by
  rcases h with h | ⟨e0, res, rfl⟩
  · intro hc; rw [h] at hc; cases hc
  · intro _ fid i hf; rw [(windDownFinish_resolves e0 res).2.1] at hf; simp at hf

end Penguin.Mux
