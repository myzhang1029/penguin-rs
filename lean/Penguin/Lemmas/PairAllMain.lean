/-
The invariant `PInv` of `Model/PairAll.lean` for ONE direction — the left endpoint writes on flow `x`, object `j` of the
right endpoint reads — and its preservation by every stimulus of either endpoint (`PInv.stimA`, `PInv.stimB`).  The
other direction is the same statement about the swapped pair; the theorem about runs is in `Lemmas/PairAllRun.lean`.
Core Lean only.
-/
import Penguin.Lemmas.PairAllGlue
import Penguin.Lemmas.PairAllGood

namespace Penguin.PairAll
open Penguin.Mux

variable {x j jA : Nat} {ownA ownB : Prop}

def absC (x jA jB : Nat) (p : PS) : PC :=
  { a := view x jA p.a p.a.inbox, b := view x jB p.b p.b.inbox, ab := p.ab, ba := p.ba, abOpen := p.abOpen,
    baOpen := p.baOpen }

/-- The `Push x` payloads an endpoint's sink has taken so far. -/
def sentX (x : Nat) (g : Ghost) : List Bytes := pX x (wireMsgs g.evs)

/-- The payloads the successful writes of an endpoint queued as `Push x`, in order. -/
def wroteX (x : Nat) (g : Ghost) : List Bytes := XL.wrotes (xlOfWrote x g.wrote)

/-- How many `Finish x` were processed for object `j` among end events. -/
def finP (x j : Nat) (D : List EndEv) : Nat := XL.fins (finsOf x j D)

/-- `Good` of the pair of views, with what the ghost records say was sent, accepted and written so far; every
    `Established` slot of either endpoint refers to an object with that id (`SF`); neither id script has run out.
    `Db`: the end events recorded so far for the RIGHT endpoint (`Mux.applyOpEnds` of every stimulus applied to it).
    `jA`: the object of the LEFT endpoint whose acceptance its view follows (`AStep x jA`); this direction does not read
    it, and the end theorems take an index past the left endpoint's objects (`PInv.reach`, `Lemmas/PairAllRun.lean`). -/
structure PInv (x jA j : Nat) (ownA ownB : Prop) (p : PS) (Db : List EndEv) : Prop where
  good : Good x j ownA ownB (absC x jA j p) (sentX x p.ga) (Log.dataOf p.gb.accepted j) (wroteX x p.ga) (finP x j Db)
  sfA : SF p.a
  sfB : SF p.b
  neA : p.a.rng.isEmpty = false
  neB : p.b.rng.isEmpty = false

theorem absC_swap (x jA jB : Nat) (p : PS) : absC x jA jB p.swap = (absC x jB jA p).swap := rfl

theorem wrotes_finsOf (x j : Nat) (D : List EndEv) : XL.wrotes (finsOf x j D) = [] := by
  unfold finsOf
  induction D.filter (fun p => p == (j, EndCause.peerFinish x)) with
  | nil => rfl
  | cons a r ih => simpa [XL.wrotes] using ih

theorem fins_xlOfWrote (x : Nat) (W : List (Nat × Nat × Bytes)) : XL.fins (xlOfWrote x W) = 0 := by
  unfold xlOfWrote
  induction W.filter (fun t => t.2.1 == x) with
  | nil => rfl
  | cons a r ih => simpa [XL.fins] using ih

theorem wroteX_stepG (x : Nat) (e : EP) (g : Ghost) (op : Mux.Op) :
    wroteX x (stepG e g op).2 = wroteX x g ++ XL.wrotes (xlOfWrote x (wroteBy e op (applyOp e op).2.1)) := by
  simp [wroteX, stepG, xlOfWrote_append, XL.wrotes_append]

theorem finP_append (x j : Nat) (a b : List EndEv) : finP x j (a ++ b) = finP x j a + finP x j b := by
  simp [finP, finsOf_append, XL.fins_append]

theorem view_rngNil (x j : Nat) (e : EP) (l : List WsIn) : (view x j e l).rngNil = e.rng.isEmpty := rfl

theorem sentX_stepG (x : Nat) (e : EP) (g : Ghost) (op : Mux.Op) :
    sentX x (stepG e g op).2 = sentX x g ++ pX x (wireMsgs (applyOp e op).2.2) := by
  simp [sentX, stepG, wireMsgs_append, pX_append]

theorem acc_stepG (j : Nat) (e : EP) (g : Ghost) (op : Mux.Op) :
    Log.dataOf (stepG e g op).2.accepted j = Log.dataOf g.accepted j ++ Log.dataOf (settleLog (opStep e op).1) j := by
  simp [stepG, Log.dataOf_append]

theorem isEnd_of {w : WsIn} (hw : w = .eof ∨ w = .err) : isEnd w = true := by
  rcases hw with rfl | rfl <;> rfl

theorem absC_actL (x jA j : Nat) (p : PS) (op : Mux.Op) (ba' : List Msg) (bo' : Bool) :
    absC x jA j { actL p op with ba := ba', baOpen := bo' } =
      { absC x jA j p with a := view x jA (applyOp p.a op).1 (applyOp p.a op).1.inbox,
                           ab := if p.abOpen then p.ab ++ wireMsgs (applyOp p.a op).2.2 else p.ab,
                           ba := ba', baOpen := bo' } := by
  simp only [absC, actL, send, stepG]

theorem absC_actR (x jA j : Nat) (p : PS) (op : Mux.Op) (ab' : List Msg) (ao' : Bool) :
    absC x jA j ({ actL p.swap op with ba := ab', baOpen := ao' } : PS).swap =
      { absC x jA j p with b := view x j (applyOp p.b op).1 (applyOp p.b op).1.inbox,
                           ba := if p.baOpen then p.ba ++ wireMsgs (applyOp p.b op).2.2 else p.ba,
                           ab := ab', abOpen := ao' } := by
  simp only [absC, PS.swap, actL, send, stepG]
  rfl

/-- The stimulus `op` of the left endpoint, seen from the views: the wire to it has been cut back to `ba'` and its
    inbox extended (`va`, with the invariant `g1`), and from there its view runs to that of `applyOp` (`hs`).  `va` and
    the start `v0` of the run are two names for one view, so that a caller passes the run as `star_deliver` states it and
    `(view_deliver_msg …).symm` for `hv`. -/
theorem PInv.afterA (hex : ¬(ownA ∧ ownB)) {p : PS} {Db : List EndEv} (h : PInv x jA j ownA ownB p Db) (op : Mux.Op)
    {va v0 : View} {ba' : List Msg} {bo' : Bool} {acc : List Bytes}
    (g1 : Good x j ownA ownB { absC x jA j p with a := va, ba := ba', baOpen := bo' } (sentX x p.ga)
      (Log.dataOf p.gb.accepted j) (wroteX x p.ga) (finP x j Db))
    (hv : va = v0)
    (hs : J x jA (applyOp p.a op).1 → Star x jA v0 (view x jA (applyOp p.a op).1 (applyOp p.a op).1.inbox)
      (wireMsgs (applyOp p.a op).2.2) acc
      (xlOfWrote x (wroteBy p.a op (applyOp p.a op).2.1) ++ finsOf x jA (applyOpEnds p.a op)))
    (hne : ({ actL p op with ba := ba', baOpen := bo' } : PS).a.rng.isEmpty = false)
    (hj : J x jA ({ actL p op with ba := ba', baOpen := bo' } : PS).a) :
    PInv x jA j ownA ownB ({ actL p op with ba := ba', baOpen := bo' } : PS) Db := by
  subst hv
  have hne' := hne
  rw [actL_with_a] at hne' hj
  have g2 := g1.starL hex (hs hj) ((view_rngNil ..).trans hne')
  refine ⟨g2.cast (absC_actL ..) ?_ rfl ?_ rfl, ?_, h.sfB, hne, h.neB⟩
  · rw [actL_with_ga, sentX_stepG]
  · rw [actL_with_ga, wroteX_stepG, XL.wrotes_append, wrotes_finsOf, List.append_nil]
  · rw [actL_with_a]; exact SF.grow (Grow.applyOp _ _) h.sfA

theorem PInv.afterB (hex : ¬(ownA ∧ ownB)) {p : PS} {Db : List EndEv} (h : PInv x jA j ownA ownB p Db) (op : Mux.Op)
    {vb v0 : View} {ab' : List Msg} {ao' : Bool}
    (g1 : Good x j ownA ownB { absC x jA j p with b := vb, ab := ab', abOpen := ao' } (sentX x p.ga)
      (Log.dataOf p.gb.accepted j) (wroteX x p.ga) (finP x j Db))
    (hv : vb = v0)
    (hs : J x j (applyOp p.b op).1 → Star x j v0 (view x j (applyOp p.b op).1 (applyOp p.b op).1.inbox)
      (wireMsgs (applyOp p.b op).2.2) (Log.dataOf (settleLog (opStep p.b op).1) j)
      (xlOfWrote x (wroteBy p.b op (applyOp p.b op).2.1) ++ finsOf x j (applyOpEnds p.b op)))
    (hne : ({ actL p.swap op with ba := ab', baOpen := ao' } : PS).a.rng.isEmpty = false)
    (hj : J x j ({ actL p.swap op with ba := ab', baOpen := ao' } : PS).a) :
    PInv x jA j ownA ownB ({ actL p.swap op with ba := ab', baOpen := ao' } : PS).swap (Db ++ applyOpEnds p.b op) := by
  subst hv
  have hne' := hne
  rw [actL_with_a, PS.swap_a] at hne' hj
  have g2 := g1.starR hex (hs hj) ((view_rngNil ..).trans hne')
  refine ⟨g2.cast (absC_actR ..) ?_ ?_ ?_ ?_, ?_, ?_, ?_, ?_⟩
  · rw [swap_actL_with_ga]
  · rw [swap_actL_with_gb, acc_stepG]
  · rw [swap_actL_with_ga]
  · rw [finP_append, XL.fins_append, fins_xlOfWrote, Nat.zero_add]; rfl
  · rw [swap_actL_with_a]; exact h.sfA
  · rw [swap_actL_with_b]; exact SF.grow (Grow.applyOp _ _) h.sfB
  · rw [swap_actL_with_a]; exact h.neA
  · rw [swap_actL_with_b]; exact hne'

theorem PInv.stimA (hex : ¬(ownA ∧ ownB)) {p q : PS} {st : Stim} {Db : List EndEv} (h : PInv x jA j ownA ownB p Db)
    (hs : stimL p st = some q) (hne : q.a.rng.isEmpty = false) (hj : J x jA q.a) : PInv x jA j ownA ownB q Db := by
  obtain ⟨op, ba', bo', s, -, rfl⟩ := stimL_elim hs
  -- a delivery, a delivered Close, a cut: one small step of the pair of views that sends and records nothing
  have dl : ∀ {ib : List WsIn}, CStepL x jA (absC x jA j p)
        { absC x jA j p with a := { view x jA p.a p.a.inbox with inbox := ib }, ba := ba', baOpen := bo' } [] [] [] →
      Good x j ownA ownB { absC x jA j p with a := { view x jA p.a p.a.inbox with inbox := ib }, ba := ba', baOpen := bo' }
        (sentX x p.ga) (Log.dataOf p.gb.accepted j) (wroteX x p.ga) (finP x j Db) := fun st =>
    (h.good.stepL hex st h.neA).cast rfl (List.append_nil _).symm rfl (List.append_nil _).symm
  cases s with
  | call _ hc => exact h.afterA hex op h.good rfl (star_call p.a op hc h.sfA) hne hj
  | dlv m _ hba hm =>
    exact h.afterA hex _ (dl (.dlv _ m _ hba hm)) (view_deliver_msg p.a m hm).symm (star_deliver p.a _ h.sfA) hne hj
  | dlvClose rest hba =>
    exact h.afterA hex _ (dl (.dlvClose _ rest hba)) (view_deliver_close p.a).symm (star_deliver p.a _ h.sfA) hne hj
  | cut w hw =>
    exact h.afterA hex _ (dl (.cut _ w (isEnd_of hw))) (view_deliver_end p.a w hw).symm (star_deliver p.a _ h.sfA) hne hj

theorem PInv.stimB (hex : ¬(ownA ∧ ownB)) {p q : PS} {st : Stim} {Db : List EndEv} (h : PInv x jA j ownA ownB p Db)
    (hs : stimL p.swap st = some q) (hne : q.a.rng.isEmpty = false) (hj : J x j q.a) :
    ∃ op, stimOp p.swap st = some op ∧ PInv x jA j ownA ownB q.swap (Db ++ applyOpEnds p.b op) := by
  obtain ⟨op, ab', ao', s, hop, rfl⟩ := stimL_elim hs
  refine ⟨op, hop, ?_⟩
  have dl : ∀ {ib : List WsIn}, CStepL x j (absC x jA j p).swap
        { (absC x jA j p).swap with a := { view x j p.b p.b.inbox with inbox := ib }, ba := ab', baOpen := ao' } [] [] [] →
      Good x j ownA ownB { absC x jA j p with b := { view x j p.b p.b.inbox with inbox := ib }, ab := ab', abOpen := ao' }
        (sentX x p.ga) (Log.dataOf p.gb.accepted j) (wroteX x p.ga) (finP x j Db) := fun st =>
    (h.good.stepR hex st h.neB).cast rfl rfl (List.append_nil _).symm rfl rfl
  cases s with
  | call _ hc => exact h.afterB hex op h.good rfl (star_call p.b op hc h.sfB) hne hj
  | dlv m _ hba hm =>
    exact h.afterB hex _ (dl (.dlv _ m _ hba hm)) (view_deliver_msg p.b m hm).symm (star_deliver p.b _ h.sfB) hne hj
  | dlvClose rest hba =>
    exact h.afterB hex _ (dl (.dlvClose _ rest hba)) (view_deliver_close p.b).symm (star_deliver p.b _ h.sfB) hne hj
  | cut w hw =>
    exact h.afterB hex _ (dl (.cut _ w (isEnd_of hw))) (view_deliver_end p.b w hw).symm (star_deliver p.b _ h.sfB) hne hj

end Penguin.PairAll
