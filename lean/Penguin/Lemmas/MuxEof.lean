/-
End-of-stream soundness for every history of one endpoint and ANY peer (C05).

A read reports end-of-stream exactly when the stream's channel sender is gone (`senderAlive = false`)
and nothing is queued.  This file says WHY a sender can be gone.  The reasons are made explicit as a
ghost that is computed from the history beside the state: `endsOf e ops` lists, in order, every event
`(i, c)` = "the receiving half of stream object `i` was closed for cause `c`" that happens while the
stimuli `ops` are applied to `e`.  The ghost follows the call structure of the model
(`processFrameEnds` beside `processFrame`, …, `settleLoopEnds` beside `settleLoop`; why as mirror functions and not
as a `flatMap` over the leaves of the run, which is what they compute: head of `Lemmas/MuxLeaves.lean`) and records an
event at exactly these places:

 * `peerFinish x` – a `Finish` for id `x` is processed while object `i` holds the slot `x`;
 * `peerReset x`  – a `Reset` for id `x` is processed while object `i` holds the slot `x`;
 * `overrun x`    – a `Push` for id `x` arrives while `i` holds the slot and its queue is full;
 * `dropped x`    – a dropped-handle notification for id `x` is processed while `i` holds the slot
                    (the application dropped the stream, or it could not be handed over at all);
 * `connEnded r`  – the task finishes winding down with result `r` and drains the flow table.

`Tr e e' D` relates a state, a later state and the events recorded in between:
 * stream objects are never removed and a handle keeps denoting the same object (`len`, `hnd`),
   a closed half never reopens (`mono`),
 * every object whose sender is gone in `e'` had it gone in `e` already or has an event in `D`
   (`expl`: nothing else closes a receiving half – in particular no `Push` that fits the window,
   empty or not, no frame for another id, no `Datagram`, `Bind`, `Connect`, `Acknowledge`, `Ping`),
 * every event in `D` is real: the object exists in `e'`, its sender is gone, and, unless the cause
   is the peer's `Finish`, its write side is shut as well (`sound`).
`Tr` is shown for every function of the endpoint model, hence for every stimulus and every history.
Core Lean only.
-/
import Penguin.Lemmas.MuxReach
import Penguin.Lemmas.MuxLeaves
import Penguin.Lemmas.MuxTrace

namespace Penguin.Mux

/-! ### The ghost -/

/-- Why the receiving half of a stream was closed. -/
inductive EndCause where
  | peerFinish (fid : Nat)
  | peerReset (fid : Nat)
  | overrun (fid : Nat)
  | dropped (fid : Nat)
  | connEnded (res : ExitRes)
deriving Repr, DecidableEq

/-- The cause is the peer's orderly shutdown (the only one that leaves the write side usable). -/
def EndCause.isFinish : EndCause → Bool
  | .peerFinish _ => true
  | _ => false

abbrev EndEv := Nat × EndCause

/-- The event recorded when slot `s` is closed for cause `c`: only an `Established` slot whose
    stream object exists has a receiving half. -/
def slotEnds (e : EP) (s : Slot) (c : EndCause) : List EndEv :=
  match s with
  | .established i => if i < e.objs.length then [(i, c)] else []
  | _ => []

def closeFlowEnds (e : EP) (fid : Nat) (c : EndCause) : List EndEv :=
  match lookup e.flows fid with
  | some s => slotEnds e s c
  | none => []

/-- The `Push` overruns the window of the object that holds the slot: its sender and receiver
    exist and the queue is full (`TrySendError::Full`). -/
def overruns (e : EP) (fid : Nat) : Bool :=
  match lookup e.flows fid with
  | some (.established i) =>
    match e.obj? i with
    | some o => o.senderAlive && o.rxOpen && !(decide (o.rxq.length < o.cap))
    | none => false
  | _ => false

/-- Beside `processFrame`: only `Finish`, `Reset` and an overrunning `Push` close a receiving half,
    and only that of the object holding the frame's slot. -/
def processFrameEnds (e : EP) (f : Frame) : List EndEv :=
  match f with
  | .finish fid => closeFlowEnds e fid (.peerFinish fid)
  | .reset fid => closeFlowEnds e fid (.peerReset fid)
  | .push fid _ => if overruns e fid then closeFlowEnds e fid (.overrun fid) else []
  | _ => []

def processInEnds (e : EP) (w : WsIn) : List EndEv :=
  match w with
  | .msg (.frame f) => processFrameEnds e f
  | _ => []

def drainFlowsEnds (e : EP) (res : ExitRes) : List (Nat × Slot) → List EndEv
  | [] => []
  | (fid, s) :: rest => slotEnds e s (.connEnded res) ++ drainFlowsEnds (closeLocal e s fid true true).1 res rest

def windDownFinishEnds (e : EP) (res : ExitRes) : List EndEv := drainFlowsEnds { e with flows := [] } res e.flows

def windDownInboxEnds (e : EP) : List WsIn → List EndEv
  | [] => []
  | .err :: _ => []
  | .eof :: _ => []
  | w :: rest => processInEnds e w ++ windDownInboxEnds { (processIn e w true).1 with park := none } rest

def windDownTailEnds (e1 : EP) (srcEnded : Bool) (res : ExitRes) : List EndEv :=
  windDownInboxEnds e1 e1.inbox ++
    if (windDownInbox e1 e1.inbox).2.2 || srcEnded || res != .ok then
      windDownFinishEnds { (windDownInbox e1 e1.inbox).1 with inbox := [] } res
    else []

def windDownEnds (e : EP) (drain : Bool) (res : ExitRes) : List EndEv :=
  if drain then
    if (sendSome (dropPrep e)).1.outq.isEmpty then windDownTailEnds (sendSome (dropPrep e)).1 e.srcEnded res
    else []
  else windDownTailEnds (windDownPrep e) e.srcEnded res

def drainStepEnds (e : EP) (res : ExitRes) : List EndEv :=
  if (sendSome e).1.outq.isEmpty then windDownTailEnds { (sendSome e).1 with draining := none } e.srcEnded res
  else []

def closingStepEnds (e : EP) (res : ExitRes) : List EndEv :=
  windDownInboxEnds e e.inbox ++
    if (windDownInbox e e.inbox).2.2 then windDownFinishEnds { (windDownInbox e e.inbox).1 with inbox := [] } res
    else []

def recvOneEnds (e : EP) (w : WsIn) (rest : List WsIn) : List EndEv :=
  processInEnds { (if w = .eof ∨ w = .err then { e with srcEnded := true } else e) with inbox := rest } w

/-- The receive loop has an item to take (it is not parked and the inbox is not empty), or else. -/
def recvOrElse {α : Type} (p : Option Park) (l : List WsIn) (A : WsIn → List WsIn → α) (B : α) : α :=
  match p, l with
  | none, w :: rest => A w rest
  | _, _ => B

theorem recvOrElse_recv {α : Type} {p : Option Park} {l : List WsIn} {w : WsIn} {rest : List WsIn}
    (A : WsIn → List WsIn → α) (B : α) (hp : p = none) (hl : l = w :: rest) : recvOrElse p l A B = A w rest :=
  recvCase_pos A B hp hl

theorem recvOrElse_else {α : Type} {p : Option Park} {l : List WsIn}
    (A : WsIn → List WsIn → α) (B : α) (h : ∀ w rest, p = none → l = w :: rest → False) : recvOrElse p l A B = B :=
  recvCase_neg A B h

/-- Beside `settleLoop`: the receive loop (one item, then on), else the notification loop (`0` = the
    `Multiplexor` was dropped: wind down; `fid` = a stream handle was dropped: close that flow). -/
def settleLoopEnds : Nat → EP → List EndEv
  | 0, _ => []
  | fuel + 1, e =>
    if e.dead then [] else
    match e.draining with
    | some res => drainStepEnds e res
    | none =>
    match e.closing with
    | some res => closingStepEnds e res
    | none =>
    recvOrElse (unpark e).park (unpark e).inbox
      (fun w rest =>
        recvOneEnds (unpark e) w rest ++
          match (recvOne (unpark e) w rest).2.2 with
          | some r => windDownEnds (recvOne (unpark e) w rest).1 false r
          | none => settleLoopEnds fuel (recvOne (unpark e) w rest).1)
      (match (unpark e).droppedq with
       | [] => []
       | fid :: rest =>
         if fid = 0 then windDownEnds { unpark e with droppedq := rest } true .ok
         else closeFlowEnds { unpark e with droppedq := rest } fid (.dropped fid) ++
           settleLoopEnds fuel (closeFlow { unpark e with droppedq := rest } fid false).1)

/-- Beside `settle` (what follows the task's loop in `settle` closes nothing). -/
def settleEnds (e : EP) : List EndEv := settleLoopEnds (2 * e.inbox.length + e.droppedq.length + 2) e

/-- Beside `applyOp` (the application call or delivery itself closes nothing). -/
def applyOpEnds (e : EP) (op : Op) : List EndEv := settleEnds (opStep e op).1

/-- Beside `runOps`: every closing of a receiving half during the history `ops`, in order. -/
def endsOf (e : EP) : List Op → List EndEv
  | [] => []
  | op :: rest => applyOpEnds e op ++ endsOf (applyOp e op).1 rest

/-! ### The ghost is what `Leaf.ends` notes at the leaves of the task's run (`Lemmas/MuxLeaves.lean`) -/

def Leaf.ends : Leaf → List EndEv
  | .frame e f => processFrameEnds e f
  | .dropped e fid => closeFlowEnds e fid (.dropped fid)
  | .finish e res => windDownFinishEnds e res

theorem recvOrElse_eq {α : Type} (p : Option Park) (l : List WsIn) (A : WsIn → List WsIn → α) (B : α) :
    recvOrElse p l A B = recvCase p l A B := rfl

theorem processInEnds_eq (e : EP) (w : WsIn) : processInEnds e w = (processInLeaves e w).flatMap Leaf.ends := by
  cases w with
  | msg m => cases m <;> simp [processInEnds, processInLeaves, Leaf.ends]
  | _ => rfl

theorem windDownInboxEnds_eq (e : EP) (l : List WsIn) :
    windDownInboxEnds e l = (windDownInboxLeaves e l).flatMap Leaf.ends := by
  induction l generalizing e with
  | nil => rfl
  | cons w l ih =>
    cases w <;> first | rfl | simp only [windDownInboxEnds, windDownInboxLeaves, List.flatMap_append, processInEnds_eq, ih]

theorem windDownTailEnds_eq (e1 : EP) (s : Bool) (res : ExitRes) :
    windDownTailEnds e1 s res = (windDownTailLeaves e1 s res).flatMap Leaf.ends := by
  simp only [windDownTailEnds, windDownTailLeaves, List.flatMap_append, windDownInboxEnds_eq]
  split <;> simp [Leaf.ends]

theorem windDownEnds_eq (e : EP) (drain : Bool) (res : ExitRes) :
    windDownEnds e drain res = (windDownLeaves e drain res).flatMap Leaf.ends := by
  simp only [windDownEnds, windDownLeaves]
  repeat' split
  all_goals first | rfl | exact windDownTailEnds_eq _ _ _

theorem recvOneEnds_eq (e : EP) (w : WsIn) (rest : List WsIn) :
    recvOneEnds e w rest = (recvOneLeaves e w rest).flatMap Leaf.ends := processInEnds_eq _ w

theorem settleLoopEnds_eq (fuel : Nat) (e : EP) : settleLoopEnds fuel e = (settleLoopLeaves fuel e).flatMap Leaf.ends := by
  induction fuel generalizing e with
  | zero => rfl
  | succ n ih =>
    unfold settleLoopEnds settleLoopLeaves
    cases e.dead with
    | true => rfl
    | false =>
      simp only [Bool.false_eq_true, if_false]
      cases e.draining with
      | some res =>
        simp only [drainStepEnds, drainStepLeaves]
        split
        · exact windDownTailEnds_eq _ _ _
        · rfl
      | none =>
        cases e.closing with
        | some res =>
          simp only [closingStepEnds, closingStepLeaves, List.flatMap_append, windDownInboxEnds_eq]
          split <;> simp [Leaf.ends]
        | none =>
          simp only [recvOrElse_eq, recvCase_map (List.flatMap Leaf.ends)]
          congr 1
          · funext w rest
            rw [List.flatMap_append, ← recvOneEnds_eq]
            split
            · rename_i hr; simp only [hr]; rw [windDownEnds_eq]
            · rename_i hr; simp only [hr]; rw [ih]
          · split
            · rename_i hq; simp only [hq]; rfl
            · rename_i fid rest hq
              simp only [hq]
              split
              · rename_i h0; subst h0; exact windDownEnds_eq _ _ _
              · rename_i h0
                cases fid with
                | zero => exact absurd rfl h0
                | succ k => simp only [List.flatMap_cons, ih]; rfl

theorem settleEnds_eq (e : EP) : settleEnds e = (settleLeaves e).flatMap Leaf.ends := settleLoopEnds_eq _ e

/-- The ghost `endCause i`: the first recorded cause for stream object `i`. -/
def endCause (D : List EndEv) (i : Nat) : Option EndCause := (D.find? (fun p => p.1 == i)).map (·.2)

theorem endCause_isSome_of_mem {D : List EndEv} {i : Nat} {c : EndCause} (h : (i, c) ∈ D) :
    (endCause D i).isSome = true := by
  unfold endCause
  rw [Option.isSome_map, List.find?_isSome]
  exact ⟨(i, c), h, by simp⟩

theorem endCause_mem {D : List EndEv} {i : Nat} {c : EndCause} (h : endCause D i = some c) : (i, c) ∈ D := by
  unfold endCause at h
  cases hf : D.find? (fun p => p.1 == i) with
  | none => rw [hf] at h; cases h
  | some p =>
    rw [hf] at h
    simp only [Option.map_some, Option.some.injEq] at h
    have h1 := List.mem_of_find?_eq_some hf
    have h2 := List.find?_some hf
    simp only [beq_iff_eq] at h2
    obtain ⟨a, b⟩ := p
    simp only at h h2
    subst h; subst h2
    exact h1

/-! ### The relation -/

structure Tr (e e' : EP) (D : List EndEv) : Prop where
  len : e.objs.length ≤ e'.objs.length
  hnd : ∀ (h i : Nat), e.handles[h]? = some i → e'.handles[h]? = some i
  mono : ∀ (i : Nat) (o o' : Obj), e.objs[i]? = some o → e'.objs[i]? = some o' →
    (o.senderAlive = false → o'.senderAlive = false) ∧ (o.finishSent = true → o'.finishSent = true)
  expl : ∀ (i : Nat) (o' : Obj), e'.objs[i]? = some o' → o'.senderAlive = false →
    (∃ o, e.objs[i]? = some o ∧ o.senderAlive = false) ∨ ∃ c, (i, c) ∈ D
  sound : ∀ (i : Nat) (c : EndCause), (i, c) ∈ D →
    ∃ o', e'.objs[i]? = some o' ∧ o'.senderAlive = false ∧ (c.isFinish = false → o'.finishSent = true)

theorem Tr.grow {e e' : EP} (h : e'.objs = e.objs)
    (hh : ∀ (k i : Nat), e.handles[k]? = some i → e'.handles[k]? = some i) : Tr e e' [] :=
  ⟨by rw [h]; exact Nat.le_refl _, hh,
   by intro i o o' h1 h2; rw [h, h1] at h2; cases h2; exact ⟨id, id⟩,
   by intro i o' h1 h2; rw [h] at h1; exact Or.inl ⟨o', h1, h2⟩,
   by intro i c hm; cases hm⟩

theorem Tr.same {e e' : EP} (h : e'.objs = e.objs) (hh : e'.handles = e.handles) : Tr e e' [] :=
  Tr.grow h (by rw [hh]; exact fun _ _ x => x)

theorem Tr.refl (e : EP) : Tr e e [] := Tr.same rfl rfl

theorem Tr.trans {a b d : EP} {D1 D2 : List EndEv} (s : Tr a b D1) (t : Tr b d D2) : Tr a d (D1 ++ D2) := by
  refine ⟨Nat.le_trans s.len t.len, fun h i x => t.hnd h i (s.hnd h i x), ?_, ?_, ?_⟩
  · intro i o o'' h1 h3
    have hlt : i < b.objs.length := Nat.lt_of_lt_of_le (List.getElem?_eq_some_iff.mp h1).1 s.len
    obtain ⟨o', h2⟩ : ∃ o', b.objs[i]? = some o' := ⟨b.objs[i], List.getElem?_eq_getElem hlt⟩
    have m1 := s.mono i o o' h1 h2
    have m2 := t.mono i o' o'' h2 h3
    exact ⟨fun h => m2.1 (m1.1 h), fun h => m2.2 (m1.2 h)⟩
  · intro i o'' h3 hs
    rcases t.expl i o'' h3 hs with ⟨o', h2, hs'⟩ | ⟨c, hc⟩
    · rcases s.expl i o' h2 hs' with h | ⟨c, hc⟩
      · exact Or.inl h
      · exact Or.inr ⟨c, List.mem_append_left _ hc⟩
    · exact Or.inr ⟨c, List.mem_append_right _ hc⟩
  · intro i c hm
    rcases List.mem_append.mp hm with hm | hm
    · obtain ⟨o', h2, hs, hf⟩ := s.sound i c hm
      have hlt : i < d.objs.length := Nat.lt_of_lt_of_le (List.getElem?_eq_some_iff.mp h2).1 t.len
      obtain ⟨o'', h3⟩ : ∃ o'', d.objs[i]? = some o'' := ⟨d.objs[i], List.getElem?_eq_getElem hlt⟩
      have m := t.mono i o' o'' h2 h3
      exact ⟨o'', h3, m.1 hs, fun hc => m.2 (hf hc)⟩
    · exact t.sound i c hm

theorem Tr.cast {a b : EP} {D D' : List EndEv} (s : Tr a b D) (h : D = D') : Tr a b D' := h ▸ s

theorem Tr.after0 {a b c : EP} {D : List EndEv} (t : Tr b c D) (s : Tr a b []) : Tr a c D := s.trans t
theorem Tr.then0 {a b c : EP} {D : List EndEv} (s : Tr a b D) (t : Tr b c []) : Tr a c D :=
  (s.trans t).cast (List.append_nil D)

/-! ### Building blocks -/

theorem Tr.modObj (e : EP) (i : Nat) (f : Obj → Obj)
    (hf : ∀ o, e.objs[i]? = some o →
      (f o).senderAlive = o.senderAlive ∧ (o.finishSent = true → (f o).finishSent = true)) :
    Tr e (e.modObj i f) [] := by
  have back := fun {j o'} => modObj_back (j := j) (o' := o')
    (R := fun o o' => o'.senderAlive = o.senderAlive ∧ (o.finishSent = true → o'.finishSent = true)) hf
  refine ⟨by simp, fun _ _ x => x, ?_, ?_, by intro j c hm; cases hm⟩
  · intro j o o' h1 h2
    obtain ⟨o0, h0, hr⟩ := back h2
    obtain rfl : o0 = o := Option.some.inj (h0.symm.trans h1)
    rcases hr with rfl | hr
    · exact ⟨id, id⟩
    · exact ⟨fun h => hr.1.trans h, hr.2⟩
  · intro j o' h2 hs
    obtain ⟨o, h0, hr⟩ := back h2
    refine Or.inl ⟨o, h0, ?_⟩
    rcases hr with rfl | hr
    · exact hs
    · exact hr.1.symm.trans hs

/-- An object update that closes the receiving half of object `i` for cause `c`. -/
theorem Tr.modObjClose (e : EP) (i : Nat) (f : Obj → Obj) (c : EndCause) (hi : i < e.objs.length)
    (hf : ∀ o, e.objs[i]? = some o → (f o).senderAlive = false ∧
      (o.finishSent = true → (f o).finishSent = true) ∧ (c.isFinish = false → (f o).finishSent = true)) :
    Tr e (e.modObj i f) [(i, c)] := by
  refine ⟨by simp, fun _ _ x => x, ?_, ?_, ?_⟩
  · intro j o o' h1 h2
    by_cases hj : j = i
    · subst hj
      rw [modObj_get_self, h1] at h2
      simp only [Option.map_some, Option.some.injEq] at h2
      subst h2
      have := hf o h1
      exact ⟨fun _ => this.1, this.2.1⟩
    · rw [modObj_get_ne _ _ _ _ hj, h1] at h2; cases h2; exact ⟨id, id⟩
  · intro j o' h2 hs
    by_cases hj : j = i
    · subst hj; exact Or.inr ⟨c, by simp⟩
    · rw [modObj_get_ne _ _ _ _ hj] at h2; exact Or.inl ⟨o', h2, hs⟩
  · intro j c' hm
    simp only [List.mem_singleton, Prod.mk.injEq] at hm
    obtain ⟨rfl, rfl⟩ := hm
    have ho : e.objs[j]? = some e.objs[j] := List.getElem?_eq_getElem hi
    have := hf _ ho
    exact ⟨f e.objs[j], by rw [modObj_get_self, ho]; rfl, this.1, this.2.2⟩

theorem enq_handles_eof (e : EP) (m : Msg) : (e.enq m).handles = e.handles := enq_frame e m .handles

theorem Tr.enq (e : EP) (m : Msg) : Tr e (e.enq m) [] := Tr.same (by simp) (enq_handles_eof e m)
theorem Tr.enqFrame (e : EP) (f : Frame) : Tr e (e.enqFrame f) [] := Tr.enq e _

theorem Tr.addObj {e e' : EP} (o : Obj) (ho : o.senderAlive = true) (h : e'.objs = e.objs ++ [o])
    (hh : e'.handles = e.handles) : Tr e e' [] := by
  refine ⟨by rw [h]; simp, by rw [hh]; exact fun _ _ x => x, ?_, ?_, by intro j c hm; cases hm⟩
  · intro j o1 o2 h1 h2
    have hlt := (List.getElem?_eq_some_iff.mp h1).1
    rw [h, List.getElem?_append_left hlt, h1] at h2; cases h2; exact ⟨id, id⟩
  · intro j o2 h2 hs
    rw [h] at h2
    by_cases hlt : j < e.objs.length
    · rw [List.getElem?_append_left hlt] at h2; exact Or.inl ⟨o2, h2, hs⟩
    · have hlen : j < (e.objs ++ [o]).length := (List.getElem?_eq_some_iff.mp h2).1
      have : j = e.objs.length := by simp at hlen; omega
      subst this
      simp at h2; subst h2; rw [ho] at hs; cases hs

/-! ### Kind by kind: every primitive step but two closes no receiving half (`Lemmas/MuxTrace.lean`) -/

theorem Tr.handle {e e' : EP} {i : Nat} (h : e'.objs = e.objs) (hh : e'.handles = e.handles ++ [i]) : Tr e e' [] :=
  Tr.grow h fun k j hk => by
    rw [hh, List.getElem?_append_left (List.getElem?_eq_some_iff.mp hk).1]; exact hk

/-- The kinds of step that close a receiving half. -/
def Tr.bad : Kinds := .of [.obj .closeWrite, .obj .senderGone]

theorem OUpd.tr_keeps {ok : OKind} {o o' : Obj} (u : OUpd ok o o') (hk : Kind.obj ok ∉ Tr.bad) :
    o'.senderAlive = o.senderAlive ∧ (o.finishSent = true → o'.finishSent = true) := by
  cases u with
  | closeWrite | senderGone => exact absurd (by decide +kernel) hk
  | disallowWrite | grant => simp only [Obj.disallowWrite, Obj.wake]; split <;> simp
  | shutdown => exact ⟨rfl, fun _ => rfl⟩
  | _ => exact ⟨rfl, id⟩

theorem Tr.of_upd {k : Kind} {e e' : EP} {x : List Ev} (hk : k ∉ Tr.bad) (u : Upd k e x e') : Tr e e' [] := by
  cases u with
  | obj ok _ i f h => exact Tr.modObj e i f fun o ho => (h o ho).tr_keeps hk
  | newStream _ fid rwnd host port => exact Tr.addObj (newObj e.opts fid rwnd host port) rfl rfl rfl
  | enq => exact Tr.enq _ _
  | send => exact Tr.same ((Upd.send e).frame .objs (by decide +kernel)) ((Upd.send e).frame .handles (by decide +kernel))
  | queue q => exact Tr.same (q.frame .objs) (q.frame .handles)
  | ctl c =>
    cases c with
    | handle => exact Tr.handle rfl rfl
    | _ => exact Tr.same rfl rfl
  | req r =>
    cases r with
    | handOver | handOut => exact Tr.handle rfl rfl
    | _ => exact Tr.same rfl rfl
  | _ => exact Tr.same rfl rfl

theorem Tr.of_path {A : Kinds} {e e' : EP} {x : List Ev} (p : Path A e x e')
    (hA : A.disj Tr.bad = true := by decide +kernel) : Tr e e' [] :=
  p.rel0 (R := fun e e' => Tr e e' []) Tr.refl Tr.trans fun hk u => .of_upd (Kinds.not_mem_of_disj hA hk) u

theorem Tr.openRound (e : EP) (r : OpenReq) : Tr e (openRound e r).1 [] := .of_path (.openRoundAny e r)

theorem Tr.openRejected (e : EP) (req : Nat) (final : Bool) : Tr e (openRejected e req final).1 [] := by
  refine Tr.same (openRejected_objs e req final) ?_
  unfold Mux.openRejected
  repeat' split
  all_goals rfl

theorem slotEnds_congr {e e' : EP} (h : e'.objs = e.objs) (s : Slot) (c : EndCause) : slotEnds e' s c = slotEnds e s c := by
  unfold slotEnds; rw [h]

theorem Tr.closeLocal (e : EP) (s : Slot) (fid : Nat) (inh final : Bool) (c : EndCause) :
    Tr e (Mux.closeLocal e s fid inh final).1 (slotEnds e s c) := by
  unfold Mux.closeLocal slotEnds
  cases s with
  | established i =>
    simp only
    cases ho : e.obj? i with
    | none =>
      have hn : ¬ i < e.objs.length := by
        intro hlt; unfold EP.obj? at ho; rw [List.getElem?_eq_getElem hlt] at ho; cases ho
      simp only [hn, if_false]; exact Tr.refl e
    | some o =>
      have hlt : i < e.objs.length := by unfold EP.obj? at ho; exact (List.getElem?_eq_some_iff.mp ho).1
      simp only [hlt, if_true]
      have g := Tr.modObjClose e i (fun o => { o.disallowWrite with senderAlive := false }) c hlt
        (by intro o _; exact ⟨rfl, fun _ => rfl, fun _ => rfl⟩)
      split
      · exact g.then0 (Tr.enqFrame _ _)
      · exact g
  | requested req => exact Tr.openRejected e req final
  | bindRequested req => exact Tr.refl e

theorem Tr.closeFlow (e : EP) (fid : Nat) (inh : Bool) (c : EndCause) :
    Tr e (closeFlow e fid inh).1 (closeFlowEnds e fid c) := by
  unfold Mux.closeFlow closeFlowEnds
  cases hl : lookup e.flows fid with
  | none => exact Tr.refl e
  | some s =>
    simp only
    have g := Tr.closeLocal { e with flows := erase e.flows fid } s fid inh false c
    exact Tr.after0 g (Tr.same rfl rfl)

theorem overruns_spec {e : EP} {fid : Nat} (h : overruns e fid = true) :
    ∃ i o, lookup e.flows fid = some (.established i) ∧ e.objs[i]? = some o ∧ o.senderAlive = true ∧
      o.rxOpen = true ∧ ¬ o.rxq.length < o.cap := by
  unfold overruns at h
  split at h
  · rename_i i hl
    split at h
    · rename_i o ho
      simp only [Bool.and_eq_true, Bool.not_eq_true', decide_eq_false_iff_not] at h
      exact ⟨i, o, hl, ho, h.1.1, h.1.2, h.2⟩
    · cases h
  · cases h

theorem Tr.processFrame (e : EP) (f : Frame) (ig : Bool) : Tr e (processFrame e f ig).1 (processFrameEnds e f) := by
  -- only `Finish`, `Reset` and `Push` take a step that closes a receiving half; of the other frames nothing is recorded
  have p := Path.processFrameOf e f ig
  cases f with
  | finish fid =>
    simp only [Mux.processFrame, processFrameEnds, closeFlowEnds]
    cases hl : lookup e.flows fid with
    | none => exact Tr.enqFrame _ _
    | some s =>
      cases s with
      | bindRequested req => exact Tr.same rfl rfl
      | requested req => exact Tr.after0 (Tr.enqFrame _ _) (Tr.same rfl rfl)
      | established i =>
        simp only [slotEnds]
        split
        · rename_i hlt
          exact Tr.modObjClose e i _ _ hlt (by intro o _; exact ⟨rfl, id, fun h => by cases h⟩)
        · rename_i hn
          refine Tr.same ?_ rfl
          simp [EP.modObj, setObj, List.modify_eq_self (Nat.le_of_not_lt hn)]
  | reset fid =>
    simp only [Mux.processFrame, processFrameEnds]
    exact Tr.closeFlow e fid true _
  | push fid d =>
    simp only [Mux.processFrame, processFrameEnds]
    cases hov : overruns e fid with
    | true =>
      obtain ⟨i, o, hl, ho, hsa, hro, hfull⟩ := overruns_spec hov
      have ho' : e.obj? i = some o := ho
      simp only [hl, ho', hsa, hro, hfull, if_true, if_false, Bool.not_true, Bool.false_eq_true]
      exact Tr.closeFlow e fid false _
    | false =>
      simp only [Bool.false_eq_true, if_false]
      split
      · rename_i i hl
        split
        · exact Tr.refl e
        · rename_i o ho
          split
          · exact Tr.enqFrame _ _
          · split
            · exact Tr.refl e
            · split
              · exact Tr.modObj _ _ _ fun o _ => ⟨rfl, id⟩
              · rename_i h1 h2 h3
                exfalso
                unfold overruns at hov
                simp only [hl, ho] at hov
                simp_all
                omega
      · exact Tr.enqFrame _ _
  | _ => exact .of_path p (by dsimp only [K.processFrameOf]; decide +kernel)

/-! ### Wind-down -/

theorem Tr.drainFlows (e : EP) (res : ExitRes) (l : List (Nat × Slot)) :
    Tr e (drainFlows e l).1 (drainFlowsEnds e res l) := by
  induction l generalizing e with
  | nil => exact Tr.refl e
  | cons p l ih =>
    obtain ⟨fid, s⟩ := p
    simp only [Mux.drainFlows, drainFlowsEnds]
    exact (Tr.closeLocal e s fid true true (.connEnded res)).trans (ih _)

theorem Tr.windDownFinish (e : EP) (res : ExitRes) : Tr e (windDownFinish e res).1 (windDownFinishEnds e res) := by
  have g0 : Tr e { e with flows := [] } [] := Tr.same rfl rfl
  have g1 := Tr.after0 (Tr.drainFlows { e with flows := [] } res e.flows) g0
  simp only [Mux.windDownFinish, windDownFinishEnds]
  exact g1.then0 (Tr.same rfl rfl)

/-! ### The task's loops -/

theorem Tr.unpark (e : EP) : Tr e (unpark e) [] := .of_path (.unpark e)

theorem Tr.runRetries (e : EP) (l : List Nat) : Tr e (runRetries e l).1 [] := .of_path (.runRetries e l)

theorem Tr.runDone (e : EP) (l : List (Nat × Nat)) : Tr e (runDone e l).1 [] := .of_path (.runDone e l)

/-! ### The task's run: `Tr` holds across the functions the task is made of, hence across its loops -/

theorem Tr.walk : Walk (fun e e' _ L => Tr e e' (L.flatMap Leaf.ends)) :=
  .ofLog Tr.refl Tr.trans (fun _ _ _ _ _ _ _ => Tr.same rfl rfl) Tr.processFrame
    (fun e fid => Tr.closeFlow e fid false (.dropped fid)) Tr.windDownFinish Tr.unpark (fun e => .of_path (.sendSome e))
    (fun e => .of_path (.dropPrep e)) (fun e => .of_path (.windDownPrep e)) (fun e => .of_path (.runDoneq e))
    (fun e => .of_path (.runRetryq e))

theorem Tr.windDown (e : EP) (drain : Bool) (res : ExitRes) :
    Tr e (windDown e drain res).1 (windDownEnds e drain res) :=
  windDownEnds_eq e drain res ▸ Tr.walk.windDown e drain res

theorem Tr.settleLoop (fuel : Nat) (e : EP) (acc : List Ev) :
    Tr e (settleLoop fuel e acc).1 (settleLoopEnds fuel e) :=
  let ⟨_, _, h⟩ := Tr.walk.settleLoop fuel e acc; settleLoopEnds_eq fuel e ▸ h

/-- What follows the task's loop in `settle` closes nothing. -/
theorem Tr.settle (e : EP) : Tr e (settle e).1 (settleEnds e) := settleEnds_eq e ▸ Tr.walk.settle e

theorem Tr.appWrite (e : EP) (h : Nat) (d : Bytes) : Tr e (appWrite e h d).1 [] := .of_path (.appWrite e h d)

theorem Tr.fillBuf (fuel : Nat) (e : EP) (i : Nat) : Tr e (fillBuf fuel e i).1 [] := .of_path (.fillBuf fuel e i)

theorem Tr.appRead (e : EP) (h n : Nat) : Tr e (appRead e h n).1 [] := .of_path (.appRead e h n)

theorem Tr.appShutdown (e : EP) (h : Nat) : Tr e (appShutdown e h).1 [] := .of_path (.appShutdown e h)

theorem Tr.appDropStream (e : EP) (h : Nat) : Tr e (appDropStream e h).1 [] := .of_path (.appDropStream e h)

theorem Tr.appBindReq (e : EP) (req : Nat) (bt : BindType) (host : Bytes) (port : Nat) :
    Tr e (appBindReq e req bt host port).1 [] := .of_path (.appBindReq e req bt host port)

theorem Tr.appBindNext (e : EP) : Tr e (appBindNext e).1 [] := .of_path (.appBindNext e)

theorem Tr.appBindReply (e : EP) (k : Nat) (a : Bool) : Tr e (appBindReply e k a).1 [] := .of_path (.appBindReply e k a)

theorem Tr.appBindDrop (e : EP) (k : Nat) : Tr e (appBindDrop e k).1 [] := .of_path (.appBindDrop e k)

theorem Tr.opStep (e : EP) (op : Op) : Tr e (opStep e op).1 [] := .of_path (.opStepAny e op)

/-! ### Every stimulus, every history -/

theorem Tr.applyOp (e : EP) (op : Op) : Tr e (applyOp e op).1 (applyOpEnds e op) := by
  rw [applyOp_fst]
  exact Tr.after0 (Tr.settle (Mux.opStep e op).1) (Tr.opStep e op)

theorem Tr.runOps (e : EP) (ops : List Op) : Tr e (runOps e ops) (endsOf e ops) := by
  induction ops generalizing e with
  | nil => exact Tr.refl e
  | cons op rest ih => rw [runOps_cons]; exact (Tr.applyOp e op).trans (ih _)

/-- The initial endpoint has no stream objects, so in a reachable state every sender that is gone has
    a recorded cause … -/
theorem reachable_gone_has_cause (o : Opts) (ops : List Op) (i : Nat) (ob : Obj)
    (ho : (runOps { opts := o } ops).objs[i]? = some ob) (hs : ob.senderAlive = false) :
    ∃ c, endCause (endsOf { opts := o } ops) i = some c := by
  rcases (Tr.runOps { opts := o } ops).expl i ob ho hs with ⟨o0, h0, _⟩ | ⟨c, hc⟩
  · simp at h0
  · have := endCause_isSome_of_mem hc
    cases hcc : endCause (endsOf { opts := o } ops) i with
    | none => rw [hcc] at this; cases this
    | some c' => exact ⟨c', rfl⟩

/-- … and every recorded cause is real. -/
theorem reachable_cause_is_real (e : EP) (ops : List Op) (i : Nat) (c : EndCause)
    (hc : (i, c) ∈ endsOf e ops) :
    ∃ ob, (runOps e ops).objs[i]? = some ob ∧ ob.senderAlive = false ∧ (c.isFinish = false → ob.finishSent = true) :=
  (Tr.runOps e ops).sound i c hc

end Penguin.Mux
