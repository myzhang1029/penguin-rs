/-
`Lemmas/MuxWfFrames.lean` continued to the level the correspondence harness drives one endpoint at:
one stimulus = one application call or one delivery, then the task (receive loop, notifications,
send loop, wind-down when the connection ends) and the open futures run to quiescence
(`Mux.applyOp`).  Every message handed to the sink by any stimulus — including the messages flushed
during the wind-down after the `Multiplexor` was dropped — is well-formed, and the endpoint
invariant is kept.
-/
import Penguin.Lemmas.MuxWfFrames
import Penguin.Lemmas.MuxIdle
import Penguin.Lemmas.MuxLeaves

namespace Penguin.Mux
open Penguin.Pair (wiresOf wiresOf_append wiresOf_map_wire)

/-- The messages among the events (those handed to the sink) are well-formed. -/
def EvsWf (evs : List Ev) : Prop := ∀ m ∈ wiresOf evs, m.wf

theorem EvsWf.nil : EvsWf [] := by intro m hm; cases hm

theorem EvsWf.of_none {evs : List Ev} (h : wiresOf evs = []) : EvsWf evs := by
  intro m hm; rw [h] at hm; cases hm

theorem EvsWf.append {a b : List Ev} (ha : EvsWf a) (hb : EvsWf b) : EvsWf (a ++ b) := by
  intro m hm
  rw [wiresOf_append] at hm
  rcases List.mem_append.mp hm with hm | hm
  · exact ha m hm
  · exact hb m hm

/-- Only the send loop hands anything to the sink. -/
theorem EvsWf.of_path {A : Kinds} {e e' : EP} {evs : List Ev} (p : Path A e evs e')
    (hA : A.disj EvSort.wire.emitters = true := by decide +kernel) : EvsWf evs := .of_none (p.no_wires hA)

/-- The send loop hands over (a prefix of) the queue: well-formed messages. -/
theorem Good.sendSome {e : EP} (h : Good e) : Good (Mux.sendSome e).1 ∧ EvsWf (Mux.sendSome e).2 := by
  unfold Mux.sendSome
  split
  · refine ⟨{ h with out := by intro m hm; cases hm }, ?_⟩
    intro m hm; rw [wiresOf_map_wire] at hm; exact h.out m hm
  · rename_i n _
    refine ⟨{ h with out := fun m hm => h.out m (List.mem_of_mem_drop hm) }, ?_⟩
    intro m hm; rw [wiresOf_map_wire] at hm; exact h.out m (List.mem_of_mem_take hm)

theorem Good.disallowAll {e : EP} (h : Good e) (l : List (Nat × Slot)) : Good (Mux.disallowAll e l) := by
  induction l generalizing e with
  | nil => exact h
  | cons p rest ih =>
    obtain ⟨k, s⟩ := p
    cases s with
    | established i => exact ih (h.modObj i (fun o ho => ho.disallowWrite))
    | requested r => exact ih h
    | bindRequested r => exact ih h

theorem Good.windDownPrep {e : EP} (h : Good e) : Good (Mux.windDownPrep e) := by
  have h1 := h.disallowAll e.flows
  exact { h1 with park := (by intro b hb; cases hb), out := (by intro m hm; cases hm) }

theorem Good.dropPrep {e : EP} (h : Good e) : Good (Mux.dropPrep e) := by
  have h1 := h.disallowAll e.flows
  exact { h1 with park := (by intro b hb; cases hb) }

theorem Good.drainFlows {e : EP} (h : Good e) (l : List (Nat × Slot)) (hl : ∀ p ∈ l, p.1 < 4294967296) :
    Good (Mux.drainFlows e l).1 := by
  induction l generalizing e with
  | nil => exact h
  | cons p rest ih =>
    obtain ⟨fid, s⟩ := p
    simp only [Mux.drainFlows]
    exact ih (h.closeLocal s fid (hl (fid, s) (by simp)) true true) (fun p hp => hl p (List.mem_cons_of_mem _ hp))

theorem Good.windDownFinish {e : EP} (h : Good e) (res : ExitRes) : Good (Mux.windDownFinish e res).1 := by
  have h0 : Good { e with flows := [] } := { h with flows := by intro p hp; cases hp }
  have h1 := h0.drainFlows e.flows h.flows
  simp only [Mux.windDownFinish]
  exact { h1 with park := (by intro b hb; cases hb), opens := fun r hr => h1.opens r (List.mem_filter.mp hr).1 }

theorem Good.windDownInbox {e : EP} (h : Good e) (l : List WsIn) (hl : ∀ w ∈ l, w.wf) :
    Good (Mux.windDownInbox e l).1 := by
  induction l generalizing e with
  | nil => exact h
  | cons w rest ih =>
    have step : Good (Mux.windDownInbox { (Mux.processIn e w true).1 with park := none } rest).1 :=
      ih (e := { (Mux.processIn e w true).1 with park := none })
        { h.processIn w (hl w (by simp)) true with park := by intro b hb; cases hb }
        (fun x hx => hl x (List.mem_cons_of_mem _ hx))
    cases w with
    | err => exact h
    | eof => exact h
    | msg m => simpa only [Mux.windDownInbox] using step
    | bad err => simpa only [Mux.windDownInbox] using step

theorem Good.recvOne {e : EP} (h : Good e) (w : WsIn) (rest : List WsIn) (hi : e.inbox = w :: rest) :
    Good (Mux.recvOne e w rest).1 := by
  have hw : w.wf := h.inbox w (by rw [hi]; simp)
  have hr : ∀ x ∈ rest, x.wf := fun x hx => h.inbox x (by rw [hi]; exact List.mem_cons_of_mem _ hx)
  unfold Mux.recvOne
  refine Good.processIn ?_ w hw false
  split
  · exact { h with inbox := hr }
  · exact { h with inbox := hr }

/-- The invariant is kept and what goes to the sink is well-formed, across the loops and case distinctions of the task.
    `Good` reads the inbox (what the transport delivered has been decoded), so the fields are given one by one: what is
    taken from the inbox, or left in it, was in it. -/
theorem Good.walk : Walk (fun e e' evs _ => Good e → Good e' ∧ EvsWf evs) where
  refl _ h := ⟨h, EvsWf.nil⟩
  trans p q h := ⟨(q (p h).1).1, (p h).2.append (q (p h).1).2⟩
  ctl _ _ _ h := ⟨{ h with }, EvsWf.nil⟩
  recv e w rest hi h := ⟨h.recvOne w rest hi, .of_path (.recvOne e w rest)⟩
  pass e h :=
    ⟨{ h.windDownInbox e.inbox h.inbox with inbox := fun w hw => h.inbox w (mem_of_mem_endRest hw) },
     .of_path (.windDownInbox e e.inbox)⟩
  finish e res h :=
    ⟨Good.windDownFinish (e := { e with inbox := [] }) { h with inbox := fun _ hw => nomatch hw } res,
     .of_path (.windDownFinish _ res)⟩
  dropMux _ _ _ h := ⟨{ h with }, EvsWf.nil⟩
  dropped e fid rest _ _ h :=
    ⟨Good.closeFlow (e := { e with droppedq := rest }) { h with } fid false, EvsWf.of_path (.closeFlow _ fid false)⟩
  unpark _ h := ⟨h.unpark, EvsWf.nil⟩
  send _ h := h.sendSome
  wireClose _ h := ⟨h, EvsWf.of_none rfl⟩
  dropPrep _ h := ⟨h.dropPrep, EvsWf.nil⟩
  windDownPrep _ h := ⟨h.windDownPrep, EvsWf.nil⟩
  done a h := ⟨Good.runDone (e := { a with doneq := [] }) { h with } _, .of_path (.runDoneq a)⟩
  retry a h := ⟨Good.runRetries (e := { a with retryq := [] }) { h with } _, .of_path (.runRetryq a)⟩

theorem Good.windDown {e : EP} (h : Good e) (drain : Bool) (res : ExitRes) :
    Good (Mux.windDown e drain res).1 ∧ EvsWf (Mux.windDown e drain res).2 := Good.walk.windDown e drain res h

theorem Good.settleLoop {e : EP} (h : Good e) (fuel : Nat) (acc : List Ev) (ha : EvsWf acc) :
    Good (Mux.settleLoop fuel e acc).1 ∧ EvsWf (Mux.settleLoop fuel e acc).2 := by
  obtain ⟨evs, h1, h2⟩ := Good.walk.settleLoop fuel e acc
  rw [h1]
  exact ⟨(h2 h).1, ha.append (h2 h).2⟩

theorem Good.settle {e : EP} (h : Good e) : Good (settle e).1 ∧ EvsWf (settle e).2 := Good.walk.settle e h

/-- The ranges the Rust types give a stimulus: ports are `u16`, a `Datagram`'s flow id is a `u32`,
    and what the transport delivers has been decoded (`C09.decode_fields`: a decoded frame is in range). -/
def Op.inRange : Op → Prop
  | .open _ _ port => port < 65536
  | .sendDgram d => d.fid < 4294967296 ∧ d.port < 65536
  | .bindReq _ _ _ port => port < 65536
  | .deliver w => w.wf
  | _ => True

instance (op : Op) : Decidable op.inRange := by
  cases op <;> unfold Op.inRange <;> infer_instance

theorem inbox_append {l : List WsIn} (h : ∀ w ∈ l, w.wf) {l' : List WsIn} (h' : ∀ w ∈ l', w.wf) :
    ∀ w ∈ l ++ l', w.wf := by
  intro w hw
  rcases List.mem_append.mp hw with hw | hw
  · exact h w hw
  · exact h' w hw

theorem Good.opStep {e : EP} (h : Good e) (op : Op) (hop : op.inRange) :
    Good (opStep e op).1 ∧ EvsWf (opStep e op).2.2 := by
  refine ⟨?_, .of_path (.opStepAny e op)⟩
  cases op with
  | «open» req host port =>
    simp only [Mux.opStep]
    split
    · exact h
    · exact h.appOpen req host port hop
  | accept => exact h.appAccept
  | write hd d => exact h.appWrite hd d
  | read hd n => exact h.appRead hd n
  | shutdown hd => exact h.appShutdown hd
  | dropStream hd => exact h.appDropStream hd
  | sendDgram d => exact h.appSendDgram d hop.1 hop.2
  | recvDgram => exact h.appRecvDgram
  | bindReq req bt host port => exact h.appBindReq req bt host port hop
  | bindNext => exact h.appBindNext
  | bindReply k a => exact h.appBindReply k a
  | bindDrop k => exact h.appBindDrop k
  | dropMux => exact h.appDropMux
  | sinkRoom n => exact { h with }
  | cancelOpen req => exact { h with opens := opens_filter h.opens _ }
  | deliver w =>
    simp only [Mux.opStep]
    split
    · exact h
    · split
      · refine { h with inbox := inbox_append h.inbox ?_ }
        intro x hx
        simp only [List.mem_cons, List.not_mem_nil, or_false] at hx
        rcases hx with rfl | rfl <;> trivial
      · refine { h with inbox := inbox_append h.inbox ?_ }
        intro x hx
        simp only [List.mem_singleton] at hx
        subst hx; exact hop

/-- One stimulus of the correspondence harness (the call or delivery, then the task and the open
    futures run to quiescence, wind-down included): the endpoint invariant is kept, the queue holds
    well-formed messages, and every message handed to the sink is well-formed. -/
theorem Good.applyOp {e : EP} (h : Good e) (op : Op) (hop : op.inRange) :
    Good (applyOp e op).1 ∧ EvsWf (applyOp e op).2.2 := by
  have h1 := h.opStep op hop
  have h2 := h1.1.settle
  rw [applyOp_fst, applyOp_evs]
  exact ⟨h2.1, h1.2.append h2.2⟩

theorem Good.runOps {e : EP} (h : Good e) (ops : List Op) (hops : ∀ op ∈ ops, op.inRange) : Good (runOps e ops) := by
  induction ops generalizing e with
  | nil => exact h
  | cons op rest ih =>
    simp only [Mux.runOps, List.foldl_cons]
    exact ih (h.applyOp op (hops op (by simp))).1 (fun x hx => hops x (List.mem_cons_of_mem _ hx))

end Penguin.Mux
