/-
C14 — The server opens a tunnel only for fully valid, authenticated upgrade requests.
Property theorems and the vocabulary their statements need (`HeaderIs`, `ValidUpgrade`, `UnknownPath`; `gateNames`,
`NoGateOverride` and the witnesses in the second half): first over `Penguin.Model.Gate` (`service.rs:313-430`), for every
request and every configuration (any header list, any pre-shared key, any backend function), no bounds; then, from "The
client's half" on, over `Penguin.Model.ClientReq` joined with the gate.

About the `OnUpgrade` extension: `ws_handler` also falls back when hyper attached no `OnUpgrade`
extension to the request (`service.rs:348-351`).  The model carries this as the Boolean
`Request.onUpgrade` of the request's environment; it appears as the last conjunct of `ValidUpgrade`.
hyper attaches the extension to every HTTP/1.1 request that has an `Upgrade` header, so for requests
arriving over an HTTP/1.1 connection the conjunct follows from the `upgrade: websocket` conjunct
(that step is hyper's, it is exercised by the harness over a real connection, not proved here).
-/
import Penguin.Model.Gate
import Penguin.Lemmas.ClientReq

namespace Penguin.C14
open Penguin Penguin.Gate Penguin.Constants

/-- The header `name` is present and its first value equals `wanted` up to ASCII case. -/
def HeaderIs (req : Request) (name wanted : String) : Prop :=
  ∃ v, req.get name = some v ∧ eqIgnoreAsciiCase v (asciiBytes wanted) = true

/-- "A fully valid, authenticated upgrade request", and the accept hash it is answered with. -/
def ValidUpgrade (cfg : Config) (req : Request) (accept : Bytes) : Prop :=
  req.method = "GET" ∧ req.path = "/ws" ∧
  HeaderIs req "connection" "upgrade" ∧
  HeaderIs req "upgrade" "websocket" ∧
  HeaderIs req "sec-websocket-version" "13" ∧
  HeaderIs req "sec-websocket-protocol" protocolName ∧
  (∃ key, req.get "sec-websocket-key" = some key ∧ accept = acceptOf key) ∧
  (cfg.psk = none ∨ req.get "x-penguin-psk" = cfg.psk) ∧
  req.onUpgrade = true

/-- `eq_ignore_ascii_case` holds exactly when the two byte strings are equal after mapping
    `A`–`Z` to `a`–`z` (so: same length, no trimming, no other folding). -/
theorem eqIgnoreAsciiCase_iff (a b : Bytes) :
    eqIgnoreAsciiCase a b = true ↔ a.map asciiLower = b.map asciiLower := by
  induction a generalizing b with
  | nil => cases b <;> simp [eqIgnoreAsciiCase]
  | cons x xs ih => cases b <;> simp [eqIgnoreAsciiCase, ih]

/-- A header lookup sees the first value of a name only (`HeaderMap::get`). -/
theorem get_first (name : String) (v : Bytes) (rest : List (String × Bytes)) :
    Gate.get ((name, v) :: rest) name = some v := by
  simp [Gate.get]

theorem get_skip (n name : String) (v : Bytes) (rest : List (String × Bytes)) (h : n ≠ name) :
    Gate.get ((n, v) :: rest) name = Gate.get rest name := by
  simp [Gate.get, h]

private theorem headerMatches_iff (req : Request) (name wanted : String) :
    headerMatches (req.get name) wanted = true ↔ HeaderIs req name wanted := by
  unfold headerMatches HeaderIs
  cases req.get name <;> simp

private theorem ws_ne_health : pathWs ≠ pathHealth := by decide
private theorem ws_ne_version : pathWs ≠ pathVersion := by decide
private theorem health_ne_version : pathHealth ≠ pathVersion := by decide

private theorem route_health (cfg : Config) (req : Request) (h : req.path = pathHealth ∧ cfg.obfs = false) :
    route cfg req = .health := by
  unfold route; rw [if_pos h]

private theorem route_version (cfg : Config) (req : Request)
    (h1 : ¬ (req.path = pathHealth ∧ cfg.obfs = false)) (h2 : req.path = pathVersion ∧ cfg.obfs = false) :
    route cfg req = .version := by
  unfold route; rw [if_neg h1, if_pos h2]

private theorem route_other (cfg : Config) (req : Request)
    (h1 : ¬ (req.path = pathHealth ∧ cfg.obfs = false)) (h2 : ¬ (req.path = pathVersion ∧ cfg.obfs = false)) :
    route cfg req = if req.path = pathWs then wsDecision cfg req else .fallback := by
  unfold route; rw [if_neg h1, if_neg h2]

private theorem route_ws (cfg : Config) (req : Request) (hp : req.path = pathWs) :
    route cfg req = wsDecision cfg req := by
  rw [route_other cfg req (fun h => ws_ne_health (hp.symm.trans h.1))
    (fun h => ws_ne_version (hp.symm.trans h.1)), if_pos hp]

private theorem wsCheck_ok_iff (cfg : Config) (req : Request) (h : Bytes) :
    wsCheck cfg req = .ok h ↔
      req.method = methodGet ∧
      HeaderIs req hConnection hdrUpgradeValue ∧ HeaderIs req hUpgrade hdrWebsocketValue ∧
      HeaderIs req hVersion hdrWebsocketVersionValue ∧ HeaderIs req hProtocol protocolName ∧
      (∃ key, req.get hKey = some key ∧ h = acceptOf key) ∧
      (cfg.psk = none ∨ req.get pskHeaderName = cfg.psk) ∧ req.onUpgrade = true := by
  simp only [← headerMatches_iff]
  unfold wsCheck
  by_cases hm : req.method = methodGet
  · have hpsk : (cfg.psk.isSome = true ∧ req.get pskHeaderName ≠ cfg.psk) ↔
        ¬ (cfg.psk = none ∨ req.get pskHeaderName = cfg.psk) := by
      cases cfg.psk <;> simp
    by_cases hp : (cfg.psk = none ∨ req.get pskHeaderName = cfg.psk)
    · have hp' : ¬ (cfg.psk.isSome = true ∧ req.get pskHeaderName ≠ cfg.psk) := by
        rw [hpsk]; exact fun hn => hn hp
      simp only [hm, hp', hp, ne_eq, not_true_eq_false, if_false, true_and]
      cases hk : req.get hKey with
      | none => simp
      | some key =>
        cases h1 : headerMatches (req.get hConnection) hdrUpgradeValue <;>
        cases h2 : headerMatches (req.get hUpgrade) hdrWebsocketValue <;>
        cases h3 : headerMatches (req.get hVersion) hdrWebsocketVersionValue <;>
        cases h4 : headerMatches (req.get hProtocol) protocolName <;>
        cases h5 : req.onUpgrade <;>
        simp [eq_comm]
    · have hp' : (cfg.psk.isSome = true ∧ req.get pskHeaderName ≠ cfg.psk) := hpsk.mpr hp
      have hp1 : cfg.psk ≠ none := fun h => hp (Or.inl h)
      simp [hm, hp', hp1]
  · simp [hm]

/-- **The server decides to upgrade — answer 101 with accept hash `h` and start the tunnel — if and
    only if** the request is a GET for `/ws` whose `connection`, `upgrade`,
    `sec-websocket-version` and `sec-websocket-protocol` headers equal `upgrade`, `websocket`, `13`,
    `penguin-v7` up to ASCII case, a `sec-websocket-key` is present and `h` is its RFC 6455 accept
    hash, the `x-penguin-psk` header is byte-for-byte the configured key when one is configured, and
    hyper made the connection upgradable (`onUpgrade`). Neither `obfs` nor the backend matter. -/
theorem upgrade_iff (cfg : Config) (req : Request) (h : Bytes) :
    route cfg req = .upgrade h ↔ ValidUpgrade cfg req h := by
  unfold ValidUpgrade
  have hc := wsCheck_ok_iff cfg req h
  simp only [hConnection, hUpgrade, hVersion, hProtocol, hKey, methodGet, hdrUpgradeValue,
    hdrWebsocketValue, hdrWebsocketVersionValue, pskHeaderName] at hc
  rw [← and_assoc, and_comm (a := req.method = "GET"), and_assoc, ← hc]
  by_cases hw : req.path = pathWs
  · have hw' : req.path = "/ws" := hw
    rw [route_ws cfg req hw]
    unfold wsDecision
    cases hck : wsCheck cfg req <;> simp [hw']
  · have hw' : ¬ req.path = "/ws" := hw
    simp only [hw', false_and, iff_false]
    unfold route
    split <;> (try split) <;> simp

/-- The tunnel task is spawned exactly for the valid upgrade requests. -/
theorem startsTunnel_iff (cfg : Config) (req : Request) :
    startsTunnel cfg req = true ↔ ∃ h, ValidUpgrade cfg req h := by
  simp only [← upgrade_iff]
  unfold startsTunnel
  cases route cfg req <;> simp

/-- With a key configured, an upgrade implies that exactly this key was presented: a missing header,
    a prefix, a case variant or a padded copy is a different byte string and is refused. -/
theorem psk_required (cfg : Config) (req : Request) (h psk : Bytes) (hc : cfg.psk = some psk)
    (hu : route cfg req = .upgrade h) : req.get "x-penguin-psk" = some psk := by
  have := ((upgrade_iff cfg req h).mp hu).2.2.2.2.2.2.2.1
  simpa [hc] using this

/-- The accept hash of the answer is a function of the presented key alone. -/
theorem upgrade_accept (cfg : Config) (req : Request) (h : Bytes) (hu : route cfg req = .upgrade h) :
    ∃ key, req.get "sec-websocket-key" = some key ∧ h = base64 (Sha1.digest (key ++ asciiBytes wsAcceptGuid)) :=
  ((upgrade_iff cfg req h).mp hu).2.2.2.2.2.2.1

/-- The upgrade answer: status 101, `connection: upgrade`, `upgrade: websocket`, the accepted
    protocol and the accept hash, nothing else, empty body. -/
theorem upgrade_response_headers (cfg : Config) (req : Request) (h : Bytes)
    (hu : route cfg req = .upgrade h) :
    respond cfg req =
      { status := 101,
        headers := [("connection", asciiBytes "upgrade"), ("upgrade", asciiBytes "websocket"),
                    ("sec-websocket-protocol", asciiBytes protocolName), ("sec-websocket-accept", h)],
        body := [] } := by
  simp [respond, hu, upgradeResponse, statusSwitchingProtocols, hConnection, hUpgrade, hProtocol,
    hAccept, hdrUpgradeValue, hdrWebsocketValue]

/-- Without a backend (whose answers are its own), status 101 is sent only on the upgrade branch. -/
theorem answers_101_iff (cfg : Config) (req : Request) (hb : cfg.backend = none) :
    (respond cfg req).status = 101 ↔ ∃ h, ValidUpgrade cfg req h := by
  simp only [← upgrade_iff]
  unfold respond
  cases hr : route cfg req <;>
    simp [fallbackResponse, hb, notFoundResponse, upgradeResponse, statusNotFound, statusSwitchingProtocols]

/-- A path that is none of the three special ones. -/
def UnknownPath (p : String) : Prop := p ≠ pathHealth ∧ p ≠ pathVersion ∧ p ≠ pathWs

private theorem respond_of_fallback {cfg : Config} {req : Request} (hr : route cfg req = .fallback) :
    route cfg req = .fallback ∧ respond cfg req = fallbackResponse cfg req :=
  ⟨hr, by simp [respond, hr]⟩

private theorem fallbackResponse_congr_path {cfg : Config} {req : Request} {p : String}
    (hb : ∀ b, cfg.backend = some b → b req = b { req with path := p }) :
    fallbackResponse cfg req = fallbackResponse cfg { req with path := p } := by
  unfold fallbackResponse
  cases hbk : cfg.backend with
  | none => rfl
  | some b => exact hb b hbk

/-- Unknown paths are answered by `backend_or_404_handler`, whatever else the request contains. -/
theorem unknown_path_is_fallback (cfg : Config) (req : Request) (hp : UnknownPath req.path) :
    route cfg req = .fallback ∧ respond cfg req = fallbackResponse cfg req := by
  obtain ⟨h1, h2, h3⟩ := hp
  exact respond_of_fallback (by simp [route, h1, h2, h3])

/-- Every request to `/ws` that is not upgraded is handed, unchanged, to the very handler that
    serves unknown paths … -/
theorem not_upgrade_is_fallback (cfg : Config) (req : Request) (hp : req.path = pathWs)
    (hn : ∀ h, route cfg req ≠ .upgrade h) :
    route cfg req = .fallback ∧ respond cfg req = fallbackResponse cfg req := by
  have hr := route_ws cfg req hp
  refine respond_of_fallback ?_
  cases hck : wsCheck cfg req with
  | error e => simp [hr, wsDecision, hck]
  | ok a => exact absurd (by simp [hr, wsDecision, hck]) (hn a)

/-- … hence it receives exactly the response (status, headers, body) of the same request on an
    unknown path `p`: always when no backend is configured (the configured 404), and with a backend
    whenever the backend itself answers the two forwarded requests alike. -/
theorem not_upgrade_same_as_unknown_path (cfg : Config) (req : Request) (p : String)
    (hp : req.path = pathWs) (hn : ∀ h, route cfg req ≠ .upgrade h) (hu : UnknownPath p)
    (hb : ∀ b, cfg.backend = some b → b req = b { req with path := p }) :
    respond cfg req = respond cfg { req with path := p } := by
  rw [(not_upgrade_is_fallback cfg req hp hn).2,
    (unknown_path_is_fallback cfg { req with path := p } hu).2]
  exact fallbackResponse_congr_path hb

/-- With obfuscation on, `/health` and `/version` are served by the unknown-path handler too. -/
theorem obfs_hides (cfg : Config) (req : Request) (ho : cfg.obfs = true)
    (hp : req.path = pathHealth ∨ req.path = pathVersion) :
    route cfg req = .fallback ∧ respond cfg req = fallbackResponse cfg req := by
  have hw : req.path ≠ pathWs := by
    rcases hp with hp | hp <;> rw [hp]
    · exact ws_ne_health.symm
    · exact ws_ne_version.symm
  exact respond_of_fallback (by simp [route, ho, hw])

theorem obfs_same_as_unknown_path (cfg : Config) (req : Request) (p : String) (ho : cfg.obfs = true)
    (hp : req.path = pathHealth ∨ req.path = pathVersion) (hu : UnknownPath p)
    (hb : ∀ b, cfg.backend = some b → b req = b { req with path := p }) :
    respond cfg req = respond cfg { req with path := p } := by
  rw [(obfs_hides cfg req ho hp).2, (unknown_path_is_fallback cfg { req with path := p } hu).2]
  exact fallbackResponse_congr_path hb

/-- Without obfuscation the two status paths answer for every method and header set. -/
theorem health_version_iff (cfg : Config) (req : Request) :
    (route cfg req = .health ↔ req.path = pathHealth ∧ cfg.obfs = false) ∧
    (route cfg req = .version ↔ req.path = pathVersion ∧ cfg.obfs = false) := by
  by_cases h1 : req.path = pathHealth ∧ cfg.obfs = false
  · rw [route_health cfg req h1]
    simp [h1, health_ne_version]
  · by_cases h2 : req.path = pathVersion ∧ cfg.obfs = false
    · rw [route_version cfg req h1 h2]
      simp [h2, health_ne_version.symm]
    · rw [route_other cfg req h1 h2]
      simp only [h1, h2, iff_false]
      unfold wsDecision
      constructor <;> (split <;> (try split) <;> simp)

/-- The extracted constants are ASCII (so `asciiBytes` is their byte content) and the three special
    paths are pairwise different. -/
theorem constants_ascii :
    (([hdrUpgradeValue, hdrWebsocketValue, hdrWebsocketVersionValue, protocolName, wsAcceptGuid,
        healthBody, pkgVersion].all fun s => s.toList.all fun c => c.toNat < 128) = true) ∧
    [pathHealth, pathVersion, pathWs].Nodup := by
  decide +kernel

/-! ### Non-vacuity: concrete requests on both sides of every hypothesis -/

section Examples

private def psk : Bytes := asciiBytes "correct PSK"
private def cfgPsk : Config := { psk := some psk, obfs := true, notFound := asciiBytes "nf", backend := none }
private def cfgOpen : Config := { psk := none, obfs := false, notFound := asciiBytes "nf", backend := none }

private def good : Request :=
  { method := "GET", path := "/ws", onUpgrade := true,
    headers := [("connection", asciiBytes "UpGrAdE"), ("upgrade", asciiBytes "WEBSOCKET"),
                ("sec-websocket-version", asciiBytes "13"), ("sec-websocket-protocol", asciiBytes "Penguin-V7"),
                ("sec-websocket-key", asciiBytes "dGhlIHNhbXBsZSBub25jZQ=="),
                ("x-penguin-psk", asciiBytes "correct PSK")] }

-- RFC 6455 section 1.3 example, evaluated in the kernel through the model's SHA-1 and base64
private theorem accept_sample : acceptOf (asciiBytes "dGhlIHNhbXBsZSBub25jZQ==") = asciiBytes "s3pPLMBiTxaQ9kYGzzhZRbK+xOo=" := by
  decide +kernel
example : acceptOf (asciiBytes "dGhlIHNhbXBsZSBub25jZQ==") = asciiBytes "s3pPLMBiTxaQ9kYGzzhZRbK+xOo=" :=
  accept_sample
example : Sha1.digest (asciiBytes "abc") =
    [0xa9, 0x99, 0x3e, 0x36, 0x47, 0x06, 0x81, 0x6a, 0xba, 0x3e, 0x25, 0x71, 0x78, 0x50, 0xc2, 0x6c, 0x9c, 0xd0, 0xd8, 0x9d] := by
  decide +kernel
example : base64 (asciiBytes "fooba") = asciiBytes "Zm9vYmE=" := by decide +kernel

-- a valid request is upgraded, with and without a configured key
/-- What the gate reads from `good`, apart from the pre-shared key. -/
private def GoodValues (r : Request) : Prop :=
  r.method = "GET" ∧ r.path = "/ws" ∧ r.onUpgrade = true ∧
  r.get "connection" = some (asciiBytes "UpGrAdE") ∧ r.get "upgrade" = some (asciiBytes "WEBSOCKET") ∧
  r.get "sec-websocket-version" = some (asciiBytes "13") ∧ r.get "sec-websocket-protocol" = some (asciiBytes "Penguin-V7") ∧
  r.get "sec-websocket-key" = some (asciiBytes "dGhlIHNhbXBsZSBub25jZQ==")
private theorem good_values : GoodValues good := by unfold GoodValues; decide +kernel
private theorem good_valid (cfg : Config) (r : Request) (hg : GoodValues r)
    (h : cfg.psk = none ∨ r.get "x-penguin-psk" = cfg.psk) :
    ValidUpgrade cfg r (asciiBytes "s3pPLMBiTxaQ9kYGzzhZRbK+xOo=") :=
  ⟨hg.1, hg.2.1, ⟨_, hg.2.2.2.1, by decide +kernel⟩, ⟨_, hg.2.2.2.2.1, by decide +kernel⟩,
    ⟨_, hg.2.2.2.2.2.1, by decide +kernel⟩, ⟨_, hg.2.2.2.2.2.2.1, by decide +kernel⟩,
    ⟨_, hg.2.2.2.2.2.2.2, accept_sample.symm⟩, h, hg.2.2.1⟩
example : route cfgPsk good = .upgrade (asciiBytes "s3pPLMBiTxaQ9kYGzzhZRbK+xOo=") :=
  (upgrade_iff _ _ _).mpr (good_valid _ _ good_values (.inr (by decide +kernel)))
example : route cfgOpen good = .upgrade (asciiBytes "s3pPLMBiTxaQ9kYGzzhZRbK+xOo=") :=
  (upgrade_iff _ _ _).mpr (good_valid _ _ good_values (.inl rfl))
example : ∃ h, ValidUpgrade cfgPsk good h := ⟨_, good_valid _ _ good_values (.inr (by decide +kernel))⟩
-- … and refused for: a case variant / prefix / padded copy of the key, no key, POST, a near-miss value,
-- a bad first value before a good one, no OnUpgrade
private def withPsk (v : Option Bytes) : Request :=
  { good with headers := (good.headers.filter (·.1 ≠ "x-penguin-psk")) ++ (v.map (("x-penguin-psk", ·))).toList }
example : route cfgPsk (withPsk (some (asciiBytes "correct psk"))) = .fallback := by decide +kernel
example : route cfgPsk (withPsk (some (asciiBytes "correct PS"))) = .fallback := by decide +kernel
example : route cfgPsk (withPsk (some (asciiBytes "correct PSK "))) = .fallback := by decide +kernel
example : route cfgPsk (withPsk none) = .fallback := by decide +kernel
example : route cfgOpen (withPsk none) = .upgrade (asciiBytes "s3pPLMBiTxaQ9kYGzzhZRbK+xOo=") :=
  (upgrade_iff _ _ _).mpr (good_valid _ _ (by unfold GoodValues; decide +kernel) (.inl rfl))
example : route cfgOpen { good with method := "POST" } = .fallback := by decide +kernel
example : route cfgOpen { good with method := "get" } = .fallback := by decide +kernel
example : route cfgOpen { good with headers := ("upgrade", asciiBytes "websockets") :: good.headers } = .fallback := by
  decide +kernel
example : route cfgOpen { good with onUpgrade := false } = .fallback := by decide +kernel
example : route cfgOpen { good with path := "/ws/" } = .fallback := by decide +kernel
-- hypotheses of the indistinguishability theorems are satisfiable, and their conclusion is not trivial
example : UnknownPath "/x" := by unfold UnknownPath; decide
example : respond cfgPsk { good with method := "POST" } = { status := 404, headers := [], body := asciiBytes "nf" } := by
  decide +kernel
example : respond cfgPsk { good with path := "/health" } = respond cfgPsk { good with path := "/x" } := by decide +kernel
example : respond cfgOpen { good with path := "/health" } = { status := 200, headers := [], body := asciiBytes "OK" } := by
  decide +kernel
example : (respond cfgOpen good).status = 101 := by decide +kernel

end Examples

/-! ## The client's half: the request `handshake_inner` builds, judged by this gate

`Penguin.Model.ClientReq` mirrors `client/ws_connect.rs:47-69` (tungstenite's request for the server URL,
then `HeaderMap::insert` of the protocol, the key, the host name and every `--header`).  The theorems
below join the two components: they are about `route srv (buildRequest c key)`, the SERVER's decision
on the request the CLIENT builds, for every pair of configurations and every key tungstenite may draw. -/

section ClientRequest
open Penguin.ClientReq

/-- The header names `ws_handler` looks at. -/
def gateNames : List String :=
  ["connection", "upgrade", "sec-websocket-key", "sec-websocket-version", "sec-websocket-protocol", "x-penguin-psk"]

/-- No `--header` of the client names a header the gate looks at. -/
def NoGateOverride (c : ClientCfg) : Prop := ∀ e ∈ c.custom, e.1 ∉ gateNames

/-- The literals extracted from the client's source are the ones extracted from the server's: same
    header names; and both sides take the protocol value from the one `PROTOCOL_VERSION` (`protocolName`). -/
theorem client_and_server_literals_agree :
    clientProtocolHeader = hProtocol ∧ clientPskHeader = pskHeaderName ∧ tungSubprotocolHeader = hProtocol ∧
    tungMethod = methodGet ∧ tungBuilderHeaders.map (·.1) = ["host", hConnection, hUpgrade, hVersion, hKey] ∧
    tungTextHeaders = tungBuilderHeaders.map (·.1) ∧ clientInsertOrderProtocolPskHostCustom = true := by
  decide

/-- What the header map holds under `n` before the custom headers are applied. -/
private def stdValue (c : ClientCfg) (key : Bytes) (n : String) : Option Bytes :=
  if clientHostHeader = n ∧ c.hostname.isSome = true then c.hostname
  else if clientPskHeader = n ∧ c.psk.isSome = true then c.psk
  else if clientProtocolHeader = n then some (asciiBytes protocolName)
  else Gate.get (baseHeaders c.urlHost key) n

private theorem get_build (c : ClientCfg) (key : Bytes) (n : String) :
    (buildRequest c key).get n =
      match lastOf c.custom n with
      | some v => some v
      | none => stdValue c key n := by
  show Gate.get (buildHeaders c key) n = _
  unfold buildHeaders
  rw [get_insertAll]
  cases lastOf c.custom n with
  | some v => rfl
  | none =>
    -- an absent option makes its test in `stdValue` false, a present one makes it the test of `get_insert`
    unfold stdValue
    cases c.hostname <;> cases c.psk <;>
      simp only [get_insert, Option.isSome, and_true, and_false, Bool.false_eq_true, if_false]

/-- **The header map after all inserts**, for every configuration: under any name the last `--header`
    of that name if there is one; else `--hostname` under `host`, `--ws-psk` under `x-penguin-psk`,
    the protocol version under `sec-websocket-protocol`, and tungstenite's own headers otherwise. -/
theorem client_request_header_view (c : ClientCfg) (key : Bytes) (n : String) :
    (buildRequest c key).get n =
      match lastOf c.custom n with
      | some v => some v
      | none =>
        if n = "host" ∧ c.hostname.isSome = true then c.hostname
        else if n = "x-penguin-psk" ∧ c.psk.isSome = true then c.psk
        else if n = "sec-websocket-protocol" then some (asciiBytes protocolName)
        else Gate.get (baseHeaders c.urlHost key) n := by
  rw [get_build]
  cases lastOf c.custom n with
  | some v => rfl
  | none =>
    simp only [stdValue, clientHostHeader, clientPskHeader, clientProtocolHeader, eq_comm (b := n)]

private theorem lastOf_none_of_noOverride (c : ClientCfg) (h : NoGateOverride c) (n : String) (hn : n ∈ gateNames) :
    lastOf c.custom n = none :=
  lastOf_none_of_not_mem _ _ fun e he heq => h e he (heq ▸ hn)

/-- **What the gate will read**, when no `--header` names a gate header: tungstenite's `Upgrade`,
    `websocket`, `13` and the drawn key, the protocol version the server wants, and `--ws-psk` (or nothing). -/
theorem client_request_gate_values (c : ClientCfg) (key : Bytes) (h : NoGateOverride c) :
    (buildRequest c key).get "connection" = some (asciiBytes "Upgrade") ∧
    (buildRequest c key).get "upgrade" = some (asciiBytes "websocket") ∧
    (buildRequest c key).get "sec-websocket-version" = some (asciiBytes "13") ∧
    (buildRequest c key).get "sec-websocket-key" = some key ∧
    (buildRequest c key).get "sec-websocket-protocol" = some (asciiBytes protocolName) ∧
    (buildRequest c key).get "x-penguin-psk" = c.psk := by
  have hv : ∀ n, n ∈ gateNames → (buildRequest c key).get n = stdValue c key n := by
    intro n hn
    rw [get_build, lastOf_none_of_noOverride c h n hn]
  -- six lookups in the map before the custom headers; only the last depends on `--ws-psk`
  refine ⟨?_, ?_, ?_, ?_, ?_, ?_⟩ <;> rw [hv _ (by decide)]
  rotate_right
  · cases hp : c.psk <;>
      simp [hp, stdValue, clientHostHeader, clientPskHeader, clientProtocolHeader, baseHeaders, tungBuilderHeaders, Gate.get]
  all_goals
    simp [stdValue, clientHostHeader, clientPskHeader, clientProtocolHeader, baseHeaders, tungBuilderHeaders, Gate.get]

/-- **The request is well formed**, for every configuration (custom headers included): method `GET`,
    `OnUpgrade` attached, at most one value under any name (every step is an `insert`), and exactly one
    under `host`, the four headers the gate compares, the key and the protocol. -/
theorem client_request_well_formed (c : ClientCfg) (key : Bytes) :
    (buildRequest c key).method = "GET" ∧ (buildRequest c key).onUpgrade = true ∧
    (buildRequest c key).path = pathOfTarget c.target ∧
    (∀ n, (valuesOf (buildRequest c key).headers n).length ≤ 1) ∧
    (∀ n ∈ ["host", "connection", "upgrade", "sec-websocket-version", "sec-websocket-key", "sec-websocket-protocol"],
      ∃ v, valuesOf (buildRequest c key).headers n = [v]) := by
  refine ⟨rfl, rfl, rfl, ?_, ?_⟩
  · have hnames : (baseHeaders c.urlHost key).map (·.1) = tungBuilderHeaders.map (·.1) := by
      simp [baseHeaders, List.map_map, Function.comp_def]
    have hins : ∀ hs m v, (∀ n, (valuesOf hs n).length ≤ 1) → ∀ n, (valuesOf (insert hs m v) n).length ≤ 1 := by
      intro hs m v h n
      rw [valuesOf_insert]
      split
      · exact Nat.le_refl 1
      · exact h n
    exact buildHeaders_induction hins c key
      (hins _ _ _ fun n => valuesOf_length_le_one _ n (by rw [hnames]; decide))
  · intro n hn
    refine buildHeaders_induction (P := fun hs => ∃ v, valuesOf hs n = [v]) ?_ c key ?_
    · intro hs m v h
      rw [valuesOf_insert]
      split
      · exact ⟨v, rfl⟩
      · exact h
    · rw [valuesOf_insert]
      simp only [List.mem_cons, List.not_mem_nil, or_false] at hn
      rcases hn with rfl | rfl | rfl | rfl | rfl | rfl <;>
        simp [clientProtocolHeader, baseHeaders, tungBuilderHeaders, valuesOf]

/-- The gate's decision on a request that presents tungstenite's own values under the five names the gate
    compares, `key` as the key and `psk` (or nothing) as the pre-shared key. -/
private theorem route_of_gate_values (srv : Config) (r : Request) (key : Bytes) (psk : Option Bytes)
    (hm : r.method = "GET") (hp : r.path = "/ws") (hu : r.onUpgrade = true)
    (g : r.get "connection" = some (asciiBytes "Upgrade") ∧ r.get "upgrade" = some (asciiBytes "websocket") ∧
      r.get "sec-websocket-version" = some (asciiBytes "13") ∧ r.get "sec-websocket-key" = some key ∧
      r.get "sec-websocket-protocol" = some (asciiBytes protocolName) ∧ r.get "x-penguin-psk" = psk) :
    route srv r = if srv.psk = none ∨ srv.psk = psk then .upgrade (acceptOf key) else .fallback := by
  obtain ⟨g1, g2, g3, g4, g5, g6⟩ := g
  by_cases hk : srv.psk = none ∨ srv.psk = psk
  · rw [if_pos hk]
    exact (upgrade_iff srv r _).mpr ⟨hm, hp, ⟨_, g1, by decide⟩, ⟨_, g2, by decide⟩, ⟨_, g3, by decide⟩,
      ⟨_, g5, (eqIgnoreAsciiCase_iff _ _).mpr rfl⟩, ⟨key, g4, rfl⟩, hk.imp id (g6.trans ·.symm), hu⟩
  · rw [if_neg hk]
    refine (not_upgrade_is_fallback srv r hp fun h hu' => hk ?_).1
    exact ((upgrade_iff srv r h).mp hu').2.2.2.2.2.2.2.1.imp id (g6.symm.trans · |>.symm)

/-- **The server's decision on the client's request**, for every pair of configurations and every
    key: a tunnel, answered with the accept hash of the client's own key, if the server has no key or
    the two keys are the same byte string; the fallback otherwise.  (`c.psk = none` differs from every
    configured key: a client without `--ws-psk` never gets past a server with one.) -/
theorem client_request_decision (srv : Config) (c : ClientCfg) (key : Bytes)
    (ho : NoGateOverride c) (hp : pathOfTarget c.target = pathWs) :
    route srv (buildRequest c key) =
      if srv.psk = none ∨ srv.psk = c.psk then .upgrade (acceptOf key) else .fallback :=
  route_of_gate_values srv _ key c.psk rfl hp rfl (client_request_gate_values c key ho)

/-- **A client with the right key always gets in, a client with a wrong or no key never does, a client
    that sends a key to a key-less server gets in**: for every client configuration whose `--header`s
    leave the gate's headers alone and whose URL names the tunnel path, every server configuration and
    every key, the server opens a tunnel and answers with the accept hash of that key if and only if it
    has no pre-shared key or has exactly the client's. -/
theorem client_request_opens_tunnel_iff (srv : Config) (c : ClientCfg) (key : Bytes)
    (ho : NoGateOverride c) (hp : pathOfTarget c.target = pathWs) :
    route srv (buildRequest c key) = .upgrade (acceptOf key) ↔ (srv.psk = none ∨ srv.psk = c.psk) := by
  rw [client_request_decision srv c key ho hp]
  by_cases h : srv.psk = none ∨ srv.psk = c.psk <;> simp [h]

/-- … and no other accept hash is ever sent for it, so: no tunnel at all unless the keys agree. -/
theorem client_request_tunnel_only_if_keys_agree (srv : Config) (c : ClientCfg) (key h : Bytes)
    (ho : NoGateOverride c) (hp : pathOfTarget c.target = pathWs)
    (hu : route srv (buildRequest c key) = .upgrade h) :
    h = acceptOf key ∧ (srv.psk = none ∨ srv.psk = c.psk) := by
  rw [client_request_decision srv c key ho hp] at hu
  by_cases hk : srv.psk = none ∨ srv.psk = c.psk
  · simp only [hk, if_true, Decision.upgrade.injEq] at hu
    exact ⟨hu.symm, hk⟩
  · simp [hk] at hu

/-- **The handshake completes exactly when the keys agree** (model of the black box on the client's
    side: tungstenite's `verify_response`, which wants status 101, `upgrade`/`connection`, the accept
    hash of the key it sent and one of the subprotocols it asked for): without a backend (whose answers
    are its own) the client accepts the server's answer to its request iff the server has no key or the
    client's.  The 101 carries `acceptOf key` and `penguin-v7`, which is what the client checks. -/
theorem handshake_completes_iff (srv : Config) (c : ClientCfg) (key : Bytes)
    (ho : NoGateOverride c) (hp : pathOfTarget c.target = pathWs) (hb : srv.backend = none) :
    clientAccepts (buildRequest c key).headers (respond srv (buildRequest c key)) = true ↔
      (srv.psk = none ∨ srv.psk = c.psk) := by
  obtain ⟨_, _, _, g4, g5, _⟩ := client_request_gate_values c key ho
  have g4' : Gate.get (buildRequest c key).headers hKey = some key := g4
  have g5' : Gate.get (buildRequest c key).headers tungSubprotocolHeader = some (asciiBytes protocolName) := g5
  unfold respond
  rw [client_request_decision srv c key ho hp]
  by_cases hk : srv.psk = none ∨ srv.psk = c.psk
  · simp only [hk, if_true, iff_true]
    unfold clientAccepts
    rw [g4', g5']
    have hsub : (splitComma (asciiBytes protocolName)).map trimOws = [asciiBytes protocolName] := by decide
    simp only [Option.map, hsub, upgradeResponse, Option.getD]
    have t1 : textIs (some (asciiBytes hdrWebsocketValue)) "websocket" = true := by decide
    have t2 : textIs (some (asciiBytes hdrUpgradeValue)) "Upgrade" = true := by decide
    have e5 : toStrOk (asciiBytes protocolName) = true := by decide
    simp [Gate.get, hConnection, hUpgrade, hProtocol, hAccept, t1, t2, e5, statusSwitchingProtocols]
  · simp only [hk, if_false, iff_false]
    simp [clientAccepts, fallbackResponse, hb, notFoundResponse, statusNotFound]

/-- **A `--header x-penguin-psk: v` given last REPLACES the configured key** (the last insert wins):
    whatever `--ws-psk` says, the request presents `v`. -/
theorem custom_psk_header_replaces_key (c : ClientCfg) (key v : Bytes) :
    (buildRequest { c with custom := c.custom ++ [("x-penguin-psk", v)] } key).get "x-penguin-psk" = some v := by
  rw [client_request_header_view, lastOf_append_single]

/-- The configuration of the witnesses below: right key `K1`, URL `…/ws`, no custom header. -/
def witnessClient : ClientCfg :=
  { target := "/ws", urlHost := asciiBytes "server.example:443", psk := some (asciiBytes "K1"), hostname := none, custom := [] }

def witnessServer (k : String) : Config :=
  { psk := some (asciiBytes k), obfs := false, notFound := asciiBytes "nf", backend := none }

def witnessKey : Bytes := asciiBytes "dGhlIHNhbXBsZSBub25jZQ=="

/-- **Custom headers can break the handshake or fake the key** - consequences of the insert order, stated
    as they are: with the right key `K1` the client gets in; the same client with `--header
    sec-websocket-protocol: other` or `--header upgrade: h2c` gets the fallback (404) from the same server;
    with `--header x-penguin-psk: K2` it is refused by the `K1` server although `--ws-psk K1` is right, and
    admitted by a `K2` server although `--ws-psk K1` is wrong. -/
theorem custom_header_can_break_or_fake :
    route (witnessServer "K1") (buildRequest witnessClient witnessKey) = .upgrade (acceptOf witnessKey) ∧
    route (witnessServer "K1")
      (buildRequest { witnessClient with custom := [("sec-websocket-protocol", asciiBytes "other")] } witnessKey) = .fallback ∧
    route (witnessServer "K1")
      (buildRequest { witnessClient with custom := [("upgrade", asciiBytes "h2c")] } witnessKey) = .fallback ∧
    route (witnessServer "K1")
      (buildRequest { witnessClient with custom := [("x-penguin-psk", asciiBytes "K2")] } witnessKey) = .fallback ∧
    route (witnessServer "K2")
      (buildRequest { witnessClient with custom := [("x-penguin-psk", asciiBytes "K2")] } witnessKey) = .upgrade (acceptOf witnessKey) := by
  -- the last `x-penguin-psk` wins: that request presents `K2`, and tungstenite's values otherwise
  have g : ∀ srv, route srv (buildRequest { witnessClient with custom := [("x-penguin-psk", asciiBytes "K2")] } witnessKey) =
      if srv.psk = none ∨ srv.psk = some (asciiBytes "K2") then .upgrade (acceptOf witnessKey) else .fallback :=
    fun srv => route_of_gate_values srv _ witnessKey _ rfl rfl rfl (by decide +kernel)
  refine ⟨(client_request_opens_tunnel_iff _ _ _ (by unfold NoGateOverride; decide) (by decide +kernel)).mpr (.inr rfl),
    by decide +kernel, by decide +kernel, ?_, ?_⟩
  · rw [g, if_neg (by decide +kernel)]
  · rw [g, if_pos (by decide +kernel)]

private theorem route_congr (srv : Config) (r r' : Request) (hm : r.method = r'.method) (hp : r.path = r'.path)
    (hu : r.onUpgrade = r'.onUpgrade) (hg : ∀ n ∈ gateNames, r.get n = r'.get n) : route srv r = route srv r' := by
  have h1 : r.get hConnection = r'.get hConnection := hg _ (by decide)
  have h2 : r.get hUpgrade = r'.get hUpgrade := hg _ (by decide)
  have h3 : r.get hVersion = r'.get hVersion := hg _ (by decide)
  have h4 : r.get hProtocol = r'.get hProtocol := hg _ (by decide)
  have h5 : r.get hKey = r'.get hKey := hg _ (by decide)
  have h6 : r.get pskHeaderName = r'.get pskHeaderName := hg _ (by decide)
  simp only [route, wsDecision, wsCheck, hm, hp, hu, h1, h2, h3, h4, h5, h6]

/-- **`--hostname` changes nothing the gate looks at**: under every name but `host` the request holds
    what it held, and every server decides on it as before. -/
theorem hostname_only_changes_host (c : ClientCfg) (key : Bytes) (h : Option Bytes) :
    (∀ n, n ≠ "host" → (buildRequest { c with hostname := h } key).get n = (buildRequest c key).get n) ∧
    (∀ srv, route srv (buildRequest { c with hostname := h } key) = route srv (buildRequest c key)) := by
  have hv : ∀ n, n ≠ "host" → (buildRequest { c with hostname := h } key).get n = (buildRequest c key).get n := by
    intro n hn
    rw [client_request_header_view, client_request_header_view]
    simp [hn]
  refine ⟨hv, fun srv => route_congr srv _ _ rfl rfl rfl fun n hn => hv n ?_⟩
  intro heq
  rw [heq] at hn
  exact absurd hn (by decide)

/-! ### What travels: the request as the server's parser hands it on, and keys from the command line -/

/-- `sent` writes the request `buildRequest` describes or nothing at all. -/
theorem sent_is_the_built_request (c : ClientCfg) (key : Bytes) (r : Request) (h : sent c key = .ok r) :
    r = buildRequest c key := by
  unfold sent at h
  split at h
  · cases h
  · dsimp only at h
    split at h
    · cases h
    · injection h with h; exact h.symm

/-- **On the wire** a header value loses its outer blanks (RFC 9110 5.5, formerly RFC 7230 3.2.4; hyper's parser): the server opens
    the tunnel for the client's request as it ARRIVES iff it has no key or its key is the client's
    without the blanks around it.  So a key kept with such padding on both sides would never match. -/
theorem received_request_opens_tunnel_iff (srv : Config) (c : ClientCfg) (key : Bytes)
    (ho : NoGateOverride c) (hp : pathOfTarget c.target = pathWs) :
    route srv (received (buildRequest c key)) = .upgrade (acceptOf (trimOws key)) ↔
      (srv.psk = none ∨ srv.psk = c.psk.map trimOws) := by
  obtain ⟨g1, g2, g3, g4, g5, g6⟩ := client_request_gate_values c key ho
  rw [route_of_gate_values srv (received (buildRequest c key)) (trimOws key) (c.psk.map trimOws) rfl hp rfl
    (by simp only [get_received, g1, g2, g3, g4, g5, g6, Option.map_some, true_and]; decide)]
  by_cases h : srv.psk = none ∨ srv.psk = c.psk.map trimOws <;> simp [h]

/-- The key `--ws-psk <text>` configures has no blanks around it, on either side (`parse_ws_psk`). -/
theorem parsed_key_has_no_outer_blanks (text : Bytes) : NoOuterOws (parsePsk text) := by
  have : parsePsk text = trimOws text := by simp [parsePsk, pskArgTrimsOws]
  rw [this]
  exact noOuter_trimOws text

/-- **From the command line to the tunnel**: with the client's key as `--ws-psk` configures it, the
    server opens the tunnel for the request as it arrives iff it has no key or the two configured keys
    are equal - the white space rule of the wire cannot come between two equal keys. -/
theorem command_line_keys_open_tunnel_iff (srv : Config) (c : ClientCfg) (key : Bytes) (tc : Option Bytes)
    (ho : NoGateOverride c) (hp : pathOfTarget c.target = pathWs) (hcl : c.psk = tc.map parsePsk) :
    route srv (received (buildRequest c key)) = .upgrade (acceptOf (trimOws key)) ↔
      (srv.psk = none ∨ srv.psk = c.psk) := by
  rw [received_request_opens_tunnel_iff srv c key ho hp]
  have : c.psk.map trimOws = c.psk := by
    rw [hcl]
    cases tc with
    | none => rfl
    | some t => simp [trimOws_of_noOuter _ (parsed_key_has_no_outer_blanks t)]
  rw [this]

/-- … in particular the same `--ws-psk <text>` typed on both sides, blanks around it or not, opens the
    tunnel (with the keys as typed, padding included, it would not: see the padded example below). -/
theorem same_key_text_opens_tunnel (srv : Config) (c : ClientCfg) (key text : Bytes)
    (ho : NoGateOverride c) (hp : pathOfTarget c.target = pathWs)
    (hs : srv.psk = some (parsePsk text)) (hcl : c.psk = some (parsePsk text)) :
    route srv (received (buildRequest c key)) = .upgrade (acceptOf (trimOws key)) :=
  (command_line_keys_open_tunnel_iff srv c key (some text) ho hp hcl).mpr (Or.inr (hs.trans hcl.symm))

private theorem schemeRow_eq (s : String) :
    schemeRow s = if s = "http" ∨ s = "ws" then some ("ws", 80)
      else if s = "https" ∨ s = "wss" then some ("wss", 443) else none := by
  simp only [schemeRow, urlSchemeTable, List.find?_cons, List.find?_nil, List.contains_cons, List.contains_nil,
    Bool.or_false]
  have e1 : (s == "http" || s == "ws") = decide (s = "http" ∨ s = "ws") := by
    by_cases a : s = "http" <;> by_cases b : s = "ws" <;> simp [a, b]
  have e2 : (s == "https" || s == "wss") = decide (s = "https" ∨ s = "wss") := by
    by_cases a : s = "https" <;> by_cases b : s = "wss" <;> simp [a, b]
  rw [e1, e2]
  by_cases h1 : s = "http" ∨ s = "ws"
  · simp [h1]
  · by_cases h2 : s = "https" ∨ s = "wss"
    · simp [h1, h2]
    · simp [h1, h2]

/-- `ServerUrl::from_str` accepts exactly the four schemes (spelled as `http::Uri` reports them: `http` and
    `https` in any case, `ws` and `wss` in lower case only) with a host. -/
theorem normalize_ok_iff (u : UrlParts) :
    (∃ n, normalizeUrl u = .ok n) ↔
      ((u.scheme = "http" ∨ u.scheme = "ws" ∨ u.scheme = "https" ∨ u.scheme = "wss") ∧ u.authority.isSome = true) := by
  unfold normalizeUrl
  rw [schemeRow_eq]
  by_cases h1 : u.scheme = "http" ∨ u.scheme = "ws"
  · have : u.scheme = "http" ∨ u.scheme = "ws" ∨ u.scheme = "https" ∨ u.scheme = "wss" := by
      rcases h1 with h | h <;> simp [h]
    cases ha : u.authority <;> simp [h1, this]
  · by_cases h2 : u.scheme = "https" ∨ u.scheme = "wss"
    · have : u.scheme = "http" ∨ u.scheme = "ws" ∨ u.scheme = "https" ∨ u.scheme = "wss" := by
        rcases h2 with h | h <;> simp [h]
      cases ha : u.authority <;> simp [h1, h2]
    · have : ¬ (u.scheme = "http" ∨ u.scheme = "ws" ∨ u.scheme = "https" ∨ u.scheme = "wss") := by
        intro h
        rcases h with h | h | h | h
        · exact h1 (Or.inl h)
        · exact h1 (Or.inr h)
        · exact h2 (Or.inl h)
        · exact h2 (Or.inr h)
      simp [h1, h2]

/-- **Which path the client asks for**: the URL's own path and query, `/` if it has none - `/ws` is
    neither forced nor appended.  The request reaches `ws_handler` iff the user's URL spells the
    tunnel path; the scheme becomes one tungstenite takes (`ws`/`wss`), the port is added only when missing. -/
theorem normalized_url_reaches_gate_path (u : UrlParts) (n : ServerUrl) (h : normalizeUrl u = .ok n) :
    n.scheme ∈ tungSchemes ∧
    n.target = u.pathAndQuery.getD "/" ∧
    (n.addedPort.isSome = true ↔ u.hasPort = false) ∧
    (pathOfTarget n.target = pathWs ↔ ∃ pq, u.pathAndQuery = some pq ∧ pathOfTarget pq = "/ws") := by
  unfold normalizeUrl at h
  have hrow : ∀ s p, schemeRow u.scheme = some (s, p) → s ∈ tungSchemes := by
    intro s p hs
    rw [schemeRow_eq] at hs
    split at hs
    · injection hs with hs; injection hs with hs _; subst hs; decide
    · split at hs
      · injection hs with hs; injection hs with hs _; subst hs; decide
      · cases hs
  cases hs : schemeRow u.scheme with
  | none => simp [hs] at h
  | some row =>
    obtain ⟨s, p⟩ := row
    cases ha : u.authority with
    | none => simp [hs, ha] at h
    | some a =>
      simp only [hs, ha, Except.ok.injEq] at h
      subst h
      refine ⟨hrow s p hs, rfl, ?_, ?_⟩
      · cases u.hasPort <;> simp
      · cases hq : u.pathAndQuery with
        | none =>
          simp only [Option.getD, urlDefaultPathAndQuery]
          constructor
          · intro hx; exact absurd hx (by decide)
          · rintro ⟨pq, hpq, _⟩; cases hpq
        | some pq => simp [pathWs]

/-- **A URL that does not spell the tunnel path never opens a tunnel**, whatever the keys: the
    misconfiguration `penguin client ws://server 1080:…` (no `/ws`) is answered by the fallback handler
    (a 404 or the backend), indistinguishable from a wrong key. -/
theorem url_without_tunnel_path_never_opens_tunnel (srv : Config) (c : ClientCfg) (key : Bytes)
    (hp : pathOfTarget c.target ≠ pathWs) : ∀ h, route srv (buildRequest c key) ≠ .upgrade h := by
  intro h hu
  exact hp ((upgrade_iff srv _ h).mp hu).2.1

theorem url_without_path_gets_fallback (u : UrlParts) (n : ServerUrl) (h : normalizeUrl u = .ok n)
    (hnone : u.pathAndQuery = none) (srv : Config) (c : ClientCfg) (key : Bytes) (hc : c.target = n.target) :
    route srv (buildRequest c key) = .fallback := by
  have ht := (normalized_url_reaches_gate_path u n h).2.1
  rw [hnone] at ht
  have hpath : (buildRequest c key).path = "/" := by
    show pathOfTarget c.target = "/"
    rw [hc, ht]; decide
  exact (unknown_path_is_fallback srv _ (by rw [hpath]; unfold UnknownPath; decide)).1

section ClientExamples

private def cliOdd : ClientCfg :=
  { target := "/ws?token=1", urlHost := asciiBytes "127.0.0.1:8080", psk := some (asciiBytes "correct PSK"),
    hostname := some (asciiBytes "front.example"), custom := [("x-trace", asciiBytes "1"), ("host", asciiBytes "other.example")] }

-- the hypotheses hold for a non-trivial configuration (a query, a host name, two custom headers) …
private theorem cliOdd_noOverride : NoGateOverride cliOdd := by unfold NoGateOverride; decide
private theorem cliOdd_path : pathOfTarget cliOdd.target = pathWs := by decide +kernel
example : NoGateOverride cliOdd := cliOdd_noOverride
example : pathOfTarget cliOdd.target = pathWs := cliOdd_path
-- … and fail for one that overrides a gate header
example : ¬ NoGateOverride { cliOdd with custom := [("upgrade", asciiBytes "h2c")] } := by
  unfold NoGateOverride; decide
-- both sides of the iff occur
example : route cfgPsk (buildRequest cliOdd witnessKey) = .upgrade (acceptOf witnessKey) :=
  (client_request_opens_tunnel_iff cfgPsk cliOdd witnessKey cliOdd_noOverride cliOdd_path).mpr (.inr rfl)
example : route cfgPsk (buildRequest { cliOdd with psk := some (asciiBytes "correct psk") } witnessKey) = .fallback := by
  decide +kernel
example : route cfgPsk (buildRequest { cliOdd with psk := none } witnessKey) = .fallback := by decide +kernel
example : route cfgOpen (buildRequest cliOdd witnessKey) = .upgrade (acceptOf witnessKey) :=
  (client_request_opens_tunnel_iff cfgOpen cliOdd witnessKey cliOdd_noOverride cliOdd_path).mpr (.inl rfl)
-- the request itself: the last `host` wins over `--hostname`, which wins over the URL's host
example : (buildRequest cliOdd witnessKey).headers =
    [("host", asciiBytes "other.example"), ("connection", asciiBytes "Upgrade"), ("upgrade", asciiBytes "websocket"),
     ("sec-websocket-version", asciiBytes "13"), ("sec-websocket-key", witnessKey),
     ("sec-websocket-protocol", asciiBytes "penguin-v7"), ("x-penguin-psk", asciiBytes "correct PSK"),
     ("x-trace", asciiBytes "1")] := by decide +kernel
-- the client accepts the 101 and not the 404
example : clientAccepts (buildRequest cliOdd witnessKey).headers (respond cfgPsk (buildRequest cliOdd witnessKey)) = true :=
  (handshake_completes_iff cfgPsk cliOdd witnessKey cliOdd_noOverride cliOdd_path rfl).mpr (.inr rfl)
example : clientAccepts (buildRequest { cliOdd with psk := none } witnessKey).headers
    (respond cfgPsk (buildRequest { cliOdd with psk := none } witnessKey)) = false := by decide +kernel
-- what is not sent
example : sent { cliOdd with hostname := some [0xc3, 0xbc] } witnessKey = .error .hostnameNotText := by decide +kernel
example : sent { cliOdd with custom := [("upgrade", [0x77, 0xc3, 0xa9])] } witnessKey = .error (.valueNotText "upgrade") := by decide +kernel
example : sent cliOdd witnessKey = .ok (buildRequest cliOdd witnessKey) := by decide +kernel
-- padding: the same padded key on both sides is refused on arrival; `--ws-psk` drops the padding
example : route { cfgPsk with psk := some (asciiBytes " k") }
    (received (buildRequest { cliOdd with psk := some (asciiBytes " k") } witnessKey)) = .fallback := by decide +kernel
example : parsePsk (asciiBytes " \tk e y\t ") = asciiBytes "k e y" := by decide +kernel
example : trimOws (asciiBytes "  ") = [] := by decide +kernel
example : normalizeUrl { scheme := "https", authority := some "server.example", hasPort := false, pathAndQuery := some "/ws" } =
    .ok { scheme := "wss", authority := "server.example", addedPort := some 443, target := "/ws" } := by decide +kernel
example : normalizeUrl { scheme := "ws", authority := some "server.example:8080", hasPort := true, pathAndQuery := none } =
    .ok { scheme := "ws", authority := "server.example:8080", addedPort := none, target := "/" } := by decide +kernel
example : normalizeUrl { scheme := "WS", authority := some "server.example", hasPort := false, pathAndQuery := none } =
    .error .incorrectScheme := by decide +kernel
example : normalizeUrl { scheme := "ws", authority := none, hasPort := false, pathAndQuery := none } = .error .missingHost := by
  decide +kernel
example : route cfgOpen (buildRequest { cliOdd with target := "/" } witnessKey) = .fallback := by decide +kernel

end ClientExamples

end ClientRequest

end Penguin.C14
