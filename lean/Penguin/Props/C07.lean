/-
C07 — Stream opening: one request, one stream, correct target, disciplined flow ids.
Theorems over the endpoint model, for every state, every RNG script / generator state, every host
byte string and port, every `max_flow_id_retries`.
-/
import Penguin.Model.Mux
import Penguin.Lemmas.MuxBasic
import Penguin.Lemmas.MuxStep
import Penguin.Lemmas.PairCor
import Penguin.Lemmas.MuxBound
import Penguin.Lemmas.MuxOnce
import Penguin.Lemmas.MuxDest

namespace Penguin.C07
open Penguin Penguin.Mux

/-- An endpoint never proposes flow id 0 or an id it already uses — whatever values the random
    generator produces (script, then fallback generator, any state). -/
theorem never_proposes_zero_or_used (flows : List (Nat × Slot)) (script : List Nat) (fb fuel k : Nat)
    (rest : List Nat) (fb' : Nat) (h : drawId flows script fb fuel = some (k, rest, fb')) :
    k ≠ 0 ∧ lookup flows k = none :=
  Mux.drawId_spec flows script fb fuel k rest fb' h

/-- One round of an open request sends at most one `Connect`; if it does, the id is fresh and
    non-zero, the advertised window is this endpoint's rwnd, host and port are the requested ones,
    and the id is reserved for exactly this request. -/
theorem open_round_sends_one_connect (e : EP) (r : OpenReq) :
    (openRound e r).1.outq = e.outq ∨
    ∃ fid, fid ≠ 0 ∧ lookup e.flows fid = none ∧
      (openRound e r).1.outq = e.outq ++ [.frame (.connect fid e.opts.rwnd r.port r.host)] ∧
      lookup (openRound e r).1.flows fid = some (.requested r.req) :=
  (Mux.openRound_sends e r).imp (·.1) fun ⟨fid, h0, hn, ho, hf⟩ => ⟨fid, h0, hn, ho, hf ▸ lookup_insert_self ..⟩

/-- The acceptor creates exactly one stream per accepted `Connect`; the accepting application sees
    exactly the requested host bytes and port; the stream's send credit is the window the requester
    advertised; exactly one `Acknowledge` with this endpoint's window answers. -/
theorem connect_yields_one_stream (e : EP) (fid rwnd port : Nat) (host : Bytes) (ig : Bool)
    (h0 : fid ≠ 0) (hfree : lookup e.flows fid = none) (hoc : e.outClosed = false) (hm : e.muxAlive = true) :
    let r := processFrame e (.connect fid rwnd port host) ig
    r.1.objs = e.objs ++ [newObj e.opts fid rwnd host port] ∧
    lookup r.1.flows fid = some (.established e.objs.length) ∧
    r.1.outq = e.outq ++ [.frame (.acknowledge fid e.opts.rwnd)] ∧
    (r.1.acceptq = e.acceptq ++ [e.objs.length] ∨ r.1.park = some (.accept e.objs.length)) ∧
    r.2.2 = none :=
  Mux.processFrame_connect_accepts e fid rwnd port host ig h0 hfree hoc hm

theorem accepted_stream_shows_target (o : Opts) (fid rwnd port : Nat) (host : Bytes) :
    (newObj o fid rwnd host port).destHost = host ∧ (newObj o fid rwnd host port).destPort = port ∧
    (newObj o fid rwnd host port).credit = rwnd ∧ (newObj o fid rwnd host port).rxq = [] ∧
    (newObj o fid rwnd host port).buf = [] ∧ (newObj o fid rwnd host port).finishSent = false :=
  ⟨rfl, rfl, rfl, rfl, rfl, rfl⟩

/-- `accept` hands out the streams in the order their `Connect`s were accepted, with that target. -/
theorem accept_returns_stream (e : EP) (i : Nat) (rest : List Nat) (o : Obj)
    (hq : e.acceptq = i :: rest) (ho : e.objs[i]? = some o) :
    appAccept e = ({ e with acceptq := rest, handles := e.handles ++ [i] },
                   .stream e.handles.length o.destHost o.destPort) := by
  simp [appAccept, hq, ho]

/-- The requester gets exactly one stream per acknowledged request, with the window the acceptor
    advertised as its send credit; the open call returns exactly that stream. -/
theorem ack_yields_one_stream (e : EP) (fid n req : Nat) (ig : Bool)
    (hs : lookup e.flows fid = some (.requested req)) (hw : (e.opens.find? (·.req = req)).isSome) :
    (let r := processFrame e (.acknowledge fid n) ig
     r.1.objs = e.objs ++ [newObj e.opts fid n [] 0] ∧
     lookup r.1.flows fid = some (.established e.objs.length) ∧
     r.1.doneq = e.doneq ++ [(req, e.objs.length)] ∧
     r.2.2 = none ∧ r.1.outq = e.outq) ∧
    (∀ (e' : EP) (i : Nat), runDone e' [(req, i)] =
      ({ e' with handles := e'.handles ++ [i] }, [.openDone req (.ok e'.handles.length)])) :=
  ⟨Mux.processFrame_ack_establishes e fid n req ig hs hw, fun e' i => Mux.runDone_single e' req i⟩

/-- A `Connect` whose id is 0 or in use is rejected with exactly one `Reset`; the existing flow and
    everything else is left as it was. -/
theorem connect_zero_or_in_use_rejected (e : EP) (fid rwnd port : Nat) (host : Bytes) (ig : Bool)
    (h : fid = 0 ∨ (lookup e.flows fid).isSome) :
    processFrame e (.connect fid rwnd port host) ig = (e.enqFrame (.reset fid), [], none) ∧
    (e.enqFrame (.reset fid)).flows = e.flows ∧ (e.enqFrame (.reset fid)).objs = e.objs := by
  refine ⟨by simp [processFrame, h], by simp [EP.enqFrame], by simp [EP.enqFrame]⟩

/-- A rejected requester retries with a fresh id: the `Reset` releases the proposed id and queues
    the request for its next round, which is one `openRound` (fresh id, see above) … -/
theorem rejected_request_retries (e : EP) (fid req : Nat) (r : OpenReq) (ig : Bool)
    (hs : lookup e.flows fid = some (.requested req)) (hw : e.opens.find? (·.req = req) = some r) :
    processFrame e (.reset fid) ig =
      ({ e with flows := erase e.flows fid, retryq := e.retryq ++ [req] }, [], none) ∧
    (∀ e' : EP, e'.opens.find? (·.req = req) = some r →
      runRetries e' [req] = ((openRound e' r).1, (openRound e' r).2 ++ [])) :=
  ⟨Mux.processFrame_reset_retries e fid req r ig hs hw, fun e' h => Mux.runRetries_single e' req r h⟩

/-- … each round uses up one of the `max_flow_id_retries` attempts (an open starts with exactly that
    many), and with none left the request fails with `FlowIdRejected` and nothing is sent: never more
    than `max_flow_id_retries` `Connect` frames per request. -/
theorem retry_bound (e : EP) (r : OpenReq) :
    (r.retriesLeft = 0 →
        openRound e r = ({ e with opens := e.opens.filter (·.req ≠ r.req) }, [.openDone r.req .rejected])) ∧
    (∀ r', (openRound e r).1.opens.find? (·.req = r.req) = some r' → r'.retriesLeft + 1 = r.retriesLeft) :=
  ⟨Mux.openRound_exhausted e r, Mux.openRound_decrements e r⟩

theorem open_starts_with_max_retries (e : EP) (req : Nat) (host : Bytes) (port : Nat) :
    appOpen e req host port = openRound e { req := req, host := host, port := port, retriesLeft := e.opts.maxRetries } := rfl

/-- Simultaneous open with colliding ids: an endpoint that has itself proposed `fid` (slot
    `requested`) answers the peer's `Connect(fid)` with a `Reset` and keeps its own request. -/
theorem simultaneous_open_collision (e : EP) (fid req rwnd port : Nat) (host : Bytes) (ig : Bool)
    (hs : lookup e.flows fid = some (.requested req)) :
    processFrame e (.connect fid rwnd port host) ig = (e.enqFrame (.reset fid), [], none) := by
  simp [processFrame, hs]

/-- The reserved flow id 0 is never in use: in every state an endpoint reaches — whatever its own
    generator yields, whatever ids the peer proposes — no slot of the flow table is under id 0. -/
theorem flow_id_zero_never_in_use (o : Opts) (ops : List Mux.Op) :
    lookup (runOps { opts := o } ops).flows 0 = none :=
  (reachable_bnd o ops).zero

/-- The accepting application sees exactly the requested host bytes and port — and keeps seeing them:
    over every history of stimuli of one endpoint and every continuation of it (application calls,
    deliveries of anything a peer may send, faults, the wind-down), a stream object is never removed
    or renumbered and its flow id and its target — the host bytes and port of the `Connect` that
    created it (`accepted_stream_shows_target`), which `accept` shows (`accept_returns_stream`) — never
    change. (`Lemmas/MuxDest.lean`: a relation proved for every function of the endpoint model.) -/
theorem stream_target_never_changes (o : Opts) (ops more : List Mux.Op) (k : Nat) (ob : Obj)
    (h : (runOps { opts := o } ops).objs[k]? = some ob) :
    ∃ ob', (runOps { opts := o } (ops ++ more)).objs[k]? = some ob' ∧
      ob'.fid = ob.fid ∧ ob'.destHost = ob.destHost ∧ ob'.destPort = ob.destPort :=
  object_identity_is_stable _ ops more k ob h

/-! Non-vacuity: a `Connect` for "a":80 creates object 0; after it is accepted, written to, finished
    by the peer and dropped, object 0 still shows flow 5 and "a":80. -/
example : ((runOps { opts := {} } [.deliver (.msg (.frame (.connect 5 4 80 [97])))]).objs[0]?).map (·.destHost) = some [97] := by decide
example : ((runOps { opts := {} } ([.deliver (.msg (.frame (.connect 5 4 80 [97])))] ++
    [.accept, .write 0 [1, 2], .deliver (.msg (.frame (.finish 5))), .dropStream 0])).objs[0]?).map
      (fun ob => (ob.fid, ob.destHost, ob.destPort)) = some (5, [97], 80) := by decide

/-- Each stream request is answered at most once — with a stream, `FlowIdRejected` or `Closed` — and
    nothing is answered that was not asked: for every history of stimuli of one endpoint (application
    calls, deliveries of anything a peer may send, faults, the wind-down) in which request numbers
    are not reused, the `openDone` events of the whole history are pairwise distinct requests, each
    one started by the history. (`Lemmas/MuxOnce.lean`: a relation on (state, later state, events in
    between) proved for every event-emitting function of the endpoint model.) -/
theorem each_request_answered_at_most_once (o : Opts) (ops : List Mux.Op) (h : (opensOf ops).Nodup) :
    (doneReqs (runOpsEv { opts := o } ops).2).Nodup ∧
    ∀ r, r ∈ doneReqs (runOpsEv { opts := o } ops).2 → r ∈ opensOf ops :=
  answered_at_most_once o ops h

/-! Non-vacuity: request 1 is acknowledged (a stream), request 2 is reset three times (the retries
    run out: `FlowIdRejected`), request 3 is still pending when the peer closes (`Closed`). -/
private def hops : List Mux.Op :=
  [.open 1 [97] 80, .open 2 [98] 81, .deliver (.msg (.frame (.acknowledge 7 4))),
   .deliver (.msg (.frame (.reset 8))), .deliver (.msg (.frame (.reset 9))), .deliver (.msg (.frame (.reset 10))),
   .open 3 [99] 82, .deliver (.msg .close)]
example : opensOf hops = [1, 2, 3] := by decide
example : doneReqs (runOpsEv { opts := { maxRetries := 3 }, rng := [7, 8, 9, 10, 11, 12] } hops).2 = [1, 2, 3] := by decide

/-! Non-vacuity of the handshake: a request queues a `Connect` under the first non-zero id of the script,
    carrying the own window; a `Connect` is answered by an `Acknowledge` carrying the own window. -/
example : (appOpen { opts := {}, rng := [0, 5] } 1 [0x61] 80).1.outq
    = [.frame (.connect 5 4 80 [0x61])] := by decide
example : (processFrame { opts := {} } (.connect 5 9 80 [0x61]) false).1.outq = [.frame (.acknowledge 5 4)] := by decide

open Penguin.Pair in
/-- One request, one stream on each endpoint: whenever a flow id is established on both endpoints
    (in any reachable state of the pair, under any interleaving), each endpoint has exactly one stream
    object carrying that id, both carry the same id, and each one's receive window is the `rwnd` its
    endpoint advertises — the initial send credit of the peer (`pair_window_never_exceeded`, C03). -/
theorem pair_one_stream_each_side {oa ob : Opts} {ra rb : List Nat} (c : Cfg oa ob ra rb) (as : List (Pair.Side × Pair.Act))
    {x i j : Nat} (e : Established (Pair.run (Pair.init oa ob ra rb) as) x i j) :
    let p := Pair.run (Pair.init oa ob ra rb) as
    ∃ oA oB, p.a.objs[i]? = some oA ∧ p.b.objs[j]? = some oB ∧ oA.fid = x ∧ oB.fid = x ∧
      oA.cap = oa.rwnd ∧ oB.cap = ob.rwnd ∧
      (∀ k o, p.a.objs[k]? = some o → o.fid = x → k = i) ∧ (∀ k o, p.b.objs[k]? = some o → o.fid = x → k = j) := by
  obtain ⟨oA, oB, _, h1, h2, h3, h4, h5, h6, _, h7, h8⟩ := established_dir (reach_inv c as) e
  have ho := run_opts (Pair.init oa ob ra rb) as
  exact ⟨oA, oB, h1, h2, h3, h4, by rw [h5, ho.1]; rfl, by rw [h6, ho.2]; rfl, h7, h8⟩

open Penguin.Pair in
/-- Flow ids stay usable for ever: no id that is still in a script is in use anywhere (slot, object,
    frame in flight, pending notification) on either endpoint, in any reachable state. -/
theorem pair_script_ids_are_free {oa ob : Opts} {ra rb : List Nat} (c : Cfg oa ob ra rb) (as : List (Pair.Side × Pair.Act))
    (x : Nat) (hx : x ∈ (Pair.run (Pair.init oa ob ra rb) as).a.rng ∨ x ∈ (Pair.run (Pair.init oa ob ra rb) as).b.rng) :
    let p := Pair.run (Pair.init oa ob ra rb) as
    lookup p.a.flows x = none ∧ lookup p.b.flows x = none ∧ fl x (pathAB p) = [] ∧ fl x (pathBA p) = [] := by
  have f := fresh_of_inRng (reach_inv c as) x hx
  exact ⟨f.sa, f.sb, f.fab, f.fba⟩

/-! Non-vacuity of the pair theorems: a concrete run (windows 2, threshold 1) that opens a stream,
    writes three bytes, reads them in two reads, shuts down and reads end-of-stream. -/
private def pcfg : Mux.Opts := { rwnd := 2, threshold := 1 }
private def pacts : List (Pair.Side × Pair.Act) :=
  [(.A, .open 1 [104] 80), (.A, .xmit), (.B, .recv), (.B, .xmit), (.A, .recv), (.A, .runDone), (.B, .accept),
   (.A, .write 0 [1, 2, 3]), (.A, .xmit), (.B, .recv), (.B, .read 0 2), (.B, .read 0 9), (.B, .xmit), (.A, .recv),
   (.A, .shutdown 0), (.A, .xmit), (.B, .recv), (.B, .read 0 9)]
example : Pair.Cfg pcfg pcfg [7, 8] [9, 10] := ⟨by decide, by decide, by decide, by decide⟩
example : Pair.Established (Pair.run (Pair.init pcfg pcfg [7, 8] [9, 10]) pacts) 7 0 0 :=
  ⟨by decide, by decide, by decide, by decide, by decide⟩

end Penguin.C07
