/-
C10 — A misbehaving peer cannot crash, wedge or cross-contaminate an endpoint.
Theorems over the endpoint model (`Penguin.Mux`): for EVERY endpoint state and EVERY well-formed frame
(no hypothesis on the peer). Totality ("never crashes") is Lean totality of `processFrame`; that the
Rust code returns instead of panicking is decided by the correspondence run (release build, catch_unwind).
-/
import Penguin.Model.Mux
import Penguin.Model.WsMsg
import Penguin.Lemmas.MuxBasic
import Penguin.Lemmas.MuxStep
import Penguin.Lemmas.MuxBound
import Penguin.Lemmas.MuxReply
import Penguin.Lemmas.PairQuiesce

namespace Penguin.C10
open Penguin Penguin.Mux

/-- A running endpoint (its outbound queue open) keeps serving after any frame whatsoever, whatever
    the application has done meanwhile (dropped handles, cancelled open requests, even dropped the
    Multiplexor — that ends the task through its own orderly path): processing a frame never ends the
    receive loop. -/
theorem frame_never_ends_connection (e : EP) (f : Frame) (ig : Bool) (ho : e.outClosed = false) :
    (processFrame e f ig).2.2 = none :=
  Mux.processFrame_continues e f ig ho

/-! #### The reply table (PROTOCOL.md): what is put on the outbound queue, per opcode × slot state -/

/-- Frames on flows the endpoint does not know are answered with exactly one `Reset` of that flow
    (`Acknowledge`, `Finish`, `Push`), and nothing else changes. -/
theorem unknown_flow_gets_reset (e : EP) (fid : Nat) (ig : Bool) (h : lookup e.flows fid = none) :
    (∀ n, processFrame e (.acknowledge fid n) ig = (e.enqFrame (.reset fid), [], none)) ∧
    processFrame e (.finish fid) ig = (e.enqFrame (.reset fid), [], none) ∧
    (∀ d, processFrame e (.push fid d) ig = (e.enqFrame (.reset fid), [], none)) := by
  simp [processFrame, h]

/-- A `Reset` is never answered with a `Reset`: whatever processing a `Reset` appends to the outbound
    queue contains no `Reset` frame (it can only be the `Connect` of a retried open request). -/
theorem never_reset_to_reset (e : EP) (fid : Nat) (ig : Bool) :
    ∃ extra, (processFrame e (.reset fid) ig).1.outq = e.outq ++ extra ∧
      ∀ m ∈ extra, Msg.isReset m = false :=
  Mux.processFrame_reset_no_reset e fid ig

/-- `Connect` with id 0 or an id in use: exactly one `Reset`, the existing flow is not disturbed. -/
theorem connect_in_use_rejected (e : EP) (fid rwnd port : Nat) (host : Bytes) (ig : Bool)
    (h : fid = 0 ∨ (lookup e.flows fid).isSome) :
    processFrame e (.connect fid rwnd port host) ig = (e.enqFrame (.reset fid), [], none) := by
  simp [processFrame, h]

/-- More `Push` frames than the window allows: the offending flow — and only it — is closed and
    reset (once, unless the local side had already finished writing). -/
theorem window_overrun_resets_only_that_flow (e : EP) (fid i : Nat) (o : Obj) (d : Bytes) (ig : Bool)
    (hs : lookup e.flows fid = some (.established i)) (ho : e.objs[i]? = some o)
    (halive : o.senderAlive = true) (hopen : o.rxOpen = true) (hfull : ¬ o.rxq.length < o.cap) :
    let r := processFrame e (.push fid d) ig
    r.2.2 = none ∧ lookup r.1.flows fid = none ∧
    (∀ y, y ≠ fid → lookup r.1.flows y = lookup e.flows y) ∧
    r.1.outq = (if o.finishSent then e else e.enqFrame (.reset fid)).outq :=
  Mux.processFrame_overrun e fid i o d ig hs ho halive hopen hfull

/-- `Bind` when binds are disabled: a `Reset`, nothing else. -/
theorem bind_disabled_reset (e : EP) (fid : Nat) (bt : BindType) (port : Nat) (host : Bytes) (ig : Bool)
    (h : e.opts.bindCap = 0) :
    processFrame e (.bind fid bt port host) ig = (e.enqFrame (.reset fid), [], none) := by
  simp [processFrame, h]

/-- Duplicate `Finish`, or `Finish`/`Acknowledge`/`Push` on an established flow, never remove
    another flow's slot and never touch another stream's object. -/
theorem bystander_slots_kept (e : EP) (f : Frame) (ig : Bool) (y : Nat) (s : Slot)
    (hy : lookup e.flows y = some s) (hne : ∀ fid, Msg.flow? (.frame f) = some fid → y ≠ fid) :
    lookup (processFrame e f ig).1.flows y = some s :=
  Mux.processFrame_other_slot e f ig y s hy hne

/-- … and every stream object that is not the one addressed by the frame keeps all of its state
    (buffered data, credit, flags): frames addressed to one flow cannot contaminate another. -/
theorem bystander_objects_untouched (e : EP) (f : Frame) (ig : Bool) (j : Nat) (hj : j < e.objs.length)
    (hne : ∀ fid, Msg.flow? (.frame f) = some fid → lookup e.flows fid ≠ some (.established j)) :
    (processFrame e f ig).1.objs[j]? = e.objs[j]? :=
  Mux.processFrame_other_obj e f ig j hj hne

/-- A message that is not a valid frame ends the connection with an error … -/
theorem invalid_frame_ends (e : EP) (err : DecErr) (ig : Bool) :
    processIn e (.bad err) ig = (e, [], some (.invalidFrame err)) := rfl

/-- … that every pending operation observes: after the resulting wind-down the task is finished, the
    flow table is empty, no open request is left pending, and the exit value is that error. -/
theorem invalid_frame_resolves_everything (e : EP) (err : DecErr) :
    let r := windDown e false (.invalidFrame err)
    r.1.dead = true ∧ r.1.flows = [] ∧ (∀ q ∈ r.1.opens, q.req ∈ r.1.retryq) ∧ r.1.park = none ∧
    r.2.getLast? = some (.exit (.invalidFrame err)) :=
  Mux.windDown_resolves e (.invalidFrame err) (.inr nofun)

/-- Whatever a peer sends, for as long as it likes, and whatever the application does meanwhile: in
    every state the endpoint reaches, each stream's receive queue holds at most that stream's own
    window of frames (`Push` frames beyond it reset the flow, they are not stored), and the accept,
    datagram and bind queues hold at most their configured capacities (`Datagram`s beyond are dropped,
    the receive loop waits for the application on full accept / bind queues). A misbehaving peer
    cannot make the endpoint buffer without bound. (`Lemmas/MuxBound.lean`: induction over every
    history, every function of the endpoint model.) -/
theorem peer_cannot_overfill_buffers (o : Opts) (ops : List Mux.Op) :
    let e := runOps { opts := o } ops
    (∀ (i : Nat) (ob : Obj), e.objs[i]? = some ob → ob.rxq.length ≤ ob.cap) ∧
    e.acceptq.length ≤ o.acceptCap ∧ e.dgramq.length ≤ o.dgramCap ∧ e.bindq.length ≤ o.bindCap := by
  have h := reachable_bnd o ops
  have ho : (runOps { opts := o } ops).opts = o := h.opts
  have h2 := h.acc; have h3 := h.dg; have h4 := h.bnd
  rw [ho] at h2 h3 h4
  exact ⟨h.rxq, h2, h3, h4⟩

/-- No amplification: for EVERY endpoint state and EVERY incoming frame, processing the frame puts at
    most ONE message on the outbound queue (and removes none) — an arbitrary peer gets at most one
    reply (`Acknowledge` or `Reset`) per frame it sends, so it cannot make the endpoint flood the
    connection. (`Lemmas/MuxReply.lean`; a rejected open request is retried later by its own future,
    once, not by the receive loop.) -/
theorem never_amplifies (e : EP) (f : Frame) (ig : Bool) :
    ∃ extra, (processFrame e f ig).1.outq = e.outq ++ extra ∧ extra.length ≤ 1 :=
  Mux.processFrame_atMost1 e f ig

/-! Non-vacuity: a `Connect` is answered with exactly one `Acknowledge`; a `Push` that overruns the
    window with exactly one `Reset`; a `Reset` with nothing. -/
example : (processFrame { opts := {}, outq := [.ping] } (.connect 5 4 80 []) false).1.outq =
    [.ping, .frame (.acknowledge 5 4)] := by decide
private def full5 : EP :=
  { opts := {}, flows := [(5, .established 0)], objs := [{ fid := 5, cap := 0, credit := 4, threshold := 4 }] }
example : (processFrame full5 (.push 5 [1]) false).1.outq = [.frame (.reset 5)] := by decide
example : (processFrame full5 (.reset 5) false).1.outq = [] := by decide

/-! Non-vacuity: three `Push` frames into a window of two: two are queued, the third resets the flow. -/
example : ((runOps { opts := { rwnd := 2 } } [.deliver (.msg (.frame (.connect 5 9 80 []))),
    .deliver (.msg (.frame (.push 5 [1]))), .deliver (.msg (.frame (.push 5 [2])))]).objs[0]?.map (·.rxq.length)) = some 2 := by decide
example : lookup (runOps { opts := { rwnd := 2 } } [.deliver (.msg (.frame (.connect 5 9 80 []))),
    .deliver (.msg (.frame (.push 5 [1]))), .deliver (.msg (.frame (.push 5 [2]))), .deliver (.msg (.frame (.push 5 [3])))]).flows 5 = none := by decide

example : (processFrame { opts := {} } (.push 7 [1]) false).1.outq = [.frame (.reset 7)] := by decide
example : lookup ({ opts := {}, flows := [(3, .requested 1)] } : EP).flows 3 = some (.requested 1) := by decide

/-! ## No endless chatter between two conforming endpoints

`Pair.moved p l`: the number of messages handed to a transport (`xmit`) or taken from it and processed
(`recv`) in the course of running `l` from `p` (actions that are not enabled are skipped).
`Pair.M`: the measure of `Lemmas/PairQuiesce.lean` (see Props/C04, last section). -/

open Penguin.Pair in
/-- Without any application action, two conforming endpoints exchange at most `M p` messages: in ANY
    schedule of internal actions (transmissions, frame processing, notifications, parked hand-overs, open
    futures returning or retrying; either side, any interleaving, enabled or not) from ANY pair state `p`,
    the transmissions and frame-processing steps number at most `M p` — each pays one unit of the measure,
    no internal action ever increases it. A reply (`Acknowledge`, `Reset`) never triggers an endless
    exchange: a `Reset` is never answered (`never_reset_to_reset`), an `Acknowledge` at most by a `Reset`,
    a rejected `Connect` is retried at most `max_flow_id_retries` times. -/
theorem no_endless_chatter (p : PS) (l : List (Side × Pair.Act)) (hi : ∀ sa ∈ l, internal sa.2 = true) :
    moved p l ≤ M p ∧ moved p l + M (Pair.run p l) ≤ M p :=
  ⟨by have := moved_measure p l hi; omega, moved_measure p l hi⟩

/-! Non-vacuity: both endpoints request a stream and both draw flow id 7. Each `Connect` is rejected with
    a `Reset`, each request is retried with a fresh id (8, 9), acknowledged and returned: 16 messages
    moved, `M = 78` at the start, `0` at the end, where nothing is left to do. -/
private def ch0 : Pair.PS :=
  Pair.run (Pair.init {} {} [7, 8, 20] [7, 9, 21]) [(.A, .open 1 [104] 80), (.B, .open 1 [105] 81)]
private def chs : List (Pair.Side × Pair.Act) :=
  [(.A, .xmit), (.B, .xmit), (.A, .recv), (.B, .recv), (.A, .xmit), (.B, .xmit), (.A, .recv), (.B, .recv),
   (.A, .runRetries), (.B, .runRetries), (.A, .xmit), (.B, .xmit), (.A, .recv), (.B, .recv), (.A, .xmit), (.B, .xmit),
   (.A, .recv), (.B, .recv), (.A, .runDone), (.B, .runDone)]
example : (∀ sa ∈ chs, Pair.internal sa.2 = true) ∧ Pair.moved ch0 chs = 16 ∧ Pair.M ch0 = 78 ∧
    Pair.M (Pair.run ch0 chs) = 0 ∧ Pair.ProdSched ch0 chs := by decide
example : Pair.Quiescent (Pair.run ch0 chs) := (Pair.quiescent_iff _).2 (by decide)
example : Pair.moved ch0 chs ≤ Pair.M ch0 := (no_endless_chatter ch0 chs (by decide)).1
/-- The `Reset` that answers the colliding `Connect` is on the wire after the first four steps. -/
example : (Pair.run ch0 (chs.take 6)).ab = [.frame (.reset 7)] := by decide

/-! ### Below the frames: what a peer can make the task see at the WebSocket level (`ws.rs`, `Model/WsMsg.lean`) -/

open Penguin.WsMsg in
/-- Every message a reading WebSocket can deliver (everything but a raw `Frame`) is mapped — no panic —, a text
    message is exactly the binary message of its bytes (it cannot do more than those bytes could: `process_message`
    decodes them like any frame and an undecodable one ends the connection with an error, `Props.C10` above),
    and the control messages carry nothing the peer chose. -/
theorem ws_incoming_total_and_text_is_binary (m : TMsg) :
    (m ≠ .frame → (fromT m).isSome = true) ∧
    (∀ b, fromT (.text b) = fromT (.binary b)) ∧
    (∀ b b', fromT (.ping b) = fromT (.ping b') ∧ fromT (.pong b) = fromT (.pong b')) ∧
    (∀ f f', fromT (.close f) = fromT (.close f')) := by
  refine ⟨?_, fun _ => rfl, fun _ _ => ⟨rfl, rfl⟩, fun _ _ => rfl⟩
  cases m <;> simp [fromT]

open Penguin.WsMsg in
/-- What the endpoint sends is read back as what it meant (between two penguin endpoints the mapping loses
    nothing), binary payloads are untouched in both directions, and a keepalive `Ping` / `Pong` / `Close` goes out
    with an empty payload. -/
theorem ws_roundtrip (m : WsMsg.Msg) :
    fromT (toT m) = some m ∧
    (∀ b, toT (.binary b) = .binary b ∧ fromT (.binary b) = some (.binary b)) ∧
    toT .ping = .ping [] ∧ toT .pong = .pong [] ∧ toT .close = .close none := by
  refine ⟨?_, fun _ => ⟨rfl, rfl⟩, rfl, rfl, rfl⟩
  cases m <;> rfl

open Penguin.WsMsg in
example : fromT (.text [0x70, 0, 0, 0, 1]) = some (.binary [0x70, 0, 0, 0, 1]) ∧ fromT .frame = none ∧
    fromT (.close (some (1000, [98, 121, 101]))) = some .close := by decide

end Penguin.C10
