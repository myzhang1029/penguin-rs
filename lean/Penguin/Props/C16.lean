/-
C16 — Keepalive detects a dead peer in bounded time and never a live one.
Property theorems only; helper lemmas and invariants are in `Lemmas/Timing.lean`.

Time is in milliseconds since the task started; `run I T delay extra n` is the state of the ping
loop after the ticks `0 … n-1` of the interval (times `0, I, …, (n-1)·I`) have been due;
`delay k = some d` means the peer's pong for ping number `k` arrives `d` ms after that ping,
`none` that it never arrives; `extra` are arrival times of unsolicited pongs.  Every pong history
is expressible this way.
-/
import Penguin.Model.Timing
import Penguin.Lemmas.Timing

namespace Penguin.C16
open Penguin.Timing Penguin.Lemmas.Timing

/-- The pings sent so far are exactly those of the ticks served so far: `0, I, 2I, …`. -/
theorem pings_every_I (I : Nat) (T : OptionalDuration) (delay : Nat → Option Nat) (extra : List Nat) (n : Nat) :
    (run I T delay extra n).pings.reverse = (List.range (run I T delay extra n).tick).map (· * I) :=
  run_pings I T delay extra n

/-- … and as long as the endpoint has not timed out every tick is served: after `n` ticks the pings
    are `0, I, …, (n-1)·I`. -/
theorem pings_while_alive (I : Nat) (T : OptionalDuration) (delay : Nat → Option Nat) (extra : List Nat) (n : Nat)
    (h : (run I T delay extra n).dead = none) :
    (run I T delay extra n).pings.reverse = (List.range n).map (· * I) := by
  have := run_pings I T delay extra n
  unfold PingsOk at this
  rw [run_alive_tick I T delay extra n h] at this
  exact this

/-- A timeout happens at a tick (`t = k·I`), instead of that tick's ping, and is final. -/
theorem timeout_at_tick (I : Nat) (T : OptionalDuration) (delay : Nat → Option Nat) (extra : List Nat) (n t : Nat)
    (h : (run I T delay extra n).dead = some t) :
    t = (run I T delay extra n).tick * I ∧ (run I T delay extra n).tick < n ∧
    ∀ m, run I T delay extra (n + m) = run I T delay extra n := by
  refine ⟨((inv_run I T delay extra n).window t h).1, ?_, fun m => run_dead_stays I T delay extra n m t h⟩
  cases n with
  | zero => simp [run, PingLoop.init] at h
  | succ n =>
    cases hd : (run I T delay extra n).dead with
    | some t' =>
      have := run_dead_stays I T delay extra n 1 t' hd
      rw [this]
      exact Nat.lt_succ_of_le (run_tick_le I T delay extra n)
    | none =>
      rcases run_succ I T delay extra n hd with ⟨_, _, ht⟩ | ⟨_, hd', _⟩
      · rw [ht]; omega
      · rw [hd'] at h; cases h

/-- A timeout at `t` means a timeout `T` is configured and the last pong the endpoint received
    (`lastPong`; `0` = start-up if none) is strictly more than `T` old: never earlier than `T`. -/
theorem detect_lower (I : Nat) (T : OptionalDuration) (delay : Nat → Option Nat) (extra : List Nat) (n t : Nat)
    (h : (run I T delay extra n).dead = some t) :
    ∃ T', T = some T' ∧ T' < t - (run I T delay extra n).lastPong := by
  obtain ⟨_, T', hT, hlt, _⟩ := (inv_run I T delay extra n).window t h
  exact ⟨T', hT, hlt⟩

/-- … and at most `T + I` old. (No assumption on `T` versus `I`.) -/
theorem detect_upper (I : Nat) (T' : Nat) (delay : Nat → Option Nat) (extra : List Nat) (n t : Nat)
    (h : (run I (some T') delay extra n).dead = some t) :
    t - (run I (some T') delay extra n).lastPong ≤ T' + I := by
  obtain ⟨_, T'', hT, _, hle⟩ := (inv_run I (some T') delay extra n).window t h
  cases hT
  omega

/-- `lastPong` really is "the last pong it received (or start-up)": it is `0` or the arrival time of
    an unsolicited pong or of the pong answering one of the pings sent, and no pong that has arrived
    by the latest tick is newer. -/
theorem lastPong_is_last_received (I : Nat) (T : OptionalDuration) (delay : Nat → Option Nat) (extra : List Nat)
    (n : Nat) :
    (∀ j d, j < (run I T delay extra n).tick → delay j = some d →
        j * I + d ≤ (run I T delay extra n).lastPong ∨ j * I + d ∈ (run I T delay extra n).inflight) ∧
    ∀ P, (∀ a ∈ extra, a ≤ P) → (∀ j d, delay j = some d → j * I + d ≤ P) →
        (run I T delay extra n).lastPong ≤ P :=
  ⟨accounted_run I T delay extra n, fun P he hd => (bounded_run I T delay extra P he hd n).1⟩

/-- A peer that stops answering is detected: if no pong ever arrives after time `P` (the last pong,
    or `0`), the endpoint times out, at a time `t` with `T < t - p ≤ T + I` for the last pong `p ≤ P`
    it received, hence `t ≤ P + T + I`. -/
theorem detect_dead_peer (I T' P : Nat) (hI : 0 < I) (delay : Nat → Option Nat) (extra : List Nat)
    (hextra : ∀ a ∈ extra, a ≤ P) (hdelay : ∀ j d, delay j = some d → j * I + d ≤ P) :
    ∃ n t, (run I (some T') delay extra n).dead = some t ∧
      T' < t - (run I (some T') delay extra n).lastPong ∧
      t - (run I (some T') delay extra n).lastPong ≤ T' + I ∧ t ≤ P + T' + I := by
  -- tick number `P + T' + 1` is later than `P + T'`
  let k := P + T' + 1
  have hk : P + T' < k * I := by
    have : k ≤ k * I := Nat.le_mul_of_pos_right k hI
    omega
  have hdead : (run I (some T') delay extra (k + 1)).dead ≠ none := by
    intro hnone
    have hp := run_alive_prefix I (some T') delay extra (k + 1) k (Nat.le_succ k) hnone
    have hb := bounded_run I (some T') delay extra P hextra hdelay k
    rcases run_succ I (some T') delay extra k hp with ⟨_, hd, _⟩ | ⟨hno, _, _⟩
    · rw [hd] at hnone; cases hnone
    · have hlp := hb.latest_le (fun a => a ≤ k * I)
      have := hno T' rfl
      omega
  cases hd : (run I (some T') delay extra (k + 1)).dead with
  | none => exact absurd hd hdead
  | some t =>
    refine ⟨k + 1, t, hd, ?_, detect_upper I T' delay extra (k + 1) t hd, ?_⟩
    · obtain ⟨T'', hT, hlt⟩ := detect_lower I (some T') delay extra (k + 1) t hd
      cases hT; exact hlt
    · have hu := detect_upper I T' delay extra (k + 1) t hd
      have hb := (bounded_run I (some T') delay extra P hextra hdelay (k + 1)).1
      omega

/-- The part of "a peer that answers every ping within `T` is never timed out" that is true of the
    code: if every ping is answered within `D`, and `D` rounded up to whole intervals (`q·I`) fits
    in the timeout, the endpoint never times out.  (The loop compares `now - lastPong` with `T` only
    at ticks, so a pong that is on its way for more than `⌊T/I⌋·I` can be "late" although younger
    than `T`.) -/
theorem no_false_positive_partial (I T' D q : Nat) (hq : 0 < q) (hD : D ≤ q * I) (hT : q * I ≤ T')
    (delay : Nat → Option Nat) (extra : List Nat)
    (hans : ∀ k, ∃ d, delay k = some d ∧ d ≤ D) (n : Nat) :
    (run I (some T') delay extra n).dead = none := by
  induction n with
  | zero => rfl
  | succ n ih =>
    have htick := run_alive_tick I (some T') delay extra n ih
    have hacc := accounted_run I (some T') delay extra n
    rcases run_succ I (some T') delay extra n ih with ⟨⟨T'', hT'', hlt⟩, _, _⟩ | ⟨_, hd, _⟩
    · exfalso
      cases hT''
      by_cases hnq : n < q
      · -- fewer than `q` ticks so far: even start-up is recent enough
        have : n * I ≤ q * I := Nat.mul_le_mul_right I (Nat.le_of_lt hnq)
        omega
      · -- the pong for ping `n - q` has arrived by now
        obtain ⟨d, hdel, hdD⟩ := hans (n - q)
        have hj : n - q < (run I (some T') delay extra n).tick := by omega
        have hmul : (n - q) * I + q * I = n * I := by
          rw [← Nat.add_mul]; congr 1; omega
        have hge := hacc.arrived_le_latest hj hdel (now := n * I) (by omega)
        omega
    · exact hd

/-- The property as stated, for timeouts that are a whole number of intervals (in particular
    `T = I`, what the builder's clamp produces): every ping answered within `T` ⇒ never times out. -/
theorem no_false_positive (I q : Nat) (hq : 0 < q) (delay : Nat → Option Nat) (extra : List Nat)
    (hans : ∀ k, ∃ d, delay k = some d ∧ d ≤ q * I) (n : Nat) :
    (run I (some (q * I)) delay extra n).dead = none :=
  no_false_positive_partial I (q * I) (q * I) q hq (Nat.le_refl _) (Nat.le_refl _) delay extra hans n

/-- For any timeout `T ≥ I`: a peer that answers every ping within one interval is never timed out. -/
theorem no_false_positive_prompt (I T' : Nat) (hIT : I ≤ T') (delay : Nat → Option Nat) (extra : List Nat)
    (hans : ∀ k, ∃ d, delay k = some d ∧ d ≤ I) (n : Nat) :
    (run I (some T') delay extra n).dead = none :=
  no_false_positive_partial I T' I 1 (by omega) (by omega) (by omega) delay extra hans n

/-- The full statement (any `T ≥ I`, every ping answered within `T`) is false of the code:
    `I = 2`, `T = 3`, ping 0 answered at once, ping 1 (sent at 2) answered after 3 — the check at
    time 4 sees the last pong 4 ms ago and gives up, although ping 1 is only 2 ms old.
    Replayed on the real task: corpus/C16/late-pong-within-timeout.ops (known finding). -/
theorem no_false_positive_full_fails :
    ¬ ∀ (I T' : Nat) (delay : Nat → Option Nat) (n : Nat), 0 < I → I ≤ T' →
        (∀ k, ∃ d, delay k = some d ∧ d ≤ T') → (run I (some T') delay [] n).dead = none := by
  intro h
  have := h 2 3 (fun k => if k = 1 then some 3 else some 0) 3 (by decide) (by decide)
    (by intro k; by_cases hk : k = 1 <;> simp [hk])
  revert this
  decide

/-- Why the builder must clamp: with `T < I` even a peer that answers every ping at once is
    declared dead at the second tick. -/
theorem small_timeout_false_positive (I T' : Nat) (h : T' < I) :
    (run I (some T') (fun _ => some 0) [] 2).dead = some I := by
  simp [run, tickStep, PingLoop.init, latest, OptionalDuration.cmpDuration, Nat.compare_eq_lt, h]

/-- `keepalive_timeout = NONE`: the endpoint never times out, whatever the peer does. -/
theorem timeout_none (I : Nat) (delay : Nat → Option Nat) (extra : List Nat) (n : Nat) :
    (run I none delay extra n).dead = none := by
  induction n with
  | zero => rfl
  | succ n ih =>
    rcases run_succ I none delay extra n ih with ⟨⟨T', hT, _⟩, _, _⟩ | ⟨_, hd, _⟩
    · cases hT
    · exact hd

/-- `keepalive_interval = NONE`: no ping is ever sent and no timeout ever occurs, whatever the
    timeout setting and the peer. -/
theorem disabled (o : Options) (h : o.keepaliveInterval = none) (delay : Nat → Option Nat) (extra : List Nat)
    (H : Nat) :
    ∃ s, keepalive o delay extra H = .ok s ∧ s.pings = [] ∧ s.dead = none := by
  refine ⟨PingLoop.init extra, ?_, rfl, rfl⟩
  simp [keepalive, h]

/-- Whatever setters are called, in whatever order and how often: the result depends only on the
    last value given to each of the two keepalive setters, and the effective timeout is the
    documented clamp of the two. -/
theorem builder_order_independent (calls : List Setter) (o : Options) (h : Options.build calls = some o) :
    o.keepaliveInterval = lastInterval calls ∧
    o.keepaliveTimeout = clampTo (lastTimeout calls) (lastInterval calls) := by
  obtain ⟨h1, h2, h3⟩ := buildFrom_spec calls Options.new o h
  have hg := h3 new_good
  unfold Good at hg
  rw [hg, h1, h2]
  exact ⟨rfl, rfl⟩

/-- For every list of setter calls: if keepalive is enabled, the effective timeout is at least the
    interval (in `OptionalDuration`'s own order, where `NONE` = never is the greatest). -/
theorem builder_clamps (calls : List Setter) (o : Options) (h : Options.build calls = some o)
    (hI : o.keepaliveInterval.isSome) :
    OptionalDuration.le o.keepaliveInterval o.keepaliveTimeout = true := by
  obtain ⟨h1, h2⟩ := builder_order_independent calls o h
  rw [h2, ← h1]
  cases hi : o.keepaliveInterval with
  | none => rw [hi] at hI; cases hI
  | some i =>
    cases lastTimeout calls with
    | none => simp [clampTo, OptionalDuration.le, OptionalDuration.cmp]
    | some t =>
      have : compare i (max t i) ≠ .gt := fun hc => by
        have := Nat.compare_eq_gt.mp hc
        have := Nat.le_max_right t i
        omega
      simp [clampTo, OptionalDuration.le, OptionalDuration.cmp, this]

/-- The same in plain numbers. -/
theorem builder_clamps_ms (calls : List Setter) (o : Options) (h : Options.build calls = some o) (i : Nat)
    (hI : o.keepaliveInterval = some i) :
    o.keepaliveTimeout = none ∨ ∃ t, o.keepaliveTimeout = some t ∧ i ≤ t := by
  obtain ⟨h1, h2⟩ := builder_order_independent calls o h
  rw [h2, ← h1, hI]
  cases lastTimeout calls with
  | none => left; rfl
  | some t => right; exact ⟨max t i, rfl, Nat.le_max_right t i⟩

/-- A finite timeout that was asked for is never turned into "never" and never lowered … -/
theorem builder_keeps_finite (calls : List Setter) (o : Options) (h : Options.build calls = some o) (t : Nat)
    (ht : lastTimeout calls = some t) :
    ∃ t', o.keepaliveTimeout = some t' ∧ t ≤ t' ∧ (t' = t ∨ o.keepaliveInterval = some t') := by
  obtain ⟨h1, h2⟩ := builder_order_independent calls o h
  rw [h2, h1, ht]
  cases lastInterval calls with
  | none => exact ⟨t, rfl, Nat.le_refl _, Or.inl rfl⟩
  | some i =>
    refine ⟨max t i, rfl, Nat.le_max_left t i, ?_⟩
    rcases Nat.le_total t i with hti | hti
    · right; rw [Nat.max_eq_right hti]
    · left; exact Nat.max_eq_left hti

/-- … and "never time out" stays "never". -/
theorem builder_none_stays (calls : List Setter) (o : Options) (h : Options.build calls = some o)
    (ht : lastTimeout calls = none) : o.keepaliveTimeout = none := by
  obtain ⟨_, h2⟩ := builder_order_independent calls o h
  rw [h2, ht]; rfl

/-- The clamp as it was at the pinned commit did not have this property: interval 3 s, timeout 5 s,
    interval 10 s left the timeout at 5 s < 10 s, and timeout 5 s before interval 10 s turned the
    timeout into "never".  (corpus/C16/builder-clamp-order.ops, fixes/C16-keepalive-clamp-any-order.diff) -/
theorem pinned_builder_fails :
    (Options.buildFromPinned Options.new
        [.keepaliveInterval (some 3000), .keepaliveTimeout (some 5000), .keepaliveInterval (some 10000)]).map
      (fun o => (o.keepaliveInterval, o.keepaliveTimeout)) = some (some 10000, some 5000) ∧
    (Options.buildFromPinned Options.new
        [.keepaliveTimeout (some 5000), .keepaliveInterval (some 10000)]).map
      (fun o => (o.keepaliveInterval, o.keepaliveTimeout)) = some (some 10000, none) := by
  decide

/-- End to end: for every configuration the builder can produce with keepalive enabled, a peer that
    answers every ping within one interval is never declared dead. -/
theorem built_config_no_false_positive (calls : List Setter) (o : Options) (h : Options.build calls = some o)
    (I : Nat) (hI : o.keepaliveInterval = some I) (delay : Nat → Option Nat) (extra : List Nat)
    (hans : ∀ k, ∃ d, delay k = some d ∧ d ≤ I) (n : Nat) :
    (run I o.keepaliveTimeout delay extra n).dead = none := by
  rcases builder_clamps_ms calls o h I hI with hn | ⟨t, ht, hle⟩
  · rw [hn]; exact timeout_none I delay extra n
  · rw [ht]; exact no_false_positive_prompt I t hle delay extra hans n

-- answered for 3 rounds (delays 0, 400, 999 ms), then silent: I = 1 s, T = 2 s
example : (run 1000 (some 2000) (scriptDelay [some 0, some 400, some 999] none) [] 7).dead = some 5000 := by decide
example : (run 1000 (some 2000) (scriptDelay [some 0, some 400, some 999] none) [] 7).lastPong = 2999 := by decide
example : (run 1000 (some 2000) (scriptDelay [some 0, some 400, some 999] none) [] 7).pings.reverse
    = [0, 1000, 2000, 3000, 4000] := by decide
-- never answered: detected at the first tick later than T
example : (run 1000 (some 2000) (fun _ => none) [] 9).dead = some 3000 := by decide
-- T = 2·I, every ping answered after exactly T: alive (hypotheses of `no_false_positive`)
example : (run 1000 (some 2000) (fun _ => some 2000) [] 40).dead = none := by decide
example : ∀ k : Nat, ∃ d, (fun _ : Nat => some 2000) k = some d ∧ d ≤ 2 * 1000 := fun _ => ⟨2000, rfl, by decide⟩
-- an unsolicited pong counts like any other
example : (run 1000 (some 2000) (fun _ => none) [2500] 9).dead = some 5000 := by decide
-- the builder: a sequence for which the clamp matters, and one where it must not fire
example : (Options.build [.keepaliveTimeout (some 5000), .rwnd 7, .keepaliveInterval (some 10000)]).map
    (fun o => (o.keepaliveInterval, o.keepaliveTimeout, o.rwnd)) = some (some 10000, some 10000, 7) := by decide
example : (Options.build [.keepaliveInterval (some 10000), .keepaliveTimeout (some 5000), .keepaliveInterval (some 3000)]).map
    (fun o => (o.keepaliveInterval, o.keepaliveTimeout)) = some (some 3000, some 5000) := by decide
example : Options.build [.keepaliveInterval (some 10000), .rwnd 0] = none := by decide
-- disabled, with a finite timeout and a peer that never answers
example : keepalive { Options.new with keepaliveTimeout := some 5 } (fun _ => none) [] 100000
    = .ok (PingLoop.init []) := by decide

/-! ### The order on `OptionalDuration` that the clamp and the tick test rest on (`impl Ord`, timing.rs) -/

/-- The order is total and antisymmetric up to equality; `none` ("no timeout") is the greatest element; finite
    values compare as numbers. -/
theorem od_order_spec (a b : OptionalDuration) :
    (OptionalDuration.cmp a b = .eq ↔ a = b) ∧
    (OptionalDuration.cmp a b = .lt ↔ OptionalDuration.cmp b a = .gt) ∧
    OptionalDuration.cmp a none ≠ .gt ∧
    (∀ x y : Nat, OptionalDuration.cmp (some x) (some y) = compare x y) := by
  refine ⟨?_, ?_, ?_, fun _ _ => rfl⟩
  · cases a <;> cases b <;> simp [OptionalDuration.cmp]
  · cases a <;> cases b <;> simp [OptionalDuration.cmp, Nat.compare_eq_lt, Nat.compare_eq_gt]
  · cases a <;> simp [OptionalDuration.cmp]

/-- `≤` is transitive (so `min` / `max` of interval and timeout mean what they say). -/
theorem od_le_trans (a b c : OptionalDuration) (h1 : OptionalDuration.le a b = true) (h2 : OptionalDuration.le b c = true) :
    OptionalDuration.le a c = true := by
  cases a <;> cases b <;> cases c <;>
    simp_all [OptionalDuration.le, OptionalDuration.cmp, Nat.compare_eq_gt] <;> omega

/-- `max` is the greater of the two, and `none` as soon as one of them is. -/
theorem od_max_spec (a b : OptionalDuration) :
    OptionalDuration.le a (OptionalDuration.max a b) = true ∧ OptionalDuration.le b (OptionalDuration.max a b) = true ∧
    (OptionalDuration.max a b = a ∨ OptionalDuration.max a b = b) ∧
    ((a = none ∨ b = none) → OptionalDuration.max a b = none) := by
  cases a with
  | none => cases b <;> simp [OptionalDuration.max, OptionalDuration.le, OptionalDuration.cmp]
  | some x =>
    cases b with
    | none => simp [OptionalDuration.max, OptionalDuration.le, OptionalDuration.cmp]
    | some y =>
      rw [od_max_some_some]
      simp [OptionalDuration.le, OptionalDuration.cmp, Nat.compare_eq_gt]
      omega

/-- `From<Duration>`: exactly the zero duration becomes "none"; the command line (`FromStr`): whole seconds,
    `0` is "none", what is no `u64` is refused. -/
theorem od_conversions_spec (ms : Nat) (secs : Option Nat) :
    (OptionalDuration.ofDuration ms = none ↔ ms = 0) ∧
    (ms ≠ 0 → OptionalDuration.ofDuration ms = some ms) ∧
    (OptionalDuration.ofSecsText secs = none ↔ secs = none) ∧
    (OptionalDuration.ofSecsText (some 0) = some none) ∧
    (∀ v, v ≠ 0 → OptionalDuration.ofSecsText (some v) = some (some (v * 1000))) := by
  refine ⟨?_, ?_, ?_, rfl, ?_⟩
  · unfold OptionalDuration.ofDuration; split <;> simp_all
  · intro h; simp [OptionalDuration.ofDuration, h]
  · cases secs with
    | none => simp [OptionalDuration.ofSecsText]
    | some v => simp [OptionalDuration.ofSecsText]; split <;> simp
  · intro v hv; simp [OptionalDuration.ofSecsText, hv]

example : OptionalDuration.cmp none (some 5) = .gt ∧ OptionalDuration.max (some 3) none = none ∧
    OptionalDuration.max (some 3) (some 7) = some 7 ∧ OptionalDuration.ofDuration 0 = none := by decide

end Penguin.C16
