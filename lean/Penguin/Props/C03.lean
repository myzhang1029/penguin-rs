/-
C03 — Credit-based flow control is never violated between conforming endpoints.
Theorems over the link model (`Penguin.Link`: one direction of one established stream), for EVERY
sequence of actions (writes of any size, shutdown, abort, deliveries, reads of any size,
acknowledgement deliveries — i.e. every interleaving of writer, reader, the two tasks and the
transport), every window `W ≥ 1` and every acknowledgement threshold `th ≤ W`; plus the facts about
the endpoint model that make those the only parameters that occur (`handshake_parameters`). The actions of the link model are the projections of the endpoint model's
functions (`Lemmas/LinkGlue.lean`, restated below as `link_*` theorems).
-/
import Penguin.Model.Link
import Penguin.Model.Mux
import Penguin.Lemmas.Link
import Penguin.Lemmas.LinkGlue
import Penguin.Lemmas.PairHarness
import Penguin.Model.WakerN
import Penguin.Lemmas.WakerNInv

namespace Penguin.C03
open Penguin Penguin.Link

/-- Pushes put on the wire minus the credit returned by `Acknowledge` frames never exceed the window
    the peer advertised: `sent + credit = W + granted` in every reachable state. -/
theorem window_never_exceeded (W th : Nat) (hW : 0 < W) (hth : th ≤ W) (as : List Act) :
    let s := run (init W th) as
    s.sent + s.credit = W + s.granted ∧ s.sent ≤ W + s.granted := by
  have h := reach_inv hW hth as
  have := h.hsent
  rw [show (run (init W th) as).W = W from run_W _ as] at this
  exact ⟨this, by omega⟩

/-- Every unit of the window is in exactly one place (credit, in flight, queued, consumed but not
    yet acknowledged, acknowledgement in flight): the receive queue never holds more than the window,
    so a stream between two penguin endpoints is never reset for overrunning it. -/
theorem never_overrun (W th : Nat) (hW : 0 < W) (hth : th ≤ W) (as : List Act) :
    let s := run (init W th) as
    s.credit + (pushes s.wire).length + s.rxq.length + s.since + s.acks.sum = W ∧
    s.rxq.length ≤ W ∧ s.overrun = false := by
  have h := reach_inv hW hth as
  have := h.hcredit
  rw [show (run (init W th) as).W = W from run_W _ as] at this
  exact ⟨this, by omega, h.hover⟩

/-- One successful write consumes exactly one unit of credit and puts exactly one `Push` on the
    wire; a write that cannot get credit changes nothing. -/
theorem one_write_one_credit (s : St) (d : Bytes) :
    ((step s (.write d)).2 = .wrote d.length ∧ d ≠ [] →
        (step s (.write d)).1.credit + 1 = s.credit ∧ (step s (.write d)).1.wire = s.wire ++ [.push d] ∧
        (step s (.write d)).1.sent = s.sent + 1) ∧
    ((step s (.write d)).2 = .pending → (step s (.write d)).1 = s ∧ s.credit = 0) :=
  Link.write_effect s d

/-- An endpoint never acknowledges frames it has not consumed, nor the same frame twice: the sum of
    all `Acknowledge` counts ever sent plus the not yet acknowledged count is exactly the number of
    frames the reader took. -/
theorem ack_only_consumed (W th : Nat) (hW : 0 < W) (hth : th ≤ W) (as : List Act) :
    let s := run (init W th) as
    s.acked + s.since = s.consumed ∧ s.acked ≤ s.consumed ∧ s.granted ≤ s.acked :=  by
  have h := reach_inv hW hth as
  have h1 := h.hacked
  have h2 := h.hgranted
  exact ⟨h1, by omega, by omega⟩

/-- Each side's initial send credit is the window the other side advertised. -/
theorem initial_credit_is_advertised (W th : Nat) : (init W th).credit = W := rfl

/-- The window and threshold a stream object gets from the handshake (endpoint model): the capacity
    of its receive queue is the rwnd this endpoint advertises in `Connect`/`Acknowledge`, its send
    credit is the rwnd the peer advertised, and the threshold never exceeds the own window — for
    every pair of options the builder accepts. -/
theorem handshake_parameters (o : Mux.Opts) (fid peerRwnd : Nat) (host : Bytes) (port : Nat) :
    (Mux.newObj o fid peerRwnd host port).cap = o.rwnd ∧
    (Mux.newObj o fid peerRwnd host port).credit = peerRwnd ∧
    (Mux.newObj o fid peerRwnd host port).threshold ≤ o.rwnd := by
  exact ⟨rfl, rfl, Mux.thresholdFor_le o peerRwnd⟩

/-! The link actions are the endpoint model's functions, projected onto one stream. -/

open Penguin.Mux in
/-- `Link.step (.write d)` is `appWrite` on the object the handle refers to. -/
theorem link_write_is_appWrite (e : EP) (h i : Nat) (o : Obj) (d : Bytes)
    (hh : e.handles[h]? = some i) (ho : e.objs[i]? = some o) :
    (o.finishSent = true →
        (appWrite e h d).2 = .brokenPipe ∧ (appWrite e h d).1.outq = e.outq ∧
        (appWrite e h d).1.objs[i]? = some { o with parked := false }) ∧
    (o.finishSent = false → d = [] →
        (appWrite e h d).2 = .wrote 0 ∧ (appWrite e h d).1.outq = e.outq ∧
        (appWrite e h d).1.objs[i]? = some { o with parked := false }) ∧
    (o.finishSent = false → d ≠ [] → o.credit = 0 →
        (appWrite e h d).2 = .pending ∧ (appWrite e h d).1.outq = e.outq ∧
        (appWrite e h d).1.objs[i]? = some { o with parked := true, woken := false }) ∧
    (o.finishSent = false → d ≠ [] → o.credit ≠ 0 → e.outClosed = false →
        (appWrite e h d).2 = .wrote d.length ∧
        (appWrite e h d).1.outq = e.outq ++ [.frame (.push o.fid d)] ∧
        (appWrite e h d).1.objs[i]? = some { o with credit := o.credit - 1, parked := false }) :=
  Mux.appWrite_glue e h i o d hh ho

open Penguin.Mux in
/-- `Link.step .deliver` of a `Push` is `processFrame` on the object of the flow's slot. -/
theorem link_deliver_push_is_processFrame (e : EP) (fid i : Nat) (o : Obj) (d : Bytes) (ig : Bool)
    (hs : lookup e.flows fid = some (.established i)) (ho : e.objs[i]? = some o)
    (halive : o.senderAlive = true) (hopen : o.rxOpen = true) (hroom : o.rxq.length < o.cap) :
    (processFrame e (.push fid d) ig).1.objs[i]? = some { o with rxq := o.rxq ++ [d] } ∧
    (processFrame e (.push fid d) ig).1.outq = e.outq ∧
    (processFrame e (.push fid d) ig).1.flows = e.flows :=
  Mux.processFrame_push_glue e fid i o d ig hs ho halive hopen hroom

open Penguin.Mux in
/-- `Link.step .deliverAck` is `processFrame` of an `Acknowledge` on an established flow. -/
theorem link_deliverAck_is_processFrame (e : EP) (fid i n : Nat) (o : Obj) (ig : Bool)
    (hs : lookup e.flows fid = some (.established i)) (ho : e.objs[i]? = some o) :
    (processFrame e (.acknowledge fid n) ig).1.objs[i]? =
        some { o.wake with credit := (o.credit + n) % 4294967296 } ∧
    (processFrame e (.acknowledge fid n) ig).1.outq = e.outq ∧
    (processFrame e (.acknowledge fid n) ig).1.flows = e.flows :=
  Mux.processFrame_ack_glue e fid i n o ig hs ho

open Penguin.Mux in
/-- `Link.countFrame` is the reader's `ackStep` (`increment_psh_recvd_since`). -/
theorem link_countFrame_is_ackStep (e : EP) (i : Nat) (o : Obj) (ho : e.objs[i]? = some o)
    (hoc : e.outClosed = false) :
    (o.recvdSince + 1 ≥ o.threshold →
        (ackStep e i o).objs[i]? = some { o with recvdSince := 0 } ∧
        (ackStep e i o).outq = e.outq ++ [.frame (.acknowledge o.fid (o.recvdSince + 1))]) ∧
    (¬ o.recvdSince + 1 ≥ o.threshold →
        (ackStep e i o).objs[i]? = some { o with recvdSince := o.recvdSince + 1 } ∧
        (ackStep e i o).outq = e.outq) :=
  Mux.ackStep_glue e i o ho hoc

/-! ### The same for two whole endpoint models joined by FIFO wires (`Penguin.Pair`)

Every interleaving of application calls, transmissions, frame processing and dropped-handle
notifications on both sides; every pair of options; any number of concurrent flows; ids never drawn
twice (`Pair.Cfg`).  The composition "two endpoint models over FIFO wires project, per flow and
direction, onto the link model" is `Pair.established_dir` (Lemmas/PairCor.lean), proved by the
invariant `Pair.Inv` over all runs (Lemmas/PairMain.lean `run_inv`). -/

open Penguin.Mux Penguin.Pair in
/-- On every flow established on both endpoints, direction `a → b`: the sender's credit, the `Push`
    frames in flight, the receiver's queue, its consumed-but-unacknowledged count and the
    acknowledgements in flight add up to exactly the window `b` advertised; the queue never exceeds
    it; the window in force is `b`'s configured `rwnd`. -/
theorem pair_window_never_exceeded {oa ob : Opts} {ra rb : List Nat} (c : Cfg oa ob ra rb) (as : List (Pair.Side × Pair.Act))
    {x i j : Nat} (e : Established (Pair.run (Pair.init oa ob ra rb) as) x i j) :
    let p := Pair.run (Pair.init oa ob ra rb) as
    ∃ oA oB, p.a.objs[i]? = some oA ∧ p.b.objs[j]? = some oB ∧
      oA.credit + (pushesOf x (pathAB p)).length + oB.rxq.length + oB.recvdSince + (acksOf x (pathBA p)).sum = ob.rwnd ∧
      oB.rxq.length ≤ ob.rwnd ∧ oB.cap = ob.rwnd := by
  have h := reach_inv c as
  have hb : (Pair.run (Pair.init oa ob ra rb) as).b.opts = ob := (run_opts _ as).2
  have := established_credit h e
  rw [hb] at this
  exact this

open Penguin.Mux Penguin.Pair in
/-- … and the same in the direction `b → a` (the model is symmetric). -/
theorem pair_window_never_exceeded_rev {oa ob : Opts} {ra rb : List Nat} (c : Cfg oa ob ra rb) (as : List (Pair.Side × Pair.Act))
    {x i j : Nat} (e : Established (Pair.run (Pair.init oa ob ra rb) as) x i j) :
    let p := Pair.run (Pair.init oa ob ra rb) as
    ∃ oB oA, p.b.objs[j]? = some oB ∧ p.a.objs[i]? = some oA ∧
      oB.credit + (pushesOf x (pathBA p)).length + oA.rxq.length + oA.recvdSince + (acksOf x (pathAB p)).sum = oa.rwnd ∧
      oA.rxq.length ≤ oa.rwnd ∧ oA.cap = oa.rwnd := by
  have h := reach_inv c as
  have ha : (Pair.run (Pair.init oa ob ra rb) as).a.opts = oa := (run_opts _ as).1
  have := established_credit h.swap e.swap
  simp only [PS.swap] at this
  rw [ha] at this
  exact this

open Penguin.Mux Penguin.Pair in
/-- A `Push` arriving on an established flow always finds room in the receiver's queue: between two
    penguin endpoints the overrun branch (`Reset` for exceeding the window) is never taken. -/
theorem pair_push_always_fits {oa ob : Opts} {ra rb : List Nat} (c : Cfg oa ob ra rb) (as : List (Pair.Side × Pair.Act))
    {x i j : Nat} (e : Established (Pair.run (Pair.init oa ob ra rb) as) x i j) (d : Bytes) (rest : List Msg)
    (hab : (Pair.run (Pair.init oa ob ra rb) as).ab = .frame (.push x d) :: rest) :
    ∃ oB, (Pair.run (Pair.init oa ob ra rb) as).b.objs[j]? = some oB ∧ oB.senderAlive = true ∧ oB.rxOpen = true ∧
      oB.rxq.length < oB.cap :=
  established_push_fits (reach_inv c as) e d rest hab

open Penguin.Mux Penguin.Pair in
/-- The same at the level the correspondence harness works at: after EVERY history of stimuli
    (application calls and deliveries at either endpoint, each followed by that endpoint's run to
    quiescence — `Mux.applyOp`, the function compared with the real `Multiplexor` step by step), on
    every flow established on both endpoints, the credit accounting holds.  (`stimRun` checks each
    stimulus's side conditions; every such history is a fine-grained run, `Pair.stimRun_is_run`.) -/
theorem harness_history_window {oa ob : Opts} {ra rb : List Nat} (c : Cfg oa ob ra rb) (l : List (Pair.Side × Stim)) (q : PS)
    (h : stimRun (Pair.init oa ob ra rb) l = some q) {x i j : Nat} (e : Established q x i j) :
    ∃ oA oB, q.a.objs[i]? = some oA ∧ q.b.objs[j]? = some oB ∧
      oA.credit + (pushesOf x (pathAB q)).length + oB.rxq.length + oB.recvdSince + (acksOf x (pathBA q)).sum = q.b.opts.rwnd ∧
      oB.rxq.length ≤ q.b.opts.rwnd ∧ oB.cap = q.b.opts.rwnd :=
  established_credit (stim_history_inv c l q h) e

/-! Non-vacuity of the pair theorems: a concrete run (windows 2, threshold 1) that opens a stream,
    writes three bytes, reads them in two reads, shuts down and reads end-of-stream. -/
private def pcfg : Mux.Opts := { rwnd := 2, threshold := 1 }
private def pacts : List (Pair.Side × Pair.Act) :=
  [(.A, .open 1 [104] 80), (.A, .xmit), (.B, .recv), (.B, .xmit), (.A, .recv), (.A, .runDone), (.B, .accept),
   (.A, .write 0 [1, 2, 3]), (.A, .xmit), (.B, .recv), (.B, .read 0 2), (.B, .read 0 9), (.B, .xmit), (.A, .recv),
   (.A, .shutdown 0), (.A, .xmit), (.B, .recv), (.B, .read 0 9)]
example : Pair.Cfg pcfg pcfg [7, 8] [9, 10] := ⟨by decide, by decide, by decide, by decide⟩
example : Pair.Established (Pair.run (Pair.init pcfg pcfg [7, 8] [9, 10]) pacts) 7 0 0 :=
  ⟨by decide, by decide, by decide, by decide, by decide⟩

/-! Non-vacuity of the link theorems: a concrete run with window 2 and threshold 1. -/
example : (run (init 2 1) [.write [1], .write [2], .write [3], .deliver, .read 8, .deliverAck, .write [3]]).sent = 3 := by decide
example : (step (run (init 2 1) [.write [1], .write [2]]) (.write [3])).2 = .pending := by decide

/-! Non-vacuity of `harness_history_window`: a stimulus-level history that opens a stream, transfers
    three bytes and half-closes is accepted by `stimRun`. -/
private def hhist : List (Pair.Side × Pair.Stim) :=
  [(.A, .call (.open 1 [104] 80)), (.B, .deliver), (.A, .deliver), (.B, .call .accept),
   (.A, .call (.write 0 [1, 2, 3])), (.B, .deliver), (.B, .call (.read 0 2)), (.B, .call (.read 0 9)), (.A, .deliver),
   (.A, .call (.shutdown 0)), (.B, .deliver), (.B, .call (.read 0 9))]
example : ((Pair.stimRun (Pair.init pcfg pcfg [7, 8] [9, 10]) hhist).map (fun q => (q.gb.rlog 0, q.gb.eof 0))) =
    some ([1, 2, 3], true) := by decide

/-! ### One write, one unit — with several tasks writing to ONE stream at the same time

`one_write_one_credit` is about the writes of a stream one after the other (`AsyncWrite` takes
`&mut self`).  The frame-level entry points `poll_write_push` / `poll_obtain_write_permission` take
`&self`, so several tasks can write to one stream concurrently; the small-step model `Model/WakerN`
(one step = one atomic operation of any of the threads, see `Props/C12.lean`) covers that. -/

open Penguin.WakerN Penguin.Lemmas.WakerN in
/-- For every scenario (any initial credit = the window the peer advertised, any number of writer
    threads and polls, any number of `acknowledge(n)` / close threads, any number of `do_shutdown()`
    calls through other handles) and every interleaving of the
    atomic operations: every successful write (`Ready(Some(()))`) is exactly one `Push` handed to the
    task; the credit left plus the successful writes plus the units held by writers whose `Push` is
    their next operation is exactly the window plus the credit returned by acknowledgements so far — no
    unit is spent twice, whoever wins a race for it; so the `Push`es never exceed window + returned
    credit, and never what the peer advertised and acknowledged altogether. -/
theorem one_write_one_credit_under_concurrency (sc : WakerN.Scenario) (ls : List WakerN.Label) :
    let s := WakerN.run sc ls
    totalSome s = totalSent s ∧
    s.credit + totalSome s + inFlight s = sc.credit + s.grants ∧
    totalSent s ≤ sc.credit + s.grants ∧ sc.credit + s.grants ≤ sc.credit + sc.ackTotal := by
  intro s
  have inv : Lemmas.WakerN.Inv sc s := Lemmas.WakerN.run_inv sc ls
  have h0 := totalSome_eq_totalSent inv
  have h1 := inv.conservation
  have h2 := totals inv
  have h3 := inv.grants
  refine ⟨h0, ?_, ?_, ?_⟩ <;> omega

/-- Non-vacuity: window 1, two tasks writing, one acknowledgement of 1: two writes succeed, two `Push`es,
    no credit left (writer 1's first `compare_exchange` loses against writer 0's, it waits, is woken by
    the acknowledgement's arrival in its re-check). -/
example :
    let s := WakerN.run ⟨1, [1, 1], [.ack 1], 0⟩ [.writer 0, .writer 1, .writer 0, .writer 1, .writer 0, .writer 1,
      .writer 0, .writer 1, .writer 1, .actor 0, .writer 1, .writer 1, .writer 1, .writer 1, .actor 0]
    WakerN.allWritersFinished s = true ∧ WakerN.totalSome s = 2 ∧ WakerN.totalSent s = 2 ∧ s.credit = 0 ∧
      s.grants = 1 := by
  decide

end Penguin.C03
