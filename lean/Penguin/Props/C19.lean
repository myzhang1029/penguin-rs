/-
C19 — Client survives connection loss: bounded back-off, retry limit, no lost request.
Property theorems only; every theorem here is audited (`#print axioms`) by bin/check.

Part A: the back-off generator (`penguin_mux::timing::Backoff`), all parameters universally
quantified.  Part B: the retry loop of `client_main_inner` for every script of outcomes.
Part C: the connected main loop, the parked request, no request lost.
-/
import Penguin.Model.Backoff
import Penguin.Model.Client
import Penguin.Spec.Backoff
import Penguin.Spec.ClientLoop
import Penguin.Lemmas.Backoff
import Penguin.Lemmas.Client
import Penguin.Lemmas.ClientReqs

namespace Penguin.C19
open Penguin Penguin.Backoff Penguin.Client Penguin.Constants Penguin.Spec

/-! ## A. The back-off generator -/

/-! `Spec.closedDelay i m c n k` is the property's closed form: `some (min (i·c^k) m)` while
`n = 0 ∨ k < n`, else `none` (give up).  `Spec.specOps` / `Spec.specLoop` extend it to operation
sequences and to scripts of connection attempts (Spec/Backoff.lean, Spec/ClientLoop.lean). -/

/-- After any number `k` of consecutive `advance` calls on a fresh generator, the next call returns
    exactly the closed form — for all parameters, including `mult = 0`, `initial > max`, and calls
    past the retry limit. -/
theorem advance_closed_form (i m c n k : Nat) :
    ((Backoff.new i m c n).advanceN k).advance.2 = closedDelay i m c n k := by
  simpa using Lemmas.Client.advanceN_closed_form k (Lemmas.Backoff.inv_new i m c n)

/-- The `k`-th delay of a fresh generator is `min(initial·mult^k, max)` while the retry limit is
    not reached (`k < count`) or there is no limit (`count = 0`). -/
theorem advance_seq (i m c n k : Nat) (h : n = 0 ∨ k < n) :
    ((Backoff.new i m c n).advanceN k).advance.2 = some (Nat.min (i * c ^ k) m) := by
  rw [advance_closed_form]; simp [closedDelay, h]

/-- … instantiated to the client's generator (constants read from client/mod.rs):
    `min(200 ms · 2^k, max_retry_interval)`. -/
theorem advance_seq_client (count maxInterval k : Nat) (h : count = 0 ∨ k < count) :
    ((clientBackoff count maxInterval).advanceN k).advance.2 = some (Nat.min (200 * 2 ^ k) maxInterval) :=
  advance_seq 200 maxInterval 2 count k h

/-- With a retry limit `n > 0`, the `(n+1)`-th consecutive `advance` (and every later one) returns
    `None`: the caller answers `MaxRetryCountReached`. -/
theorem gives_up (i m c n k : Nat) (hn : 0 < n) (hk : n ≤ k) :
    ((Backoff.new i m c n).advanceN k).advance.2 = none := by
  rw [advance_closed_form]
  have : ¬ (n = 0 ∨ k < n) := by omega
  simp [closedDelay, this]

/-- `max_count = 0` means "never give up": every `advance` returns a delay. -/
theorem never_gives_up_0 (i m c k : Nat) :
    ((Backoff.new i m c 0).advanceN k).advance.2 = some (Nat.min (i * c ^ k) m) :=
  advance_seq i m c 0 k (Or.inl rfl)

/-- Every delay ever handed out is at most `max` (bounded back-off), whatever was called before. -/
theorem delay_le_max (b : Backoff) (d : Nat) (h : b.advance.2 = some d) : d ≤ b.max := by
  unfold Backoff.advance at h
  split at h
  · simp at h
  · simp only [Option.some.injEq] at h
    subst h
    exact Nat.min_le_right _ _

/-- `reset` puts a generator that was created by `new` and used in any way back into the state
    `new` created: the next delay is again the shortest one, `min(initial, max)`, and the retry
    count starts again. -/
theorem reset_after_success (i m c n : Nat) (ops : List Backoff.Op) :
    (Lemmas.Client.applyOps (Backoff.new i m c n) ops).reset = Backoff.new i m c n ∧
    (Lemmas.Client.applyOps (Backoff.new i m c n) ops).reset.advance.2 = some (Nat.min i m) :=
  Lemmas.Client.reset_restarts i m c n ops

/-- Complete description of any interleaving of `advance` and `reset`: the results are the closed
    form of the number of delays handed out since the last reset. -/
theorem outputs_closed_form (i m c n : Nat) (ops : List Backoff.Op) :
    (Backoff.new i m c n).outputs ops = specOps i m c n 0 ops :=
  Lemmas.Client.outputs_spec i m c n ops 0 _ (Lemmas.Backoff.inv_new i m c n)

/-- `count` is not observable when there is no retry limit (so its `u32` wrap-around after 2^32
    advances in a release build changes nothing). -/
theorem advance_count_irrelevant_unlimited (b : Backoff) (k : Nat) (h : b.maxCount = 0) :
    ({ b with count := k }).advance.2 = b.advance.2 ∧
    ({ b with count := k }).advance.1.current = b.advance.1.current := by
  simp [Backoff.advance, h]

/-- The client's generator can never hit the `Duration` overflow panic of `old * mult`:
    `max_retry_interval` is a `u64` of milliseconds and the multiplier is 2. -/
theorem client_backoff_never_overflows (count maxInterval : Nat) (hm : maxInterval < 2 ^ 64)
    (ops : List Backoff.Op) :
    (clientBackoff count maxInterval).runOps ops =
      ((clientBackoff count maxInterval).outputs ops).map Backoff.Out.ofOption :=
  Lemmas.Client.runOps_no_overflow maxInterval hm ops _ rfl rfl

/-! ## B. The retry loop, for every script of outcomes -/

/-- For every script of per-attempt outcomes, every retry limit and every maximum interval, the
    retry loop sleeps exactly the closed-form delays — `min(200·2^k, max)` for the `k`-th
    consecutive failure, `k` starting again from 0 after every attempt that reached
    `on_connected` — and ends exactly as the specification says. -/
theorem loop_follows_spec (n m : Nat) (script : List (Outcome × Bool)) :
    runLoop (clientBackoff n m) script = specLoop n m 0 script :=
  Lemmas.Client.loop_spec n m script 0 _ (Lemmas.Backoff.inv_new 200 m 2 n)

/-- Retry limit: `n > 0` and `n + 1` consecutive retryable handshake failures (whatever follows
    in the script, no Ctrl-C): the client sleeps `n` times, the delays being the closed form, and
    returns `MaxRetryCountReached(last error)`. -/
theorem gives_up_loop (n m : Nat) (hn : 0 < n) (errs : List ClientErr) (rest : List (Outcome × Bool))
    (hlen : errs.length = n + 1) (hr : ∀ e ∈ errs, e.retryable = true ∧ e ≠ .cancelled) :
    runLoop (clientBackoff n m) (errs.map (fun e => (.handshakeErr e, false)) ++ rest) =
      ((List.range n).map (fun k => Nat.min (200 * 2 ^ k) m),
       .gaveUp (errs.getLast (by intro h; simp [h] at hlen))) := by
  have hne : errs ≠ [] := by intro h; simp [h] at hlen
  rw [loop_follows_spec, Lemmas.Client.spec_gives_up n m rest errs 0 hne (by omega) hn (by omega) hr]
  simp [List.range_eq_range']

/-- `max_retry_count = 0`: no script makes the client give up. -/
theorem never_gives_up_loop_0 (m : Nat) (script : List (Outcome × Bool)) (e : ClientErr) :
    (runLoop (clientBackoff 0 m) script).2 ≠ .gaveUp e := by
  rw [loop_follows_spec]; exact Lemmas.Client.spec_never_gives_up_0 m script e 0

/-- After any attempt that reached `on_connected` and failed with a retryable error, the next delay
    is the shortest one, `min(200, max)`, whatever the back-off state was (any number of earlier
    failures), and it is never the end because of the retry limit. -/
theorem reset_after_success_loop (n m : Nat) (ops : List Backoff.Op) (e : ClientErr)
    (he : e.retryable = true) (hc : e ≠ .cancelled) (rest : List (Outcome × Bool)) :
    runLoop (Lemmas.Client.applyOps (clientBackoff n m) ops) ((.connectedErr e, false) :: rest) =
      (Nat.min 200 m :: (runLoop ((clientBackoff n m).advance.1) rest).1,
       (runLoop ((clientBackoff n m).advance.1) rest).2) := by
  simp only [runLoop, stepLoop, Lemmas.Client.retryStep_after_reset n m ops e he hc]

/-- A non-retryable error ends the client at once: no sleep, no further attempt, the error is
    returned as it is — whether it came from the handshake or from the connected phase. -/
theorem nonretryable_ends (b : Backoff) (e : ClientErr) (he : e.retryable = false) (hc : e ≠ .cancelled)
    (c : Bool) (rest : List (Outcome × Bool)) :
    runLoop b ((.handshakeErr e, c) :: rest) = ([], .fatal e) ∧
    runLoop b ((.connectedErr e, c) :: rest) = ([], .fatal e) := by
  simp [runLoop, stepLoop, retryStep, hc, he]

/-- Every delay slept by the loop is at most `max_retry_interval`. -/
theorem loop_sleeps_bounded (n m : Nat) (script : List (Outcome × Bool)) :
    ∀ d ∈ (runLoop (clientBackoff n m) script).1, d ≤ m := by
  rw [loop_follows_spec]; exact Lemmas.Client.spec_sleeps_bounded n m script 0

/-! Non-vacuity of Parts A and B. -/

example : ((Backoff.new 200 1000 2 5).advanceN 3).advance.2 = some 1000 := by decide
example : (Backoff.new 10 1000 2 5).outputs [.advance, .advance, .reset, .advance] = [some 10, some 20, some 10] := by
  decide
example : ((Backoff.new 3 8 2 2).advanceN 2).advance.2 = none := by decide
example : (ClientErr.handshakeTimeout).retryable = true ∧ ClientErr.handshakeTimeout ≠ .cancelled := by decide
example : runLoop (clientBackoff 2 300)
    [(.handshakeErr .handshakeTimeout, false), (.handshakeErr .handshakeTimeout, false),
     (.handshakeErr .handshakeTimeout, false)] = ([200, 300], .gaveUp .handshakeTimeout) := by decide
example : runLoop (clientBackoff 2 1000)
    [(.handshakeErr .handshakeTimeout, false), (.connectedErr .serverDisconnected, false),
     (.handshakeErr .handshakeTimeout, false), (.never, false)] = ([200, 200, 400], .stays) := by decide
example : (ClientErr.tungstenite .http).retryable = false := by decide

/-! ## C. The connected main loop, the parked request, no request lost -/

open Lemmas.ClientReqs in
/-- Read from the source on every run (bin/gen_constants.py): the `select!` arm of `on_connected`
    that sees the multiplexor task end leaves the loop with `ServerDisconnected` also when the task
    ended with `Ok(())` (orderly close by the server).  On the tree as pinned this constant was
    `false` — the loop kept running on the dead multiplexor (fixes/C19-orderly-close-reconnect.diff). -/
theorem mux_task_ok_leaves_loop : muxTaskOkExits = true := rfl

open Lemmas.ClientReqs in
/-- The multiplexor task ending — with an error, or with `Ok(())` on an orderly close by the
    server — ends `on_connected`, whatever harmless events (arrivals, datagrams, served requests)
    came before and whatever would come after; the error returned is `Mux(e)` resp.
    `ServerDisconnected`. -/
theorem connected_loop_exits (rs : Reqs) (pr : StreamRes) (pre post : List ConnEvent) (r : Option MuxErr)
    (hp : rs.parked = none ∨ pr = .ok) (hq : ∀ ev ∈ pre, quiet ev = true) :
    (onConnected rs pr (pre ++ .muxEnded r :: post)).2 = .exit (.error (muxEndError r)) := by
  unfold onConnected
  cases hpk : rs.parked with
  | none => exact mainLoop_muxEnded mux_task_ok_leaves_loop pre post r hq rs
  | some q =>
    rcases hp with h | h
    · rw [hpk] at h; cases h
    · subst h
      simpa [getSendStreamChan] using mainLoop_muxEnded mux_task_ok_leaves_loop pre post r hq _

open Lemmas.ClientReqs in
/-- … and that error is retryable exactly when the task ended cleanly or with a retryable
    multiplexor error — so the outer loop reconnects. -/
theorem connected_loop_exit_retryable (r : Option MuxErr) :
    (muxEndError r).retryable = true ↔ (r = none ∨ ∃ e, r = some e ∧ e.retryable = true) := by
  cases r with
  | none => simp [muxEndError]; decide
  | some e =>
    have h : "Mux" ∈ clientDelegating := by decide
    simp [muxEndError, ClientErr.retryable, h]

open Lemmas.ClientReqs in
/-- End to end: an orderly close by the server (or a retryable multiplexor error) while connected
    makes the client sleep the shortest delay `min(200, max)` and go on with the next attempt,
    from any back-off state and any request state with nothing parked. -/
theorem orderly_close_reconnects (n m : Nat) (ops : List Backoff.Op) (rs : Reqs) (pr : StreamRes)
    (pre post : List ConnEvent) (r : Option MuxErr) (rest : List (Attempt × Bool))
    (hp : rs.parked = none ∨ pr = .ok) (hq : ∀ ev ∈ pre, quiet ev = true)
    (hr : r = none ∨ ∃ e, r = some e ∧ e.retryable = true) :
    ∃ b' rs', clientRun (Lemmas.Client.applyOps (clientBackoff n m) ops) rs
        ((.up pr (pre ++ .muxEnded r :: post), false) :: rest) =
      { clientRun b' rs' rest with
        sleeps := Nat.min 200 m :: (clientRun b' rs' rest).sleeps,
        attempts := (clientRun b' rs' rest).attempts + 1 } := by
  have hex := connected_loop_exits rs pr pre post r hp hq
  have hret := (connected_loop_exit_retryable r).mpr hr
  have hnc : muxEndError r ≠ .cancelled := by cases r <;> simp [muxEndError]
  rcases hoc : onConnected rs pr (pre ++ .muxEnded r :: post) with ⟨rs1, out⟩
  rw [hoc] at hex
  simp only at hex
  subst hex
  refine ⟨(clientBackoff n m).advance.1, { rs1 with gen := rs1.gen + 1 }, ?_⟩
  simp [clientRun, attemptOutcome, hoc, stepLoop, Lemmas.Client.retryStep_after_reset n m ops _ hret hnc]

open Lemmas.ClientReqs in
/-- A parked request (one whose stream request failed or timed out on an earlier connection) is the
    first request the next connection serves: it is handed to the new multiplexor before anything
    from the command channel. -/
theorem parked_request_served_first (rs : Reqs) (r : Req) (evs : List ConnEvent) (hp : rs.parked = some r) :
    ∃ more, (onConnected rs .ok evs).1.served = rs.served ++ (r, rs.gen) :: more := by
  unfold onConnected
  rw [hp]
  simp only [getSendStreamChan]
  obtain ⟨more, hm⟩ := mainLoop_served evs { rs with parked := none, served := rs.served ++ [(r, rs.gen)] }
  exact ⟨more, by rw [hm]; simp⟩

/-- A stream request that fails or times out is parked, not dropped, and the error it produces is
    the one the retry loop sees (`StreamRequestTimeout` is retryable, `retryable_table`). -/
theorem failed_request_is_parked (rs : Reqs) (r : Req) (e : MuxErr) (hp : rs.parked = none) :
    getSendStreamChan rs r .timeout = ({ rs with parked := some r }, some (.error .streamRequestTimeout)) ∧
    getSendStreamChan rs r (.muxErr e) = ({ rs with parked := some r }, some (.error (.mux e))) := by
  simp [getSendStreamChan, Reqs.park, hp]

open Lemmas.ClientReqs in
/-- Every local connection waiting in the command channel — e.g. accepted while the tunnel was
    down — is served by the next connection that gets the chance, in arrival order. -/
theorem pending_served_by_next_connection (rs : Reqs) (rest : List ConnEvent) :
    mainLoop rs (serveAll rs.queue.length ++ rest) =
      mainLoop { rs with queue := [], served := rs.served ++ rs.queue.map (·, rs.gen) } rest :=
  mainLoop_serveAll rest rs.queue rs rfl

open Lemmas.ClientReqs in
/-- Several local connections waiting when a connection fails one of them: the request at the head
    of the command channel that fails (`penguin_mux` error) or times out is parked, `on_connected`
    returns that error, and every request queued behind it is STILL IN THE CHANNEL, in order,
    followed by whatever arrives afterwards — the loop takes one command per trip through `select!`,
    so nothing but the failed request has left the channel. -/
theorem failed_request_keeps_rest_queued (rs : Reqs) (r : Req) (q : List Req) (post : List ConnEvent)
    (res : StreamRes) (hres : res = .timeout ∨ ∃ e, res = .muxErr e)
    (hp : rs.parked = none) (hq : rs.queue = r :: q) :
    let out := mainLoop rs (.serveNext res :: post)
    out.1.parked = some r ∧ out.1.queue = q ++ evArrivals post ∧ out.1.lost = rs.lost ∧
    out.1.served = rs.served ∧ ∃ e, out.2 = .exit (.error e) ∧ e ≠ .cancelled := by
  rcases hres with rfl | ⟨e, rfl⟩ <;>
    simp [mainLoop, hq, getSendStreamChan, Reqs.park, hp, drainArrivals_eq, Reqs.enqueue]

open Lemmas.ClientReqs in
/-- … and the next connection that works serves the parked request first and then every request
    that was queued behind it, in order (all of them by that one connection). -/
theorem queued_requests_survive_failed_connection (rs : Reqs) (r : Req) (q : List Req)
    (rest : List ConnEvent) (hp : rs.parked = some r) (hq : rs.queue = q) :
    onConnected rs .ok (serveAll q.length ++ rest) =
      mainLoop { rs with parked := none, queue := [],
                         served := rs.served ++ (r, rs.gen) :: q.map (·, rs.gen) } rest := by
  unfold onConnected
  rw [hp]
  simp only [getSendStreamChan]
  rw [mainLoop_serveAll rest q _ (by simpa using hq)]
  simp [List.append_assoc]

open Lemmas.ClientReqs in
/-- No request is lost, duplicated or reordered: for every back-off state and every script of
    attempts in which the user does not cancel a stream request, the requests served (in that
    order), then the one in flight, the parked one and the queued ones are exactly the local
    connections that arrived during the attempts made, in arrival order; the parking slot was never
    overwritten and nothing was dropped. -/
theorem no_request_lost (b : Backoff) (script : List (Attempt × Bool)) (hn : ∀ a ∈ script, noCancel a.1) :
    ledger (clientRun b {} script).reqs =
      ((script.take (clientRun b {} script).attempts).map (fun a => attemptArrivals a.1)).flatten ∧
    (clientRun b {} script).reqs.lost = [] ∧ (clientRun b {} script).reqs.dropped = [] := by
  have := clientRun_keeps script b {} rfl hn
  simpa [ledger] using this

/-- The whole-client run sleeps and ends exactly as the retry loop does on the outcomes of its
    attempts (so Part B applies to it). -/
theorem clientRun_is_runLoop (script : List (Attempt × Bool)) :
    ∀ (b : Backoff) (rs : Reqs),
      ((clientRun b rs script).sleeps, (clientRun b rs script).final) = runLoop b (outcomes rs script) := by
  induction script with
  | nil => intro b rs; rfl
  | cons ac rest ih =>
    intro b rs
    obtain ⟨a, c⟩ := ac
    simp only [clientRun, outcomes, runLoop]
    rcases stepLoop b (attemptOutcome rs a).2 c with f | ⟨b', d⟩
    · rfl
    · have := ih b' { (attemptOutcome rs a).1 with gen := (attemptOutcome rs a).1.gen + 1 }
      simp only
      rw [← this]

/-- The classification of errors, case by case (lists of variants regenerated from
    maybe_retryable.rs on every run). -/
theorem retryable_table :
    (∀ k : IoKind, k.retryable = [IoKind.addrNotAvailable, .brokenPipe, .connectionRefused,
        .connectionReset, .hostUnreachable, .networkUnreachable, .connectionAborted, .notConnected,
        .networkDown, .timedOut, .unexpectedEof].contains k) ∧
    (∀ p : WsProto, p.retryable = [WsProto.receivedAfterClosing, .resetWithoutClosingHandshake,
        .sendAfterClosing, .handshakeIncomplete].contains p) ∧
    (∀ e : WsErr, e.retryable = match e with
        | .connectionClosed | .alreadyClosed => true
        | .io k => k.retryable
        | .protocol p => p.retryable
        | _ => false) ∧
    (∀ e : MuxErr, e.retryable = match e with
        | .keepaliveTimeout | .sendStreamToClient | .closed => true
        | .webSocket (some w) => w.retryable
        | _ => false) ∧
    (∀ e : TlsErr, e.retryable = match e with
        | .tcpConnect k => k.retryable
        | _ => false) ∧
    (∀ e : ClientErr, e.retryable = match e with
        | .handshakeTimeout | .streamRequestTimeout | .serverDisconnected => true
        | .tungstenite w => w.retryable
        | .tcpConnect k => k.retryable
        | .tls t => t.retryable
        | .mux x => x.retryable
        | _ => false) := by
  have hIo : "Io" ∈ wsDelegating := by decide
  have hPr : "Protocol" ∈ wsDelegating := by decide
  have hTc : "TcpConnect" ∈ tlsDelegating := by decide
  have hD : muxWebSocketDowncastsTungstenite = true := rfl
  have hc1 : "Tungstenite" ∈ clientDelegating := by decide
  have hc2 : "TcpConnect" ∈ clientDelegating := by decide
  have hc3 : "Tls" ∈ clientDelegating := by decide
  have hc4 : "Mux" ∈ clientDelegating := by decide
  refine ⟨?_, ?_, ?_, ?_, ?_, ?_⟩
  · intro k; cases k <;> decide
  · intro p; cases p <;> decide
  · intro e
    cases e with
    | io k => simp [WsErr.retryable, hIo]
    | protocol p => simp [WsErr.retryable, hPr]
    | _ => decide
  · intro e
    cases e with
    | webSocket w => cases w <;> simp [MuxErr.retryable, hD]
    | _ => decide
  · intro e
    cases e with
    | tcpConnect k => simp [TlsErr.retryable, hTc]
    | _ => decide
  · intro e
    cases e with
    | tungstenite w => simp [ClientErr.retryable, hc1]
    | tcpConnect k => simp [ClientErr.retryable, hc2]
    | tls t => simp [ClientErr.retryable, hc3]
    | mux x => simp [ClientErr.retryable, hc4]
    | maxRetryCountReached l => simp [ClientErr.retryable, ClientErr.name]; decide
    | _ => decide

/-- The model's error types list exactly the variants the source declares (names regenerated from
    client/mod.rs and penguin-mux/src/lib.rs). -/
theorem error_variants_match_source :
    ClientErr.variants.map ClientErr.name = clientErrorVariants ∧
    MuxErr.variants.map MuxErr.name = muxErrorVariants := by decide

/-! Non-vacuity of Part C. -/

open Lemmas.ClientReqs in
example : (∀ ev ∈ [ConnEvent.arrive 7, .serveNext .ok, .datagram], quiet ev = true) := by decide
-- orderly close while a request was served before: leaves with ServerDisconnected, request kept
example : onConnected {} .ok [.arrive 7, .serveNext .ok, .muxEnded none, .arrive 8] =
    ({ queue := [8], served := [(7, 0)] }, .exit (.error .serverDisconnected)) := by decide
-- a timed-out request is parked, retried first on the next connection, before request 9
example : (onConnected { queue := [5, 9] } .ok [.serveNext .timeout]).1.parked = some 5 := by decide
example : (onConnected { parked := some 5, queue := [9], gen := 3 } .ok [.serveNext .ok]).1.served = [(5, 3), (9, 3)] := by
  decide
example : Lemmas.ClientReqs.noCancel (.up .ok [.arrive 1, .serveNext .timeout]) := by
  simp [Lemmas.ClientReqs.noCancel, Lemmas.ClientReqs.isCancel, Lemmas.ClientReqs.cancels]
-- a whole run: refused, refused (request 1 arrives), connected and cut, refused, healthy
example : (runScenario { maxRetryCount := 0, maxRetryInterval := 1000, handshakeTimeout := some 300, channelTimeout := some 300 }
    [⟨.refuse, []⟩, ⟨.refuse, [1]⟩, ⟨.closeAbrupt 300, []⟩, ⟨.refuse, []⟩, ⟨.healthy, [2]⟩]).sleeps
    = [200, 400, 200, 400] := by decide
-- two local connections accepted while the tunnel was down, then a connection on which the first
-- stream request times out: request 1 is parked, request 2 stays queued, the next connection
-- serves both (attempt 3), nothing is lost; the same with the connection cut instead of silent
example : (runScenario { maxRetryCount := 0, maxRetryInterval := 1000, handshakeTimeout := some 300, channelTimeout := some 300 }
    [⟨.refuse, [1]⟩, ⟨.refuse, [2]⟩, ⟨.mute, []⟩]).reqs = { parked := some 1, queue := [2], gen := 3 } := by decide
example : (runScenario { maxRetryCount := 0, maxRetryInterval := 1000, handshakeTimeout := some 300, channelTimeout := some 300 }
    [⟨.refuse, [1]⟩, ⟨.refuse, [2]⟩, ⟨.mute, []⟩, ⟨.healthy, []⟩]).reqs.served = [(1, 3), (2, 3)] := by decide
example : (runScenario { maxRetryCount := 0, maxRetryInterval := 1000, handshakeTimeout := some 300, channelTimeout := some 300 }
    [⟨.stall, [1, 2, 3]⟩, ⟨.muteCut 100, []⟩, ⟨.healthy, [4]⟩]).reqs.served = [(1, 2), (2, 2), (3, 2), (4, 2)] := by decide

-- the same loop over `wss://`: a stalled TLS handshake (nothing after the ClientHello, or only the
-- ServerHello) is a handshake time-out like a stalled upgrade — retried, then given up; a connection
-- closed inside the TLS handshake is retried (`Tls(TcpConnect(UnexpectedEof))`); clear text where TLS
-- was expected ends the client at once (`Tls(TcpConnect(InvalidData))` is not retryable)
example : (fun (r : Run) => (r.sleeps, r.attempts, r.final))
    (runScenario { maxRetryCount := 2, maxRetryInterval := 1000, handshakeTimeout := some 300, channelTimeout := some 300, transport := .wss }
      [⟨.stall, [1]⟩, ⟨.stallTls, []⟩, ⟨.stallUpgrade, []⟩, ⟨.healthy, []⟩])
    = ([200, 400], 3, .gaveUp .handshakeTimeout) := by decide
example : (fun (r : Run) => (r.sleeps, r.attempts, r.final, r.reqs.served))
    (runScenario { maxRetryCount := 0, maxRetryInterval := 1000, handshakeTimeout := some 300, channelTimeout := some 300, transport := .wss }
      [⟨.refuse, [1]⟩, ⟨.closeAbrupt 200, []⟩, ⟨.refuse, []⟩, ⟨.plain400, []⟩, ⟨.healthy, []⟩])
    = ([200, 200, 400], 4, .fatal (.tls (.tcpConnect .invalidData)), [(1, 1)]) := by decide
example : (runScenario { maxRetryCount := 1, maxRetryInterval := 1000, handshakeTimeout := some 300, channelTimeout := some 300, transport := .wss }
    [⟨.refuse, []⟩, ⟨.refuse, []⟩]).final = .gaveUp (.tls (.tcpConnect .unexpectedEof)) := by decide

end Penguin.C19
