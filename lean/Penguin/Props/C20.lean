/-
C20 — `CowBytes` and `LongChain` behave exactly like a plain byte sequence.
Property theorems only; every theorem here is audited (`#print axioms`) by bin/check.

`Inv c` : the cached total equals the number of bytes held and no segment is empty.
`abs c` : the plain byte vector the chain stands for.  `Spec.Vec.*` : the reference operations.
Every operation (1) refines its reference operation and keeps `Inv`, (2) panics only on an
out-of-range argument, and then leaves the receiver untouched, (3) on an out-of-range argument
either panics or leaves the value unchanged.  `run_refines` / `reachable_inv` lift this to every
operation sequence.

The operations are `LongChain`'s own mutators and the consuming methods a caller reaches through
`bytes::Buf` (`copy_to_bytes`, `copy_to_slice`, `get_u8`, `get_u16`, `get_u32`: the `bytes` crate's
default bodies over `remaining` / `chunk` / `advance`); the observing ones (`has_remaining`,
`chunks_vectored`) are characterised for every chain satisfying `Inv`, hence every reachable one.
-/
import Penguin.Model.Chain
import Penguin.Spec.Vec
import Penguin.Lemmas.Chain
import Penguin.Lemmas.ChainBuf

namespace Penguin.C20
open Penguin Penguin.Chain Penguin.Spec

/-! ### Refinement, operation by operation -/

theorem push_refines (c c' : Chain) (s : Seg) (hi : Inv c) (h : c.push s = .ok (c', ())) :
    Inv c' ∧ abs c' = Vec.append (abs c) s.bytes := by
  unfold Chain.push at h
  by_cases he : s.bytes = []
  · simp [he] at h; subst h; exact ⟨hi, by simp [Vec.append, he]⟩
  · simp [he] at h
    subst h
    obtain ⟨h1, h2⟩ := hi
    exact ⟨⟨by simp [h1], by simp [h2, he]⟩, by simp [abs, Vec.append]⟩

theorem insert_refines (c c' : Chain) (i : Nat) (s : Seg) (hi : Inv c) (h : c.insert i s = .ok (c', ())) :
    Inv c' ∧ abs c' = Vec.insertAt (abs c) (offset c i) s.bytes := by
  unfold Chain.insert at h
  by_cases he : s.bytes = []
  · simp [he] at h; subst h; exact ⟨hi, by simp [Vec.insertAt, he]⟩
  · by_cases hgt : i > c.segs.length
    · simp [he, hgt] at h
    simp [he, hgt] at h
    subst h
    obtain ⟨h1, h2⟩ := hi
    have ht : total c.segs = total (c.segs.take i) + total (c.segs.drop i) := by
      rw [← total_append, List.take_append_drop]
    have hf : flat c.segs = flat (c.segs.take i) ++ flat (c.segs.drop i) := by
      rw [← flat_append, List.take_append_drop]
    obtain ⟨e1, e2⟩ := take_drop_of_append hf (length_flat _)
    refine ⟨⟨by simp [h1, ht]; omega, ?_⟩, ?_⟩
    · simp [he, noEmpty_take _ _ h2, noEmpty_drop _ _ h2]
    · simp [abs, Vec.insertAt, offset, e1, e2]

theorem pop_refines (c c' : Chain) (o : Option Seg) (hi : Inv c) (h : c.pop = .ok (c', o)) :
    Inv c' ∧ abs c' = Vec.truncate (abs c) ((abs c).length - lastLen c) ∧
      o.map Seg.bytes = (if c.segs = [] then none else some (Vec.tail (abs c) (lastLen c))) ∧
      (∀ s, o = some s → s.bytes ≠ []) := by
  obtain ⟨h1, h2⟩ := hi
  unfold Chain.pop at h
  cases hg : c.segs.getLast? with
  | none =>
    have hnil : c.segs = [] := List.getLast?_eq_none_iff.mp hg
    simp [hg] at h
    obtain ⟨rfl, rfl⟩ := h
    exact ⟨⟨h1, h2⟩, by simp [abs, hnil, Vec.truncate], by simp [hnil], by simp⟩
  | some s =>
    obtain ⟨ys, hys⟩ := List.getLast?_eq_some_iff.mp hg
    simp [hg] at h
    obtain ⟨rfl, rfl⟩ := h
    rw [hys] at h2
    have hne := (noEmpty_append ys [s]).mp h2
    have hs : s.bytes ≠ [] := ((noEmpty_cons s []).mp hne.2).1
    have hf : abs c = flat ys ++ s.bytes := by simp [abs, hys]
    have hl : lastLen c = s.bytes.length := by simp [lastLen, hg]
    have hlen : (abs c).length - lastLen c = (flat ys).length := by simp [hf, hl]
    obtain ⟨e1, e2⟩ := take_drop_of_append hf rfl
    refine ⟨⟨by simp [h1, hys], by simp [hys]; exact hne.1⟩, ?_, ?_, ?_⟩
    · simp only [Vec.truncate, hlen, e1]; simp [abs, hys]
    · have : c.segs ≠ [] := by simp [hys]
      simp only [this, if_false, Vec.tail, hl]
      rw [← hl, hlen, e2]; rfl
    · intro s' hs'; cases hs'; exact hs

theorem remove_refines (c c' : Chain) (i : Nat) (s : Seg) (hi : Inv c) (h : c.remove i = .ok (c', s)) :
    Inv c' ∧ abs c' = Vec.removeRange (abs c) (offset c i) (segLen c i) ∧
      s.bytes = Vec.slice (abs c) (offset c i) (segLen c i) ∧ s.bytes ≠ [] := by
  obtain ⟨h1, h2⟩ := hi
  unfold Chain.remove at h
  cases hg : c.segs[i]? with
  | none => simp [hg] at h
  | some t =>
    simp [hg] at h
    obtain ⟨rfl, rfl⟩ := h
    obtain ⟨hlt, hget⟩ := List.getElem?_eq_some_iff.mp hg
    have hd : c.segs.drop i = t :: c.segs.drop (i + 1) := by
      rw [← hget]; exact List.drop_eq_getElem_cons hlt
    have hsplit : c.segs = c.segs.take i ++ t :: c.segs.drop (i + 1) := by
      rw [← hd, List.take_append_drop]
    have hne : NoEmpty (c.segs.take i) ∧ t.bytes ≠ [] ∧ NoEmpty (c.segs.drop (i + 1)) := by
      have := h2; rw [hsplit] at this
      have := (noEmpty_append _ _).mp this
      exact ⟨this.1, ((noEmpty_cons _ _).mp this.2).1, ((noEmpty_cons _ _).mp this.2).2⟩
    have ht : total c.segs = total (c.segs.take i) + (t.bytes.length + total (c.segs.drop (i + 1))) := by
      conv => lhs; rw [hsplit]
      simp
    have hf : abs c = flat (c.segs.take i) ++ (t.bytes ++ flat (c.segs.drop (i + 1))) := by
      unfold abs; conv => lhs; rw [hsplit]
      simp
    have hsl : segLen c i = t.bytes.length := by simp [segLen, hg]
    obtain ⟨e1, e2⟩ := take_drop_of_append hf (length_flat _)
    have hf2 : abs c = (flat (c.segs.take i) ++ t.bytes) ++ flat (c.segs.drop (i + 1)) := by
      rw [hf, List.append_assoc]
    obtain ⟨_, e4⟩ := take_drop_of_append (n := total (c.segs.take i) + t.bytes.length) hf2 (by simp)
    unfold offset
    rw [hsl]
    refine ⟨⟨by simp [h1, ht, List.eraseIdx_eq_take_drop_succ]; omega, ?_⟩, ?_, ?_, hne.2.1⟩
    · simp [List.eraseIdx_eq_take_drop_succ, hne.1, hne.2.2]
    · simp only [Vec.removeRange, e1, e4]
      simp [abs, List.eraseIdx_eq_take_drop_succ]
    · simp only [Vec.slice, e2]
      simp

theorem splitOff_refines (c c' p : Chain) (n : Nat) (hi : Inv c) (h : c.splitOff n = .ok (c', p)) :
    Inv c' ∧ Inv p ∧ (abs c', abs p) = Vec.splitOff (abs c) n ∧ n ≤ (abs c).length := by
  obtain ⟨hin, hout⟩ := splitOff_spec c n hi
  by_cases hle : n ≤ total c.segs
  · obtain ⟨c1, p1, e, i1, i2, hf, hn⟩ := hin hle
    rw [e] at h; simp at h; obtain ⟨rfl, rfl⟩ := h
    obtain ⟨e1, e2⟩ := take_drop_of_append (n := n) hf (by simp [abs, hn])
    exact ⟨i1, i2, by simp [Vec.splitOff, e1, e2], by simp [abs]; exact hle⟩
  · rw [hout (Nat.lt_of_not_le hle)] at h; simp at h

theorem splitTo_refines (c c' p : Chain) (n : Nat) (hi : Inv c) (h : c.splitTo n = .ok (c', p)) :
    Inv c' ∧ Inv p ∧ (abs c', abs p) = Vec.splitTo (abs c) n ∧ n ≤ (abs c).length := by
  unfold Chain.splitTo at h
  cases hs : c.splitOff n with
  | error e => simp [hs] at h
  | ok r =>
    obtain ⟨front, back⟩ := r
    simp [hs] at h
    obtain ⟨rfl, rfl⟩ := h
    obtain ⟨i1, i2, e, hn⟩ := splitOff_refines c _ _ n hi hs
    simp [Vec.splitOff] at e
    exact ⟨i2, i1, by simp [Vec.splitTo, e.1, e.2], hn⟩

theorem truncate_refines (c c' : Chain) (n : Nat) (hi : Inv c) (h : c.truncate n = .ok (c', ())) :
    Inv c' ∧ abs c' = Vec.truncate (abs c) n := by
  obtain ⟨hin, hout⟩ := truncate_spec c n hi
  by_cases hlt : n < total c.segs
  · obtain ⟨c1, e, i1, hf⟩ := hin hlt
    rw [e] at h; simp at h; subst h
    exact ⟨i1, by simp [Vec.truncate, hf]⟩
  · rw [hout (Nat.le_of_not_lt hlt)] at h; simp at h; subst h
    exact ⟨hi, by simp [Vec.truncate, abs, List.take_of_length_le (by simp; omega : (flat c.segs).length ≤ n)]⟩

theorem advance_refines (c c' : Chain) (n : Nat) (hi : Inv c) (h : c.advance n = .ok (c', ())) :
    Inv c' ∧ abs c' = Vec.advance (abs c) n ∧ n ≤ (abs c).length := by
  obtain ⟨hin, hout⟩ := advance_spec c n hi
  by_cases hle : n ≤ total c.segs
  · obtain ⟨c1, e, i1, hf⟩ := hin hle
    rw [e] at h; simp at h; subst h
    exact ⟨i1, by simp [Vec.advance, hf], by simp [abs]; exact hle⟩
  · rw [hout (Nat.lt_of_not_le hle)] at h; simp at h

theorem clear_refines (c c' : Chain) (h : c.clear = .ok (c', ())) :
    Inv c' ∧ abs c' = Vec.clear (abs c) := by
  simp [Chain.clear] at h; subst h
  exact ⟨by simp [Inv], rfl⟩

/-! ### The provided `Buf` methods that consume bytes -/

theorem copyToBytes_refines (c c' : Chain) (n : Nat) (b : Bytes) (hi : Inv c)
    (h : c.copyToBytes n = .ok (c', b)) :
    Inv c' ∧ (abs c', b) = Vec.copyOut (abs c) n ∧ n ≤ (abs c).length := by
  obtain ⟨i1, e1, e2, hle⟩ := taken_of_spec (val := id) (copyToBytes_spec chain_lawful c n hi) h
  exact ⟨i1, by rw [e1, e2]; rfl, hle⟩

theorem copyToSlice_refines (c c' : Chain) (n : Nat) (b : Bytes) (hi : Inv c)
    (h : c.copyToSlice n = .ok (c', b)) :
    Inv c' ∧ (abs c', b) = Vec.copyOut (abs c) n ∧ n ≤ (abs c).length := by
  obtain ⟨i1, e1, e2, hle⟩ := taken_of_spec (val := id) (copyToSlice_spec chain_lawful c n hi) h
  exact ⟨i1, by rw [e1, e2]; rfl, hle⟩

theorem getU8_refines (c c' : Chain) (v : UInt8) (hi : Inv c) (h : c.getU8 = .ok (c', v)) :
    Inv c' ∧ (abs c', v.toNat) = Vec.getBe (abs c) 1 ∧ 1 ≤ (abs c).length := by
  obtain ⟨hin, hout⟩ := getU8_spec chain_lawful c hi
  unfold Chain.getU8 at h
  cases ha : abs c with
  | nil => rw [hout ha] at h; simp at h
  | cons b t =>
    obtain ⟨c1, e, i1, hf⟩ := hin b t ha
    rw [e] at h; simp at h; obtain ⟨rfl, rfl⟩ := h
    exact ⟨i1, by simp [Vec.getBe, Vec.beValue, hf], by simp⟩

theorem getU16_refines (c c' : Chain) (v : UInt16) (hi : Inv c) (h : c.getU16 = .ok (c', v)) :
    Inv c' ∧ (abs c', v.toNat) = Vec.getBe (abs c) 2 ∧ 2 ≤ (abs c).length := by
  obtain ⟨i1, e1, e2, hle⟩ := taken_of_spec (n := 2) (val := fun bs => UInt16.ofNat (fromBe bs)) (getU16_spec chain_lawful c hi) h
  exact ⟨i1, by rw [e1, e2, u16_value _ (by simp; omega)]; rfl, hle⟩

theorem getU32_refines (c c' : Chain) (v : UInt32) (hi : Inv c) (h : c.getU32 = .ok (c', v)) :
    Inv c' ∧ (abs c', v.toNat) = Vec.getBe (abs c) 4 ∧ 4 ≤ (abs c).length := by
  obtain ⟨i1, e1, e2, hle⟩ := taken_of_spec (n := 4) (val := fun bs => UInt32.ofNat (fromBe bs)) (getU32_spec chain_lawful c hi) h
  exact ⟨i1, by rw [e1, e2, u32_value _ (by simp; omega)]; rfl, hle⟩

/-- Asking for more bytes than the chain holds panics, and the chain is left as it was. -/
theorem buf_past_end_panics (c : Chain) (hi : Inv c) :
    (∀ n, (abs c).length < n → c.copyToBytes n = .error ⟨c⟩ ∧ c.copyToSlice n = .error ⟨c⟩) ∧
    ((abs c).length < 1 → c.getU8 = .error ⟨c⟩) ∧
    ((abs c).length < 2 → c.getU16 = .error ⟨c⟩) ∧
    ((abs c).length < 4 → c.getU32 = .error ⟨c⟩) := by
  refine ⟨fun n h => ⟨(copyToBytes_spec chain_lawful c n hi).2 h, (copyToSlice_spec chain_lawful c n hi).2 h⟩,
    fun h => (getU8_spec chain_lawful c hi).2 (List.length_eq_zero_iff.mp (by omega)),
    (getU16_spec chain_lawful c hi).2, (getU32_spec chain_lawful c hi).2⟩

/-- A request within the contents is always served (no panic on an in-range argument). -/
theorem buf_in_range_ok (c : Chain) (hi : Inv c) :
    (∀ n, n ≤ (abs c).length → (∃ c', c.copyToBytes n = .ok (c', (abs c).take n)) ∧
      (∃ c', c.copyToSlice n = .ok (c', (abs c).take n))) ∧
    (1 ≤ (abs c).length → ∃ c' v, c.getU8 = .ok (c', v)) ∧
    (2 ≤ (abs c).length → ∃ c' v, c.getU16 = .ok (c', v)) ∧
    (4 ≤ (abs c).length → ∃ c' v, c.getU32 = .ok (c', v)) := by
  refine ⟨fun n h => ⟨?_, ?_⟩, fun h => ?_, fun h => ?_, fun h => ?_⟩
  · obtain ⟨c1, e, _⟩ := (copyToBytes_spec chain_lawful c n hi).1 h; exact ⟨c1, e⟩
  · obtain ⟨c1, e, _⟩ := (copyToSlice_spec chain_lawful c n hi).1 h; exact ⟨c1, e⟩
  · cases ha : abs c with
    | nil => simp [ha] at h
    | cons b t => obtain ⟨c1, e, _⟩ := (getU8_spec chain_lawful c hi).1 b t ha; exact ⟨c1, b, e⟩
  · obtain ⟨c1, e, _⟩ := (getU16_spec chain_lawful c hi).1 h; exact ⟨c1, _, e⟩
  · obtain ⟨c1, e, _⟩ := (getU32_spec chain_lawful c hi).1 h; exact ⟨c1, _, e⟩

/-! ### The provided `Buf` methods that only observe -/

/-- `has_remaining()` iff bytes remain. -/
theorem hasRemaining_refines (c : Chain) (hi : Inv c) :
    c.hasRemaining = Vec.hasRemaining (abs c) :=
  hasRemaining_spec chain_lawful c hi

/-- `chunks_vectored` with `k` slots: at most `k` slices, none empty, together a prefix of the
    contents, and at least one when there is a slot and bytes remain (so a `writev` loop makes
    progress). -/
theorem chunksVectored_refines (c : Chain) (k : Nat) (hi : Inv c) :
    (c.chunksVectored k).length ≤ k ∧ (∀ ch ∈ c.chunksVectored k, ch ≠ []) ∧
      (∃ t, abs c = (c.chunksVectored k).flatten ++ t) ∧
      (0 < k → abs c ≠ [] → c.chunksVectored k ≠ []) :=
  chunksVectored_spec chain_lawful c k hi

/-- All operations at once: the step keeps the invariant, does to the bytes what the reference
    operation does to the plain vector, returns what the reference returns, and a chain handed out by
    a split satisfies the invariant too. -/
theorem step_refines (c c' : Chain) (op : Op) (out : Out) (hi : Inv c) (h : c.step op = .ok (c', out)) :
    Inv c' ∧ abs c' = (refStep c (abs c) op).1 ∧ outAbs out = (refStep c (abs c) op).2 ∧
      (∀ p, out = .part p → Inv p) := by
  cases op with
  | push s =>
    obtain ⟨⟨_, u⟩, hr, hf⟩ := map_ok h; cases hf
    obtain ⟨i1, e⟩ := push_refines c c' s hi hr
    exact ⟨i1, e, rfl, nofun⟩
  | insert i s =>
    obtain ⟨⟨_, u⟩, hr, hf⟩ := map_ok h; cases hf
    obtain ⟨i1, e⟩ := insert_refines c c' i s hi hr
    exact ⟨i1, e, rfl, nofun⟩
  | pop =>
    obtain ⟨⟨_, o⟩, hr, hf⟩ := map_ok h; cases hf
    obtain ⟨i1, e, eo, _⟩ := pop_refines c c' o hi hr
    exact ⟨i1, e, congrArg RefOut.bytes eo, nofun⟩
  | remove i =>
    obtain ⟨⟨_, s⟩, hr, hf⟩ := map_ok h; cases hf
    obtain ⟨i1, e, es, _⟩ := remove_refines c c' i s hi hr
    exact ⟨i1, e, congrArg (RefOut.bytes ∘ some) es, nofun⟩
  | splitTo n =>
    obtain ⟨⟨_, p⟩, hr, hf⟩ := map_ok h; cases hf
    obtain ⟨i1, i2, e, _⟩ := splitTo_refines c c' p n hi hr
    exact ⟨i1, congrArg Prod.fst e, congrArg (RefOut.part ∘ Prod.snd) e, fun q hq => by cases hq; exact i2⟩
  | splitOff n =>
    obtain ⟨⟨_, p⟩, hr, hf⟩ := map_ok h; cases hf
    obtain ⟨i1, i2, e, _⟩ := splitOff_refines c c' p n hi hr
    exact ⟨i1, congrArg Prod.fst e, congrArg (RefOut.part ∘ Prod.snd) e, fun q hq => by cases hq; exact i2⟩
  | truncate n =>
    obtain ⟨⟨_, u⟩, hr, hf⟩ := map_ok h; cases hf
    obtain ⟨i1, e⟩ := truncate_refines c c' n hi hr
    exact ⟨i1, e, rfl, nofun⟩
  | advance n =>
    obtain ⟨⟨_, u⟩, hr, hf⟩ := map_ok h; cases hf
    obtain ⟨i1, e, _⟩ := advance_refines c c' n hi hr
    exact ⟨i1, e, rfl, nofun⟩
  | clear =>
    cases h
    obtain ⟨i1, e⟩ := clear_refines c _ rfl
    exact ⟨i1, e, rfl, nofun⟩
  | copyToBytes n =>
    obtain ⟨⟨_, b⟩, hr, hf⟩ := map_ok h; cases hf
    obtain ⟨i1, e, _⟩ := copyToBytes_refines c c' n b hi hr
    exact ⟨i1, congrArg Prod.fst e, congrArg (RefOut.copied ∘ Prod.snd) e, nofun⟩
  | copyToSlice n =>
    obtain ⟨⟨_, b⟩, hr, hf⟩ := map_ok h; cases hf
    obtain ⟨i1, e, _⟩ := copyToSlice_refines c c' n b hi hr
    exact ⟨i1, congrArg Prod.fst e, congrArg (RefOut.copied ∘ Prod.snd) e, nofun⟩
  | getU8 =>
    obtain ⟨⟨_, v⟩, hr, hf⟩ := map_ok h; cases hf
    obtain ⟨i1, e, _⟩ := getU8_refines c c' v hi hr
    exact ⟨i1, congrArg Prod.fst e, congrArg (RefOut.num ∘ Prod.snd) e, nofun⟩
  | getU16 =>
    obtain ⟨⟨_, v⟩, hr, hf⟩ := map_ok h; cases hf
    obtain ⟨i1, e, _⟩ := getU16_refines c c' v hi hr
    exact ⟨i1, congrArg Prod.fst e, congrArg (RefOut.num ∘ Prod.snd) e, nofun⟩
  | getU32 =>
    obtain ⟨⟨_, v⟩, hr, hf⟩ := map_ok h; cases hf
    obtain ⟨i1, e, _⟩ := getU32_refines c c' v hi hr
    exact ⟨i1, congrArg Prod.fst e, congrArg (RefOut.num ∘ Prod.snd) e, nofun⟩

/-! ### Panics: only out of range, and the receiver is left as it was -/

/-- An out-of-range argument either panics (leaving the receiver as it was) or is ignored. -/
theorem step_out_of_range (c : Chain) (op : Op) (hi : Inv c) (h : ¬ InRange c op) :
    c.step op = .error ⟨c⟩ ∨ ∃ o, c.step op = .ok (c, o) := by
  have hlen := length_abs c
  cases op with
  | push s =>
    simp [InRange] at h
    exact Or.inr ⟨.unit, by simp [Chain.step, Chain.push, h, Except.map]⟩
  | insert i s =>
    simp only [InRange] at h
    by_cases he : s.bytes = []
    · exact Or.inr ⟨.unit, by simp [Chain.step, Chain.insert, he, Except.map]⟩
    · have hgt : c.segs.length < i := Nat.lt_of_not_le fun hle => h ⟨hle, he⟩
      exact Or.inl (by simp [Chain.step, Chain.insert, he, hgt, Except.map])
  | pop => simp [InRange] at h
  | remove i =>
    simp [InRange] at h
    have : c.segs[i]? = none := List.getElem?_eq_none_iff.mpr h
    exact Or.inl (by simp [Chain.step, Chain.remove, this, Except.map])
  | splitTo n =>
    simp [InRange, hlen] at h
    exact Or.inl (by simp [Chain.step, Chain.splitTo, (splitOff_spec c n hi).2 h, Except.map])
  | splitOff n =>
    simp [InRange, hlen] at h
    exact Or.inl (by simp [Chain.step, (splitOff_spec c n hi).2 h, Except.map])
  | truncate n =>
    simp [InRange, hlen] at h
    exact Or.inr ⟨.unit, by simp [Chain.step, (truncate_spec c n hi).2 (Nat.le_of_lt h), Except.map]⟩
  | advance n =>
    simp [InRange, hlen] at h
    exact Or.inl (by simp [Chain.step, (advance_spec c n hi).2 h, Except.map])
  | clear => simp [InRange] at h
  | copyToBytes n =>
    simp [InRange] at h
    exact Or.inl (by simp [Chain.step, ((buf_past_end_panics c hi).1 n h).1, Except.map])
  | copyToSlice n =>
    simp [InRange] at h
    exact Or.inl (by simp [Chain.step, ((buf_past_end_panics c hi).1 n h).2, Except.map])
  | getU8 =>
    simp only [InRange, Nat.not_le] at h
    exact Or.inl (by simp [Chain.step, (buf_past_end_panics c hi).2.1 h, Except.map])
  | getU16 =>
    simp only [InRange, Nat.not_le] at h
    exact Or.inl (by simp [Chain.step, (buf_past_end_panics c hi).2.2.1 h, Except.map])
  | getU32 =>
    simp only [InRange, Nat.not_le] at h
    exact Or.inl (by simp [Chain.step, (buf_past_end_panics c hi).2.2.2 h, Except.map])

/-- An in-range argument is always accepted. -/
theorem step_in_range_ok (c : Chain) (op : Op) (hi : Inv c) (h : InRange c op) :
    ∃ c' o, c.step op = .ok (c', o) := by
  have hlen := length_abs c
  cases op with
  | push s => simp only [Chain.step, Chain.push]; split <;> exact ⟨_, _, rfl⟩
  | insert i s =>
    simp only [Chain.step, Chain.insert, Nat.not_lt.mpr h.1, if_false]; split <;> exact ⟨_, _, rfl⟩
  | pop => simp only [Chain.step, Chain.pop]; split <;> exact ⟨_, _, rfl⟩
  | remove i =>
    obtain ⟨s, hs⟩ : ∃ s, c.segs[i]? = some s := ⟨_, List.getElem?_eq_getElem h⟩
    exact ⟨_, _, by simp only [Chain.step, Chain.remove, hs]; rfl⟩
  | splitTo n =>
    obtain ⟨c1, p1, e, _⟩ := (splitOff_spec c n hi).1 (by rw [← hlen]; exact h)
    exact ⟨_, _, by simp only [Chain.step, Chain.splitTo, e]; rfl⟩
  | splitOff n =>
    obtain ⟨c1, p1, e, _⟩ := (splitOff_spec c n hi).1 (by rw [← hlen]; exact h)
    exact ⟨_, _, map_ok_of e⟩
  | truncate n =>
    by_cases hlt : n < total c.segs
    · obtain ⟨c1, e, _⟩ := (truncate_spec c n hi).1 hlt
      exact ⟨_, _, map_ok_of e⟩
    · exact ⟨_, _, map_ok_of ((truncate_spec c n hi).2 (Nat.le_of_not_lt hlt))⟩
  | advance n =>
    obtain ⟨c1, e, _⟩ := (advance_spec c n hi).1 (by rw [← hlen]; exact h)
    exact ⟨_, _, map_ok_of e⟩
  | clear => exact ⟨_, _, rfl⟩
  | copyToBytes n =>
    obtain ⟨c1, e, _⟩ := (copyToBytes_spec chain_lawful c n hi).1 h
    exact ⟨_, _, map_ok_of e⟩
  | copyToSlice n =>
    obtain ⟨c1, e, _⟩ := (copyToSlice_spec chain_lawful c n hi).1 h
    exact ⟨_, _, map_ok_of e⟩
  | getU8 =>
    obtain ⟨c1, v, e⟩ := (buf_in_range_ok c hi).2.1 h
    exact ⟨_, _, map_ok_of e⟩
  | getU16 =>
    obtain ⟨c1, v, e⟩ := (buf_in_range_ok c hi).2.2.1 h
    exact ⟨_, _, map_ok_of e⟩
  | getU32 =>
    obtain ⟨c1, v, e⟩ := (buf_in_range_ok c hi).2.2.2 h
    exact ⟨_, _, map_ok_of e⟩

theorem step_panics_only_out_of_range (c : Chain) (op : Op) (p : Panic Chain) (hi : Inv c)
    (h : c.step op = .error p) : ¬ InRange c op ∧ p.left = c := by
  by_cases hr : InRange c op
  · obtain ⟨c', o, e⟩ := step_in_range_ok c op hi hr
    rw [e] at h; cases h
  · rcases step_out_of_range c op hi hr with e | ⟨o, e⟩ <;> rw [e] at h <;> cases h
    exact ⟨hr, rfl⟩

/-- `advance` past the end panics (the `Buf` contract), as do `split_to` / `split_off`. -/
theorem advance_past_end_panics (c : Chain) (n : Nat) (hi : Inv c) (h : (abs c).length < n) :
    c.advance n = .error ⟨c⟩ ∧ c.splitTo n = .error ⟨c⟩ ∧ c.splitOff n = .error ⟨c⟩ := by
  have hlen := length_abs c
  rw [hlen] at h
  exact ⟨(advance_spec c n hi).2 h, by simp [Chain.splitTo, (splitOff_spec c n hi).2 h],
    (splitOff_spec c n hi).2 h⟩

/-- An over-long `truncate` and an empty `push` / `insert` are ignored. -/
theorem ignored_arguments (c : Chain) (hi : Inv c) :
    (∀ n, (abs c).length ≤ n → c.truncate n = .ok (c, ())) ∧
    (∀ s, s.bytes = [] → c.push s = .ok (c, ())) ∧
    (∀ i s, s.bytes = [] → c.insert i s = .ok (c, ())) := by
  have hlen := length_abs c
  refine ⟨fun n h => (truncate_spec c n hi).2 (by omega), fun s h => by simp [Chain.push, h],
    fun i s h => by simp [Chain.insert, h]⟩

/-- The lift to every operation sequence: after any sequence that does not panic the chain still
    satisfies the invariant, holds exactly the bytes of the plain vector subjected to the same
    operations, and has returned the same values. -/
theorem run_refines (ops : List Op) (c c' : Chain) (outs : List Out) (hi : Inv c)
    (h : c.run ops = .ok (c', outs)) :
    Inv c' ∧ (abs c', outs.map outAbs) = refRun c (abs c) ops ∧
      (∀ p, Out.part p ∈ outs → Inv p) := by
  induction ops generalizing c outs with
  | nil =>
    simp [Chain.run] at h; obtain ⟨rfl, rfl⟩ := h
    exact ⟨hi, by simp [refRun], by simp⟩
  | cons op ops ih =>
    simp only [Chain.run] at h
    cases hs : c.step op with
    | error p => simp [hs] at h
    | ok r =>
      obtain ⟨c1, o⟩ := r
      simp only [hs] at h
      cases hr : c1.run ops with
      | error e => obtain ⟨p, os⟩ := e; simp [hr] at h
      | ok r2 =>
        obtain ⟨c2, os⟩ := r2
        simp [hr] at h; obtain ⟨rfl, rfl⟩ := h
        obtain ⟨i1, e1, e2, e3⟩ := step_refines c c1 op o hi hs
        obtain ⟨i2, e4, e5⟩ := ih c1 os i1 hr
        have e4' := Prod.mk.inj e4
        refine ⟨i2, ?_, ?_⟩
        · simp only [refRun, hs, List.map_cons, ← e1, ← e2, ← e4'.1, ← e4'.2]
        · intro p hp
          simp at hp
          cases hp with
          | inl hp => exact e3 p hp.symm
          | inr hp => exact e5 p hp

/-- When a sequence ends in a panic, the value left behind (what a caller catching the unwind sees)
    still satisfies the invariant. -/
theorem run_panic_leaves_inv (ops : List Op) (c : Chain) (p : Panic Chain) (outs : List Out)
    (hi : Inv c) (h : c.run ops = .error (p, outs)) : Inv p.left := by
  induction ops generalizing c outs with
  | nil => simp [Chain.run] at h
  | cons op ops ih =>
    simp only [Chain.run] at h
    cases hs : c.step op with
    | error q =>
      simp [hs] at h
      obtain ⟨rfl, _⟩ := h
      rw [(step_panics_only_out_of_range c op q hi hs).2]; exact hi
    | ok r =>
      obtain ⟨c1, o⟩ := r
      simp only [hs] at h
      cases hr : c1.run ops with
      | error e =>
        obtain ⟨q, os⟩ := e
        simp [hr] at h; obtain ⟨rfl, _⟩ := h
        exact ih c1 os (step_refines c c1 op o hi hs).1 hr
      | ok r2 => obtain ⟨c2, os⟩ := r2; simp [hr] at h

/-- Every value a caller can ever hold (built from `new` by any operations, including the halves
    returned by splits and whatever a caught panic leaves behind) satisfies the invariant. -/
theorem reachable_inv (c : Chain) (h : Reachable c) : Inv c := by
  induction h with
  | new => simp [Inv, Chain.new]
  | step _ hs ih => exact (step_refines _ _ _ _ ih hs).1
  | part _ hs ih => exact (step_refines _ _ _ _ ih hs).2.2.2 _ rfl
  | left _ hs ih => rw [(step_panics_only_out_of_range _ _ _ ih hs).2]; exact ih

/-- Reported length = length of the contents = `remaining`; `is_empty` iff no bytes; the
    concatenation of the `as_ref()` segments is the contents. -/
theorem reachable_len (c : Chain) (h : Reachable c) :
    c.len = (abs c).length ∧ c.remaining = (abs c).length ∧ (c.isEmpty = true ↔ abs c = []) ∧
      flat c.asRef = abs c := by
  obtain ⟨h1, _⟩ := reachable_inv c h
  refine ⟨by simp [Chain.len, abs, h1], by simp [Chain.remaining, abs, h1], ?_, rfl⟩
  simp [Chain.isEmpty, h1, ← length_flat, abs, List.length_eq_zero_iff]

/-- The `Buf` contract: `chunk` is a non-empty prefix of the contents while bytes remain, and no
    segment exposed by `as_ref()` is empty. -/
theorem reachable_chunk (c : Chain) (h : Reachable c) :
    (abs c ≠ [] → c.chunk ≠ []) ∧ (∃ t, abs c = c.chunk ++ t) ∧ (∀ s ∈ c.asRef, s.asRef ≠ []) := by
  have hi := reachable_inv c h
  exact ⟨chain_lawful.chunk_ne c hi, chain_lawful.chunk_prefix c hi, fun s hs => by simpa using hi.2 s hs⟩

/-! ### `CowBytes` itself, and borrowed versus owned -/

/-- The `CowBytes` operations as operations on the bytes (the variant is kept). -/
theorem seg_ops_refine (s : Seg) (n : Nat) (h : n ≤ s.bytes.length) :
    s.splitTo n = .ok (⟨s.tag, (Vec.splitTo s.bytes n).1⟩, ⟨s.tag, (Vec.splitTo s.bytes n).2⟩) ∧
    s.splitOff n = .ok (⟨s.tag, (Vec.splitOff s.bytes n).1⟩, ⟨s.tag, (Vec.splitOff s.bytes n).2⟩) ∧
    s.truncate n = .ok (⟨s.tag, Vec.truncate s.bytes n⟩, ()) ∧
    s.advance n = .ok (⟨s.tag, Vec.advance s.bytes n⟩, ()) := by
  refine ⟨seg_splitTo_ok s n h, seg_splitOff_ok s n h, ?_, seg_advance_ok s n h⟩
  by_cases hlt : n < s.bytes.length
  · exact seg_truncate_lt s n hlt
  · have he : n = s.bytes.length := by omega
    cases s with
    | mk t b => cases t <;> simp [Seg.truncate, Vec.truncate, he]

/-- Past the end every `CowBytes` operation panics and leaves the value as it was, except
    `truncate` on the owned variant, which ignores the argument (`Bytes::truncate`). -/
theorem seg_ops_out_of_range (s : Seg) (n : Nat) (h : s.bytes.length < n) :
    s.splitTo n = .error ⟨s⟩ ∧ s.splitOff n = .error ⟨s⟩ ∧ s.advance n = .error ⟨s⟩ ∧
    (s.tag = .temporary → s.truncate n = .error ⟨s⟩) ∧ (s.tag = .static → s.truncate n = .ok (s, ())) := by
  refine ⟨seg_splitTo_err s n h, seg_splitOff_err s n h, seg_advance_err s n h, ?_, ?_⟩
  · intro ht; cases s with | mk t b => subst ht; simp [Seg.truncate] at h ⊢; exact h
  · intro ht; cases s with | mk t b => subst ht; simp [Seg.truncate] at h ⊢; omega

/-- Borrowed and owned values holding the same bytes are indistinguishable through every accessor,
    comparison and hash: each is a function of the bytes only. -/
theorem tag_irrelevant (s t : Seg) (h : s.bytes = t.bytes) :
    s.len = t.len ∧ s.isEmpty = t.isEmpty ∧ s.asRef = t.asRef ∧ s.chunk = t.chunk ∧
    s.remaining = t.remaining ∧ s.intoStatic = t.intoStatic ∧ s.hashInput = t.hashInput ∧
    (∀ u, s.beq u = t.beq u ∧ u.beq s = u.beq t ∧ s.partialCmp u = t.partialCmp u ∧
      u.partialCmp s = u.partialCmp t) := by
  simp [Seg.hashInput, Seg.beq, Seg.partialCmp, h]

/-- The `LongChain` operations never look at the variants: changing borrowed to owned or back
    (any re-tagging `f`) in the chain and in the argument changes nothing but the variants in the
    result, panics included. -/
theorem step_retag (f : Tag → Tag) (c : Chain) (op : Op) :
    (retagChain f c).step (retagOp f op) = retagRes f (c.step op) := by
  cases op with
  | push s =>
    by_cases he : s.bytes = [] <;>
      simp [Chain.step, retagOp, Chain.push, he, Except.map, retagRes, retagChain, retagOut]
  | insert i s =>
    by_cases he : s.bytes = []
    · simp [Chain.step, retagOp, Chain.insert, he, Except.map, retagRes, retagChain, retagOut]
    · by_cases hgt : i > c.segs.length <;>
        simp [Chain.step, retagOp, Chain.insert, he, hgt, Except.map, retagRes, retagChain, retagOut]
  | pop =>
    cases hg : c.segs.getLast? <;>
      simp [Chain.step, retagOp, Chain.pop, hg, Except.map, retagRes, retagChain, retagOut]
  | remove i =>
    cases hg : c.segs[i]? <;>
      simp [Chain.step, retagOp, Chain.remove, hg, Except.map, retagRes, retagChain, retagOut,
        List.eraseIdx_eq_take_drop_succ]
  | splitTo n =>
    simp only [Chain.step, retagOp, Chain.splitTo, splitOff_retag]
    cases c.splitOff n with
    | error e => simp [Except.map, retagRes]
    | ok v => obtain ⟨a, b⟩ := v; simp [Except.map, retagRes, retagOut]
  | splitOff n =>
    simp only [Chain.step, retagOp, splitOff_retag]
    cases c.splitOff n with
    | error e => simp [Except.map, retagRes]
    | ok v => obtain ⟨a, b⟩ := v; simp [Except.map, retagRes, retagOut]
  | truncate n =>
    simp only [Chain.step, retagOp, truncate_retag]
    cases c.truncate n with
    | error e => simp [Except.map, retagRes]
    | ok v => obtain ⟨a, u⟩ := v; simp [Except.map, retagRes, retagOut]
  | advance n =>
    simp only [Chain.step, retagOp, advance_retag]
    cases c.advance n with
    | error e => simp [Except.map, retagRes]
    | ok v => obtain ⟨a, u⟩ := v; simp [Except.map, retagRes, retagOut]
  | clear => simp [Chain.step, retagOp, Chain.clear, Except.map, retagRes, retagChain, retagOut]
  | copyToBytes n =>
    simp only [Chain.step, retagOp, Chain.copyToBytes, copyToBytes_commutes (retag_commutes f)]
    exact (retagRes_map f Out.copied (fun _ => rfl) _).symm
  | copyToSlice n =>
    simp only [Chain.step, retagOp, Chain.copyToSlice, copyToSlice_commutes (retag_commutes f)]
    exact (retagRes_map f Out.copied (fun _ => rfl) _).symm
  | getU8 =>
    simp only [Chain.step, retagOp, Chain.getU8, getU8_commutes (retag_commutes f)]
    exact (retagRes_map f Out.u8 (fun _ => rfl) _).symm
  | getU16 =>
    simp only [Chain.step, retagOp, Chain.getU16, getU16_commutes (retag_commutes f)]
    exact (retagRes_map f Out.u16 (fun _ => rfl) _).symm
  | getU32 =>
    simp only [Chain.step, retagOp, Chain.getU32, getU32_commutes (retag_commutes f)]
    exact (retagRes_map f Out.u32 (fun _ => rfl) _).symm

/-- `==` is equality of the bytes. -/
theorem seg_beq_iff (s t : Seg) : s.beq t = true ↔ s.bytes = t.bytes := by
  simp [Seg.beq]

/-- `partial_cmp` is the lexicographic order of the bytes. -/
theorem seg_cmp_spec (s t : Seg) :
    (s.partialCmp t = some .lt ↔ Vec.lexLt s.bytes t.bytes) ∧
    (s.partialCmp t = some .eq ↔ s.bytes = t.bytes) ∧
    (s.partialCmp t = some .gt ↔ Vec.lexLt t.bytes s.bytes) := by
  simp only [Seg.partialCmp, seg_asRef, Option.some.injEq]
  generalize s.bytes = a
  generalize t.bytes = b
  induction a generalizing b with
  | nil => cases b <;> simp [cmpBytes, Vec.lexLt]
  | cons x xs ih =>
    cases b with
    | nil => simp [cmpBytes, Vec.lexLt]
    | cons y ys =>
      simp only [cmpBytes, Vec.lexLt]
      by_cases h1 : x < y
      · have : ¬ y < x := fun h2 => absurd (UInt8.lt_trans h1 h2) (UInt8.lt_irrefl _)
        have hne : x ≠ y := fun e => by subst e; exact UInt8.lt_irrefl _ h1
        simp [h1, this, hne, Ne.symm hne]
      · by_cases h2 : y < x
        · have hne : x ≠ y := fun e => by subst e; exact UInt8.lt_irrefl _ h2
          simp [h1, h2, hne, Ne.symm hne]
        · have he : x = y := UInt8.le_antisymm (UInt8.not_lt.mp h2) (UInt8.not_lt.mp h1)
          subst he
          simp [h1, ih ys]

/-! ### `CowBytes` through the provided `Buf` methods -/

/-- In range, each consuming `Buf` method of a `CowBytes` is the vector operation on its bytes, with
    the variant kept. -/
theorem seg_buf_refine (s : Seg) :
    (∀ n, n ≤ s.bytes.length →
      s.copyToBytes n = .ok (⟨s.tag, (Vec.copyOut s.bytes n).1⟩, (Vec.copyOut s.bytes n).2) ∧
      s.copyToSlice n = .ok (⟨s.tag, (Vec.copyOut s.bytes n).1⟩, (Vec.copyOut s.bytes n).2)) ∧
    (1 ≤ s.bytes.length → ∃ v, s.getU8 = .ok (⟨s.tag, (Vec.getBe s.bytes 1).1⟩, v) ∧
      v.toNat = (Vec.getBe s.bytes 1).2) ∧
    (2 ≤ s.bytes.length → ∃ v, s.getU16 = .ok (⟨s.tag, (Vec.getBe s.bytes 2).1⟩, v) ∧
      v.toNat = (Vec.getBe s.bytes 2).2) ∧
    (4 ≤ s.bytes.length → ∃ v, s.getU32 = .ok (⟨s.tag, (Vec.getBe s.bytes 4).1⟩, v) ∧
      v.toNat = (Vec.getBe s.bytes 4).2) := by
  have L := seg_lawful s.tag
  refine ⟨fun n h => ⟨?_, ?_⟩, fun h => ?_, fun h => ?_, fun h => ?_⟩
  · obtain ⟨s1, e, t1, b1⟩ := (copyToBytes_spec L s n rfl).1 h
    obtain rfl := seg_eq_mk t1 b1
    simpa [Seg.copyToBytes, Vec.copyOut] using e
  · obtain ⟨s1, e, t1, b1⟩ := (copyToSlice_spec L s n rfl).1 h
    obtain rfl := seg_eq_mk t1 b1
    simpa [Seg.copyToSlice, Vec.copyOut] using e
  · cases hb : s.bytes with
    | nil => simp [hb] at h
    | cons b t =>
      obtain ⟨s1, e, t1, b1⟩ := (getU8_spec L s rfl).1 b t hb
      obtain rfl := seg_eq_mk t1 b1
      exact ⟨b, by simpa [Seg.getU8, Vec.getBe] using e, by simp [Vec.getBe, Vec.beValue]⟩
  · obtain ⟨s1, e, t1, b1⟩ := (getU16_spec L s rfl).1 h
    obtain rfl := seg_eq_mk t1 b1
    exact ⟨_, by simpa [Seg.getU16, Vec.getBe] using e, by rw [u16_value _ (by simp; omega)]; rfl⟩
  · obtain ⟨s1, e, t1, b1⟩ := (getU32_spec L s rfl).1 h
    obtain rfl := seg_eq_mk t1 b1
    exact ⟨_, by simpa [Seg.getU32, Vec.getBe] using e, by rw [u32_value _ (by simp; omega)]; rfl⟩

/-- Past the end every consuming `Buf` method of a `CowBytes` panics and leaves the value as it was,
    whichever the variant. -/
theorem seg_buf_out_of_range (s : Seg) :
    (∀ n, s.bytes.length < n → s.copyToBytes n = .error ⟨s⟩ ∧ s.copyToSlice n = .error ⟨s⟩) ∧
    (s.bytes.length < 1 → s.getU8 = .error ⟨s⟩) ∧
    (s.bytes.length < 2 → s.getU16 = .error ⟨s⟩) ∧
    (s.bytes.length < 4 → s.getU32 = .error ⟨s⟩) := by
  have L := seg_lawful s.tag
  exact ⟨fun n h => ⟨(copyToBytes_spec L s n rfl).2 h, (copyToSlice_spec L s n rfl).2 h⟩,
    fun h => (getU8_spec L s rfl).2 (List.length_eq_zero_iff.mp (by omega)),
    (getU16_spec L s rfl).2, (getU32_spec L s rfl).2⟩

/-- The observing `Buf` methods of a `CowBytes` are functions of the bytes only: `has_remaining`
    iff it holds bytes, and `chunks_vectored` offers all of them as one slice (none when there is
    no slot or no byte). -/
theorem seg_buf_observers (s : Seg) (k : Nat) :
    s.hasRemaining = Vec.hasRemaining s.bytes ∧
    s.chunksVectored k = (if k = 0 ∨ s.bytes = [] then [] else [s.bytes]) := by
  have hr : s.hasRemaining = Vec.hasRemaining s.bytes := hasRemaining_spec (seg_lawful s.tag) s rfl
  refine ⟨hr, ?_⟩
  have hr' : Seg.buf.hasRemaining s = Vec.hasRemaining s.bytes := hr
  simp only [Seg.chunksVectored, BufImpl.chunksVectored, hr', Vec.hasRemaining]
  by_cases hk : k = 0
  · simp [hk]
  · cases hb : s.bytes with
    | nil => simp [hk]
    | cons b t => simp [hk, Seg.buf, hb]

/-- For every value a caller can hold: `has_remaining()` iff bytes remain, and `chunks_vectored`
    offers non-empty slices that form a prefix of the contents. -/
theorem reachable_buf (c : Chain) (k : Nat) (h : Reachable c) :
    c.hasRemaining = Vec.hasRemaining (abs c) ∧
    (c.chunksVectored k).length ≤ k ∧ (∀ ch ∈ c.chunksVectored k, ch ≠ []) ∧
      (∃ t, abs c = (c.chunksVectored k).flatten ++ t) ∧
      (0 < k → abs c ≠ [] → c.chunksVectored k ≠ []) :=
  ⟨hasRemaining_refines c (reachable_inv c h), chunksVectored_refines c k (reachable_inv c h)⟩

private def ex : Chain := ⟨[⟨.temporary, [1, 2]⟩, ⟨.static, [3, 4, 5]⟩], 5⟩

example : Inv ex := by decide
example : InRange ex (.splitOff 3) ∧ ¬ InRange ex (.splitOff 6) ∧ ¬ InRange ex (.push ⟨.static, []⟩) := by decide
example : ex.splitOff 3 = .ok (⟨[⟨.temporary, [1, 2]⟩, ⟨.static, [3]⟩], 3⟩, ⟨[⟨.static, [4, 5]⟩], 2⟩) := by decide
example : ex.truncate 100 = .ok (ex, ()) := by decide
example : ex.insert 3 ⟨.temporary, [9]⟩ = .error ⟨ex⟩ := by decide
example : (ex.push ⟨.temporary, []⟩) = .ok (ex, ()) := by decide
example : ex.run [.push ⟨.static, [6]⟩, .splitTo 1, .pop, .remove 0, .truncate 1] =
    .ok (⟨[⟨.static, [3]⟩], 1⟩,
      [.unit, .part ⟨[⟨.temporary, [1]⟩], 1⟩, .popped (some ⟨.static, [6]⟩), .removed ⟨.temporary, [2]⟩, .unit]) := by
  decide
example : Reachable ⟨[⟨.static, [7]⟩], 1⟩ :=
  .step (c := Chain.new) (op := .push ⟨.static, [7]⟩) (o := .unit) .new (by decide)
example : (⟨.temporary, [1, 2]⟩ : Seg).truncate 3 = .error ⟨⟨.temporary, [1, 2]⟩⟩ ∧
    (⟨.static, [1, 2]⟩ : Seg).truncate 3 = .ok (⟨.static, [1, 2]⟩, ()) := by decide
example : retagChain (fun _ => .static) ex = ⟨[⟨.static, [1, 2]⟩, ⟨.static, [3, 4, 5]⟩], 5⟩ := by decide
example : (⟨.temporary, [1, 2]⟩ : Seg).partialCmp ⟨.static, [1, 2, 0]⟩ = some .lt := by decide
/-- A value that violates the invariant (what the unrepaired `truncate` produced): the theorems'
    hypothesis `Inv` is not trivially true. -/
example : ¬ Inv ⟨[⟨.static, [1, 2, 3, 4, 5]⟩], 100⟩ := by decide
example : ¬ Inv ⟨[⟨.temporary, []⟩, ⟨.static, [1, 2]⟩], 2⟩ := by decide

/-- Evaluates the provided `Buf` methods (recursions on a measure, which `decide` does not unfold) on
    concrete values by rewriting with their defining equations. -/
local macro "buf_eval" : tactic => `(tactic|
  simp [ex, Chain.run, Chain.step, Except.map, Chain.copyToBytes, Chain.copyToSlice, Chain.getU8, Chain.getU16, Chain.getU32,
    Chain.hasRemaining, Chain.chunksVectored, Seg.copyToBytes, Seg.copyToSlice, Seg.getU8, Seg.getU16, Seg.getU32, Seg.buf,
    BufImpl.copyToBytes, BufImpl.copyToSlice, BufImpl.takeLoop, BufImpl.copyLoop, BufImpl.getU8, BufImpl.getU16,
    BufImpl.getU32, BufImpl.getFixed, BufImpl.hasRemaining, BufImpl.chunksVectored, fromBe,
    Chain.buf, Chain.remaining, Chain.chunk, Chain.advance, Chain.new, advLoop_cons, advLoop_zero, advLoop_nil_succ, seg_advance_ok, seg_advance_err])

example : ex.copyToBytes 3 = .ok (⟨[⟨.static, [4, 5]⟩], 2⟩, [1, 2, 3]) := by buf_eval
example : ex.copyToSlice 5 = .ok (⟨[], 0⟩, [1, 2, 3, 4, 5]) := by buf_eval
example : ex.copyToBytes 6 = .error ⟨ex⟩ ∧ ex.copyToSlice 6 = .error ⟨ex⟩ := by buf_eval
example : ex.getU8 = .ok (⟨[⟨.temporary, [2]⟩, ⟨.static, [3, 4, 5]⟩], 4⟩, 1) := by buf_eval
example : ex.getU16 = .ok (⟨[⟨.static, [3, 4, 5]⟩], 3⟩, 0x0102) := by buf_eval
example : ex.getU32 = .ok (⟨[⟨.static, [5]⟩], 1⟩, 0x01020304) := by buf_eval
example : (⟨[⟨.static, [1, 2, 3]⟩], 3⟩ : Chain).getU32 = .error ⟨⟨[⟨.static, [1, 2, 3]⟩], 3⟩⟩ := by buf_eval
example : ex.hasRemaining = true ∧ ex.chunksVectored 4 = [[1, 2]] ∧ ex.chunksVectored 0 = [] ∧
    Chain.new.hasRemaining = false ∧ Chain.new.chunksVectored 4 = [] := by buf_eval
example : ex.run [.getU8, .copyToBytes 2, .getU16] =
    .ok (⟨[], 0⟩, [.u8 1, .copied [2, 3], .u16 0x0405]) := by buf_eval
example : ex.run [.copyToSlice 4, .getU16] = .error (⟨⟨[⟨.static, [5]⟩], 1⟩⟩, [.copied [1, 2, 3, 4]]) := by buf_eval
example : (⟨.temporary, [1, 2, 3]⟩ : Seg).copyToBytes 2 = .ok (⟨.temporary, [3]⟩, [1, 2]) ∧
    (⟨.static, [1, 2, 3]⟩ : Seg).getU16 = .ok (⟨.static, [3]⟩, 0x0102) ∧
    (⟨.static, [1, 2, 3]⟩ : Seg).getU32 = .error ⟨⟨.static, [1, 2, 3]⟩⟩ := by buf_eval
/-- Without the invariant the statements fail: a chain whose cached total was deducted twice refuses
    bytes it holds. -/
example : (⟨[⟨.static, [5, 6]⟩], 0⟩ : Chain).copyToBytes 1 = .error ⟨⟨[⟨.static, [5, 6]⟩], 0⟩⟩ := by buf_eval
example : InRange ex .getU32 ∧ InRange ex (.copyToBytes 5) ∧ ¬ InRange ex (.copyToSlice 6) ∧ ¬ InRange Chain.new .getU8 := by decide
example : Vec.beValue [1, 2] = 0x0102 ∧ Vec.getBe [1, 2, 3, 4, 5] 4 = ([5], 0x01020304) ∧ Vec.copyOut [1, 2, 3] 2 = ([3], [1, 2]) := by decide

end Penguin.C20
