/-
C01 — End-to-end transparency of the tunnel (TCP and UDP, every entry point).

What is proved here, and what covers the rest:

UDP (part a).  The client's two maps (`Penguin.UdpMap`, `client/mod.rs:121-234`) for every sequence
of map operations (add a client, route a reply, prune, time passing; every random-draw script):
the flow id attached to a client's datagram routes the reply back to exactly that (peer address,
local socket), ids and tuples are in bijection while they live, pruning only removes, nothing
panics; the server answers on the flow id of the request (`forwarder.rs:123-128`); the SOCKS5 reply
built for any address and payload is parsed back by a conforming RFC 1928 client (C18's theorem,
instantiated for the address the client code passes — see `socks5_reply_parses`).

TCP (part b).  One direction of one logical stream (`Penguin.Link`, proved invariant in
`Lemmas/Link.lean`) refines the specification of a direct connection (`Spec/Pipe.lean`), for every
action sequence; a chain of pipe stages joined by relays is again a pipe (`tunnel_composition`, any
number of stages).  The stages of the real tunnel, and what covers each:
  local socket  →  client bridge  →  link (mux stream)  →  server bridge  →  target socket
  * link: C02 / C05 (`Link.reach_inv`), restated here through the abstraction into `Spec.Pipe`;
  * bridges (`copy_bidirectional.rs`): C13 — here they are the relays of `Feeds`: what a relay has
    written into the next stage is a prefix of what it read from the previous one, and it finishes
    the next stage only after the previous one reported end-of-stream and everything was forwarded;
  * SOCKS / HTTP framing in front of the byte stream: C18 (the request is consumed exactly);
  * OS sockets (kernel buffers) and the tokio scheduler: TRUSTED to be FIFO pipes (`Seg.Ok`
    assumed for those stages); the end-to-end harness (`pvhf e2e`) samples the glue between the
    stages (listeners, `handle_remote`, forwarder) over real sockets.
HTTP proxy (part c).  Which tunnel one parsed request makes the client ask for and what the local
client is answered (`Penguin.HttpProxy`, `handle_remote/http.rs:30-131`): the target of a CONNECT,
the bracket rule for IPv6 literals, every refusal, and what happens to the other methods.  hyper
and the `http` crate (request parsing) are black boxes; `pvhf httpproxy` runs the real handler.

The two directions of a connection are two chains sharing no state; at the endpoint a half-close
touches only its own direction (`half_close_keeps_reverse_direction`, from `Lemmas/LinkGlue.lean`).

After (c), the rest of the path from the command line to the target: `Remote::from_str`, the dispatch of
`handle_remote`, the fixed-target entry points, the server's TCP forwarder, and the four joined for a fixed remote.
Part (a) also holds the relay loop of a SOCKS5 UDP association.
-/
import Penguin.Model.UdpMap
import Penguin.Lemmas.UdpMap
import Penguin.Model.Link
import Penguin.Lemmas.Link
import Penguin.Lemmas.LinkGlue
import Penguin.Lemmas.LinkPipe
import Penguin.Spec.Pipe
import Penguin.Model.Socks
import Penguin.Spec.Rfc1928
import Penguin.Props.C18
import Penguin.Model.HttpProxy
import Penguin.Lemmas.HttpProxy
import Penguin.Lemmas.RemoteSpecKind
import Penguin.Model.Dispatch
import Penguin.Model.FixedTarget
import Penguin.Lemmas.ServerForward

namespace Penguin.C01
open Penguin Penguin.Constants

/-! ## (a) UDP routing -/

section udp
open Penguin.UdpMap

/-- No sequence of operations reaches one of the `expect("… inconsistent (this is a bug)")` panics. -/
theorem maps_never_panic (ops : List UdpMap.Op) (op : UdpMap.Op) : (step (run {} ops) op).2 ≠ .panic :=
  step_ne_panic (reach_inv ops) op

/-- The flow id attached to a client's datagram maps back to exactly that client: after
    `add_udp_client` returned `cid` for (peer address, socket address), the entry under `cid` is for
    that peer and that socket address, and a reply `Datagram` with flow id `cid` is sent to that
    peer from the entry's socket — the socket given in this call when the tuple was new. -/
theorem reply_routing (ops : List UdpMap.Op) (peer our : Addr) (sock : SockId) (s5 : Bool) (rng : List Nat) (cid : Nat)
    (hadd : (add (run {} ops) peer our sock s5 rng).2 = .id cid) :
    ∃ e, UdpMap.get (add (run {} ops) peer our sock s5 rng).1.idMap cid = some e ∧
      e.peer = peer ∧ e.our = our ∧
      (reply (add (run {} ops) peer our sock s5 rng).1 cid).2 = .target e.sock peer e.socks5 ∧
      (UdpMap.get (run {} ops).addrMap (peer, our) = none → e.sock = sock ∧ e.socks5 = s5) :=
  add_routes (reach_inv ops) peer our sock s5 rng cid hadd

/-- Two live entries never share an id, and a (peer, socket address) tuple never has two ids: in
    every reachable state the id map and the address map are inverse bijections. -/
theorem ids_injective (ops : List UdpMap.Op) :
    let m := run {} ops
    (∀ cid e1 e2, (cid, e1) ∈ m.idMap → (cid, e2) ∈ m.idMap → e1 = e2) ∧
    (∀ c1 c2 e1 e2, UdpMap.get m.idMap c1 = some e1 → UdpMap.get m.idMap c2 = some e2 →
        e1.peer = e2.peer → e1.our = e2.our → c1 = c2) ∧
    (∀ cid e, UdpMap.get m.idMap cid = some e → UdpMap.get m.addrMap (e.peer, e.our) = some cid) ∧
    (∀ p o cid, UdpMap.get m.addrMap (p, o) = some cid → ∃ e, UdpMap.get m.idMap cid = some e ∧ e.peer = p ∧ e.our = o) :=
  (reach_inv ops).bijection

/-- No operation re-targets a live id: after any operation the id is either gone or still names
    the same peer, socket address, socket and SOCKS5 flag (only the expiry time moves). -/
theorem routing_stable (ops : List UdpMap.Op) (op : UdpMap.Op) (cid : Nat) (e : Entry)
    (hg : UdpMap.get (run {} ops).idMap cid = some e) :
    UdpMap.get (step (run {} ops) op).1.idMap cid = none ∨
    ∃ e', UdpMap.get (step (run {} ops) op).1.idMap cid = some e' ∧
      e'.peer = e.peer ∧ e'.our = e.our ∧ e'.sock = e.sock ∧ e'.socks5 = e.socks5 :=
  step_keeps_target (reach_inv ops) op cid e hg

/-- Pruning only removes: an id is kept, with its entry unchanged, exactly when the entry has not
    expired (`expires > now`), and dropped otherwise; it is never given to another client.  The
    address map loses exactly the tuples of the dropped entries. -/
theorem prune_only_removes (ops : List UdpMap.Op) (cid : Nat) :
    let m := run {} ops
    UdpMap.get (prune m).1.idMap cid = (UdpMap.get m.idMap cid).filter (fun e => decide (e.expires > m.now)) ∧
    (∀ e, UdpMap.get m.idMap cid = some e →
       UdpMap.get (prune m).1.addrMap (e.peer, e.our) = if e.expires > m.now then some cid else none) :=
  prune_spec (reach_inv ops) cid

/-- The server keeps the flow id: whatever the interleaving of client datagrams, target replies and
    forwarder time-outs, a reply frame produced for a datagram that arrived on forwarder `i`'s socket
    carries the flow id of every client datagram that was sent out through that same forwarder, and
    the payload the target sent. -/
theorem server_keeps_flow_id (ops : List SOp) (i : Nat) (d' d : Dgram) (h p pl : Bytes) (t : Nat)
    (hreq : (SOp.fromClient d', SOut.toTarget i h t p) ∈ (srun {} ops).2)
    (hrep : (SOp.fromTarget i pl, SOut.toClient d) ∈ (srun {} ops).2) :
    d.flowId = d'.flowId ∧ d.data = pl := by
  obtain ⟨_, hx⟩ := srun_ok ops
  obtain ⟨f1, hf1, hk1⟩ := hx _ hreq
  obtain ⟨f2, hf2, hk2, hdat⟩ := hx _ hrep
  rw [hf1] at hf2; cases hf2
  exact ⟨hk2.symm.trans hk1, hdat⟩

open Penguin.Socks Penguin.Lemmas.Socks in
/-- The SOCKS5 reply: the datagram the client builds for an entry (`send_udp_relay_response`,
    `handle_remote/socks.rs`: `udp_relay_response(target, data)`) is, for EVERY well-formed socket
    address `target` and every payload, parsed by a conforming RFC 1928 client to that address, that
    port and exactly the payload (C18's theorem).  Which address the code passes is the local
    client's own address (`client/mod.rs`, `send_datagram_reply`: `peer_addr`), not the remote
    host's; the header is well-formed and the payload is recovered either way. -/
theorem socks5_reply_parses (target : SockAddr) (h : target.wf) (payload : Bytes) :
    Spec.Rfc1928.clientParseUdp (udpRelayResponse target payload) = some (addrOf target, portOf target, payload) :=
  C18.udp_client_parses_response target h payload

/-- The requests among the datagrams a relay socket receives. -/
def requestsOf : List RelayIn → List RelayOut
  | [] => []
  | .request d p x :: rest => .forwarded d p x :: requestsOf rest
  | _ :: rest => requestsOf rest

/-- What the relay forwarded. -/
def forwardedOf : List RelayOut → List RelayOut
  | [] => []
  | .forwarded d p x :: rest => .forwarded d p x :: forwardedOf rest
  | _ :: rest => forwardedOf rest

/-- Whatever arrives on the relay socket of a SOCKS5 UDP association — fragments, truncated or
    otherwise malformed datagrams, from the association's own client or from anybody else, in any
    number and order — every well-formed request among it is forwarded, unchanged and in order
    (RFC 1928 section 7: a relay silently drops what it cannot relay); no datagram ends the
    association.  With the source as it was before fix 0a183e4 (`Err(e) => Err(…)`) the regenerated
    `socksRelayDropsMalformed` is `false` and this fails: one junk datagram silenced every later
    request of the association. -/
theorem association_survives_junk_datagrams (ins : List RelayIn) :
    forwardedOf (relayRun true ins) = requestsOf ins ∧ RelayOut.ended ∉ relayRun true ins := by
  induction ins with
  | nil => simp [relayRun, forwardedOf, requestsOf]
  | cons i rest ih =>
    cases i with
    | request d p x =>
      simp only [relayRun, relayStep, Bool.not_true, Bool.false_eq_true, if_false, forwardedOf, requestsOf,
        List.mem_cons, reduceCtorEq, false_or]
      exact ⟨by rw [ih.1], ih.2⟩
    | fragmented | malformed =>
      have hf : socksRelayDropsFragmented = true := rfl
      have hm : socksRelayDropsMalformed = true := rfl
      simp only [relayRun, relayStep, Bool.not_true, Bool.false_eq_true, if_false, hf, hm, if_true, forwardedOf,
        requestsOf, List.mem_cons, reduceCtorEq, false_or]
      exact ih

example : forwardedOf (relayRun true [.malformed, .request [1] 53 [9], .fragmented, .request [2] 54 []]) =
    [.forwarded [1] 53 [9], .forwarded [2] 54 []] := by decide +kernel

end udp

/-! ## (b) TCP: the link refines a direct connection's pipe; chains of pipes are pipes -/

section tcp
open Penguin.Spec

/-- The three properties of a direct connection's direction are kept by every step of the specification … -/
theorem pipe_step_ok (s s' : Pipe.St) (a : Pipe.Act) (ok : Pipe.Ok s) (hs : Pipe.step s a = some s') : Pipe.Ok s' := by
  cases a with
  | write d =>
    simp only [Pipe.step] at hs
    split at hs
    · rename_i ho
      cases hs
      refine ⟨ok.pre.trans (List.prefix_append _ _), fun he => ?_, fun he => ?_⟩
      · exact absurd ho (ok.eofClosed he)
      · exact absurd ho (ok.eofClosed he)
    · cases hs
  | finish | abort =>
    simp only [Pipe.step] at hs
    split at hs
    · rename_i ho
      cases hs
      exact ⟨ok.pre, fun _ => by simp, fun he => absurd ho (ok.eofClosed he)⟩
    · cases hs
  | deliver d =>
    simp only [Pipe.step] at hs
    split at hs
    · rename_i hc
      cases hs
      refine ⟨List.isPrefixOf_iff_prefix.mp hc.2, fun he => ?_, fun he => ?_⟩
      · simp only at he; rw [hc.1] at he; cases he
      · simp only at he; rw [hc.1] at he; cases he
    · cases hs
  | eof =>
    simp only [Pipe.step] at hs
    split at hs
    · cases hs
    · rename_i hp
      split at hs
      · rename_i hall
        cases hs
        exact ⟨ok.pre, fun _ => by simp [hp], fun _ _ => hall⟩
      · cases hs
    · rename_i hp
      cases hs
      exact ⟨ok.pre, fun _ => by simp [hp], fun _ hf => by simp [hp] at hf⟩

/-- … hence by every run, from any state that has them. -/
theorem pipe_run_ok (pas : List Pipe.Act) (s p : Pipe.St) (ok : Pipe.Ok s) (h : Pipe.run s pas = some p) : Pipe.Ok p := by
  induction pas generalizing s with
  | nil => simp only [Pipe.run, Option.some.injEq] at h; exact h ▸ ok
  | cons a rest ih =>
    simp only [Pipe.run] at h
    cases hs : Pipe.step s a with
    | none => simp [hs] at h
    | some s' =>
      simp only [hs, Option.bind_some] at h
      exact ih s' (pipe_step_ok s s' a ok hs) h

/-- Every reachable state of the specification itself has the three properties of a direct
    connection's direction. -/
theorem pipe_spec_sound (pas : List Pipe.Act) (p : Pipe.St) (h : Pipe.run Pipe.init pas = some p) : Pipe.Ok p :=
  pipe_run_ok pas Pipe.init p ⟨List.prefix_refl _, fun h => by simp [Pipe.init] at h, fun h => by simp [Pipe.init] at h⟩ h

/-- The link model refines the pipe specification: for every window, threshold and action sequence
    there is a legal run of the specification (at most one specification step per link action) whose
    input log is what the writer's successful writes accepted, whose output log is what the reader
    obtained, which is still open exactly while the writer has not ended, and in which end-of-stream
    was observed exactly when the reader saw it. -/
theorem link_refines_pipe (W th : Nat) (hW : 0 < W) (hth : th ≤ W) (as : List Link.Act) :
    ∃ (pas : List Pipe.Act) (p : Pipe.St), Pipe.run Pipe.init pas = some p ∧ pas.length ≤ as.length ∧
      p.input = (Link.run (Link.init W th) as).accepted ∧
      p.output = (Link.run (Link.init W th) as).delivered ∧
      (p.phase = .open ↔ (Link.run (Link.init W th) as).sFin = false) ∧
      p.eof = (Link.run (Link.init W th) as).eofSeen := by
  have r0 : LinkPipe.R (Link.init W th) Pipe.init :=
    ⟨rfl, rfl, by simp [Pipe.init, Link.init], rfl⟩
  obtain ⟨pas, q, hr, r, hl⟩ := LinkPipe.sim_run (Link.init W th) Pipe.init as (Link.init_inv W th hW hth) r0
  exact ⟨pas, q, hr, hl, r.inp, r.out, r.ph, r.eof⟩

/-- Hence, through the specification: what the reader has is always a prefix of what was accepted,
    end-of-stream is only seen after the writer ended (finish or abort), and then the two are equal
    (C02 / C05 restated through `Spec.Pipe`). -/
theorem link_is_pipe (W th : Nat) (hW : 0 < W) (hth : th ≤ W) (as : List Link.Act) :
    let s := Link.run (Link.init W th) as
    s.delivered <+: s.accepted ∧ (s.eofSeen = true → s.sFin = true ∧ s.delivered = s.accepted) := by
  intro s
  obtain ⟨pas, p, hr, _, hi, ho, hph, he⟩ := link_refines_pipe W th hW hth as
  have ok := pipe_spec_sound pas p hr
  refine ⟨by rw [← hi, ← ho]; exact ok.pre, fun hs => ?_⟩
  have hpe : p.eof = true := he.trans hs
  have hfin : s.sFin = true := by
    cases hf : s.sFin with
    | true => rfl
    | false => exact absurd (hph.mpr hf) (ok.eofClosed hpe)
  refine ⟨hfin, ?_⟩
  -- equality also after an abort: from the link invariant (the specification alone allows a lost tail)
  exact (Link.eof_facts s (Link.reach_inv hW hth as) hs).2

/-- One stage of a chain, seen from outside: what was put in, what came out, whether the input side
    was ended, whether the output side reported end-of-stream. -/
structure Seg where
  inp : Bytes
  out : Bytes
  fin : Bool
  eof : Bool

/-- The stage behaves like a pipe. -/
def Seg.Ok (s : Seg) : Prop := s.out <+: s.inp ∧ (s.eof = true → s.fin = true ∧ s.out = s.inp)

/-- A relay (a bridge task) copies from stage `a` into stage `b`: what it has written into `b` is
    a prefix of what it obtained from `a` (it may hold some bytes), and it ends `b`'s input only
    after `a` reported end-of-stream and everything obtained was written. -/
def Feeds (a b : Seg) : Prop := b.inp <+: a.out ∧ (b.fin = true → a.eof = true ∧ b.inp = a.out)

def Chained : List Seg → Prop
  | [] => True
  | [_] => True
  | a :: b :: rest => Feeds a b ∧ Chained (b :: rest)

/-- Composition, for any number of stages: a chain of pipe stages joined by relays is a pipe from
    the first stage's input to the last stage's output — output a prefix of input at every moment,
    end-of-stream at the far end only after the near end was finished, and then equality. -/
theorem tunnel_composition (first : Seg) (rest : List Seg)
    (hc : Chained (first :: rest)) (hok : ∀ s ∈ first :: rest, s.Ok) :
    Seg.Ok { inp := first.inp, out := (rest.getLastD first).out, fin := first.fin, eof := (rest.getLastD first).eof } := by
  induction rest generalizing first with
  | nil => exact hok first List.mem_cons_self
  | cons b rest ih =>
    have hfeed : Feeds first b := hc.1
    have hrest := ih b hc.2 (fun s hs => hok s (List.mem_cons_of_mem _ hs))
    have hf := hok first List.mem_cons_self
    simp only [List.getLastD_cons] at hrest ⊢
    refine ⟨hrest.1.trans (hfeed.1.trans hf.1), fun he => ?_⟩
    obtain ⟨hbfin, hbeq⟩ := hrest.2 he
    obtain ⟨hfeof, hfeq⟩ := hfeed.2 hbfin
    obtain ⟨hffin, hfall⟩ := hf.2 hfeof
    exact ⟨hffin, by simp only at hbeq; rw [hbeq, hfeq, hfall]⟩

/-- The link as a stage. -/
def linkSeg (s : Link.St) : Seg := { inp := s.accepted, out := s.delivered, fin := s.sFin, eof := s.eofSeen }

/-- One direction of the tunnel, end to end: local socket → (client bridge) → link → (server bridge)
    → target socket, at every moment of every run of the link, for any socket stages that are pipes
    (trusted) and any bridges that relay (C13): the target end has received a prefix of what the
    local client wrote, sees end-of-stream only after the local client ended its direction, and has
    then received exactly everything. -/
theorem tunnel_end_to_end (W th : Nat) (hW : 0 < W) (hth : th ≤ W) (as : List Link.Act)
    (localSock targetSock : Seg) (hl : localSock.Ok) (ht : targetSock.Ok)
    (hb1 : Feeds localSock (linkSeg (Link.run (Link.init W th) as)))
    (hb2 : Feeds (linkSeg (Link.run (Link.init W th) as)) targetSock) :
    targetSock.out <+: localSock.inp ∧
    (targetSock.eof = true → localSock.fin = true ∧ targetSock.out = localSock.inp) := by
  have hlink : (linkSeg (Link.run (Link.init W th) as)).Ok := link_is_pipe W th hW hth as
  have := tunnel_composition localSock [linkSeg (Link.run (Link.init W th) as), targetSock]
    ⟨hb1, hb2, trivial⟩ (by
      intro s hs
      simp only [List.mem_cons, List.not_mem_nil, or_false] at hs
      rcases hs with rfl | rfl | rfl
      · exact hl
      · exact hlink
      · exact ht)
  simpa [Seg.Ok] using this

open Penguin.Mux in
/-- Half-close at the endpoint touches one direction only: shutting down the write side of a stream
    sets `finishSent` and queues one `Finish`; the object's receive side and the slot are unchanged
    (so the reverse direction's link is not affected) — and receiving the peer's `Finish` only ends
    the read side, leaving credit, `finishSent` and the outbound queue alone. -/
theorem half_close_keeps_reverse_direction (e : EP) (hd i fid : Nat) (o : Obj) (ig : Bool)
    (hh : e.handles[hd]? = some i) (ho : e.objs[i]? = some o) (hoc : e.outClosed = false)
    (hs : lookup e.flows fid = some (.established i)) :
    (o.finishSent = false →
        (appShutdown e hd).1.objs[i]? = some { o with finishSent := true, parked := false } ∧
        (appShutdown e hd).1.outq = e.outq ++ [.frame (.finish o.fid)]) ∧
    ((processFrame e (.finish fid) ig).1.objs[i]? = some { o with senderAlive := false } ∧
     (processFrame e (.finish fid) ig).1.outq = e.outq ∧
     (processFrame e (.finish fid) ig).1.flows = e.flows) :=
  ⟨(Mux.appShutdown_glue e hd i o hh ho hoc).2, Mux.processFrame_finish_glue e fid i o ig hs ho⟩

end tcp

section examples
open Penguin.UdpMap

/-- two clients, a reply, time passing, pruning: the second client survives with its id -/
example :
    let m := run {} [.add 100 7 1 false [5], .tick 6000, .add 101 7 1 false [5, 9], .tick 5000, .prune]
    (UdpMap.get m.idMap 5, (UdpMap.get m.idMap 9).map (·.peer), UdpMap.get m.addrMap (101, 7)) = (none, some 101, some 9) := by decide +kernel

/-- the non-zero generator skips a drawn 0 -/
example : (add {} 100 7 1 true [0, 0, 3]).2 = .id 3 := by decide +kernel

example : (reply (add {} 100 7 1 true [3]).1 3).2 = .target 1 100 true := by decide +kernel

/-- a finished forwarder is replaced and the datagram is not lost -/
example : (srun {} [.fromClient ⟨4, [1], 53, [9]⟩, .expire 0, .fromClient ⟨4, [1], 53, [8]⟩, .fromTarget 1 [7]]).2.map (·.2)
    = [.toTarget 0 [1] 53 [9], .none, .toTarget 1 [1] 53 [8], .toClient ⟨4, [1], 53, [7]⟩] := by decide +kernel

example : Spec.Pipe.run Spec.Pipe.init [.write [1, 2], .deliver [1], .finish, .deliver [2], .eof]
    = some { input := [1, 2], output := [1, 2], phase := .finished, eof := true } := by decide +kernel

/-- the specification refuses a reordered delivery and an early end-of-stream -/
example : Spec.Pipe.run Spec.Pipe.init [.write [1, 2], .deliver [2]] = none := by decide +kernel
example : Spec.Pipe.run Spec.Pipe.init [.write [1, 2], .finish, .deliver [1], .eof] = none := by decide +kernel

/-- a three-stage chain with bytes in flight at every relay -/
example : Chained [⟨[1, 2, 3, 4], [1, 2, 3], false, false⟩, ⟨[1, 2], [1], false, false⟩, ⟨[1], [], false, false⟩] := by
  refine ⟨⟨?_, by simp⟩, ⟨?_, by simp⟩, trivial⟩ <;> simp

end examples

/-! ## (c) The HTTP-proxy entry point -/

section http
open Penguin.HttpProxy

/-- The host of the tunnel request is the authority's host with ONE pair of surrounding brackets
    removed, and only when both are there: `[` ++ inner ++ `]` becomes `inner`; every other host —
    no leading `[`, a leading `[` without a closing `]` at the very end, the empty host — is passed
    on unchanged.  (Not idempotent, and not claimed to be: see the example below.) -/
theorem http_strip_brackets_spec (h : Bytes) :
    (∀ inner, h = 0x5b :: (inner ++ [0x5d]) → stripBrackets h = inner) ∧
    ((¬ ∃ inner, h = 0x5b :: (inner ++ [0x5d])) → stripBrackets h = h) ∧
    (h.head? ≠ some 0x5b → stripBrackets h = h) := by
  have ho : UInt8.ofNat httpBracketOpen = 0x5b := by decide
  have hc : UInt8.ofNat httpBracketClose = 0x5d := by decide
  refine ⟨?_, ?_, ?_⟩
  · rintro inner rfl
    simp [stripBrackets, ho, hc, stripSuffix_concat]
  · intro hn
    cases h with
    | nil => rfl
    | cons c t =>
      simp only [stripBrackets, ho, hc]
      split
      · rename_i hc'
        cases hs : stripSuffix 0x5d t with
        | none => rfl
        | some inner =>
          exact absurd ⟨inner, by rw [hc', stripSuffix_eq_some hs]⟩ hn
      · rfl
  · intro hh
    cases h with
    | nil => rfl
    | cons c t =>
      have : c ≠ 0x5b := by simpa using hh
      simp [stripBrackets, ho, this]

/-- `[::1]` → `::1`; `::1`, `[::1`, `::1]`, `[`, `[]x` and the empty host are left alone; `[]` → empty;
    and the rule is not idempotent: `[[::1]]` → `[::1]` → `::1`. -/
example : stripBrackets [0x5b, 0x3a, 0x3a, 0x31, 0x5d] = [0x3a, 0x3a, 0x31]
    ∧ stripBrackets [0x3a, 0x3a, 0x31] = [0x3a, 0x3a, 0x31]
    ∧ stripBrackets [0x5b, 0x3a, 0x3a, 0x31] = [0x5b, 0x3a, 0x3a, 0x31]
    ∧ stripBrackets [0x3a, 0x3a, 0x31, 0x5d] = [0x3a, 0x3a, 0x31, 0x5d]
    ∧ stripBrackets [0x5b] = [0x5b]
    ∧ stripBrackets [0x5b, 0x5d, 0x78] = [0x5b, 0x5d, 0x78]
    ∧ stripBrackets [] = []
    ∧ stripBrackets [0x5b, 0x5d] = []
    ∧ stripBrackets [0x5b, 0x5b, 0x3a, 0x3a, 0x31, 0x5d, 0x5d] = [0x5b, 0x3a, 0x3a, 0x31, 0x5d]
    ∧ stripBrackets (stripBrackets [0x5b, 0x5b, 0x3a, 0x3a, 0x31, 0x5d, 0x5d]) ≠ stripBrackets [0x5b, 0x5b, 0x3a, 0x3a, 0x31, 0x5d, 0x5d] := by
  decide +kernel

/-- CONNECT with an authority `(h, p)` whose port, if one is written, is a port number: whenever
    the main loop is there the tunnel is requested for exactly (`h` without its pair of brackets,
    the port written, else 443 for an `https` URI and 80 otherwise) — once — and never otherwise; the
    client is answered `200` with an empty body, and its connection is bridged to the stream, exactly
    when the main loop is there and hands a stream over; the request itself is never forwarded. -/
theorem http_connect_target (h : Bytes) (p : PortIn) (https : Bool) (env : Env) (hp : p ≠ .invalid) :
    let o := proxy { method := .connect, authority := some ⟨h, p⟩, schemeHttps := https } env
    (o.tunnels = if env.reserveOk then [(stripBrackets h, httpNamedPort p https)] else []) ∧
    (o.answer = .fixed 200 [] ↔ env.reserveOk = true ∧ env.channelOk = true) ∧
    (o.bridged = true ↔ env.reserveOk = true ∧ env.channelOk = true) ∧
    o.forwarded = false := by
  rw [proxy_named _ _ _ _ _ hp]
  rcases env with ⟨a, b, c, d⟩
  cases a <;> cases b <;> simp [refuse]

example : (proxy { method := .connect, authority := some ⟨[0x5b, 0x3a, 0x3a, 0x31, 0x5d], .absent⟩, schemeHttps := true }
      { reserveOk := true, channelOk := true, handshakeOk := false, sendOk := false }) =
    { answer := .fixed 200 [], tunnels := [([0x3a, 0x3a, 0x31], 443)], bridged := true, forwarded := false } := by decide +kernel

/-- The defect fixed by 8ad03c3, for every address: when the authority's host is `[` ++ a ++ `]`
    — `a` the text of an IPv6 address, as `Authority::host` returns an IPv6 literal — the tunnel is
    requested for `a` itself, the form the server's `lookup_host((host, port))` resolves (with the
    brackets it fails: "invalid socket address").  In particular for the canonical text of every
    16-byte address (`renderV6`, the text the SOCKS entry points pass for the same target). -/
theorem http_ipv6_literal_target (a : Bytes) (p : PortIn) (m : Method) (https : Bool) (env : Env)
    (hr : env.reserveOk = true) (hp : p ≠ .invalid) :
    (proxy { method := m, authority := some ⟨0x5b :: (a ++ [0x5d]), p⟩, schemeHttps := https } env).tunnels =
      [(a, httpNamedPort p https)] ∧
    ∀ raw : Bytes, a = (Socks.renderV6 raw).toUTF8.toList →
      (proxy { method := m, authority := some ⟨0x5b :: (a ++ [0x5d]), p⟩, schemeHttps := https } env).tunnels =
        [((Socks.renderV6 raw).toUTF8.toList, httpNamedPort p https)] := by
  have key : (proxy { method := m, authority := some ⟨0x5b :: (a ++ [0x5d]), p⟩, schemeHttps := https } env).tunnels =
      [(a, httpNamedPort p https)] := by
    rw [proxy_named _ _ _ _ _ hp, (http_strip_brackets_spec _).1 a rfl, hr]
    rcases env with ⟨_, b, c, d⟩
    cases b <;> cases m <;> cases c <;> rfl
  exact ⟨key, fun raw h => h ▸ key⟩

example : (proxy { method := .connect, authority := some ⟨0x5b :: ((Socks.renderV6 [0,0,0,0,0,0,0,0,0,0,0,0,0,0,0,1]).toUTF8.toList ++ [0x5d]), .num 8080⟩, schemeHttps := false }
      { reserveOk := true, channelOk := true, handshakeOk := true, sendOk := true }).tunnels =
    [((Socks.renderV6 [0,0,0,0,0,0,0,0,0,0,0,0,0,0,0,1]).toUTF8.toList, 8080)] :=
  (http_ipv6_literal_target _ _ _ _ _ rfl (by decide)).1

/-- A request without an authority (origin-form `GET /path`, `OPTIONS *`, `CONNECT /x`) never makes
    the client ask for a tunnel, whatever the method, the scheme and the environment; it is answered
    `400` (or `503` when the main loop has gone), nothing is bridged, nothing forwarded. -/
theorem http_no_tunnel_without_authority (m : Method) (https : Bool) (env : Env) :
    let o := proxy { method := m, authority := none, schemeHttps := https } env
    o.tunnels = [] ∧ o.bridged = false ∧ o.forwarded = false ∧
    (env.reserveOk = true → o.answer = .fixed 400 httpBodyNoAuthority) ∧
    (env.reserveOk = false → o.answer = .fixed 503 httpBodyShuttingDown) := by
  rcases proxy_table { method := m, authority := none, schemeHttps := https } env with
    ⟨hr, e⟩ | ⟨hr, _, e⟩ | ⟨_, _, ha, _⟩ | ⟨_, _, ha, _⟩ <;> simp_all [refuse]

example : (proxy { method := .other, authority := none, schemeHttps := false }
      { reserveOk := true, channelOk := true, handshakeOk := true, sendOk := true }).answer = .fixed 400 httpBodyNoAuthority := by decide +kernel

/-- When the main loop has exited (`reserve()` fails) every request — well-formed or not, CONNECT or
    not — is answered `503` "Proxy server is shutting down" before anything else is looked at: no
    tunnel, no bridge, nothing forwarded. -/
theorem http_no_tunnel_when_shutting_down (r : Req) (env : Env) (h : env.reserveOk = false) :
    proxy r env = { answer := .fixed 503 httpBodyShuttingDown, tunnels := [], bridged := false, forwarded := false } := by
  rcases proxy_table r env with ⟨_, e⟩ | ⟨hr, _⟩ | ⟨hr, _⟩ | ⟨hr, _⟩ <;> simp_all [refuse]

example : (proxy { method := .connect, authority := none, schemeHttps := true }
      { reserveOk := false, channelOk := true, handshakeOk := true, sendOk := true }).answer = .fixed 503 httpBodyShuttingDown := by decide +kernel

/-- Every refusal, with its exact status and body, happens under exactly one condition, in the order
    of the code: 503 (main loop gone), 400 "Malformed CONNECT request" (no authority), 400 "Invalid
    port …" (a port text that is no port number), 500 (no stream handed over), and for the other
    methods 502 "Failed to establish connection" (HTTP/1 handshake on the stream) / 502 "Failed to
    proxy request to target" (sending).  `200` is answered only to a CONNECT, with an empty body, and
    only when a stream exists (one tunnel was requested and granted); the answer of the target is
    relayed, and a connection bridged, only with a stream as well. -/
theorem http_failure_answers (r : Req) (env : Env) :
    let o := proxy r env
    (o.answer = .fixed 503 httpBodyShuttingDown ↔ env.reserveOk = false) ∧
    (o.answer = .fixed 400 httpBodyNoAuthority ↔ env.reserveOk = true ∧ r.authority = none) ∧
    (o.answer = .fixed 400 httpBodyInvalidPort ↔
      env.reserveOk = true ∧ ∃ a, r.authority = some a ∧ a.port = .invalid) ∧
    (o.answer = .fixed 500 httpBodyNoChannel ↔
      env.reserveOk = true ∧ httpNamesTarget r ∧ env.channelOk = false) ∧
    (o.answer = .fixed 502 httpBodyHandshakeFailed ↔
      env.reserveOk = true ∧ httpNamesTarget r ∧ env.channelOk = true ∧ r.method = .other ∧ env.handshakeOk = false) ∧
    (o.answer = .fixed 502 httpBodySendFailed ↔
      env.reserveOk = true ∧ httpNamesTarget r ∧ env.channelOk = true ∧ r.method = .other ∧ env.handshakeOk = true ∧
        env.sendOk = false) ∧
    (∀ b, o.answer = .fixed 200 b →
      b = [] ∧ r.method = .connect ∧ env.reserveOk = true ∧ env.channelOk = true ∧ o.tunnels.length = 1) ∧
    (o.answer = .upstream → env.reserveOk = true ∧ env.channelOk = true ∧ o.tunnels.length = 1) ∧
    (o.bridged = true → env.reserveOk = true ∧ env.channelOk = true ∧ o.tunnels.length = 1) := by
  have d1 : httpBodyNoAuthority ≠ httpBodyInvalidPort := by decide
  have d2 : httpBodyHandshakeFailed ≠ httpBodySendFailed := by decide
  rcases proxy_table r env with ⟨hr, e⟩ | ⟨hr, ha, e⟩ | ⟨hr, a, ha, hp, e⟩ | ⟨hr, a, ha, hp, row⟩
  · simp [e, refuse, hr]
  · simp [e, refuse, hr, ha, d1, httpNamesTarget]
  · simp [e, refuse, hr, ha, hp, d1.symm, httpNamesTarget]
  · have hn : httpNamesTarget r := ⟨a, ha, hp⟩
    rcases row with ⟨hc, e⟩ | ⟨hc, hm, e⟩ | ⟨hc, hm, hh, e⟩ | ⟨hc, hm, hh, hs, e⟩ | ⟨hc, hm, hh, hs, e⟩
    · simp [e, refuse, hr, ha, hp, hn, hc]
    · simp [e, hr, ha, hp, hc, hm]
    · simp [e, refuse, hr, ha, hp, hn, hc, hm, hh, d2]
    · simp [e, hr, ha, hp, hn, hc, hm, hh, hs, d2.symm]
    · simp [e, hr, ha, hp, hc, hh, hs]

example : httpNamesTarget { method := .other, authority := some ⟨[0x68], .num 81⟩, schemeHttps := false } :=
  ⟨_, rfl, by decide⟩

example : (proxy { method := .connect, authority := some ⟨[0x68], .invalid⟩, schemeHttps := false }
      { reserveOk := true, channelOk := true, handshakeOk := true, sendOk := true }) =
    { answer := .fixed 400 httpBodyInvalidPort, tunnels := [], bridged := false, forwarded := false } := by decide +kernel

/-- One request asks for at most one tunnel, and only for the (bracket-stripped) host of its own
    authority and the port that authority names. -/
theorem http_tunnel_requested_at_most_once (r : Req) (env : Env) :
    (proxy r env).tunnels.length ≤ 1 ∧
    ∀ t ∈ (proxy r env).tunnels, ∃ a, r.authority = some a ∧ a.port ≠ .invalid ∧
      t = (stripBrackets a.host, httpNamedPort a.port r.schemeHttps) := by
  rcases proxy_table r env with ⟨_, e⟩ | ⟨_, _, e⟩ | ⟨_, _, _, _, e⟩ | ⟨_, a, ha, hp, row⟩
  · simp [e, refuse]
  · simp [e, refuse]
  · simp [e, refuse]
  · have : (proxy r env).tunnels = [(stripBrackets a.host, httpNamedPort a.port r.schemeHttps)] := by
      rcases row with ⟨_, e⟩ | ⟨_, _, e⟩ | ⟨_, _, _, e⟩ | ⟨_, _, _, _, e⟩ | ⟨_, _, _, _, e⟩ <;> rw [e] <;> rfl
    simp [this, ha, hp]

example : (proxy { method := .other, authority := some ⟨[0x68], .absent⟩, schemeHttps := false }
      { reserveOk := true, channelOk := false, handshakeOk := true, sendOk := true }).tunnels = [([0x68], 80)] := by decide +kernel

/-- Any other method, as the code is: the tunnel is requested BEFORE the method is looked at, so a
    `GET` (or any non-CONNECT) with an authority opens a tunnel to the same target a CONNECT would;
    the client's connection is not bridged; with a stream the request is handed to an HTTP/1 client
    on it exactly when the handshake succeeds, and the target's answer is relayed exactly when the
    handshake and the sending succeed. -/
theorem http_non_connect_forwards (h : Bytes) (p : PortIn) (https : Bool) (env : Env) (hp : p ≠ .invalid) :
    let o := proxy { method := .other, authority := some ⟨h, p⟩, schemeHttps := https } env
    o.tunnels = (proxy { method := .connect, authority := some ⟨h, p⟩, schemeHttps := https } env).tunnels ∧
    o.bridged = false ∧
    (o.forwarded = true ↔ env.reserveOk = true ∧ env.channelOk = true ∧ env.handshakeOk = true) ∧
    (o.answer = .upstream ↔ env.reserveOk = true ∧ env.channelOk = true ∧ env.handshakeOk = true ∧ env.sendOk = true) := by
  rw [proxy_named _ _ _ _ _ hp, proxy_named _ _ _ _ _ hp]
  rcases env with ⟨a, b, c, d⟩
  cases a <;> cases b <;> cases c <;> cases d <;> simp [refuse]

example : (proxy { method := .other, authority := some ⟨[0x68], .num 8080⟩, schemeHttps := false }
      { reserveOk := true, channelOk := true, handshakeOk := true, sendOk := true }) =
    { answer := .upstream, tunnels := [([0x68], 8080)], bridged := false, forwarded := true } := by decide +kernel

end http

section RemoteSpecifications
open Penguin.RemoteSpec Penguin.Constants

/-- An oracle for the examples: idna leaves every host alone, lower-casing is the ASCII one. -/
def plainOracle : Oracle := ⟨fun h => some h, fun s => s.map Char.toLower⟩
/-- idna lower-cases (as the real one does on ASCII letters). -/
def loweringOracle : Oracle := ⟨fun h => some (h.map Char.toLower), fun s => s.map Char.toLower⟩
/-- idna refuses everything. -/
def refusingOracle : Oracle := ⟨fun _ => none, fun s => s.map Char.toLower⟩

/-- `Remote::from_str` returns a remote or one of the errors of `remote_spec.rs:61-83`, for every
    text and whatever `idna::domain_to_ascii` and `str::to_lowercase` answer: neither
    `unreachable!()` (`:232`, `:370`) is reachable, and the tokenizer's loop ends within five
    iterations (the model's unrolling of it never runs out, and is the same for every larger bound). -/
theorem remote_parse_total_no_panic (o : Oracle) (s : Str) :
    ((∃ r, parse o s = .ok r) ∨ (∃ e, parse o s = .error (.err e))) ∧
    (∀ fuel, 5 ≤ fuel → tokLoop fuel [] s = tokenize s) := by
  refine ⟨?_, fun fuel h => tokenize_any_fuel s fuel h⟩
  cases h : parse o s with
  | ok r => exact Or.inl ⟨r, rfl⟩
  | error f =>
    cases f with
    | err e => exact Or.inr ⟨e, rfl⟩
    | panic p => exact absurd h (parse_noPanic o s p)

example : parse plainOracle "[::1]:8080:example.com:80/udp".toList =
    .ok ⟨.inet "::1".toList 8080, .inet "example.com".toList 80, .udp⟩ := by decide +kernel
example : parse plainOracle "a:b:c:d:e".toList = .error (.err .tooManySegments) := by decide +kernel

/-- The tokenizer, completely: a text is split into `toks` exactly when `toks` are one to four
    possible tokens (not empty; in brackets: no `]` inside; bare: no `:` inside and no `[` in front)
    and the text is these tokens joined with `:`, the bracketed ones in their brackets.  In
    particular a successful tokenization loses nothing but the brackets. -/
theorem remote_tokens_spec (s : Str) (toks : List Tok) :
    tokenize s = .ok toks ↔
      (1 ≤ toks.length ∧ toks.length ≤ 4) ∧ (∀ t ∈ toks, t.WF) ∧ joinToks toks = s := by
  rw [tokenize_ok_iff]
  constructor
  · rintro ⟨h1, h2, h3, h4⟩
    exact ⟨⟨by cases toks <;> simp_all, h2⟩, h3, h4⟩
  · rintro ⟨⟨h1, h2⟩, h3, h4⟩
    exact ⟨by intro e; subst e; simp at h1, h2, h3, h4⟩

example : tokenize "[fe80::1%eth0]:53:[unix:/a:b]:x".toList =
    .ok [⟨"fe80::1%eth0".toList, true⟩, ⟨"53".toList, false⟩, ⟨"unix:/a:b".toList, true⟩, ⟨"x".toList, false⟩] := by decide +kernel
example : Tok.WF ⟨"fe80::1%eth0".toList, true⟩ ∧ ¬ Tok.WF ⟨"a:b".toList, false⟩ := by
  constructor
  · exact ⟨by decide, by decide⟩
  · intro h; exact absurd h.2 (by decide)

/-- `Display` followed by `from_str` gives the remote back, for every well-formed remote
    (`Remote.WF`: ports are 16-bit; a host is not empty, has no `]` if it has a `:`, does not start
    with `[` if it has none, and is left alone by idna; a socket path has no `]`; the combination
    passes the parser's own refusals; a local host spelled `stdio` has a fixed target) and every
    `to_lowercase` that leaves `tcp` and `udp` alone.  NOT among the conditions: `/` in a host or in a
    socket path, `unix:` in front of a host — `Display` always appends the protocol, so the last `/`
    is the protocol's. -/
theorem remote_display_parse_roundtrip (o : Oracle) (ho : OracleOK o) (r : Remote) (h : r.WF o) :
    parse o r.display = .ok r :=
  display_parse_roundtrip o ho r h

-- the hypotheses hold of non-trivial values (slashes, a zone, `unix:` as a host, a `]` in a bare host)
example : OracleOK plainOracle := ⟨by decide, by decide⟩
example : Remote.WF plainOracle ⟨.inet "fe80::1%eth/0".toList 53, .inet "unix:/x]".toList.dropLast 65535, .udp⟩ := by
  refine ⟨⟨⟨by decide, by decide, by decide, rfl⟩, by decide, fun _ => ⟨_, _, rfl⟩⟩, ⟨by decide, by decide, by decide, rfl⟩, by decide⟩
example : Remote.WF plainOracle ⟨.domainSocket "/tmp/a:b/c".toList, .http, .tcp⟩ := by
  exact ⟨⟨by decide, rfl, by decide⟩, rfl⟩
example : parse plainOracle (Remote.display ⟨.inet "x]y".toList 0, .inet "a/b".toList 80, .udp⟩) =
    .ok ⟨.inet "x]y".toList 0, .inet "a/b".toList 80, .udp⟩ := by decide +kernel

-- each side condition is needed (these are facts about the code):
/-- an empty host is displayed as nothing -/
example : parse plainOracle (Remote.display ⟨.inet [] 80, .inet "h".toList 80, .tcp⟩) = .error (.err .emptySegment) := by decide +kernel
/-- a host with `:` and `]`: the tokenizer stops at the first `]` -/
example : parse plainOracle (Remote.display ⟨.inet "a:]b".toList 80, .inet "h".toList 80, .tcp⟩) =
    .error (.err (.garbageAfterAddress 'b')) := by decide +kernel
/-- a host without `:` that starts with `[` is displayed bare and read as an unclosed bracket -/
example : parse plainOracle (Remote.display ⟨.inet "[x".toList 80, .inet "h".toList 80, .tcp⟩) =
    .error (.err .bracketMismatch) := by decide +kernel
/-- idna changes the host (the real one lower-cases and punycodes): the remote read back differs -/
example : parse loweringOracle (Remote.display ⟨.inet "H".toList 80, .socks, .tcp⟩) = .ok ⟨.inet "h".toList 80, .socks, .tcp⟩ := by decide +kernel
/-- a local host spelled `stdio` in front of a key word is read as the stdio form -/
example : parse plainOracle (Remote.display ⟨.inet "stdio".toList 80, .socks, .tcp⟩) =
    .error (.err (.port "socks".toList .invalidDigit)) := by decide +kernel
/-- and such a remote can come out of the parser (idna lower-cases `STDIO`): an accepted text whose
    remote is displayed as a text that is refused -/
example : parse loweringOracle "STDIO:80:socks".toList = .ok ⟨.inet "stdio".toList 80, .socks, .tcp⟩ := by decide +kernel
/-- a `]` in a socket path -/
example : parse plainOracle (Remote.display ⟨.domainSocket "a]b".toList, .socks, .tcp⟩) =
    .error (.err (.garbageAfterAddress 'b')) := by decide +kernel
/-- a port that is not a `u16` (not a value of the Rust type) -/
example : parse plainOracle (Remote.display ⟨.inet "h".toList 65536, .socks, .tcp⟩) =
    .error (.err (.port "65536".toList .posOverflow)) := by decide +kernel
/-- the refused combinations -/
example : parse plainOracle (Remote.display ⟨.inet "h".toList 1, .socks, .udp⟩) =
    .error (.err (.unsupportedCombination .socksHttpUdp)) := by decide +kernel
example : parse plainOracle (Remote.display ⟨.domainSocket "p".toList, .inet "h".toList 1, .udp⟩) =
    .error (.err (.unsupportedCombination .unixUdp)) := by decide +kernel
example : parse plainOracle (Remote.display ⟨.domainSocket "p".toList, .tproxy, .tcp⟩) =
    .error (.err (.unsupportedCombination .unixTproxy)) := by decide +kernel
example : parse plainOracle (Remote.display ⟨.stdio, .tproxy, .tcp⟩) =
    .error (.err (.unsupportedCombination .stdioTproxy)) := by decide +kernel
/-- a `to_lowercase` that does not leave `tcp` alone -/
example : parse ⟨fun h => some h, fun _ => []⟩ (Remote.display ⟨.stdio, .socks, .tcp⟩) = .error (.err (.protocol [])) := by decide +kernel

/-- The fixed-target forms `PORT`, `HOST:PORT`, `LPORT:HOST:PORT`, `LHOST:LPORT:HOST:PORT`,
    `stdio:[HOST:]PORT`, `[unix:PATH]:[HOST:]PORT`, each with or without `/protocol`: the listener and
    the target are exactly the ones written or the documented defaults (`0.0.0.0` to listen,
    `127.0.0.1` as target, local port = remote port), a host arrives as idna returns it for the text
    WITHOUT the brackets, a port has the value of any spelling `u16::from_str` accepts, the protocol
    is the suffix's (tcp without one); only a unix socket with udp is refused. -/
theorem remote_target_spec (o : Oracle) (t : Target) (sfx : Suffix) (ht : t.OK o) (hs : sfx.OK o) :
    parse o (joinToks t.toks ++ sfx.text) =
      if t.isUnix = true ∧ sfx.proto = .udp then .error (.err (.unsupportedCombination .unixUdp))
      else .ok (t.expected sfx.proto) :=
  target_spec o t sfx ht hs

-- `/UDP` is udp, `+0080` is 80, the IPv6 literal arrives without brackets, the unix path with its slashes
example : Suffix.OK plainOracle (.some "UDP".toList .udp) := ⟨by decide, by decide, by decide⟩
example : Target.OK plainOracle (.full ⟨⟨"::1".toList, true⟩, "::1".toList⟩ ⟨⟨"+0080".toList, false⟩, 80⟩
    ⟨⟨"fe80::1%eth0".toList, true⟩, "fe80::1%eth0".toList⟩ ⟨⟨"53".toList, false⟩, 53⟩) := by
  refine ⟨⟨⟨by decide, by decide⟩, rfl⟩, ⟨⟨by decide, by decide⟩, by decide⟩, ⟨⟨by decide, by decide⟩, rfl⟩,
    ⟨⟨by decide, by decide⟩, by decide⟩⟩
example : parse plainOracle "[::1]:+0080:[fe80::1%eth0]:53/UDP".toList =
    .ok ⟨.inet "::1".toList 80, .inet "fe80::1%eth0".toList 53, .udp⟩ := by decide +kernel
example : parse plainOracle "[unix:/tmp/a/b]:example.com:22".toList =
    .ok ⟨.domainSocket "/tmp/a/b".toList, .inet "example.com".toList 22, .tcp⟩ := by decide +kernel
example : parse plainOracle "3000".toList = .ok ⟨.inet "0.0.0.0".toList 3000, .inet "127.0.0.1".toList 3000, .tcp⟩ := by decide +kernel
/-- the help text's `R:` (reverse) prefix is not a form of this parser: `R` is a host -/
example : parse plainOracle "R:3000/udp".toList = .ok ⟨.inet "0.0.0.0".toList 3000, .inet "R".toList 3000, .udp⟩ := by decide +kernel

/-- `socks` / `http` / `tproxy` as the last token select exactly that entry kind — alone (listening
    on `127.0.0.1` and the kind's default port), after a port (`127.0.0.1:PORT`), after host and port,
    after `stdio`, after `[unix:PATH]` — and the refusals are the code's, in the code's order:
    `stdio` + `tproxy` first, then `socks`/`http` + udp, then unix + udp, then unix + `tproxy`. -/
theorem remote_entry_kind_spec (o : Oracle) (e : Entry) (sfx : Suffix) (he : e.OK o) (hs : sfx.OK o) :
    parse o (joinToks e.toks ++ sfx.text) = e.expected sfx.proto :=
  entry_spec o e sfx he hs

example : parse plainOracle "socks".toList = .ok ⟨.inet "127.0.0.1".toList 1080, .socks, .tcp⟩ := by decide +kernel
example : parse plainOracle "http".toList = .ok ⟨.inet "127.0.0.1".toList 8080, .http, .tcp⟩ := by decide +kernel
example : parse plainOracle "tproxy/udp".toList = .ok ⟨.inet "127.0.0.1".toList 8081, .tproxy, .udp⟩ := by decide +kernel
example : parse plainOracle "[::1]:5000:[http]".toList = .ok ⟨.inet "::1".toList 5000, .http, .tcp⟩ := by decide +kernel
example : parse plainOracle "[unix:/p]:tproxy/udp".toList = .error (.err (.unsupportedCombination .unixUdp)) := by decide +kernel
example : parse plainOracle "stdio:tproxy/udp".toList = .error (.err (.unsupportedCombination .stdioTproxy)) := by decide +kernel
example : parse plainOracle "SOCKS".toList = .error (.err (.port "SOCKS".toList .invalidDigit)) := by decide +kernel
example : Entry.expected .udp (.unix "/p".toList .socks false) = .error (.err (.unsupportedCombination .socksHttpUdp)) := by decide +kernel

/-- The converse: whatever text is accepted, its remote is a SOCKS / HTTP / TPROXY entry point exactly
    when the LAST token of the part in front of the protocol suffix is `socks` / `http` / `tproxy`
    (brackets around the key word do not matter, upper case does: `SOCKS` is a bad port), and its
    protocol is the one the split found. -/
theorem remote_entry_kind_iff (o : Oracle) (s : Str) (r : Remote) (h : parse o s = .ok r) :
    ∃ rest proto init last, splitProto o s = .ok (rest, proto) ∧ tokenize rest = .ok (init ++ [last]) ∧
      (r.remoteAddr = .socks ↔ last.text = kwSocks) ∧ (r.remoteAddr = .http ↔ last.text = kwHttp) ∧
      (r.remoteAddr = .tproxy ↔ last.text = kwTproxy) ∧ r.protocol = proto := by
  obtain ⟨rest, proto, init, last, h1, h2, ⟨k1, k2, k3⟩, h4⟩ := parse_ok_kind h
  exact ⟨rest, proto, init, last, h1, h2, k1, k2, k3, h4⟩

example : parse plainOracle "socks:80".toList = .ok ⟨.inet "0.0.0.0".toList 80, .inet "socks".toList 80, .tcp⟩ := by decide +kernel

/-- Which error, for texts that are `k ≤ 4` well-formed segments, each followed by `:`, and then:
    * nothing, or another `:` — an empty segment among the first four: `EmptySegment`;
    * `[]…`: `EmptySegment` as well;
    * anything, when `k = 4`: `TooManySegments`, even if a later segment is empty (the count is
      checked first) — except
    * `[` with no `]` behind it: `BracketMismatch`, for every `k ≤ 4` (the bracket is looked for
      before the count is checked);
    * `[t]c…` with `c ≠ ':'`: `GarbageAfterAddress(c)`. -/
theorem remote_errors_spec (pre : List Tok) (hw : ∀ t ∈ pre, t.WF) (hk : pre.length ≤ 4) (tail : Str) :
    (pre.length < 4 → (tail = [] ∨ ∃ x, tail = ':' :: x) →
      tokenize (prefixText pre tail) = .error (.err .emptySegment)) ∧
    (pre.length < 4 → (∃ x, tail = '[' :: ']' :: x) →
      tokenize (prefixText pre tail) = .error (.err .emptySegment)) ∧
    (pre.length = 4 → (tail.head? ≠ some '[' ∨ ']' ∈ tail) →
      tokenize (prefixText pre tail) = .error (.err .tooManySegments)) ∧
    ((∃ body, tail = '[' :: body ∧ ']' ∉ body) →
      tokenize (prefixText pre tail) = .error (.err .bracketMismatch)) ∧
    (pre.length < 4 → ∀ t ch more, tail = '[' :: t ++ ']' :: ch :: more → t ≠ [] → ']' ∉ t → ch ≠ ':' →
      tokenize (prefixText pre tail) = .error (.err (.garbageAfterAddress ch))) := by
  rw [tokenize_prefix hw hk]
  obtain ⟨f, hf⟩ : ∃ f, 5 - pre.length = f + 1 := ⟨4 - pre.length, by omega⟩
  rw [hf]
  refine ⟨fun h1 h2 => step_empty h1 h2, ?_, fun h1 h2 => step_full (by omega) h2, ?_, ?_⟩
  · rintro h1 ⟨x, rfl⟩; exact step_empty_brackets h1
  · rintro ⟨body, rfl, hb⟩; exact step_mismatch hb
  · rintro h1 t ch more rfl h2 h3 h4; exact step_garbage h1 h2 h3 h4

example : parse plainOracle [] = .error (.err .emptySegment) := by decide +kernel
example : parse plainOracle "a::c:d:e".toList = .error (.err .emptySegment) := by decide +kernel
example : parse plainOracle "a:b:c:d::".toList = .error (.err .tooManySegments) := by decide +kernel
example : parse plainOracle "a:b:c:d:[e".toList = .error (.err .bracketMismatch) := by decide +kernel
example : parse plainOracle "a:b:c:d:[e]".toList = .error (.err .tooManySegments) := by decide +kernel
example : parse plainOracle "[::1]x:80".toList = .error (.err (.garbageAfterAddress 'x')) := by decide +kernel
example : prefixText [⟨"a".toList, false⟩, ⟨"b".toList, true⟩] "c".toList = "a:[b]:c".toList := by decide +kernel

/-- A suffix that is not a protocol is reported before anything in front of it is looked at, with the
    LOWER-CASED text; a `/` followed later by a `:` is not a protocol separator at all. -/
theorem remote_errors_spec_protocol (o : Oracle) (rest ptxt : Str) (h1 : '/' ∉ ptxt) :
    (':' ∉ ptxt → o.lower ptxt ≠ kwTcp → o.lower ptxt ≠ kwUdp →
      parse o (rest ++ '/' :: ptxt) = .error (.err (.protocol (o.lower ptxt)))) ∧
    (':' ∈ ptxt → parse o (rest ++ '/' :: ptxt) =
      match tokenize (rest ++ '/' :: ptxt) with
      | .error e => .error e
      | .ok toks => finish o .tcp (toks.map (·.text))) :=
  ⟨fun h2 h3 h4 => parse_bad_protocol o rest ptxt h1 h2 h3 h4, fun h2 => parse_colon_after_slash o rest ptxt h1 h2⟩

example : parse plainOracle ":::::[/X".toList = .error (.err (.protocol "x".toList)) := by decide +kernel
example : parse plainOracle "80/".toList = .error (.err (.protocol [])) := by decide +kernel
example : parse plainOracle "80:[fe80::1%eth/0]:80".toList =
    .ok ⟨.inet "0.0.0.0".toList 80, .inet "fe80::1%eth/0".toList 80, .tcp⟩ := by decide +kernel
/-- but a `/` in the LAST segment is taken for the protocol separator -/
example : parse plainOracle "80:[fe80::1%eth/0]".toList = .error (.err (.protocol "0]".toList)) := by decide +kernel
/-- and a socket path written without the brackets is cut at its `:` -/
example : parse plainOracle "unix:/tmp/s:80".toList = .error (.err (.port "unix".toList .invalidDigit)) := by decide +kernel

/-- The port texts `u16::from_str` accepts, exactly: an optional single `+`, then one or more ASCII
    digits — leading zeros allowed — whose value is at most 65535.  (So `+80` and `0080` are ports;
    `-0`, ` 80`, `８０`, the empty text are not.) -/
theorem remote_port_text_spec (s : Str) (n : Nat) :
    parseU16 s = .ok n ↔
      ∃ ds, (s = ds ∨ s = '+' :: ds) ∧ ds ≠ [] ∧ AllDigits ds ∧ Nat.ofDigitChars 10 ds 0 = n ∧ n ≤ 65535 :=
  parseU16_ok_iff s n

example : parseU16 "+80".toList = .ok 80 ∧ parseU16 "0000000080".toList = .ok 80 ∧ parseU16 "65535".toList = .ok 65535 := by decide +kernel
example : parseU16 "065536".toList = .error .posOverflow ∧ parseU16 "-0".toList = .error .invalidDigit ∧
    parseU16 "+".toList = .error .invalidDigit ∧ parseU16 [] = .error .empty ∧ parseU16 "++1".toList = .error .invalidDigit ∧
    parseU16 "99999x".toList = .error .posOverflow ∧ parseU16 "9999x".toList = .error .invalidDigit := by decide +kernel

/-- `u16::from_str` chooses between an unchecked and a checked loop by the BYTE length of the digits
    (`can_not_overflow`: at most 4); the choice is not observable — the result is always the checked
    loop's — so that modelling texts as characters rather than bytes loses nothing here. -/
theorem remote_port_fast_path_unobservable (src : Str) :
    parseU16 src =
      if src = [] then .error .empty
      else if src = ['+'] ∨ src = ['-'] then .error .invalidDigit
      else checkedLoop 0 (signStripped src) :=
  parseU16_eq src

example : utf8Len "12é".toList = 4 ∧ parseU16 "12é".toList = .error .invalidDigit ∧
    utf8Len "12é4".toList = 5 ∧ parseU16 "12é4".toList = .error .invalidDigit := by decide +kernel

/-- A single bare segment that is not a key word is a port: `PORT` is accepted exactly when
    `u16::from_str` accepts it, and refused with that text and `u16`'s error kind otherwise. -/
theorem remote_errors_spec_port (o : Oracle) (t : Str) (hne : t ≠ []) (h1 : ':' ∉ t) (h2 : '/' ∉ t)
    (h3 : t.head? ≠ some '[') (h4 : isSpecial t = false) :
    parse o t =
      match parseU16 t with
      | .ok n => .ok ⟨.inet defaultUnspec n, .inet defaultLocal n, .tcp⟩
      | .error k => .error (.err (.port t k)) :=
  parse_single o t hne h1 h2 h3 h4

example : parse plainOracle "+80".toList = .ok ⟨.inet "0.0.0.0".toList 80, .inet "127.0.0.1".toList 80, .tcp⟩ := by decide +kernel
example : parse plainOracle "65536".toList = .error (.err (.port "65536".toList .posOverflow)) := by decide +kernel

/-- Whatever text a `Port` error carries is a segment of the input on which `u16::from_str` fails
    with that kind; since segments are never empty, the kind is `InvalidDigit` or `PosOverflow`:
    `Port(_, Empty)` (and `NegOverflow`, `Zero`) cannot come out of `Remote::from_str`. -/
theorem remote_port_error_never_empty (o : Oracle) (s t : Str) (k : IntErrKind)
    (h : parse o s = .error (.err (.port t k))) :
    parseU16 t = .error k ∧ t ≠ [] ∧ (k = .invalidDigit ∨ k = .posOverflow) :=
  parse_port_error h

example : parse plainOracle "80:x:".toList = .error (.err .emptySegment) := by decide +kernel
example : parse refusingOracle "80:x:9z".toList = .error (.err (.invalidDomain "x".toList)) := by decide +kernel
/-- the local port is read before the host is handed to idna (`:342-351`), the remote port after -/
example : parse refusingOracle "8o:x:9z".toList = .error (.err (.port "8o".toList .invalidDigit)) := by decide +kernel

/-- What `handle_remote` (`client/handle_remote/mod.rs:80-140`) takes for granted about a parsed
    remote, for every accepted text: `socks` and `http` are tcp ("the parser guarantees that the
    protocol is TCP"), a unix socket listener is tcp and never `tproxy`, `stdio` never comes with
    `tproxy` (the `unreachable!` of its last arm), and the ports are 16-bit. -/
theorem remote_parse_result_invariants (o : Oracle) (s : Str) (r : Remote) (h : parse o s = .ok r) :
    ((r.remoteAddr = .socks ∨ r.remoteAddr = .http) → r.protocol = .tcp) ∧
    (r.localAddr.isDomainSocket = true → r.protocol = .tcp ∧ r.remoteAddr ≠ .tproxy) ∧
    ¬ (r.localAddr = .stdio ∧ r.remoteAddr = .tproxy) ∧
    r.localAddr.PortOK ∧ r.remoteAddr.PortOK := by
  obtain ⟨⟨h1, h2, h3⟩, h4, h5⟩ := parse_ok_invariants h
  exact ⟨h4, h5, h3, h1, h2⟩

example : parse plainOracle "[unix:/p]:socks".toList = .ok ⟨.domainSocket "/p".toList, .socks, .tcp⟩ := by decide +kernel

/-- The default ports the help text (`arg/mod.rs:139-149`) advertises against the constants the
    parser uses: `socks` and `http` agree.  (PARTIAL: `tproxy` does not — see the example.) -/
theorem remote_help_default_ports_partial :
    remoteHelpSocksPort = remoteSocksDefaultPort ∧ remoteHelpHttpPort = remoteHttpDefaultPort := by decide

/-- FINDING (documentation, not behaviour): the help text says the default LOCAL_PORT of a `tproxy`
    remote is 1234; `TPROXY_DEFAULT_PORT` is 8081 and that is where a bare `tproxy` listens. -/
example : remoteHelpTproxyPort = 1234 ∧ remoteTproxyDefaultPort = 8081 ∧
    parse plainOracle "tproxy".toList = .ok ⟨.inet "127.0.0.1".toList 8081, .tproxy, .tcp⟩ := by decide +kernel

end RemoteSpecifications

/-! ### Which handler serves which remote (`handle_remote`, `Model/Dispatch.lean`) -/
section Dispatch
open Penguin.RemoteSpec Penguin.Dispatch

/-- Whatever text the user gives: if it parses, `handle_remote` never reaches its
    `unreachable!("clap should have rejected this combination")` — proved from what the parser guarantees, not assumed. -/
theorem dispatch_never_unreachable_on_parsed (o : Oracle) (s : Str) (r : Remote) (h : parse o s = .ok r) :
    dispatch r ≠ .unreachable := by
  obtain ⟨-, h2, h3, -, -⟩ := remote_parse_result_invariants o s r h
  obtain ⟨la, ra, pr⟩ := r
  cases la <;> cases ra <;> cases pr <;> simp_all [dispatch, LocalSpec.isDomainSocket]

/-- "The parser guarantees that the protocol is TCP" (the comment on the six arms that ignore the protocol): for a
    parsed remote the handler serves datagrams exactly when the remote was given as `/udp` — a UDP remote is never
    silently served by a TCP handler, nor the reverse. -/
theorem dispatch_udp_remote_gets_datagram_handler (o : Oracle) (s : Str) (r : Remote) (h : parse o s = .ok r) :
    (dispatch r).isUdp = true ↔ r.protocol = .udp := by
  obtain ⟨h1, h2, h3, -, -⟩ := remote_parse_result_invariants o s r h
  obtain ⟨la, ra, pr⟩ := r
  cases la <;> cases ra <;> cases pr <;> simp_all [dispatch, Handler.isUdp, LocalSpec.isDomainSocket]

/-- The fixed-target handlers are started with exactly the listener and the target of the remote (every `Remote`
    value, parsed or not): a TCP forwarder on the remote's own listener for the remote's own (host, port); a UDP
    forwarder on the remote's own local address for its own target. -/
theorem dispatch_target (r : Remote) :
    (∀ l rh rp, dispatch r = .tcpForward l rh rp → r.remoteAddr = .inet rh rp ∧
        (r.localAddr = .stdio ∧ l = .stdio ∨ (∃ p, r.localAddr = .domainSocket p ∧ l = .uds p) ∨
         (∃ lh lp, r.localAddr = .inet lh lp ∧ l = .tcp lh lp ∧ r.protocol = .tcp))) ∧
    (∀ lh lp rh rp, dispatch r = .udpForward lh lp rh rp →
        r.localAddr = .inet lh lp ∧ r.remoteAddr = .inet rh rp ∧ r.protocol = .udp) ∧
    (∀ rh rp, dispatch r = .udpStdio rh rp → r.localAddr = .stdio ∧ r.remoteAddr = .inet rh rp ∧ r.protocol = .udp) := by
  obtain ⟨la, ra, pr⟩ := r
  cases la <;> cases ra <;> cases pr <;> simp [dispatch] <;> (intros; subst_vars; simp)

/-- The local address and the transport can be read back from the local end a handler occupies. -/
private def endAddr : LocalEnd → LocalSpec
  | .stream (.tcp h p) | .dgram h p => .inet h p
  | .stream (.uds p) => .domainSocket p
  | _ => .stdio

private def endUdp : LocalEnd → Bool
  | .dgram .. | .dgramStdio => true
  | _ => false

private theorem localEnd_determines (r : Remote) (hn : (dispatch r).localEnd ≠ .none) :
    r.localAddr = endAddr (dispatch r).localEnd ∧ (dispatch r).isUdp = endUdp (dispatch r).localEnd := by
  obtain ⟨la, ra, pr⟩ := r
  cases la <;> cases ra <;> cases pr <;> first | exact ⟨rfl, rfl⟩ | exact absurd rfl hn

/-- Two remotes occupy the same local end only if they have the same local address AND the same transport: a TCP
    remote and a UDP remote on one local host and port — `5353:h:53` and `5353:h:53/udp`, separate name spaces —
    occupy different ends (both are opened: what seeded change C01-11 broke with a registry keyed by host:port). -/
theorem dispatch_local_ends_distinct (r1 r2 : Remote)
    (h : (dispatch r1).localEnd = (dispatch r2).localEnd) (hn : (dispatch r1).localEnd ≠ .none) :
    r1.localAddr = r2.localAddr ∧ (dispatch r1).isUdp = (dispatch r2).isUdp := by
  have hn2 : (dispatch r2).localEnd ≠ .none := h ▸ hn
  obtain ⟨a1, u1⟩ := localEnd_determines r1 hn
  obtain ⟨a2, u2⟩ := localEnd_determines r2 hn2
  exact ⟨by rw [a1, a2, h], by rw [u1, u2, h]⟩

/-- Non-vacuity: the texts parse, the handlers are the expected ones, a TCP and a UDP remote on one port differ. -/
example : parse plainOracle "5353:h:53".toList = .ok ⟨.inet "0.0.0.0".toList 5353, .inet "h".toList 53, .tcp⟩ ∧
    dispatch ⟨.inet "0.0.0.0".toList 5353, .inet "h".toList 53, .tcp⟩ = .tcpForward (.tcp "0.0.0.0".toList 5353) "h".toList 53 ∧
    parse plainOracle "5353:h:53/udp".toList = .ok ⟨.inet "0.0.0.0".toList 5353, .inet "h".toList 53, .udp⟩ ∧
    dispatch ⟨.inet "0.0.0.0".toList 5353, .inet "h".toList 53, .udp⟩ = .udpForward "0.0.0.0".toList 5353 "h".toList 53 ∧
    (dispatch ⟨.inet "0.0.0.0".toList 5353, .inet "h".toList 53, .tcp⟩).localEnd ≠
      (dispatch ⟨.inet "0.0.0.0".toList 5353, .inet "h".toList 53, .udp⟩).localEnd := by decide +kernel
/-- The unreachable arm IS reachable for a `Remote` value the parser never produces (so the hypothesis matters). -/
example : dispatch ⟨.stdio, .tproxy, .tcp⟩ = .unreachable := by decide +kernel
example : (dispatch ⟨.domainSocket "/p".toList, .inet "h".toList 1, .udp⟩).isUdp = false := by decide +kernel

end Dispatch

section FixedTarget
open Penguin Penguin.Constants Penguin.UdpMap Penguin.FixedTarget

/-- Source-shape tie: the statements of `handle_udp`, `handle_tcp` (before the loop and inside it, in order) and of
    `request_tcp_channel`, regenerated from the source, are the ones `Model/FixedTarget.lean` was transcribed from:
    in `handle_udp` ONE `recv_from` per iteration, `client_id` is what `add_udp_client` returns for THAT `addr`, the
    frame is `{ target_host: rhost, target_port: rport, flow_id: client_id, data: buf }`, one send; in `handle_tcp`
    reserve, accept, `request_tcp_channel(permit, rhost, rport)`, `into_copy_bidirectional`, in this order. -/
theorem fixed_target_shape_as_in_source :
    fixedUdpPrelude = udpPreludeTexts ∧ fixedUdpLoop = udpLoopTexts ∧ fixedUdpFrame = udpFrameTexts ∧
    fixedTcpPrelude = tcpPreludeTexts ∧ fixedTcpLoop = tcpLoopTexts ∧
    fixedRequestParams = requestParamsTexts ∧ fixedRequestBody = requestBodyTexts := by
  exact ⟨rfl, rfl, rfl, rfl, rfl, rfl, rfl⟩

/-- One iteration of `handle_tcp`, every answer of the environment: every tunnel request is for exactly the configured
    (rhost, rport) and there is at most one; a connection is accepted only with a permit in hand and every accepted
    connection has its request made; it is bridged exactly when permit, connection and stream were obtained, otherwise
    it is dropped and the handler ends with the fatal error of the source; when the main loop is gone at `reserve`
    nothing is accepted and nothing requested; a failing bridge is logged and ends nothing. -/
theorem tcp_entry_requests_exactly_the_configured_target (rhost : Bytes) (rport : Nat) (env : TcpEnv) :
    let o := tcpSession rhost rport env
    (∀ h p, Event.requested h p ∈ o.events → h = rhost ∧ p = rport) ∧
    o.events.countP Event.isRequest ≤ 1 ∧
    (Event.accepted ∈ o.events ↔ env.reserveOk = true ∧ env.acceptOk = true) ∧
    (Event.requested rhost rport ∈ o.events ↔ Event.accepted ∈ o.events) ∧
    (Event.bridged ∈ o.events ↔ env.reserveOk = true ∧ env.acceptOk = true ∧ env.streamOk = true) ∧
    (Event.accepted ∈ o.events → (Event.bridged ∈ o.events ↔ Event.dropped ∉ o.events)) ∧
    (env.reserveOk = false → o.events = [] ∧ o.fatal = some .requestStream) ∧
    (o.fatal = none ↔ Event.bridged ∈ o.events) ∧
    (Event.dropped ∈ o.events → o.fatal = some .mainLoopExitWithoutSendingStream) := by
  obtain ⟨a, b, c, d⟩ := env
  cases a <;> cases b <;> cases c <;> cases d <;> simp [tcpSession, Event.isRequest, List.countP_cons]

/-- The whole accept loop, every script of answers: only the configured target is ever requested, exactly one request
    per accepted connection, never more bridges than requests. -/
theorem tcp_listener_one_request_per_accepted_connection (rhost : Bytes) (rport : Nat) (envs : List TcpEnv) :
    let o := tcpListener rhost rport envs
    (∀ h p, Event.requested h p ∈ o.events → h = rhost ∧ p = rport) ∧
    o.events.countP Event.isRequest = o.events.count .accepted ∧
    o.events.count .bridged ≤ o.events.countP Event.isRequest := by
  induction envs with
  | nil => simp [tcpListener]
  | cons env rest ih =>
    obtain ⟨ih1, ih2, ih3⟩ := ih
    obtain ⟨a, b, c, d⟩ := env
    cases a <;> cases b <;> cases c <;> cases d <;>
      simp [tcpListener, tcpSession, Event.isRequest, List.countP_cons] <;>
      first | exact ⟨ih1, ih2, ih3⟩ | (refine ⟨?_, by omega, by omega⟩; intro h p hh; rcases hh with hh | hh; exact hh; exact ih1 h p hh)

example : tcpSession [0x68] 80 ⟨true, true, true, false⟩ =
    ⟨[.reserved, .accepted, .requested [0x68] 80, .gotStream, .bridged, .bridgeErrorLogged], none⟩ := by decide +kernel
example : tcpSession [0x68] 80 ⟨true, true, false, true⟩ =
    ⟨[.reserved, .accepted, .requested [0x68] 80, .dropped], some .mainLoopExitWithoutSendingStream⟩ := by decide +kernel
example : tcpSession [0x68] 80 ⟨false, true, true, true⟩ = ⟨[], some .requestStream⟩ := by decide +kernel
example : (tcpListener [0x68] 80 [⟨true, true, true, true⟩, ⟨true, true, true, false⟩, ⟨true, false, true, true⟩, ⟨true, true, true, true⟩]) =
    ⟨[.reserved, .accepted, .requested [0x68] 80, .gotStream, .bridged,
      .reserved, .accepted, .requested [0x68] 80, .gotStream, .bridged, .bridgeErrorLogged, .reserved], some .clientIo⟩ := by decide +kernel

private theorem udpIter_fst (c : UdpCfg) (m : Maps) (i : UIn) : (udpIter c m i).1 = (step m (toOp c i)).1 := by
  cases i with
  | other op => rfl
  | rx peer data rng txOk =>
    simp only [udpIter, toOp, step]
    split <;> rfl

private theorem udpIter_rx {c : UdpCfg} {m : Maps} {peer : Addr} {data : Bytes} {rng : List Nat} {txOk : Bool}
    (h : (udpIter c m (.rx peer data rng txOk)).2.stops = false) :
    ∃ cid, (add m peer c.localAddr c.sock false rng).2 = .id cid ∧
      (udpIter c m (.rx peer data rng txOk)).2 = .sent { flowId := cid, host := c.rhost, port := c.rport, data := data } := by
  simp only [udpIter] at h ⊢
  generalize add m peer c.localAddr c.sock false rng = r at h ⊢
  obtain ⟨m', res⟩ := r
  cases res <;> cases txOk <;> first | exact ⟨_, rfl, rfl⟩ | cases (h : true = false)

/-- `handle_udp`, for EVERY sequence of received datagrams from any senders, interleaved with whatever other tasks do
    to the shared maps, as long as the listener runs (no failing send, no panic): it takes exactly one step per input,
    and the k-th step, when the k-th input is a datagram `data` from `peer`, sends exactly one frame: flow id = the id
    `add_udp_client` answers for THAT `peer` on the maps as they are at that moment (`UdpMap.add` after the first k
    inputs), target = the handler's own (rhost, rport), payload = `data`; a step of another task sends nothing.  So the
    frames are the datagrams in order, none dropped, duplicated or sent under another sender's id. -/
theorem udp_each_datagram_carries_its_senders_id (c : UdpCfg) (m : Maps) (ins : List UIn)
    (hok : ∀ o ∈ (udpListener c m ins).2, o.stops = false) :
    (udpListener c m ins).2.length = ins.length ∧
    (udpListener c m ins).1 = run m (ins.map (toOp c)) ∧
    (∀ k peer data rng txOk, ins[k]? = some (.rx peer data rng txOk) →
      ∃ cid, (add (run m ((ins.take k).map (toOp c))) peer c.localAddr c.sock false rng).2 = .id cid ∧
        (udpListener c m ins).2[k]? = some (.sent { flowId := cid, host := c.rhost, port := c.rport, data := data })) ∧
    (∀ (k : Nat) (op : UdpMap.Op), ins[k]? = some (UIn.other op) → (udpListener c m ins).2[k]? = some UOut.foreign) := by
  induction ins generalizing m with
  | nil => simp [udpListener, run]
  | cons i rest ih =>
    have hns : (udpIter c m i).2.stops = false := by
      apply hok
      simp only [udpListener]
      split <;> simp
    have hl : udpListener c m (i :: rest) =
        ((udpListener c (udpIter c m i).1 rest).1, (udpIter c m i).2 :: (udpListener c (udpIter c m i).1 rest).2) := by
      simp [udpListener, hns]
    rw [hl] at hok ⊢
    have hrun : ∀ ops, run m (toOp c i :: ops) = run (udpIter c m i).1 ops := by
      intro ops; simp [run, udpIter_fst]
    obtain ⟨ih1, ih2, ih3, ih4⟩ := ih (udpIter c m i).1 (fun o ho => hok o (List.mem_cons_of_mem _ ho))
    refine ⟨by simp [ih1], by simp only [List.map_cons, hrun]; exact ih2, ?_, ?_⟩
    · intro k peer data rng txOk hk
      cases k with
      | zero =>
        simp only [List.getElem?_cons_zero, Option.some.injEq] at hk
        subst hk
        simp only [List.take_zero, List.map_nil, run, List.foldl_nil, List.getElem?_cons_zero, Option.some.injEq]
        exact udpIter_rx hns
      | succ k =>
        simp only [List.getElem?_cons_succ] at hk ⊢
        simp only [List.take_succ_cons, List.map_cons, hrun]
        exact ih3 k peer data rng txOk hk
    · intro k op hk
      cases k with
      | zero =>
        simp only [List.getElem?_cons_zero, Option.some.injEq] at hk
        subst hk
        simp [udpIter]
      | succ k =>
        simp only [List.getElem?_cons_succ] at hk ⊢
        exact ih4 k op hk

/-- Same sender, same id; distinct senders, distinct ids — while the entries live.  In a run of the listener from the
    empty maps: when the k-th datagram (from `p2`) is sent under id `c2` and an id `c1`, under which an earlier datagram
    from `p1` was sent, still names its entry (for `p1` on this socket) at that moment, then `c1 = c2` exactly when
    `p1 = p2`.  From `reply_routing` and the bijection `ids_injective`. -/
theorem udp_same_sender_same_id_distinct_senders_distinct_ids (c : UdpCfg) (ins : List UIn)
    (hok : ∀ o ∈ (udpListener c {} ins).2, o.stops = false)
    (j k : Nat) (p1 p2 : Addr) (d1 d2 : Bytes) (r1 r2 : List Nat) (t1 t2 : Bool) (c1 c2 : Nat) (_hjk : j < k)
    (_hj : ins[j]? = some (.rx p1 d1 r1 t1)) (hk : ins[k]? = some (.rx p2 d2 r2 t2))
    (_hf1 : (udpListener c {} ins).2[j]? = some (.sent { flowId := c1, host := c.rhost, port := c.rport, data := d1 }))
    (hf2 : (udpListener c {} ins).2[k]? = some (.sent { flowId := c2, host := c.rhost, port := c.rport, data := d2 }))
    (hlive : ∃ e, UdpMap.get (run {} ((ins.take (k + 1)).map (toOp c))).idMap c1 = some e ∧ e.peer = p1 ∧ e.our = c.localAddr) :
    c1 = c2 ↔ p1 = p2 := by
  obtain ⟨_, _, h3, _⟩ := udp_each_datagram_carries_its_senders_id c {} ins hok
  obtain ⟨cid, hadd, hs⟩ := h3 k p2 d2 r2 t2 hk
  rw [hs] at hf2
  simp only [Option.some.injEq, UOut.sent.injEq, Dgram.mk.injEq] at hf2
  obtain ⟨rfl, -⟩ := hf2
  have hstate : run {} ((ins.take (k + 1)).map (toOp c)) =
      (add (run {} ((ins.take k).map (toOp c))) p2 c.localAddr c.sock false r2).1 := by
    rw [List.take_add_one, hk]
    simp [run, List.foldl_append, toOp, step]
  obtain ⟨e2, hg2, hp2, ho2, -, -⟩ := reply_routing ((ins.take k).map (toOp c)) p2 c.localAddr c.sock false r2 cid hadd
  rw [← hstate] at hg2
  obtain ⟨e1, hg1, hp1, ho1⟩ := hlive
  obtain ⟨-, hinj, -, -⟩ := ids_injective ((ins.take (k + 1)).map (toOp c))
  constructor
  · intro h
    subst h
    rw [hg1] at hg2
    cases hg2
    rw [← hp1, hp2]
  · intro h
    exact hinj c1 cid e1 e2 hg1 hg2 (by rw [hp1, hp2, h]) (by rw [ho1, ho2])

/-- Non-vacuity: two senders (addresses 100 and 200) interleaved on the listener bound at 7, the prune task and the
    clock in between; each frame carries its own sender's id (5 for 100, 9 for 200), the configured target and its own
    payload. -/
example : (udpListener ⟨7, 1, [0x68], 53⟩ {}
      [.rx 100 [1] [5] true, .rx 200 [2] [0, 5, 9] true, .other (.tick 10), .rx 100 [3] [] true, .other .prune,
       .rx 200 [] [] true, .rx 100 [4] [] true]).2 =
    [.sent ⟨5, [0x68], 53, [1]⟩, .sent ⟨9, [0x68], 53, [2]⟩, .foreign, .sent ⟨5, [0x68], 53, [3]⟩, .foreign,
     .sent ⟨9, [0x68], 53, []⟩, .sent ⟨5, [0x68], 53, [4]⟩] := by decide +kernel
example : frames (udpListener ⟨7, 1, [0x68], 53⟩ {} [.rx 100 [1] [5] true, .rx 200 [2] [9] true, .rx 100 [3] [] true]).2 =
    [⟨5, [0x68], 53, [1]⟩, ⟨9, [0x68], 53, [2]⟩, ⟨5, [0x68], 53, [3]⟩] := by decide +kernel
/-- the hypotheses of the two theorems hold on it (no step stops; the first sender's entry lives at the third datagram) -/
example : (∀ o ∈ (udpListener ⟨7, 1, [0x68], 53⟩ {} [.rx 100 [1] [5] true, .rx 200 [2] [9] true, .rx 100 [3] [] true]).2,
      o.stops = false) ∧
    (UdpMap.get (run {} (([UIn.rx 100 [1] [5] true, .rx 200 [2] [9] true, .rx 100 [3] [] true].take 3).map
      (toOp ⟨7, 1, [0x68], 53⟩))).idMap 5).map (fun e => (e.peer, e.our)) = some (100, 7) := by decide +kernel
/-- the main loop gone: the listener ends with `SendDatagram`, nothing is sent afterwards -/
example : (udpListener ⟨7, 1, [0x68], 53⟩ {} [.rx 100 [1] [5] true, .rx 200 [2] [9] false, .rx 100 [3] [] true]).2 =
    [.sent ⟨5, [0x68], 53, [1]⟩, .fatal .sendDatagram] := by decide +kernel

end FixedTarget

section ServerForward
open Penguin Penguin.Constants Penguin.ServerForward

/-- Source-shape tie: the statements of `tcp_forwarder_on_channel`, of the closure of `bind_tcp_for_target` and of the
    candidate loop of `resolve_and_try` (`penguin/src/server/forwarder.rs`), regenerated from the source, are the ones
    `Model/ServerForward.lean` was transcribed from: host and port are the stream's `dest_host` / `dest_port`; ONE
    `bind_tcp_for_target((rhost, rport), …)`; ONE `socket.connect(target)` on the returned socket to the returned
    target; `peer_addr()?`; the bridge; a candidate that `is_ipv4()` is bound on `outgoing_from_v4`, any other on
    `outgoing_from_v6`; `Ok(r) => return Ok(r)`, `Err(e) => last_err = Some(e)`; `InvalidInput` when nothing was tried. -/
theorem server_forward_shape_as_in_source :
    serverFwdParams = fwdParamsTexts ∧ serverFwdBody = fwdBodyTexts ∧
    serverFwdBindParams = bindParamsTexts ∧ serverFwdBindCall = bindCallTexts ∧
    serverFwdBindPrelude = bindPreludeTexts ∧ serverFwdBindCond = bindCondTexts ∧
    serverFwdBindThen = bindThenTexts ∧ serverFwdBindElse = bindElseTexts ∧ serverFwdBindTail = bindTailTexts ∧
    serverFwdResolvePrelude = resolvePreludeTexts ∧ serverFwdLoopHead = loopHeadTexts ∧
    serverFwdLoopMatch = loopMatchTexts ∧ serverFwdLoopArms = loopArmsTexts ∧
    serverFwdResolveTail = resolveTailTexts := by
  exact ⟨rfl, rfl, rfl, rfl, rfl, rfl, rfl, rfl, rfl, rfl, rfl, rfl, rfl, rfl⟩

/-- Whatever the resolver and the OS answer: the resolver is asked for exactly the stream's (dest_host, dest_port);
    every address the forwarder tries to connect to, is connected to or bridges with is one of the addresses the
    resolver answered for exactly that question, and it is the candidate a socket was bound for; there is at most one
    connect attempt; every bind (successful or not) was made on the configured outgoing address of the candidate's own
    family, for a candidate of the resolution. -/
theorem server_connects_only_to_a_resolved_address_of_the_stream_target (env : Env) (host : Bytes) (port : Nat) :
    let t := tcpForwarder env host port
    (∀ h p as, Event.resolved h p as ∈ t → h = host ∧ p = port ∧ env.resolve host port = .ok as) ∧
    (∀ a, (Event.connectTried a ∈ t ∨ Event.connected a ∈ t ∨ Event.bridged a ∈ t) →
      ∃ as, env.resolve host port = .ok as ∧ a ∈ as ∧ Event.bound a.family a ∈ t) ∧
    t.countP Event.isConnectTry ≤ 1 ∧
    (∀ f a, (Event.bound f a ∈ t ∨ Event.bindFailed f a ∈ t) →
      f = a.family ∧ ∃ as, env.resolve host port = .ok as ∧ a ∈ as) := by
  intro t
  rcases tcpForwarder_cases env host port with ⟨_, ht⟩ | ⟨_, c, hr, ht⟩ | ⟨_, as, hr, hall, _, ht⟩ |
    ⟨_, pre, a, post, hr, hpre, hpa, _, ht⟩ <;> replace ht : t = _ := ht
  · simp [ht, Event.isConnectTry]
  · simp [ht, hr, Event.isConnectTry]
  · simp [ht, hr, Event.isConnectTry, List.countP_append, countP_connectTry_bindFailed]
    grind
  · have hcab : ∀ e ∈ connectAndBridge env a, _ := fun e => mem_connectAndBridge (e := e)
    simp [ht, hr, Event.isConnectTry, List.countP_append, countP_connectTry_bindFailed,
      countP_connectTry_connectAndBridge]
    grind

/-- The chosen candidate — the one a socket is bound for, hence (previous theorem) the only one ever connected to — is
    the FIRST address in the resolver's order whose bind succeeds: every candidate before it was tried and failed, no
    candidate after it is touched; at most one candidate is chosen. -/
theorem server_first_bindable_candidate_wins (env : Env) (host : Bytes) (port : Nat) :
    let t := tcpForwarder env host port
    (∀ f a, Event.bound f a ∈ t →
      ∃ pre post, env.resolve host port = .ok (pre ++ a :: post) ∧ (∀ b ∈ pre, env.bindOk b.family = false) ∧
        env.bindOk a.family = true ∧ (∀ f' b, Event.bindFailed f' b ∈ t → b ∈ pre) ∧
        (∀ b ∈ pre, Event.bindFailed b.family b ∈ t)) ∧
    (∀ f a f' a', Event.bound f a ∈ t → Event.bound f' a' ∈ t → a = a' ∧ f = f') := by
  intro t
  rcases tcpForwarder_cases env host port with ⟨_, ht⟩ | ⟨_, c, hr, ht⟩ | ⟨_, as, hr, hall, _, ht⟩ |
    ⟨_, pre, a, post, hr, hpre, hpa, _, ht⟩ <;> replace ht : t = _ := ht
  · simp [ht]
  · simp [ht]
  · simp [ht]
  · simp [ht, hr, bound_not_mem_connectAndBridge, bindFailed_not_mem_connectAndBridge]
    exact ⟨⟨pre, ⟨post, rfl⟩, hpre, hpa, by grind, by grind⟩, by grind⟩

/-- Every failure drops the stream with its error class and nothing is bridged: a `dest_host` that is not UTF-8
    (nothing is resolved); a resolver error; an empty resolution (`InvalidInput`); no bindable candidate (the bind
    error of the LAST candidate, no connect attempt); a refused connect.  The trace always ends with `dropped e` or
    `finished`; the stream is bridged exactly when the host is UTF-8, the resolver answered, some candidate is bindable
    and the connect to the FIRST bindable one (and `peer_addr`) succeeded; `finished` only after a bridge. -/
theorem server_forward_failure_drops_the_stream (env : Env) (host : Bytes) (port : Nat) :
    let t := tcpForwarder env host port
    (env.utf8Ok host = false → t = [.dropped .invalidHost]) ∧
    (∀ c, env.utf8Ok host = true → env.resolve host port = .error c → t = [.dropped (.resolve c)]) ∧
    (env.utf8Ok host = true → env.resolve host port = .ok [] → t = [.resolved host port [], .dropped .noAddress]) ∧
    (∀ as l, env.utf8Ok host = true → env.resolve host port = .ok as → as.getLast? = some l →
      (∀ b ∈ as, env.bindOk b.family = false) →
      t.getLast? = some (.dropped (.bind l.family)) ∧ (∀ a, Event.connectTried a ∉ t ∧ Event.bridged a ∉ t)) ∧
    (∀ a, Event.connectTried a ∈ t → env.connectOk a = false →
      t.getLast? = some (.dropped .connect) ∧ Event.connected a ∉ t ∧ ∀ b, Event.bridged b ∉ t) ∧
    ((∃ e, t.getLast? = some (.dropped e)) ∨ t.getLast? = some .finished) ∧
    ((∃ a, Event.bridged a ∈ t) ↔ env.utf8Ok host = true ∧ ∃ as a, env.resolve host port = .ok as ∧
        as.find? (fun b => env.bindOk b.family) = some a ∧ env.connectOk a = true ∧ env.peerAddrOk a = true) ∧
    (Event.finished ∈ t ↔ (∃ a, Event.bridged a ∈ t) ∧ env.bridgeOk = true) ∧
    (∀ e, Event.dropped e ∈ t → e ≠ .bridge → ∀ a, Event.bridged a ∉ t) := by
  intro t
  rcases tcpForwarder_cases env host port with ⟨hu, ht⟩ | ⟨hu, c, hr, ht⟩ | ⟨hu, as, hr, hall, hf, ht⟩ |
    ⟨hu, pre, a, post, hr, hpre, hpa, hf, ht⟩ <;> replace ht : t = _ := ht
  · simp [ht, hu]
  · simp [ht, hu, hr]
  · have hl : t.getLast? = some (.dropped (lastBindErr as none)) := by rw [ht, getLast?_cons_append_singleton]
    rw [hu, hr, hl]
    refine ⟨by simp, by simp, ?_, ?_, ?_, by simp, ?_, ?_, ?_⟩
    · intro _ h; cases h; simp [ht, lastBindErr]
    · intro as' l _ h hla _; cases h; simp [ht, lastBindErr, hla]
    · intro a h; simp [ht] at h
    · simp [ht, hf]
    · simp [ht]
    · simp [ht]
  · have hmem : a ∈ pre ++ a :: post := by simp
    rcases connectAndBridge_cases env a with ⟨h1, hc⟩ | ⟨h1, h2, hc⟩ | ⟨h1, h2, h3, hc⟩ | ⟨h1, h2, h3, hc⟩ <;>
      (rw [hc] at ht
       have hl := congrArg List.getLast? ht
       rw [getLast?_cons_append_append _ _ _ _ (by simp)] at hl
       simp only [List.getLast?_cons_cons, List.getLast?_singleton] at hl
       rw [hu, hr, hl]
       refine ⟨by simp, by simp, ?_, ?_, ?_, by simp, ?_, ?_, ?_⟩
       · intro _ h; simp at h
       · intro as' l _ h _ hall; cases h; have := hall a hmem; simp [hpa] at this
       · intro a' h; simp [ht] at h; subst h; simp [ht, h1]
       · simp [ht, hf, h1] <;> assumption
       · simp [ht] <;> assumption
       · simp [ht])

/-- Non-vacuity: the resolver answers `[v6 #1, v4 #2, v4 #3]` for ("h", 80); no v6 socket can be bound: the v6
    candidate is tried on the v6 outgoing address and fails, the first v4 candidate is bound on the v4 outgoing address,
    connected to and bridged; the second v4 candidate is never touched. -/
example : tcpForwarder ⟨fun _ => true, fun h p => if h = [0x68] ∧ p = 80 then .ok [⟨.v6, 1, 80⟩, ⟨.v4, 2, 80⟩, ⟨.v4, 3, 80⟩] else .error 2,
      fun f => f = .v4, fun _ => true, fun _ => true, true⟩ [0x68] 80 =
    [.resolved [0x68] 80 [⟨.v6, 1, 80⟩, ⟨.v4, 2, 80⟩, ⟨.v4, 3, 80⟩], .bindFailed .v6 ⟨.v6, 1, 80⟩, .bound .v4 ⟨.v4, 2, 80⟩,
     .connectTried ⟨.v4, 2, 80⟩, .connected ⟨.v4, 2, 80⟩, .bridged ⟨.v4, 2, 80⟩, .finished] := by decide +kernel
/-- the same resolution, the chosen candidate refuses: dropped with `connect`; the third candidate is NOT tried (as the
    code is: one connect attempt per stream) -/
example : tcpForwarder ⟨fun _ => true, fun _ _ => .ok [⟨.v6, 1, 80⟩, ⟨.v4, 2, 80⟩, ⟨.v4, 3, 80⟩],
      fun f => f = .v4, fun a => a.ip = 3, fun _ => true, true⟩ [0x68] 80 =
    [.resolved [0x68] 80 [⟨.v6, 1, 80⟩, ⟨.v4, 2, 80⟩, ⟨.v4, 3, 80⟩], .bindFailed .v6 ⟨.v6, 1, 80⟩, .bound .v4 ⟨.v4, 2, 80⟩,
     .connectTried ⟨.v4, 2, 80⟩, .dropped .connect] := by decide +kernel
/-- nothing bindable: the LAST candidate's bind error; an empty resolution; a resolver error; a host that is not UTF-8 -/
example : tcpForwarder ⟨fun _ => true, fun _ _ => .ok [⟨.v4, 2, 80⟩, ⟨.v6, 1, 80⟩], fun _ => false, fun _ => true, fun _ => true, true⟩ [0x68] 80 =
    [.resolved [0x68] 80 [⟨.v4, 2, 80⟩, ⟨.v6, 1, 80⟩], .bindFailed .v4 ⟨.v4, 2, 80⟩, .bindFailed .v6 ⟨.v6, 1, 80⟩, .dropped (.bind .v6)] := by decide +kernel
example : tcpForwarder ⟨fun _ => true, fun _ _ => .ok [], fun _ => true, fun _ => true, fun _ => true, true⟩ [0x68] 80 =
    [.resolved [0x68] 80 [], .dropped .noAddress] := by decide +kernel
example : tcpForwarder ⟨fun _ => true, fun _ _ => .error 7, fun _ => true, fun _ => true, fun _ => true, true⟩ [0x68] 80 =
    [.dropped (.resolve 7)] := by decide +kernel
example : tcpForwarder ⟨fun h => h != [0xff], fun _ _ => .ok [⟨.v4, 2, 80⟩], fun _ => true, fun _ => true, fun _ => true, true⟩ [0xff] 80 =
    [.dropped .invalidHost] := by decide +kernel

end ServerForward

/-! ### From the text on the command line to the address the server connects to: the chain for a fixed TCP remote -/
section Chain

/-- The octets of a host text (what `rhost.as_bytes()` hands to `request_tcp_channel`). -/
def hostOctets (h : RemoteSpec.Str) : Bytes := (String.ofList h).toUTF8.toList

/-- One statement through four models. For every remote text that parses to a fixed TCP remote (listener `lh:lp`,
    target `rh:rp`): (1) `handle_remote` starts a TCP forwarder on exactly that listener for exactly that target
    (`Model/Dispatch`); (2) every connection it accepts requests a tunnel for exactly `(rh, rp)`, whatever the
    environment answers (`Model/FixedTarget`); (3) on the server, a forwarder given a stream with that target asks the
    resolver about exactly `(rh, rp)` and connects only to one of its answers (`Model/ServerForward`).  The link between
    (2) and (3) — the stream the server accepts carries the host and port of the request — is C07's
    (`stream_target_never_changes`, the `Connect` frame of C09); what `rh` is in terms of the text is
    `remote_target_spec` above. -/
theorem fixed_tcp_remote_reaches_the_written_target (o : RemoteSpec.Oracle) (s lh rh : RemoteSpec.Str) (lp rp : Nat)
    (h : RemoteSpec.parse o s = .ok ⟨.inet lh lp, .inet rh rp, .tcp⟩) :
    Dispatch.dispatch ⟨.inet lh lp, .inet rh rp, .tcp⟩ = .tcpForward (.tcp lh lp) rh rp ∧
    Dispatch.dispatch ⟨.inet lh lp, .inet rh rp, .tcp⟩ ≠ .unreachable ∧
    (∀ (cenv : FixedTarget.TcpEnv) hh pp,
        FixedTarget.Event.requested hh pp ∈ (FixedTarget.tcpSession (hostOctets rh) rp cenv).events →
        hh = hostOctets rh ∧ pp = rp) ∧
    (∀ (senv : ServerForward.Env) a,
        ServerForward.Event.connected a ∈ ServerForward.tcpForwarder senv (hostOctets rh) rp →
        ∃ as, senv.resolve (hostOctets rh) rp = .ok as ∧ a ∈ as) := by
  refine ⟨rfl, dispatch_never_unreachable_on_parsed o s _ h, ?_, ?_⟩
  · intro cenv hh pp hreq
    exact (tcp_entry_requests_exactly_the_configured_target (hostOctets rh) rp cenv).1 hh pp hreq
  · intro senv a ha
    obtain ⟨as, h1, h2, _⟩ :=
      (server_connects_only_to_a_resolved_address_of_the_stream_target senv (hostOctets rh) rp).2.1 a (Or.inr (Or.inl ha))
    exact ⟨as, h1, h2⟩

/-- The same chain for a fixed UDP remote: the text parses to a `/udp` remote ⇒ `handle_remote` starts the UDP listener
    on exactly that local address for exactly that target (and a datagram handler, never a TCP one), and every frame the
    listener sends, for every sequence of received datagrams and interleaved operations of other tasks on the maps,
    names exactly `(rh, rp)` and carries the received payload under its own sender's id. -/
theorem fixed_udp_remote_frames_name_the_written_target (o : RemoteSpec.Oracle) (s lh rh : RemoteSpec.Str) (lp rp : Nat)
    (h : RemoteSpec.parse o s = .ok ⟨.inet lh lp, .inet rh rp, .udp⟩)
    (c : FixedTarget.UdpCfg) (hc : c.rhost = hostOctets rh ∧ c.rport = rp) (m : UdpMap.Maps) (ins : List FixedTarget.UIn)
    (hok : ∀ out ∈ (FixedTarget.udpListener c m ins).2, out.stops = false) :
    Dispatch.dispatch ⟨.inet lh lp, .inet rh rp, .udp⟩ = .udpForward lh lp rh rp ∧
    (Dispatch.dispatch ⟨.inet lh lp, .inet rh rp, .udp⟩).isUdp = true ∧
    (∀ (k : Nat) peer data rng txOk, ins[k]? = some (FixedTarget.UIn.rx peer data rng txOk) →
      ∃ cid, (FixedTarget.udpListener c m ins).2[k]? =
        some (FixedTarget.UOut.sent { flowId := cid, host := hostOctets rh, port := rp, data := data })) := by
  refine ⟨rfl, (dispatch_udp_remote_gets_datagram_handler o s _ h).mpr rfl, ?_⟩
  intro k peer data rng txOk hk
  obtain ⟨cid, _, hsent⟩ := (udp_each_datagram_carries_its_senders_id c m ins hok).2.2.1 k peer data rng txOk hk
  exact ⟨cid, by rw [hsent, hc.1, hc.2]⟩

/-- Non-vacuity: `8080:example.com:80` is such a text. -/
example : RemoteSpec.parse plainOracle "8080:example.com:80".toList =
    .ok ⟨.inet "0.0.0.0".toList 8080, .inet "example.com".toList 80, .tcp⟩ := by decide +kernel

end Chain

end Penguin.C01
