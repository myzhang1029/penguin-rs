/-
C17 — TLS peers are authenticated exactly as configured.

Property theorems and the vocabulary their statements need (`lastStored`).  Scope: the theorems are about penguin's *configuration / decision* logic
(`Penguin.Tls`, mirroring `tls/rustls.rs`, `tls/mod.rs`, `server/mod.rs`, `client/ws_connect.rs`) over
an ABSTRACT PKI: `pki.issuedBy` (X.509 path validation) and `pki.nameOk` (subject-name matching) are
uninterpreted, and the TLS handshake itself is MODELLED as "each side runs the verifier its
configuration selected".  rustls / rustls-webpki are trusted for those parts; the model is tied to
real certificates and real handshakes by the exhaustive 72-case matrix of `pvhf tls`.
-/
import Penguin.Model.Tls

namespace Penguin.C17
open Penguin.Tls

variable {Cert Ca Name : Type}

/- The per-arm facts re-extracted from `rustls.rs` (`Penguin.Gen.Tls`) are unfolded by `simp`: the
   theorems below are re-checked against what the source's match arms say on every run. -/
open Penguin.Constants in
attribute [local simp] verifierOf authOf tlsArmSkipCertEmptyVerifier tlsArmSkipCertClientAuth
  tlsArmSkipNoCertEmptyVerifier tlsArmVerifyCertEmptyVerifier tlsArmVerifyCertClientAuth
  tlsArmVerifyNoCertEmptyVerifier tlsClientAuthMandatory

/-- The verifier is chosen by `--tls-skip-verify` alone (a client certificate does not influence
    it), the root store is the custom CA if one was given and the built-in roots otherwise, and the
    client certificate is loaded exactly when both `--tls-cert` and `--tls-key` were given. -/
theorem client_verifier_choice (pki : Pki Cert Ca Name) (a : ClientArgs Cert Ca) :
    ((makeClientConfig pki a).verifier =
        if a.skipVerify then ServerVerifier.empty else ServerVerifier.webpki (a.roots pki)) ∧
    (makeClientConfig pki a).clientAuth = a.loadedCert ∧
    (a.loadedCert = if a.tlsKey then a.tlsCert else none) ∧
    (a.roots pki = match a.tlsCa with | some ca => ca | none => pki.systemRoots) := by
  obtain ⟨cert, key, ca, skip⟩ := a
  cases skip <;> cases key <;> cases cert <;> cases ca <;>
    simp [makeClientConfig, tryLoadCertificate, ClientArgs.roots, ClientArgs.loadedCert, rootStore]

/-- A client accepts the server's chain iff it was told to skip verification, or the chain validates
    against the roots it was given and matches the requested server name. -/
theorem client_accepts_iff (pki : Pki Cert Ca Name) (cfg : ConnectArgs Cert Ca Name) (srvCert : Cert) :
    clientAccepts pki cfg srvCert = true ↔
      cfg.skipVerify = true ∨
      (pki.issuedBy srvCert (cfg.roots pki) = true ∧ pki.nameOk srvCert cfg.serverName = true) := by
  obtain ⟨⟨cert, key, ca, skip⟩, name⟩ := cfg
  cases skip <;> cases key <;> cases cert <;>
    simp [clientAccepts, makeClientConfig, tryLoadCertificate, verifyServerCert, ClientArgs.roots]

/-- With `--tls-skip-verify` any certificate is accepted, whatever roots and name were given. -/
theorem skip_accepts_any (pki : Pki Cert Ca Name) (cfg : ConnectArgs Cert Ca Name) (srvCert : Cert)
    (h : cfg.skipVerify = true) : clientAccepts pki cfg srvCert = true :=
  (client_accepts_iff pki cfg srvCert).mpr (Or.inl h)

/-- Without it, a chain that does not validate against the given roots, or does not match the
    requested name, is refused — in particular a custom CA replaces the built-in roots. -/
theorem no_skip_rejects (pki : Pki Cert Ca Name) (cfg : ConnectArgs Cert Ca Name) (srvCert : Cert)
    (h : cfg.skipVerify = false)
    (hbad : pki.issuedBy srvCert (cfg.roots pki) = false ∨ pki.nameOk srvCert cfg.serverName = false) :
    clientAccepts pki cfg srvCert = false := by
  cases hc : clientAccepts pki cfg srvCert with
  | false => rfl
  | true =>
    rcases (client_accepts_iff pki cfg srvCert).mp hc with hs | ⟨hi, hn⟩
    · rw [h] at hs; cases hs
    · rcases hbad with hb | hb
      · rw [hb] at hi; cases hi
      · rw [hb] at hn; cases hn

/-- A server completes the handshake iff it has no client CA, or the client presents a certificate
    issued under that CA. -/
theorem server_accepts_iff (pki : Pki Cert Ca Name) (cfg : ServerArgs Cert Ca) (cliCert : Option Cert) :
    serverAccepts pki cfg cliCert = true ↔
      cfg.clientCa = none ∨
      ∃ ca c, cfg.clientCa = some ca ∧ cliCert = some c ∧ pki.issuedBy c ca = true := by
  obtain ⟨cert, clientCa⟩ := cfg
  cases clientCa with
  | none => simp [serverAccepts, makeServerConfig, verifyClient]
  | some ca =>
    cases he : pki.storeEmpty ca with
    | true =>
      have hno : ∀ c, pki.issuedBy c ca = false := fun c => pki.empty_issues_nothing c ca he
      simp [serverAccepts, makeServerConfig, he, hno]
    | false =>
      cases cliCert with
      | none => simp [serverAccepts, makeServerConfig, he, verifyClient, offersClientAuth]
      | some c => simp [serverAccepts, makeServerConfig, he, verifyClient, offersClientAuth]

/-- A certificate is requested exactly when a (non-empty) client CA is configured. -/
theorem server_asks_iff (pki : Pki Cert Ca Name) (cfg : ServerArgs Cert Ca) :
    serverAsks pki cfg = true ↔ ∃ ca, cfg.clientCa = some ca ∧ pki.storeEmpty ca = false := by
  obtain ⟨cert, clientCa⟩ := cfg
  cases clientCa with
  | none => simp [serverAsks, makeServerConfig, offersClientAuth]
  | some ca => cases he : pki.storeEmpty ca <;> simp [serverAsks, makeServerConfig, offersClientAuth, he]

/-- A server without a client CA never asks for a certificate, never sees one even if the client has
    one configured, and completes the handshake with every client. -/
theorem server_never_asks_without_ca (pki : Pki Cert Ca Name) (cfg : ServerArgs Cert Ca)
    (h : cfg.clientCa = none) :
    serverAsks pki cfg = false ∧
    (∀ sc, makeServerConfig pki cfg = .ok sc →
      offersClientAuth sc = false ∧ ∀ cc : ClientConfig Cert Ca, presented cc sc = none) ∧
    ∀ cliCert, serverAccepts pki cfg cliCert = true := by
  obtain ⟨cert, clientCa⟩ := cfg
  cases h
  refine ⟨by simp [serverAsks, makeServerConfig, offersClientAuth], ?_, ?_⟩
  · intro sc hsc
    simp only [makeServerConfig] at hsc
    cases hsc
    simp [offersClientAuth, presented]
  · exact fun cli => (server_accepts_iff pki ⟨cert, none⟩ cli).mpr (.inl rfl)

/-- With a client CA the certificate is mandatory: a client without one is refused. -/
theorem server_requires_cert_with_ca (pki : Pki Cert Ca Name) (cfg : ServerArgs Cert Ca) (ca : Ca)
    (h : cfg.clientCa = some ca) : serverAccepts pki cfg none = false := by
  cases hs : serverAccepts pki cfg none with
  | false => rfl
  | true =>
    rcases (server_accepts_iff pki cfg none).mp hs with hn | ⟨_, _, _, hc, _⟩
    · rw [h] at hn; cases hn
    · cases hc

/-- `--tls-server-name` over `--hostname` over the URL host; a `--hostname` that is not visible
    ASCII is an error even when `--tls-server-name` is given. -/
theorem serverName_choice {N : Type} (urlHost : N) (hostname : Option (Option N)) (sni : Option N) :
    chooseServerName urlHost hostname sni =
      match hostname, sni with
      | some none, _ => .error .invalidDomainName
      | _, some s => .ok s
      | some (some h), none => .ok h
      | none, none => .ok urlHost := by
  cases hostname with
  | none => cases sni <;> rfl
  | some h => cases h <;> cases sni <;> rfl

/-- Which side refuses: the client's verdict comes first. -/
theorem handshake_outcome (pki : Pki Cert Ca Name) (cfg : Cfg Cert Ca Name) (sc : ServerConfig Cert Ca)
    (hsc : makeServerConfig pki cfg.server = .ok sc) :
    handshake pki cfg = .ok
      (if clientAccepts pki cfg.client cfg.server.cert = false then Outcome.clientRejects
       else if serverAccepts pki cfg.server cfg.client.loadedCert = false then Outcome.serverRejects
       else Outcome.ok) := by
  obtain ⟨⟨⟨cert, key, ca, skip⟩, name⟩, ⟨scert, clientCa⟩⟩ := cfg
  have hcc : (makeClientConfig pki ⟨cert, key, ca, skip⟩).clientAuth = tryLoadCertificate key cert :=
    (client_verifier_choice pki ⟨cert, key, ca, skip⟩).2.1
  have hcert : sc.cert = scert := by
    simp only [makeServerConfig] at hsc
    split at hsc
    · split at hsc
      · cases hsc
      · cases hsc; rfl
    · cases hsc; rfl
  simp only [handshake, hsc, handshakeWith, clientAccepts, serverAccepts, presented, hcert, hcc,
    ClientArgs.loadedCert]
  cases verifyServerCert pki (makeClientConfig pki ⟨cert, key, ca, skip⟩).verifier scert name <;>
    cases verifyClient pki sc (if offersClientAuth sc = true then tryLoadCertificate key cert else none) <;>
    simp

/-- A handshake completes iff the client accepts the server's chain *and* the server accepts what
    the client has to present. -/
theorem handshake_iff (pki : Pki Cert Ca Name) (cfg : Cfg Cert Ca Name) :
    handshakeOk pki cfg = true ↔
      clientAccepts pki cfg.client cfg.server.cert = true ∧
      serverAccepts pki cfg.server cfg.client.loadedCert = true := by
  cases hsc : makeServerConfig pki cfg.server with
  | error e => simp [handshakeOk, handshake, serverAccepts, hsc]
  | ok sc =>
    simp only [handshakeOk, handshake_outcome pki cfg sc hsc]
    cases clientAccepts pki cfg.client cfg.server.cert <;>
      cases serverAccepts pki cfg.server cfg.client.loadedCert <;> simp

/-- The property in one statement, over the raw arguments of both sides. -/
theorem handshake_iff_configured (pki : Pki Cert Ca Name) (cfg : Cfg Cert Ca Name) :
    handshakeOk pki cfg = true ↔
      (cfg.client.skipVerify = true ∨
        (pki.issuedBy cfg.server.cert (cfg.client.roots pki) = true ∧
         pki.nameOk cfg.server.cert cfg.client.serverName = true)) ∧
      (cfg.server.clientCa = none ∨
        ∃ ca c, cfg.server.clientCa = some ca ∧ cfg.client.loadedCert = some c ∧
          pki.issuedBy c ca = true) := by
  rw [handshake_iff, client_accepts_iff, server_accepts_iff]

/-- `tls_connect` with a server name that does not parse never starts a handshake — also under
    `--tls-skip-verify` (skipping verification accepts any *certificate*, not any name syntax). -/
theorem connect_unparsable_name (pki : Pki Cert Ca Name) (a : ClientArgs Cert Ca)
    (sc : ServerConfig Cert Ca) : tlsConnect pki a none sc = .dnsName := rfl

/-- Whatever happens later (reloads, failed reloads, further accepts), every session established
    before keeps the identity it was accepted with, at the same position. -/
theorem sessions_preserved {Id : Type} (l : Listener Id) (evs : List (Ev Id)) :
    ∃ later, (l.run evs).sessions = l.sessions ++ later := by
  induction evs generalizing l with
  | nil => exact ⟨[], by simp [Listener.run]⟩
  | cons e es ih =>
    obtain ⟨t, ht⟩ := ih (l.step e)
    have hstep : ∃ u, (l.step e).sessions = l.sessions ++ u := by
      cases e with
      | reload n => cases n <;> exact ⟨[], by simp [Listener.step]⟩
      | accept => exact ⟨[l.current], by simp [Listener.step]⟩
    obtain ⟨u, hu⟩ := hstep
    refine ⟨u ++ t, ?_⟩
    simp only [Listener.run, List.foldl_cons] at ht ⊢
    rw [ht, hu, List.append_assoc]

/-- The identity in force after a trace: the last successfully stored one, else the one before. -/
def lastStored {Id : Type} (dflt : Id) : List (Ev Id) → Id
  | [] => dflt
  | .reload (some n) :: es => lastStored n es
  | _ :: es => lastStored dflt es

theorem current_eq_lastStored {Id : Type} (l : Listener Id) (evs : List (Ev Id)) :
    (l.run evs).current = lastStored l.current evs := by
  induction evs generalizing l with
  | nil => rfl
  | cons e es ih =>
    simp only [Listener.run, List.foldl_cons] at ih ⊢
    rw [ih]
    cases e with
    | reload n => cases n <;> rfl
    | accept => rfl

/-- Replacing the identity changes what later handshakes see and nothing else: after a successful
    reload to `new`, followed by any events that do not store again (`mid`: accepts and failed
    reloads), the next accepted connection is served with `new`, while every session that existed
    before the reload still holds the identity it started with.  A failed reload changes nothing. -/
theorem reload_affects_only_later {Id : Type} (l : Listener Id) (new : Id) (mid : List (Ev Id))
    (hmid : ∀ e ∈ mid, e = .accept ∨ e = .reload none) :
    let after := ((l.step (.reload (some new))).run mid).step .accept
    (∃ later, after.sessions = l.sessions ++ later ++ [new]) ∧
    (l.step (.reload (some new))).sessions = l.sessions ∧
    l.step (.reload none) = l := by
  have hcur : ∀ (m : List (Ev Id)) (l' : Listener Id), (∀ e ∈ m, e = .accept ∨ e = .reload none) →
      (l'.run m).current = l'.current := by
    intro m
    induction m with
    | nil => intro l' _; rfl
    | cons e es ih =>
      intro l' h
      simp only [Listener.run, List.foldl_cons] at ih ⊢
      rw [ih _ (fun e he => h e (List.mem_cons_of_mem _ he))]
      rcases h e (List.mem_cons_self ..) with rfl | rfl <;> rfl
  refine ⟨?_, rfl, rfl⟩
  obtain ⟨later, hl⟩ := sessions_preserved (l.step (.reload (some new))) mid
  refine ⟨later, ?_⟩
  have hc := hcur mid (l.step (.reload (some new))) hmid
  simp only [Listener.step] at hl hc ⊢
  rw [hl, hc]

/-- Consequence for handshakes: the outcome of a connection accepted after the reload is computed
    against the new server configuration. -/
theorem handshake_after_reload_uses_new (pki : Pki Cert Ca Name) (l : Listener (ServerConfig Cert Ca))
    (new : ServerConfig Cert Ca) (cc : ClientConfig Cert Ca) (name : Name) :
    let after := (l.step (.reload (some new))).step .accept
    after.sessions.getLast?.map (handshakeWith pki cc name) = some (handshakeWith pki cc name new) := by
  simp [Listener.step]

/-! ### Returning clients (a client that keeps its TLS session store across connections)

"Later handshakes" includes those of clients that were connected before the reload and come back
offering the session ticket they were given.  Every stored configuration owns a fresh session cache
(`RListener`), so such a ticket is unknown to the configuration in force after a reload: the
handshake is a full one, judged by the new identity and the new client-CA policy. -/

/-- The model with session caches refines the listener model: forgetting caches and handshake kinds,
    it is the same run, so `sessions_preserved`, `current_eq_lastStored` and
    `reload_affects_only_later` speak about it too. -/
theorem rlistener_refines_listener {Id : Type} (l : RListener Id) (evs : List (REv Id)) :
    (l.run evs).toListener = l.toListener.run (evs.map REv.forget) := by
  induction evs generalizing l with
  | nil => rfl
  | cons e es ih =>
    simp only [RListener.run, Listener.run, List.foldl_cons, List.map_cons] at ih ⊢
    rw [ih]
    congr 1
    cases e with
    | reload n => cases n <;> rfl
    | accept t => simp [RListener.step, RListener.toListener, Listener.step, REv.forget]

/-- Cache numbers only grow, and the cache in the `ArcSwap` always belongs to a configuration that
    was built. -/
theorem rlistener_caches_monotone {Id : Type} (l : RListener Id) (evs : List (REv Id)) (h : l.WF) :
    (l.run evs).WF ∧ l.cache ≤ (l.run evs).cache ∧ l.built ≤ (l.run evs).built := by
  induction evs generalizing l with
  | nil => exact ⟨h, Nat.le_refl _, Nat.le_refl _⟩
  | cons e es ih =>
    have hstep : (l.step e).WF ∧ l.cache ≤ (l.step e).cache ∧ l.built ≤ (l.step e).built := by
      unfold RListener.WF at h ⊢
      cases e with
      | reload n => cases n <;> simp only [RListener.step] <;> omega
      | accept t => simp only [RListener.step]; omega
    obtain ⟨h1, h2, h3⟩ := ih (l.step e) hstep.1
    simp only [RListener.run, List.foldl_cons] at h1 h2 h3 ⊢
    exact ⟨h1, Nat.le_trans hstep.2.1 h2, Nat.le_trans hstep.2.2 h3⟩

/-- A handshake is resumed only with the ticket of the very configuration that serves it — i.e.
    only for a client that this same configuration (same identity, same client-CA policy) has
    already admitted. -/
theorem resumed_iff_ticket_of_current {Id : Type} (l : RListener Id) (t : Option Nat) :
    l.kindFor t = .resumed ↔ t = some l.cache := by
  unfold RListener.kindFor
  split <;> simp_all

/-- After a successful reload, whatever happens next (accepts, further reloads, failed reloads), a
    client offering a ticket issued before the reload (by any configuration built until then) does a
    full handshake. -/
theorem returning_client_full_after_reload {Id : Type} (l : RListener Id) (new : Id)
    (mid : List (REv Id)) (t : Nat) (ht : t < l.built) :
    ((l.step (.reload (some new))).run mid).kindFor (some t) = .full := by
  have hwf : (l.step (.reload (some new))).WF := by
    unfold RListener.WF; simp only [RListener.step]; omega
  obtain ⟨_, hc, _⟩ := rlistener_caches_monotone (l.step (.reload (some new))) mid hwf
  simp only [RListener.step] at hc
  unfold RListener.kindFor
  rw [if_neg]
  intro heq
  have : t = ((l.step (.reload (some new))).run mid).cache := Option.some.inj heq
  simp only [RListener.step] at this
  omega

/-- … and is therefore judged by the configuration in force when it comes back: its outcome is
    `handshakeWith` against that configuration (new certificate, new client-CA policy), which is
    `new` itself as long as nothing else was stored in between. -/
theorem returning_client_judged_under_new (pki : Pki Cert Ca Name) (l : RListener (ServerConfig Cert Ca))
    (new : ServerConfig Cert Ca) (mid : List (REv (ServerConfig Cert Ca))) (t : Nat)
    (ht : t < l.built) (cc : ClientConfig Cert Ca) (name : Name) :
    let l' := (l.step (.reload (some new))).run mid
    l'.acceptOutcome pki cc name (some t) = handshakeWith pki cc name l'.current ∧
    l'.current = lastStored new (mid.map REv.forget) := by
  refine ⟨?_, ?_⟩
  · simp only [RListener.acceptOutcome, returning_client_full_after_reload l new mid t ht]
  · have := congrArg Listener.current (rlistener_refines_listener (l.step (.reload (some new))) mid)
    rw [current_eq_lastStored] at this
    exact this

/-- A client without a remembered session always does a full handshake. -/
theorem fresh_client_full {Id : Type} (l : RListener Id) : l.kindFor none = .full := by
  simp [RListener.kindFor]

/-! ### Non-vacuity: concrete configurations over the finite PKI of the driver

CA labels: 1 = the CA the client trusts, 2 = another CA, 9 = a self-signed leaf's own label,
5 = the server's client CA, 6 = another client CA. -/

section Examples
open Penguin.Tls.Concrete

private def P := pki []
private def srvGood : Concrete.Cert := ⟨1, ["server.test"]⟩
private def srvOther : Concrete.Cert := ⟨2, ["server.test"]⟩
private def srvSelf : Concrete.Cert := ⟨9, ["server.test"]⟩
private def cliGood : Concrete.Cert := ⟨5, ["client"]⟩
private def cliOther : Concrete.Cert := ⟨6, ["client"]⟩
private def client (skip : Bool) (name : String) (cert : Option Concrete.Cert) :
    ConnectArgs Concrete.Cert Concrete.Ca String :=
  { tlsCert := cert, tlsKey := cert.isSome, tlsCa := some [1], skipVerify := skip, serverName := name }

-- both disjuncts of `client_accepts_iff` are inhabited, and so is its negation
example : clientAccepts P (client false "server.test" none) srvGood = true := by decide
example : clientAccepts P (client true "other.test" none) srvSelf = true := by decide
example : clientAccepts P (client false "other.test" none) srvGood = false := by decide
example : clientAccepts P (client false "server.test" none) srvOther = false := by decide
example : clientAccepts P (client false "server.test" none) srvSelf = false := by decide
-- no custom CA and no built-in roots: nothing validates; a self-signed leaf given as CA validates
example : clientAccepts P { (client false "server.test" none) with tlsCa := none } srvGood = false := by decide
example : clientAccepts P { (client false "server.test" none) with tlsCa := some [9] } srvSelf = true := by decide
example : serverAccepts P ⟨srvGood, some [5]⟩ (some cliGood) = true := by decide
example : serverAccepts P ⟨srvGood, some [5]⟩ (some cliOther) = false := by decide
example : serverAccepts P ⟨srvGood, some [5]⟩ none = false := by decide
example : serverAccepts P ⟨srvGood, none⟩ (some cliOther) = true := by decide
example : serverAsks P ⟨srvGood, some [5]⟩ = true ∧ serverAsks P ⟨srvGood, none⟩ = false := by decide
example : makeServerConfig P ⟨srvGood, some []⟩ = .error .noRootAnchors := by decide
-- `--tls-cert` without `--tls-key` presents nothing
example : handshakeOk P ⟨{ (client false "server.test" (some cliGood)) with tlsKey := false },
    ⟨srvGood, some [5]⟩⟩ = false := by decide
-- whole handshakes: every outcome is reachable
example : handshake P ⟨client false "server.test" (some cliGood), ⟨srvGood, some [5]⟩⟩ = .ok .ok := by decide
example : handshake P ⟨client false "server.test" (some cliOther), ⟨srvGood, some [5]⟩⟩ = .ok .serverRejects := by decide
example : handshake P ⟨client false "nope.test" (some cliOther), ⟨srvGood, some [5]⟩⟩ = .ok .clientRejects := by decide
example : handshake P ⟨client true "nope.test" (some cliOther), ⟨srvSelf, none⟩⟩ = .ok .ok := by decide
example : chooseServerName "url" (some (some "host")) (some "sni") = .ok "sni" := by decide
example : chooseServerName "url" (some (some "host")) none = .ok "host" := by decide
example : chooseServerName "url" none none = .ok "url" := by decide
example : chooseServerName "url" (some none) (some "sni") = .error .invalidDomainName := by decide
-- reload: session 1 keeps identity 10, the connection accepted after the reload gets 20, a failed
-- reload in between changes nothing; the hypothesis of `reload_affects_only_later` is satisfiable
example : ((Listener.init 10).run [.accept, .reload (some 20), .reload none, .accept]).sessions = [10, 20] := by
  decide
example : ∀ e ∈ [Ev.accept, Ev.reload (none : Option Nat)], e = .accept ∨ e = .reload none := by
  intro e he
  simp only [List.mem_cons, List.mem_nil_iff, or_false] at he
  exact he
-- returning client: admitted under identity 10 (ticket of cache 0), resumes while 10 is in force
-- (also across a failed reload), does a full handshake after the reload to 20, and resumes again
-- with the ticket of cache 1; `rlistener_caches_monotone`'s hypothesis holds initially
example : ((RListener.init 10).run [.accept none, .accept (some 0), .reload none, .accept (some 0),
    .reload (some 20), .accept (some 0), .accept (some 1)]).sessions =
    [(10, .full), (10, .resumed), (10, .resumed), (20, .full), (20, .resumed)] := by decide
example : (RListener.init 10).WF ∧ 0 < (RListener.init 10).built := by
  simp [RListener.WF, RListener.init]
-- the client CA is switched on by a reload: a returning client without certificate, admitted
-- before, is refused afterwards although it offers its old ticket
example :
    let l := (RListener.init (⟨srvGood, .noClientAuth⟩ : ServerConfig Concrete.Cert Concrete.Ca)).run
      [.accept none, .reload (some ⟨srvGood, .webpki [5] true⟩)]
    let cc := makeClientConfig P (client true "server.test" none).toClientArgs
    (RListener.init (⟨srvGood, .noClientAuth⟩ : ServerConfig Concrete.Cert Concrete.Ca)).acceptOutcome P cc
        "server.test" none = .ok ∧
    l.acceptOutcome P cc "server.test" (some 0) = .serverRejects := by decide

end Examples

end Penguin.C17
