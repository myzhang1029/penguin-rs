/-
C08 — When the connection ends, everything resolves; a local drop still flushes.
Theorems over the endpoint model: for EVERY endpoint state in which a terminating event occurs
(peer Close, end of the source, transport error, invalid frame, Multiplexor dropped — keepalive
expiry takes the same error path, see C16), what the wind-down does and what later calls answer.

Known finding (not a theorem, see known_findings.txt): after a *local* drop of the Multiplexor the
task still waits for the peer to complete the close handshake; if the peer never does, streams the
application kept are not closed. The error paths and peer-initiated closes below do not wait.
("no open request is left pending" is stated as: those still listed have been told 'rejected' and
resolve in the same step, see `rejected_opens_resolve_after_end`.)
-/
import Penguin.Model.Mux
import Penguin.Lemmas.MuxBasic
import Penguin.Lemmas.MuxStep
import Penguin.Lemmas.LinkGlue
import Penguin.Lemmas.MuxReach
import Penguin.Lemmas.MuxWake
import Penguin.Lemmas.MuxMono
import Penguin.Lemmas.MuxEnd
import Penguin.Lemmas.PairAllDrop

namespace Penguin.C08
open Penguin Penguin.Mux

/-- Which events end the receive loop, and with which task result. -/
theorem terminating_events (e : EP) (ig : Bool) (err : DecErr) :
    (processIn e (.msg .close) ig).2.2 = some .ok ∧ (processIn e .eof ig).2.2 = some .ok ∧
    (processIn e .err ig).2.2 = some .wsError ∧ (processIn e (.bad err) ig).2.2 = some (.invalidFrame err) ∧
    (processIn e (.msg .ping) ig).2.2 = none ∧ (processIn e (.msg .pong) ig).2.2 = none :=
  ⟨rfl, rfl, rfl, rfl, rfl, rfl⟩

/-- After an error (transport failure, invalid frame, …; those paths never drain) the wind-down
    completes at once, whatever the peer does afterwards: the task is finished with that error, the
    flow table is empty and no open request is left pending — nothing waits for a silent peer. -/
theorem error_resolves_everything (e : EP) (res : ExitRes) (hres : res ≠ .ok) :
    let r := windDown e false res
    r.1.dead = true ∧ r.1.flows = [] ∧ (∀ q ∈ r.1.opens, q.req ∈ r.1.retryq) ∧ r.1.park = none ∧
    r.2.getLast? = some (.exit res) :=
  Mux.windDown_resolves e res (.inr hres)

/-- The open requests still listed after the wind-down are exactly those that had already been told
    "rejected" by the peer; their futures run one more round right away (`runRetries` in `settle`),
    which with the outbound queue closed always resolves them — FlowIdRejected when no retry is left,
    `Closed` otherwise — and sends nothing. -/
theorem rejected_opens_resolve_after_end (e : EP) (r : OpenReq) (hoc : e.outClosed = true) :
    ((openRound e r).2 = [.openDone r.req .rejected] ∨ (openRound e r).2 = [.openDone r.req .closed]) ∧
    (openRound e r).1.outq = e.outq ∧ (∀ q ∈ (openRound e r).1.opens, q.req ≠ r.req) :=
  Mux.openRound_closed_resolves e r hoc

/-- The same once the source has ended (peer closed the connection or the transport is gone). -/
theorem source_end_resolves_everything (e : EP) (res : ExitRes) (hs : e.srcEnded = true) :
    let r := windDown e false res
    r.1.dead = true ∧ r.1.flows = [] ∧ (∀ q ∈ r.1.opens, q.req ∈ r.1.retryq) ∧ r.1.park = none ∧
    r.2.getLast? = some (.exit res) :=
  Mux.windDown_resolves e res (.inl hs)

/-- Every established stream that was in the flow table when the final drain ran is closed in both
    directions (its object has `finishSent` and has lost its channel sender) … -/
theorem drain_closes_streams (e : EP) (l : List (Nat × Slot)) (fid i : Nat)
    (hm : (fid, Slot.established i) ∈ l) : closedAt (drainFlows e l).1 i :=
  Mux.drainFlows_closes e l fid i hm

/-- … so that a read on it returns the data already delivered and then end-of-stream, never pending, … -/
theorem closed_stream_read_resolves (e : EP) (h i : Nat) (o : Obj) (n : Nat)
    (hh : e.handles[h]? = some i) (ho : e.objs[i]? = some o) (hc : o.senderAlive = false) :
    (appRead e h n).2 ≠ .pending := by
  have hobj := handleObj_of hh ho
  simp only [appRead, hobj]
  have := Mux.fillBuf_closed_not_pending (o.rxq.length + 2) e i o ho hc (by omega)
  split
  · simp
  · rename_i r hr
    intro hp
    apply this
    rw [← hp]

/-- … and a write fails with BrokenPipe without transmitting anything. -/
theorem closed_stream_write_fails (e : EP) (h i : Nat) (o : Obj) (d : Bytes)
    (hh : e.handles[h]? = some i) (ho : e.objs[i]? = some o) (hc : o.finishSent = true) :
    (appWrite e h d).2 = .brokenPipe ∧ (appWrite e h d).1.outq = e.outq ∧
    (appWrite e h d).1.objs[i]? = some { o with parked := false } :=
  (Mux.appWrite_glue e h i o d hh ho).1 hc

/-- Multiplexor calls after the task has finished: `Closed` (queued streams / datagrams / bind
    requests are still handed out first), a negative bind answer or `Closed` for new requests —
    and a new open or bind request leaves the flow table as it was (no slot stays behind for a
    request that could not be sent; C06 `open_on_ended_connection_leaves_no_slot`). -/
theorem calls_after_end (e : EP) (hd : e.dead = true) (hoc : e.outClosed = true) :
    (e.acceptq = [] → appAccept e = (e, .closed)) ∧
    (e.dgramq = [] → appRecvDgram e = (e, .closed)) ∧
    (e.opts.bindCap ≠ 0 → e.bindq = [] → appBindNext e = (e, .closed)) ∧
    (∀ d, d.host.length ≤ 255 → appSendDgram e d = (e, .closed)) ∧
    (∀ req host port, ∃ e', e'.flows = e.flows ∧ (appOpen e req host port = (e', [.openDone req .closed]) ∨
        appOpen e req host port = (e', [.openDone req .rejected]))) ∧
    (∀ req bt host port, (appBindReq e req bt host port).1.flows = e.flows ∧
        (appBindReq e req bt host port).2 = [.bindDone req .closed]) := by
  refine ⟨?_, ?_, ?_, ?_, ?_, ?_⟩
  · intro h; simp [appAccept, h, hd]
  · intro h; simp [appRecvDgram, h, hd]
  · intro hb h; simp [appBindNext, hb, h, hd]
  · intro d hl
    have : ¬ 255 < d.host.length := by omega
    simp [appSendDgram, this, hoc]
  · intro req host port
    refine ⟨(appOpen e req host port).1, openRound_closed_flows e _ hoc, ?_⟩
    rcases (openRound_closed_resolves e _ hoc).1 with h | h
    · exact Or.inr (Prod.ext rfl h)
    · exact Or.inl (Prod.ext rfl h)
  · exact fun req bt host port => appBindReq_closed_flows e req bt host port hoc

/-- Pending open and bind requests in the flow table at teardown resolve: `Closed` for opens (never
    `FlowIdRejected`), `false` for binds. -/
theorem pending_requests_resolve (e : EP) (fid req : Nat) (r : OpenReq) (inh : Bool)
    (hw : e.opens.find? (·.req = req) = some r) :
    (closeLocal e (.requested req) fid inh true).2 = [.openDone req .closed] ∧
    (closeLocal e (.bindRequested req) fid inh true).2 = [.bindDone req .refused] := by
  simp [closeLocal, openRejected, hw]

/-- A local drop still flushes: when the Multiplexor is dropped, every message queued before the
    drop (data already written, Finish, Reset, datagrams) is handed to the transport, in order,
    before the WebSocket is closed … -/
theorem flush_on_drop (e : EP) (res : ExitRes) (hs : e.sinkRoom = none) :
    ∃ rest, (windDown e true res).2 = e.outq.map Ev.wire ++ Ev.wireClose :: rest :=
  Mux.windDown_drain_flushes e res hs

/-- … also under back-pressure: what the sink accepts goes out at once, in order; the remainder
    stays queued, in order (nothing is lost or reordered), and the wind-down waits in its drain
    loop; when nothing remains the sink is closed right after the last message. -/
theorem flush_on_drop_backpressure (e : EP) (res : ExitRes) :
    ∃ sent, sent ++ (sendSome (dropPrep e)).1.outq = e.outq ∧ (sendSome (dropPrep e)).2 = sent.map Ev.wire ∧
      (((sendSome (dropPrep e)).1.outq ≠ [] →
          (windDown e true res).2 = sent.map Ev.wire ∧ (windDown e true res).1.outq = (sendSome (dropPrep e)).1.outq ∧
          (windDown e true res).1.draining = some res) ∧
       ((sendSome (dropPrep e)).1.outq = [] →
          ∃ rest, (windDown e true res).2 = e.outq.map Ev.wire ++ Ev.wireClose :: rest)) :=
  Mux.windDown_drain_partial e res

/-- … until the sink accepts messages again: each time the task runs, the drain loop hands over the
    next messages of the queue, in order; while some remain it stays parked with exactly those, and
    once the queue is empty the sink is closed. -/
theorem drain_resumes (e : EP) (res : ExitRes) (fuel : Nat) (acc : List Ev)
    (hd : e.dead = false) (hdr : e.draining = some res) :
    settleLoop (fuel + 1) e acc = ((drainStep e res).1, acc ++ (drainStep e res).2) ∧
    ∃ sent, sent ++ (sendSome e).1.outq = e.outq ∧ (sendSome e).2 = sent.map Ev.wire ∧
      (((sendSome e).1.outq ≠ [] → drainStep e res = sendSome e) ∧
       ((sendSome e).1.outq = [] →
          ∃ rest, (drainStep e res).2 = e.outq.map Ev.wire ++ Ev.wireClose :: rest)) := by
  refine ⟨by simp [settleLoop, hd, hdr], ?_⟩
  obtain ⟨sent, hs1, hs2⟩ := Mux.sendSome_split e
  refine ⟨sent, hs2, hs1, ?_, ?_⟩
  · intro hne
    have hq : (sendSome e).1.outq.isEmpty = false := by
      cases h : (sendSome e).1.outq <;> simp_all
    simp [drainStep, hq]
  · intro hempty
    have hq : (sendSome e).1.outq.isEmpty = true := by simp [hempty]
    simp only [drainStep, hq, if_true]
    rw [hempty, List.append_nil] at hs2
    rw [← hs2, ← hs1]
    exact Mux.windDownTail_flushes _ _ _ _

/-- Dropping the Multiplexor makes the task wind down with drain (and without error). -/
theorem drop_triggers_drain (e : EP) (fuel : Nat) (acc : List Ev) (rest : List Nat)
    (hd : e.dead = false) (hdr : e.draining = none) (hc : e.closing = none) (hp : e.park = none) (hi : e.inbox = [])
    (hq : e.droppedq = 0 :: rest) :
    settleLoop (fuel + 1) e acc = ((windDown { e with droppedq := rest } true .ok).1,
                                    acc ++ (windDown { e with droppedq := rest } true .ok).2) := by
  have hu : unpark e = e := by simp [unpark, hp]
  simp [settleLoop, hd, hdr, hc, hu, hp, hi, hq]

/-- In EVERY state an endpoint can reach — any configuration, any sequence of application calls,
    deliveries, sink back-pressure changes and cancellations, of any length — once the connection
    task has finished, every stream object ever created is closed in both directions (its reader
    sees end-of-stream after the queued data, its writer fails), and no flow refers to a stream.
    (Induction over the stimulus sequence with the invariant `Inv2`, Lemmas/MuxWF + MuxReach.) -/
theorem every_stream_closed_after_end (o : Opts) (ops : List Mux.Op)
    (hd : (runOps { opts := o } ops).dead = true) :
    (∀ (i : Nat) (ob : Obj), (runOps { opts := o } ops).objs[i]? = some ob → ob.closed) ∧
    (∀ fid i, lookup (runOps { opts := o } ops).flows fid ≠ some (.established i)) :=
  ⟨reachable_dead_all_closed o ops hd, (reachable_inv o ops).2 hd⟩

/-- … and in every reachable state, finished or not, the flow table and the stream objects are
    consistent: established flows refer to distinct existing objects, and every object that is still
    open in some direction is reachable from a flow (so the wind-down, which walks the flow table,
    cannot miss it). -/
theorem reachable_wellformed (o : Opts) (ops : List Mux.Op) : WF (runOps { opts := o } ops) :=
  (reachable_inv o ops).1

/-- The end of the connection is acted on at once: a running endpoint whose receive loop is not
    waiting on a full accept / bind queue finishes its task within the very stimulus that delivers the
    peer's Close, the end of the source, a transport error or an undecodable message — whatever is
    pending is resolved then (`error_resolves_everything`, `source_end_resolves_everything`), without
    the application having to do anything. -/
theorem end_is_acted_on_at_once (e : EP) (w : WsIn)
    (hd : e.dead = false) (hdr : e.draining = none) (hc : e.closing = none) (hp : e.park = none)
    (hi : e.inbox = []) (hs : e.srcEnded = false)
    (hw : w = .msg .close ∨ w = .eof ∨ w = .err ∨ ∃ b, w = .bad b) :
    (applyOp e (.deliver w)).1.dead = true :=
  end_acted_on_at_once e w hd hdr hc hp hi hs hw

/-- "Every LATER operation completes": the end of the connection is final. Once the task has
    finished and the outbound queue is closed, they stay so through every further history of
    stimuli — application calls, late deliveries, anything — so `calls_after_end` (and
    `closed_stream_read_resolves` / `closed_stream_write_fails`, all streams being closed by
    `every_stream_closed_after_end`) apply at every later point, not only right after the wind-down. -/
theorem the_end_is_final (e : EP) (hd : e.dead = true) (hoc : e.outClosed = true) (ops : List Mux.Op) :
    (runOps e ops).dead = true ∧ (runOps e ops).outClosed = true :=
  ⟨(stays_finished e ops).dead hd, (stays_finished e ops).outClosed hoc⟩

/-- … and likewise a dropped `Multiplexor` handle never comes back. -/
theorem dropped_multiplexor_stays_dropped (e : EP) (hm : e.muxAlive = false) (ops : List Mux.Op) :
    (runOps e ops).muxAlive = false :=
  (stays_finished e ops).muxGone hm

/-- Nothing blocks forever, writers included: in every reachable state whose connection task has
    finished, every writer that was parked on flow-control credit has been woken (and, its stream
    being closed, its next poll fails with BrokenPipe — `closed_stream_write_fails`). -/
theorem parked_writers_woken_after_end (o : Opts) (ops : List Mux.Op)
    (hd : (runOps { opts := o } ops).dead = true) (i : Nat) (ob : Obj)
    (ho : (runOps { opts := o } ops).objs[i]? = some ob) (hp : ob.parked = true) : ob.woken = true := by
  cases hw : ob.woken with
  | true => rfl
  | false =>
    have h1 := (reachable_wakeOk o ops i ob ho hp hw).2
    have h2 := (reachable_dead_all_closed o ops hd i ob ho).1
    rw [h1] at h2; cases h2

example : ((runOps { opts := {} } [.deliver (.msg (.frame (.connect 5 1 80 []))), .accept, .write 0 [1], .write 0 [2],
    .deliver .err]).objs[0]?.map (fun o => (o.parked, o.woken))) = some (true, true) ∧
    (runOps { opts := {} } [.deliver (.msg (.frame (.connect 5 1 80 []))), .accept, .write 0 [1], .write 0 [2],
    .deliver .err]).dead = true := by decide
example : (windDown { opts := {}, outq := [.ping], flows := [(3, .requested 1)],
                      opens := [{ req := 1, host := [], port := 1, retriesLeft := 0 }] } true .wsError).2
    = [.wire .ping, .wireClose, .openDone 1 .closed, .exit .wsError] := by decide

/-- A run that ends with a transport error while the application holds a stream it has written to. -/
def sampleRun : List Mux.Op :=
  [.deliver (.msg (.frame (.connect 5 4 80 [1]))), .accept, .write 0 [1, 2], .deliver .err]

example : (runOps { opts := {} } sampleRun).dead = true ∧
    (runOps { opts := {} } sampleRun).objs.length = 1 ∧ (runOps { opts := {} } sampleRun).handles = [0] := by
  decide

/-! ### Two endpoints, EVERY history: a local drop still flushes (`Model/PairAll.lean`)

`Penguin.PairAll` joins two endpoint models by FIFO wires at the stimulus level (see Props C02,
`pair_reads_are_prefix_of_peer_writes_every_history`).  The run below is `l1`, then side `a`'s application drops
its `Multiplexor`, then `l2` — ANY stimuli at either side: application calls, deliveries, sink back-pressure
(`sinkRoom`), transport faults (`cut`).  `PairAll.Running e`: the task is not finished, not winding down, has
processed everything delivered to it, and its outbound queue is open.  `PairAll.DDone e`: the drain is over (the
task has finished, or waits for the peer's Close after its own).  No hypothesis on the id scripts is needed for
the flush itself. -/

section PairAll
open Penguin.PairAll

/-- C08, "if the local multiplexor is dropped while the transport is healthy, every frame queued before the
    drop (data already written, Finish, Reset, datagrams) is still transmitted, in order, before the WebSocket
    is closed", for two endpoints and every history.  With `p1` the state at the drop and `pf` the final state:
    there are `Reset` frames `rs` (the rejections of the peer's bind requests that the drop leaves unanswered;
    nothing else is ever added) such that
    * once the drain is over (`DDone pf.a`), ALL messages `a`'s sink has taken (`wireMsgs pf.ga.evs`) are: what it
      had taken before the drop, then the whole queue of the moment of the drop, in order, then `rs`, then the
      Close — nothing of the queue is missing, nothing reordered, and the queue is empty;
    * as long as it is not over — the sink may be stalled (`sinkRoom (some 0)`) for any time — what the sink has
      taken followed by what is still queued is that same sequence (without the Close): nothing is lost on the way;
    * the wire is FIFO and loses nothing without a cut: the messages delivered to `b` followed by those still on
      the wire are a prefix of what `a`'s sink has taken, and ALL of it while the wire `a → b` is open (no `cut` at
      `b`, no Close delivered yet);
    * `a`'s application has written nothing since (writes fail once the queue is closed). -/
theorem pair_drop_flushes_everything_every_history (oa ob : Opts) (ra rb : List Nat)
    (l1 l2 : List (PairAll.Side × Stim)) (q : PS)
    (hr : Running (PairAll.run (PairAll.init oa ob ra rb) l1).a)
    (hs : PairAll.step (PairAll.run (PairAll.init oa ob ra rb) l1) .A (.call .dropMux) = some q) :
    let p1 := PairAll.run (PairAll.init oa ob ra rb) l1
    let l := l1 ++ (PairAll.Side.A, Stim.call .dropMux) :: l2
    let pf := PairAll.run (PairAll.init oa ob ra rb) l
    ∃ rs, allResets rs ∧
      (DDone pf.a → wireMsgs pf.ga.evs = wireMsgs p1.ga.evs ++ (p1.a.outq ++ rs) ++ [.close] ∧ pf.a.outq = []) ∧
      (¬ DDone pf.a → wireMsgs pf.ga.evs ++ pf.a.outq = wireMsgs p1.ga.evs ++ (p1.a.outq ++ rs)) ∧
      dlvMsgs (opsB (PairAll.init oa ob ra rb) l) ++ pf.ab <+: wireMsgs pf.ga.evs ∧
      (pf.abOpen = true → dlvMsgs (opsB (PairAll.init oa ob ra rb) l) ++ pf.ab = wireMsgs pf.ga.evs) ∧
      pf.ga.wrote = p1.ga.wrote :=
  drop_flushes oa ob ra rb l1 l2 q hr hs

/-- The application-level reading for streams (under `PairAll.Cfg`).  After a drop whose drain is over: for a
    stream object `j` of `b` carrying `x` that still accepts (`canAcc`: `b` holds the slot of `x` for `j`, it was
    not reset, the handle was not dropped) while the wire is intact, every frame `a`'s application had
    successfully written on `x` (`wroteX x pf.ga`: the payloads of its `write` calls that answered `wrote`, all
    of them before the drop) is accepted into `j`, or delivered and not yet processed, or still on the wire — in
    order, each once.  In particular, once `b` has processed everything up to the Close (no `Push x` left in its
    inbox or on the wire), the bytes accepted into `j` are exactly the bytes written. -/
theorem pair_drop_written_reaches_peer_every_history {ra rb : List Nat} (c : Cfg ra rb) (oa ob : Opts)
    (l1 l2 : List (PairAll.Side × Stim)) (q : PS)
    (hr : Running (PairAll.run (PairAll.init oa ob ra rb) l1).a)
    (hs : PairAll.step (PairAll.run (PairAll.init oa ob ra rb) l1) .A (.call .dropMux) = some q)
    (x j : Nat) (o : Obj) :
    let pf := PairAll.run (PairAll.init oa ob ra rb) (l1 ++ (PairAll.Side.A, Stim.call .dropMux) :: l2)
    pf.b.objs[j]? = some o → o.fid = x → canAcc x j pf.b = true → pf.abOpen = true → DDone pf.a →
    (Log.dataOf pf.gb.accepted j ++ pX x (inMsgs pf.b.inbox) ++ pX x pf.ab = wroteX x pf.ga) ∧
    (pX x (inMsgs pf.b.inbox) = [] → pX x pf.ab = [] → chunks pf.gb.accepted j = wroteOn x pf.ga.wrote) := by
  intro pf hj hx hcan hopen hdone
  have h := drop_written_reaches_peer c oa ob l1 l2 q hr hs x j o hj hx hcan hopen hdone
  refine ⟨h, fun h1 h2 => ?_⟩
  rw [h1, h2, List.append_nil, List.append_nil] at h
  rw [chunks_eq_flatten, h, wroteX_flatten]

/-! Non-vacuity (windows 2, threshold 1; scripts `[7, 8]`, `[9, 10]`): `a` opens flow 7, `b` accepts it; the sink of
    `a` stalls; `a` writes two frames and sends a datagram (all three stay queued), then drops its `Multiplexor`. -/
private def dcfg : Mux.Opts := { rwnd := 2, threshold := 1 }
private def dpre : List (PairAll.Side × Stim) :=
  [(.A, .call (.open 1 [104] 80)), (.B, .deliver), (.B, .call .accept), (.A, .deliver),
   (.A, .call (.sinkRoom (some 0))), (.A, .call (.write 0 [1, 2])), (.A, .call (.write 0 [3])),
   (.A, .call (.sendDgram { fid := 9, host := [104], port := 53, data := [7] }))]
/-- The sink resumes; the two frames and the datagram are delivered to `b`. -/
private def dmid : List (PairAll.Side × Stim) := [(.A, .call (.sinkRoom none)), (.B, .deliver), (.B, .deliver), (.B, .deliver)]
/-- Then the Close is delivered; `b` reads the data. -/
private def dpost : List (PairAll.Side × Stim) := dmid ++ [(.B, .deliver), (.B, .call (.read 0 9)), (.B, .call (.read 0 9))]
private def dfull (l2 : List (PairAll.Side × Stim)) : List (PairAll.Side × Stim) :=
  dpre ++ (PairAll.Side.A, Stim.call .dropMux) :: l2

example : Cfg [7, 8] [9, 10] := ⟨by decide, by decide, by decide⟩
/- The hypotheses: `a` is running with the three messages queued, and the drop is enabled. -/
set_option maxRecDepth 8192 in
example : let p1 := PairAll.run (PairAll.init dcfg dcfg [7, 8] [9, 10]) dpre
    (p1.a.dead = false ∧ p1.a.draining = none ∧ p1.a.closing = none ∧ p1.a.inbox = [] ∧ p1.a.droppedq = [] ∧
     p1.a.outClosed = false ∧
     p1.a.outq = [.frame (.push 7 [1, 2]), .frame (.push 7 [3]), .frame (.datagram 9 53 [104] [7])] ∧
     (PairAll.step p1 .A (.call .dropMux)).isSome = true) := by decide
/-- With the sink still stalled the drain is not over: nothing has gone out, everything is still queued. -/
example : let pf := PairAll.run (PairAll.init dcfg dcfg [7, 8] [9, 10]) (dfull [])
    (pf.a.draining.isSome = true ∧ pf.a.dead = false ∧ pf.a.outq.length = 3) := by decide
/-- After the sink resumed and `b` processed the three messages (Close still on the wire): the drain is over,
    the wire intact, object 0 of `b` still accepts — everything written is accepted (second theorem). -/
example : let pf := PairAll.run (PairAll.init dcfg dcfg [7, 8] [9, 10]) (dfull dmid)
    (pf.a.draining = none ∧ pf.ab = [.close] ∧ pf.abOpen = true ∧ canAcc 7 0 pf.b = true ∧ pf.b.inbox = [] ∧
     pf.b.objs.map (·.fid) = [7] ∧ chunks pf.gb.accepted 0 = [1, 2, 3] ∧ wroteOn 7 pf.ga.wrote = [1, 2, 3]) := by decide
/- At the end: the sink of `a` took the queue in order, then the Close; all of it was delivered to `b`, in order;
    `b` read the data, the next read gives end-of-stream, and the datagram is there. -/
set_option maxRecDepth 8192 in
example : let pf := PairAll.run (PairAll.init dcfg dcfg [7, 8] [9, 10]) (dfull dpost)
    (pf.a.draining = none ∧
     wireMsgs pf.ga.evs = [.frame (.connect 7 2 80 [104]), .frame (.push 7 [1, 2]), .frame (.push 7 [3]),
       .frame (.datagram 9 53 [104] [7]), .close] ∧
     dlvMsgs (opsB (PairAll.init dcfg dcfg [7, 8] [9, 10]) (dfull dpost)) = wireMsgs pf.ga.evs ∧ pf.ab = [] ∧
     chunks pf.gb.returned 0 = [1, 2, 3] ∧ (appRead pf.b 0 9).2 = .eof ∧
     (applyOp pf.b .recvDgram).2.1 = .dgram { fid := 9, host := [104], port := 53, data := [7] }) := by decide

end PairAll

end Penguin.C08
