/-
C04 — Streams always make progress while the application keeps reading.
Progress is stated as safety theorems plus a decreasing measure, over the link model (every action
sequence, every window `W ≥ 1` and threshold `th ≤ W`), and the endpoint-model facts that every pair
of accepted options yields such parameters and that a slow reader delays only its own stream.

The liveness conclusion itself is the headline theorem `progress` (with its parts
`productive_schedule_bounded`, `no_infinite_productive_schedule`, `writer_unblocked_when_work_runs_out`,
`every_byte_becomes_readable`): a termination statement that holds for EVERY schedule of deliveries,
acknowledgement deliveries and reads — no fairness assumption is needed for the bound; fairness of the
real scheduler (a delivery / read that has something to do eventually happens) is only what makes the
real system take those steps at all.

From one direction of one stream to two whole endpoints: `pair_no_stall` and
`pair_all_written_is_read_at_quiescence` below are the blocked-writer and the all-read facts for
`Penguin.Pair` (two endpoint models, any number of flows, every interleaving). They are obtained
through the relation `DirRel` of `Lemmas/PairInv.lean`: for one direction of a flow established on both
endpoints of a reachable pair state there is a link state `l` with `Inv l` whose fields are the
projection of the pair onto that direction (the writer object's credit and finished flag, the
`Push`/`Finish`/`Reset` frames of the flow on the path to the peer, the reader object's queue, buffer
and counter, the `Acknowledge` frames of the flow on the path back, the write and read logs).
`Inv l` is the only hypothesis the analysis of the state "work has run out" uses, and
`Lemmas/PairDir.lean` shows that a step of the pair that concerns the flow acts on `l` as the
corresponding `Link.step` (processing a `Push`/`Finish`/`Reset` of the flow: `deliver`; a read:
`read`; processing an `Acknowledge` of the flow: `deliverAck`), while moving a frame from an outbound
queue onto the transport leaves `l` unchanged. So the two theorems bound, per flow and direction, the
number of frame-processing steps and reads of the pair that concern it, *in the link model*; a step
count for the pair as a whole (transmissions, other flows) is not stated there.

Two WHOLE endpoints: `pair_internal_activity_terminates` (last section) bounds what the connection tasks
and the pending `new_stream_channel` futures of both endpoints can do on their own — transmissions,
frame processing with the replies it causes (`Connect` → `Acknowledge`, unknown flow → `Reset`, a rejected
`Connect` → retry), dropped-handle notifications, parked hand-overs — by a measure `Pair.M` that every
such step that changes the state decreases (`Lemmas/PairQuiesce.lean`, for ALL pair states);
`pair_quiescent_writer_has_credit` is what the quiescent state such a schedule ends in looks like for a
writer.
-/
import Penguin.Model.Link
import Penguin.Model.Mux
import Penguin.Lemmas.Link
import Penguin.Lemmas.LinkProgress
import Penguin.Lemmas.MuxStep
import Penguin.Lemmas.PairCor
import Penguin.Lemmas.PairQuiesceCredit

namespace Penguin.C04
open Penguin Penguin.Link

/-- The threshold a stream gets never exceeds the window this endpoint advertises, for every
    options value and every peer window — the arithmetic fact progress rests on. -/
theorem threshold_le_window (o : Mux.Opts) (peerRwnd : Nat) : Mux.thresholdFor o peerRwnd ≤ o.rwnd :=
  Mux.thresholdFor_le o peerRwnd

/-- No stall: in every reachable state, a writer that is blocked for credit always has something
    still on its way — a `Push` in flight, a frame in the reader's queue, or an `Acknowledge` in
    flight. So some delivery or read is enabled whenever a writer waits. -/
theorem no_stall (W th : Nat) (hW : 0 < W) (hth : th ≤ W) (as : List Act)
    (hc : (run (init W th) as).credit = 0) :
    let s := run (init W th) as
    pushes s.wire ≠ [] ∨ s.rxq ≠ [] ∨ s.acks ≠ [] :=
  blocked_has_work _ (reach_inv hW hth as) hc

/-- Equivalently: once the transport has delivered everything in flight and the reader has emptied
    its queue, the writer has credit — "quiescent with a blocked writer while its reader keeps
    reading" is unreachable. -/
theorem quiescent_has_credit (W th : Nat) (hW : 0 < W) (hth : th ≤ W) (as : List Act)
    (h1 : pushes (run (init W th) as).wire = []) (h2 : (run (init W th) as).rxq = [])
    (h3 : (run (init W th) as).acks = []) : 0 < (run (init W th) as).credit := by
  cases hc : (run (init W th) as).credit with
  | zero => rcases no_stall W th hW hth as hc with h | h | h <;> contradiction
  | succ n => omega

/-- The measure: every enabled delivery, read of a queued frame, or acknowledgement delivery strictly
    decreases `3·|wire| + 2·|queue| + |acks|`; so at most that many such steps separate a blocked
    writer from the quiescent state above, in which it has credit. -/
theorem blocked_measure (s : St) (h : Inv s) (n : Nat) :
    (s.wire ≠ [] → mu (step s .deliver).1 < mu s) ∧
    (s.buf = [] → s.rxq ≠ [] → mu (step s (.read n)).1 < mu s) ∧
    (s.acks ≠ [] → mu (step s .deliverAck).1 < mu s) :=
  ⟨mu_deliver s, mu_read s n h, mu_deliverAck s⟩

/-! ## Bounded progress under every schedule

`productive s a` (Lemmas/LinkProgress.lean): action `a` of the transport or of the reader has something
to do in `s` — `.deliver` with a non-empty wire, `.deliverAck` with an `Acknowledge` on its way back,
`.read n` with `n > 0` and an unread remainder or a queued frame. The writer's `write`/`shutdown`/`abort`
are the environment and never count. `Productive s as`: every action of `as` is productive in the
state in which it is executed. `WorkDone s`: no action is productive in `s`.
`nu s = 3·|wire| + 2·|rxq| + |acks| + |buf| + bytes queued + bytes in flight`. -/

/-- Every productive action strictly decreases `nu` — in every state (reads that take part of a
    buffer, empty frames skipped, deliveries to a closed or full receiver included). -/
theorem productive_step_decreases (s : St) (a : Act) (hp : productive s a = true) : nu (step s a).1 < nu s :=
  nu_decreases s a hp

/-- No schedule of deliveries, acknowledgement deliveries and reads — fair or not, chosen by an
    adversary or not — can run for more than `nu s` steps without running out of work; more exactly
    every step pays one unit of what is left of the measure. Holds from every state, so in particular
    from every state reachable from `init W th`. -/
theorem productive_schedule_bounded (s : St) (as : List Act) (h : Productive s as) :
    as.length ≤ nu s ∧ as.length + nu (run s as) ≤ nu s :=
  ⟨productive_length_le s as h, productive_run_nu s as h⟩

/-- The same for infinite schedules `f : Nat → Act`: there is no infinite productive schedule — within
    the first `nu s + 1` actions one finds nothing to do. -/
theorem no_infinite_productive_schedule (s : St) (f : Nat → Act) :
    ∃ k, k ≤ nu s ∧ Productive s (pre f k) ∧ productive (run s (pre f k)) (f k) = false :=
  schedule_hits_unproductive s f

/-- Maximal productive schedules exist from every state (a work-conserving scheduler produces one),
    so the theorems about the state "work has run out" are about states that are reached. -/
theorem maximal_schedule_exists (s : St) : ∃ as, Productive s as ∧ WorkDone (run s as) :=
  exists_maximal s

/-- When the work runs out the writer is unblocked: in a reachable state in which no delivery,
    acknowledgement delivery or read (with room) has anything to do, the writer has credit — all of the
    window except the frames the reader has not acknowledged yet, fewer than the threshold — and, if the
    receiver's slot is alive, the sender has not finished and a pending write of a non-empty payload
    returns `wrote` at once. (`overrun` is false in every reachable state, `Inv.hover`; without `rAlive`
    the stream was finished or aborted by the sender itself and the write reports `brokenPipe`.) -/
theorem writer_unblocked_when_work_runs_out (W th : Nat) (hW : 0 < W) (hth : th ≤ W) (as : List Act)
    (hd : WorkDone (run (init W th) as)) :
    let s := run (init W th) as
    0 < s.credit ∧ s.credit + s.since = W ∧ s.overrun = false ∧
    (s.rAlive = true → s.sFin = false ∧ ∀ d : Bytes, d ≠ [] → (step s (.write d)).2 = .wrote d.length) := by
  have hi := reach_inv hW hth as
  have hc := workDone_credit _ hi hd
  rw [run_W] at hc
  exact ⟨hc.1, hc.2, hi.hover, fun hal => ⟨workDone_open _ hi hd hal, workDone_write _ hi hd hal⟩⟩

/-- Every byte written becomes readable — and has been read: in a reachable state in which the work
    has run out, the reads have returned exactly the bytes the successful writes carried. -/
theorem every_byte_becomes_readable (W th : Nat) (hW : 0 < W) (hth : th ≤ W) (as : List Act)
    (hd : WorkDone (run (init W th) as)) :
    (run (init W th) as).delivered = (run (init W th) as).accepted :=
  workDone_delivered _ (reach_inv hW hth as) hd

/-- **Progress.** Take any state `s` reachable from `init W th` (`0 < W`, `th ≤ W`; any mix of writes
    longer than the window, deliveries, reads, shutdown before it) and any schedule `sched` of deliveries,
    acknowledgement deliveries and reads in which every action has something to do. Then
    * the schedule is at most `nu s` steps long (so every such schedule can be extended only finitely often,
      and a maximal one exists: last clause);
    * if it is maximal (nothing is productive in the state `t` it ends in), then in `t` the reads have
      returned everything that was written up to `s` (`t.delivered = s.accepted`), the writer has credit, and —
      the receiver's slot being alive — a pending write of a non-empty payload completes (`wrote`). -/
theorem progress (W th : Nat) (hW : 0 < W) (hth : th ≤ W) (before sched : List Act)
    (hp : Productive (run (init W th) before) sched) :
    let s := run (init W th) before
    let t := run s sched
    sched.length ≤ nu s ∧
    (WorkDone t →
      t.delivered = s.accepted ∧ 0 < t.credit ∧
      (t.rAlive = true → ∀ d : Bytes, d ≠ [] → (step t (.write d)).2 = .wrote d.length)) ∧
    (∃ more, Productive t more ∧ WorkDone (run t more)) := by
  intro s t
  refine ⟨productive_length_le s sched hp, fun hd => ?_, exists_maximal t⟩
  have ht : run (init W th) (before ++ sched) = t := run_append _ _ _
  have hw := writer_unblocked_when_work_runs_out W th hW hth (before ++ sched) (ht ▸ hd)
  have hr := every_byte_becomes_readable W th hW hth (before ++ sched) (ht ▸ hd)
  simp only [ht] at hw hr
  exact ⟨hr.trans (productive_run_accepted s sched hp), hw.1, fun hal => (hw.2.2.2 hal).2⟩

/-! Non-vacuity. Window 2, threshold 2: two writes (3 bytes and 1 byte) exhaust the window; the writer
    is blocked (`pending`), `nu = 10`. -/
private def blocked2 : St := run (init 2 2) [.write [1, 2, 3], .write [4]]
example : blocked2.credit = 0 ∧ (step blocked2 (.write [5])).2 = .pending ∧ nu blocked2 = 10 := by decide
/-- A productive schedule from the blocked state with reads that take part of a frame (room for 2 bytes);
    it is maximal, 6 ≤ 10 steps long, and ends with everything read and the writer unblocked. -/
private def sched2 : List Act := [.deliver, .deliver, .read 2, .read 2, .read 2, .deliverAck]
example : Productive blocked2 sched2 := by decide
example : WorkDone (run blocked2 sched2) := (workDone_iff _).2 (by decide)
example : (run blocked2 sched2).delivered = [1, 2, 3, 4] ∧ (run blocked2 sched2).rAlive = true ∧
    (run blocked2 sched2).credit = 2 ∧ (step (run blocked2 sched2) (.write [5])).2 = .wrote 1 := by decide
/-- The theorems applied to this reachable state (the schedule appended to the two writes). -/
example : 0 < (run (init 2 2) ([.write [1, 2, 3], .write [4]] ++ sched2)).credit :=
  (writer_unblocked_when_work_runs_out 2 2 (by decide) (by decide) _ ((workDone_iff _).2 (by decide))).1
example : sched2.length ≤ nu blocked2 ∧ (run blocked2 sched2).delivered = blocked2.accepted :=
  have h := progress 2 2 (by decide) (by decide) [.write [1, 2, 3], .write [4]] sched2 (by decide)
  ⟨h.1, (h.2.1 ((workDone_iff _).2 (by decide))).1⟩
/-- Another schedule (deliveries and reads interleaved, the acknowledgement last) is productive too;
    one more `.deliverAck` would not be, nor is a read without room. -/
example : Productive blocked2 [.deliver, .read 9, .deliver, .read 1, .deliverAck] := by decide
example : ¬ Productive blocked2 (sched2 ++ [.deliverAck]) := by decide
example : productive blocked2 (.read 0) = false ∧ productive blocked2 (.read 1) = false ∧
    productive blocked2 .deliver = true := by decide
/-- `productive_step_decreases` on a partial read: 2 of 3 buffered bytes. -/
example : nu (run blocked2 [.deliver, .deliver]) = 8 ∧ nu (run blocked2 [.deliver, .deliver, .read 2]) = 4 ∧
    nu (run blocked2 [.deliver, .deliver, .read 2, .read 2]) = 3 := by
  decide
/-- The state after a sender-side shutdown: the work runs out with the receiver's slot closed; the writer
    still holds credit, all bytes were read, and a write reports `brokenPipe` (hence the `rAlive` premise). -/
example : WorkDone (run (init 2 2) [.write [1], .shutdown, .deliver, .deliver, .read 9]) := (workDone_iff _).2 (by decide)
example : (run (init 2 2) [.write [1], .shutdown, .deliver, .deliver, .read 9]).rAlive = false ∧
    (step (run (init 2 2) [.write [1], .shutdown, .deliver, .deliver, .read 9]) (.write [5])).2 = .brokenPipe := by decide

open Penguin.Mux in
/-- Isolation: a stream whose reader is slow or absent delays only itself. Processing `Push`,
    `Acknowledge`, `Finish`, `Reset` or `Datagram` frames never parks the receive loop (the stream
    queue is filled with `try_send`, a full datagram queue drops): only `Connect` with a full accept
    queue or `Bind` with a full bind queue can, which is the property's premise that the application
    keeps accepting. -/
theorem isolation (e : EP) (f : Frame) (ig : Bool)
    (hf : (∀ a b c d, f ≠ .connect a b c d) ∧ (∀ a b c d, f ≠ .bind a b c d)) :
    (processFrame e f ig).1.park = e.park :=
  Mux.processFrame_no_park e f ig hf

open Penguin.Mux in
/-- A datagram that finds the queue full is dropped; nothing else in the endpoint changes. -/
theorem full_datagram_queue_drops (e : EP) (fid port : Nat) (host d : Bytes) (ig : Bool)
    (hm : e.muxAlive = true) (hfull : ¬ e.dgramq.length < e.opts.dgramCap) :
    processFrame e (.datagram fid port host d) ig = (e, [], none) := by
  simp [processFrame, hm, hfull]

open Penguin.Mux Penguin.Pair in
/-- No stall, for two whole endpoint models joined by FIFO wires (`Penguin.Pair`: every interleaving,
    every pair of options, any number of concurrent flows): in every reachable state, on every flow
    established on both endpoints, a writer at `a` that has no credit always has a `Push` of the flow in
    transit, a frame in the peer's receive queue, or an `Acknowledge` of the flow in transit back — so a
    transmission, a frame processing step or a read is enabled, each of which decreases the measure
    `Link.mu` (`blocked_measure`). -/
theorem pair_no_stall {oa ob : Opts} {ra rb : List Nat} (c : Cfg oa ob ra rb) (as : List (Pair.Side × Pair.Act))
    {x i j : Nat} (e : Established (Pair.run (Pair.init oa ob ra rb) as) x i j)
    (oA : Obj) (hoA : (Pair.run (Pair.init oa ob ra rb) as).a.objs[i]? = some oA) (hc : oA.credit = 0) :
    let p := Pair.run (Pair.init oa ob ra rb) as
    pushesOf x (pathAB p) ≠ [] ∨ (∃ oB, p.b.objs[j]? = some oB ∧ oB.rxq ≠ []) ∨ acksOf x (pathBA p) ≠ [] :=
  established_blocked_has_work (reach_inv c as) e oA hoA hc

open Penguin.Mux Penguin.Pair in
/-- Every byte written becomes readable: in every reachable state of the pair, on every flow
    established on both endpoints, once nothing of the flow is in transit any more and the reader has
    emptied its queue and buffer, it has read exactly the bytes the writer's accepted writes carried —
    and (by `pair_no_stall`) a writer still without credit then has an `Acknowledge` on its way. What
    the harness's `written-not-readable` monitor samples on the real code. -/
theorem pair_all_written_is_read_at_quiescence {oa ob : Opts} {ra rb : List Nat} (c : Cfg oa ob ra rb)
    (as : List (Pair.Side × Pair.Act)) {x i j : Nat} (e : Established (Pair.run (Pair.init oa ob ra rb) as) x i j)
    (hq : pushesOf x (pathAB (Pair.run (Pair.init oa ob ra rb) as)) = [])
    (hr : ∀ oB, (Pair.run (Pair.init oa ob ra rb) as).b.objs[j]? = some oB → oB.buf = [] ∧ oB.rxq = []) :
    let p := Pair.run (Pair.init oa ob ra rb) as
    p.gb.rlog j = p.ga.wlog i := by
  obtain ⟨oB, hoB, hd, _⟩ := established_bytes (reach_inv c as) e
  obtain ⟨hb, hx⟩ := hr oB hoB
  rw [hq, hb, hx] at hd
  simpa using hd

/-! Non-vacuity of `pair_no_stall`: window 1, one write in flight — the writer has no credit and the
    `Push` is in transit. -/
private def pcfg1 : Mux.Opts := { rwnd := 1, threshold := 1 }
private def pacts1 : List (Pair.Side × Pair.Act) :=
  [(.A, .open 1 [104] 80), (.A, .xmit), (.B, .recv), (.B, .xmit), (.A, .recv), (.A, .runDone), (.B, .accept),
   (.A, .write 0 [1, 2, 3]), (.A, .xmit)]
example : Pair.Established (Pair.run (Pair.init pcfg1 pcfg1 [7, 8] [9, 10]) pacts1) 7 0 0 :=
  ⟨by decide, by decide, by decide, by decide, by decide⟩
example : ((Pair.run (Pair.init pcfg1 pcfg1 [7, 8] [9, 10]) pacts1).a.objs[0]?.map (·.credit)) = some 0 := by decide
example : Pair.pushesOf 7 (Pair.pathAB (Pair.run (Pair.init pcfg1 pcfg1 [7, 8] [9, 10]) pacts1)) = [[1, 2, 3]] := by decide

/-! Non-vacuity of `pair_all_written_is_read_at_quiescence`: the `Push` is processed and read. -/
private def pacts1r : List (Pair.Side × Pair.Act) := pacts1 ++ [(.B, .recv), (.B, .read 0 9)]
example : Pair.Established (Pair.run (Pair.init pcfg1 pcfg1 [7, 8] [9, 10]) pacts1r) 7 0 0 :=
  ⟨by decide, by decide, by decide, by decide, by decide⟩
example : Pair.pushesOf 7 (Pair.pathAB (Pair.run (Pair.init pcfg1 pcfg1 [7, 8] [9, 10]) pacts1r)) = [] ∧
    ((Pair.run (Pair.init pcfg1 pcfg1 [7, 8] [9, 10]) pacts1r).b.objs[0]?.map (fun o => (o.buf, o.rxq))) = some ([], []) ∧
    (Pair.run (Pair.init pcfg1 pcfg1 [7, 8] [9, 10]) pacts1r).gb.rlog 0 = [1, 2, 3] := by decide

/-! Non-vacuity: own window 4, configured threshold 8, peer window 16. The threshold in use is 4, within
    the window, so `no_stall` covers the run: four writes use up the credit, the reads give it back. -/
example : Mux.thresholdFor { rwnd := 4, threshold := 8 } 16 = 4 := by decide
example : (run (init 4 4) [.write [1], .write [2], .write [3], .write [4]]).credit = 0 := by decide
example : (run (init 4 4) [.write [1], .write [2], .write [3], .write [4], .deliver, .deliver, .deliver, .deliver,
    .read 9, .read 9, .read 9, .read 9, .deliverAck]).credit = 4 := by decide

/-! ## Two whole endpoints: the internal activity always dies down

`Pair.internal a`: `a` is an action of a connection task or of a pending `new_stream_channel` future
(`xmit`, `recv`, `notif`, `unpark`, `runDone`, `runRetries`) — not an application call (stream calls,
datagram calls and the `Bind` calls `bindReq`, `bindNext`, `bindReply`, `bindDrop` are the environment).
`Pair.productiveI p s a`: internal action `a` of side `s` is enabled in `p` and changes the state
(`pair_productive_iff`; idle `unpark` / `runDone` / `runRetries` are enabled but change nothing).
`Pair.ProdSched p l`: every action of `l` is productive in the state in which it is executed.
`Pair.Quiescent p`: no internal action of either side is productive.
`Pair.M p`: messages on the wires weighted by kind (Connect 12, Bind 6, Acknowledge 5, Finish 4, Push 4,
Reset 2, others 1), one more each while still in an outbound queue, 4 per queued dropped-handle
notification, 5 for a parked hand-over, 1 per `doneq` / `retryq` entry, 13 per remaining retry of a
pending open request. -/

open Penguin.Pair in
/-- What "productive" means: internal, enabled, and the state changes. -/
theorem pair_productive_iff (p : PS) (s : Side) (a : Pair.Act) :
    productiveI p s a = true ↔ internal a = true ∧ ∃ p', Pair.step p s a = some p' ∧ p' ≠ p :=
  productiveI_iff p s a

open Penguin.Pair in
/-- Every internal action (either side) that changes the state strictly decreases `M` — in EVERY pair
    state, reachable or not: the reply a frame causes weighs less than the frame, a retried `Connect` is
    paid for by the retry it uses up. -/
theorem pair_internal_step_decreases (p p' : PS) (s : Side) (a : Pair.Act) (hi : internal a = true)
    (hs : Pair.step p s a = some p') (hne : p' ≠ p) : M p' < M p :=
  step_internal_decreases p p' s a hi hs hne

open Penguin.Pair in
/-- **The internal activity of two conforming endpoints always dies down, under every schedule.** From
    any pair state `p` (so in particular from every reachable one), for any schedule `sched` of productive
    internal actions, the two sides interleaved in any way, chosen by an adversary or not:
    * the schedule is at most `M p` steps long — every step pays one unit of the measure;
    * there is no infinite one: any infinite sequence of internal actions finds nothing to do within its
      first `M p + 1` actions;
    * if it is maximal (no action can be appended) it ends in a quiescent state;
    * it can always be extended to a maximal one. -/
theorem pair_internal_activity_terminates (p : PS) (sched : List (Side × Pair.Act)) (hp : ProdSched p sched) :
    sched.length + M (Pair.run p sched) ≤ M p ∧
    (∀ f : Nat → Side × Pair.Act, ∃ k, k ≤ M p ∧ ProdSched p (Pair.pre f k) ∧
      productiveI (Pair.run p (Pair.pre f k)) (f k).1 (f k).2 = false) ∧
    ((∀ sa, ¬ ProdSched p (sched ++ [sa])) → Quiescent (Pair.run p sched)) ∧
    (∃ more, ProdSched p (sched ++ more) ∧ Quiescent (Pair.run p (sched ++ more))) := by
  refine ⟨prodSched_measure p sched hp, schedule_hits_idle p, maximal_quiescent p sched hp, ?_⟩
  obtain ⟨more, h1, h2⟩ := exists_quiescent (Pair.run p sched)
  exact ⟨more, (prodSched_append p sched more).2 ⟨hp, h1⟩, by rw [Pair.run_append]; exact h2⟩

open Penguin.Mux Penguin.Pair in
/-- … in particular from every state reachable from two fresh endpoints, whatever the applications did
    before: every schedule of productive internal actions is at most `M` of that state long. -/
theorem pair_internal_activity_bounded (oa ob : Opts) (ra rb : List Nat) (before sched : List (Side × Pair.Act))
    (hp : ProdSched (Pair.run (Pair.init oa ob ra rb) before) sched) :
    sched.length ≤ M (Pair.run (Pair.init oa ob ra rb) before) :=
  prodSched_length _ sched hp

open Penguin.Mux Penguin.Pair in
/-- In a reachable quiescent state in which neither receive loop is parked on a full accept or bind queue
    (the applications keep accepting — the premise of `isolation`), nothing is in transit: both outbound
    queues and both wires are empty. -/
theorem pair_quiescent_nothing_in_transit {oa ob : Opts} {ra rb : List Nat} (c : Cfg oa ob ra rb)
    (as : List (Side × Pair.Act))
    (hq : Quiescent (Pair.run (Pair.init oa ob ra rb) as))
    (hpa : (Pair.run (Pair.init oa ob ra rb) as).a.park = none)
    (hpb : (Pair.run (Pair.init oa ob ra rb) as).b.park = none) :
    let p := Pair.run (Pair.init oa ob ra rb) as
    p.a.outq = [] ∧ p.b.outq = [] ∧ p.ab = [] ∧ p.ba = [] :=
  quiescent_nothing_in_transit (reach_inv c as) (reach_plain oa ob ra rb as) hq hpa hpb

open Penguin.Mux Penguin.Pair in
/-- **When the internal activity has died down the writer has credit.** In a reachable quiescent state
    with neither receive loop parked, on every flow established on both endpoints whose reader (at `b`)
    has emptied its queue, the writer (at `a`) has credit — all of the window `b` advertised except the
    frames `b` has read and not acknowledged yet (fewer than the threshold). So a pending write of a
    non-empty payload goes through: no stream is blocked for ever once its reader has read.
    (`pair_no_stall` with quiescence: nothing in transit, no `Acknowledge` pending.) -/
theorem pair_quiescent_writer_has_credit {oa ob : Opts} {ra rb : List Nat} (c : Cfg oa ob ra rb)
    (as : List (Side × Pair.Act))
    (hq : Quiescent (Pair.run (Pair.init oa ob ra rb) as))
    (hpa : (Pair.run (Pair.init oa ob ra rb) as).a.park = none)
    (hpb : (Pair.run (Pair.init oa ob ra rb) as).b.park = none)
    {x i j : Nat} (e : Established (Pair.run (Pair.init oa ob ra rb) as) x i j)
    (hr : ∀ oB, (Pair.run (Pair.init oa ob ra rb) as).b.objs[j]? = some oB → oB.rxq = []) :
    let p := Pair.run (Pair.init oa ob ra rb) as
    ∃ oA oB, p.a.objs[i]? = some oA ∧ p.b.objs[j]? = some oB ∧ 0 < oA.credit ∧
      oA.credit + oB.recvdSince = p.b.opts.rwnd :=
  quiescent_writer_credit (reach_inv c as) (reach_plain oa ob ra rb as) hq hpa hpb e hr

/-! Non-vacuity. Window 1 (`pcfg1`): after `pacts1r` the `Push` has been processed and read, the reader's
    `Acknowledge` sits in `b`'s outbound queue, the writer still has no credit; `M = 6`. -/
private def pst : Pair.PS := Pair.run (Pair.init pcfg1 pcfg1 [7, 8] [9, 10]) pacts1r
example : Pair.M pst = 6 ∧ (pst.a.objs[0]?.map (·.credit)) = some 0 := by decide
/-- The only productive internal schedule from there: `b` transmits the `Acknowledge`, `a` processes it —
    2 ≤ 6 steps, maximal, and it ends in a quiescent state with `M = 0`. -/
private def psched : List (Pair.Side × Pair.Act) := [(.B, .xmit), (.A, .recv)]
example : Pair.ProdSched pst psched := by decide
example : Pair.Quiescent (Pair.run pst psched) := (Pair.quiescent_iff _).2 (by decide)
example : Pair.M (Pair.run pst psched) = 0 := by decide
example : psched.length + Pair.M (Pair.run pst psched) ≤ Pair.M pst :=
  (pair_internal_activity_terminates pst psched (by decide)).1
/-- Idle internal actions are enabled but not productive; application calls are not internal. -/
example : Pair.productiveI pst .A .unpark = false ∧ (Pair.step pst .A .unpark).isSome = true ∧
    Pair.productiveI pst .A .runDone = false ∧ Pair.productiveI pst .B .recv = false ∧
    Pair.productiveI pst .B .xmit = true ∧ Pair.internal (.read 0 9) = false := by decide
example : ¬ Pair.ProdSched pst (psched ++ [(.A, .recv)]) := by decide
/-- `pair_internal_step_decreases` on the two steps: 6 → 5 → 0. -/
example : Pair.M (Pair.run pst [(.B, .xmit)]) = 5 := by decide
/-- The hypotheses of `pair_quiescent_writer_has_credit` are met by the reachable state at the end of
    that schedule (flow 7 established on both endpoints, nothing parked, the reader's queue empty), and
    the writer has its credit back. -/
private def pactsq : List (Pair.Side × Pair.Act) := pacts1r ++ psched
private theorem pcfg1_ok : Pair.Cfg pcfg1 pcfg1 [7, 8] [9, 10] := ⟨by decide, by decide, by decide, by decide⟩
private theorem pactsq_established : Pair.Established (Pair.run (Pair.init pcfg1 pcfg1 [7, 8] [9, 10]) pactsq) 7 0 0 :=
  ⟨by decide, by decide, by decide, by decide, by decide⟩
example : Pair.Established (Pair.run (Pair.init pcfg1 pcfg1 [7, 8] [9, 10]) pactsq) 7 0 0 :=
  pactsq_established
example : ∃ oA oB, (Pair.run (Pair.init pcfg1 pcfg1 [7, 8] [9, 10]) pactsq).a.objs[0]? = some oA ∧
    (Pair.run (Pair.init pcfg1 pcfg1 [7, 8] [9, 10]) pactsq).b.objs[0]? = some oB ∧ 0 < oA.credit ∧
    oA.credit + oB.recvdSince = (Pair.run (Pair.init pcfg1 pcfg1 [7, 8] [9, 10]) pactsq).b.opts.rwnd :=
  pair_quiescent_writer_has_credit pcfg1_ok pactsq ((Pair.quiescent_iff _).2 (by decide)) (by decide) (by decide)
    (x := 7) (i := 0) (j := 0) pactsq_established
    (by intro oB h
        have h0 : ((Pair.run (Pair.init pcfg1 pcfg1 [7, 8] [9, 10]) pactsq).b.objs[0]?.map (·.rxq)) = some [] := by decide
        rw [h] at h0; simpa using h0)
example : ((Pair.run (Pair.init pcfg1 pcfg1 [7, 8] [9, 10]) pactsq).a.objs[0]?.map (·.credit)) = some 1 := by decide
/-- Why the premise "not parked": with an accept queue of one stream, a second `Connect` parks `b`'s
    receive loop; the state is quiescent although a third `Connect` is still on the wire. -/
private def pcfgP : Mux.Opts := { acceptCap := 1 }
private def pstP : Pair.PS := Pair.run (Pair.init pcfgP pcfgP [7, 8, 11, 12] [9, 10])
  [(.A, .open 1 [104] 80), (.A, .open 2 [104] 81), (.A, .open 3 [104] 82), (.A, .xmit), (.A, .xmit), (.A, .xmit),
   (.B, .recv), (.B, .recv), (.B, .xmit), (.B, .xmit), (.A, .recv), (.A, .recv), (.A, .runDone)]
example : Pair.Quiescent pstP ∧ pstP.b.park.isSome = true ∧ pstP.ab.length = 1 :=
  ⟨(Pair.quiescent_iff _).2 (by decide), by decide, by decide⟩

/-! Non-vacuity with `Bind` traffic (bind queue of one request): two `Bind` requests of `a` are in its
    outbound queue, `M = 14`. Transmitting and processing both is productive; the second parks `b`'s
    receive loop on the full bind queue (weight 5) and the state is quiescent. After `b`'s application
    has taken and accepted the first request, the parked hand-over completes, the `Finish` travels, and
    the internal activity dies down with `M = 0`. -/
private def pcfgB : Mux.Opts := { bindCap := 1 }
private def pstB : Pair.PS := Pair.run (Pair.init pcfgB pcfgB [7, 8, 11] [9, 10])
  [(.A, .bindReq 1 .stream [104] 80), (.A, .bindReq 2 .stream [104] 81)]
private def pschedB : List (Pair.Side × Pair.Act) := [(.A, .xmit), (.A, .xmit), (.B, .recv), (.B, .recv)]
example : Pair.M pstB = 14 ∧ Pair.ProdSched pstB pschedB ∧ Pair.M (Pair.run pstB pschedB) = 5 ∧
    (Pair.run pstB pschedB).b.park.isSome = true := by decide
example : Pair.Quiescent (Pair.run pstB pschedB) := (Pair.quiescent_iff _).2 (by decide)
private def pstB' : Pair.PS := Pair.run (Pair.run pstB pschedB) [(.B, .bindNext), (.B, .bindReply 0 true)]
example : Pair.M pstB' = 10 ∧ Pair.ProdSched pstB' [(.B, .unpark), (.B, .xmit), (.A, .recv)] ∧
    Pair.M (Pair.run pstB' [(.B, .unpark), (.B, .xmit), (.A, .recv)]) = 0 := by decide
example : Pair.Quiescent (Pair.run pstB' [(.B, .unpark), (.B, .xmit), (.A, .recv)]) :=
  (Pair.quiescent_iff _).2 (by decide)

end Penguin.C04
