/-
C13 — The stream-to-socket bridge relays faithfully, half-closes, always terminates.

Property theorems and the vocabulary their statements need (`Scripts`, `withScripts`, `start`, `Reach`), over
`Model/Bridge` (`poll fixed` = the repaired `CopyBidirectional::poll`).
Quantifier: every script of the local side (answers to `poll_fill_buf` / `poll_write` / `poll_flush`
/ `poll_shutdown`: data of any size, partial writes, `Pending` with or without a later wake-up,
end-of-file, errors), every behaviour of the mux side (answers of the stream's channel, of the
credit check, of the send) and every interleaving: between two polls the scripts of BOTH sides may
be replaced by anything (`Reach.poll`), which is what the peer, the connection task and the local
socket do while the bridge is suspended.
-/
import Penguin.Model.Bridge
import Penguin.Lemmas.Bridge

namespace Penguin.C13
open Penguin Penguin.Bridge

/-- The scripts of both sides: everything the bridge's environment decides. -/
structure Scripts where
  lfill : List (Ans Bytes) := []
  lwrite : List (Ans Nat) := []
  lflush : List (Ans Unit) := []
  lshut : List (Ans Unit) := []
  mrecv : List MRecv := []
  mcredit : List MCredit := []
  msend : List MSend := []

def withScripts (s : St) (sc : Scripts) : St :=
  { s with lfill := sc.lfill, lwrite := sc.lwrite, lflush := sc.lflush, lshut := sc.lshut,
           mrecv := sc.mrecv, mcredit := sc.mcredit, msend := sc.msend }

/-- A fresh bridge (`CopyBidirectional::new`) in front of the environment `sc`. -/
def start (sc : Scripts) : St := withScripts {} sc

/-- The states in which a bridge can be polled: fresh, or after a poll that returned `Pending`
    and any change of the environment's scripts. (A future is not polled again after `Ready`.) -/
inductive Reach : St → Prop
  | start (sc : Scripts) : Reach (start sc)
  | poll (s : St) (sc : Scripts) : Reach s → (poll fixed s).1 = .pending →
      Reach (withScripts (poll fixed s).2 sc)

theorem inv_withScripts (s : St) (sc : Scripts) (h : Inv s) : Inv (withScripts s sc) :=
  ⟨⟨h.r.relay, h.r.count, h.r.drained, h.r.shut⟩, h.w⟩

theorem reach_inv {s : St} (h : Reach s) : Inv s := by
  induction h with
  | start sc =>
    refine ⟨⟨rfl, rfl, ?_, rfl⟩, ⟨rfl, rfl, rfl, rfl, rfl, fun _ => rfl, ?_, rfl, rfl⟩⟩
    · intro _; rfl
    · intro f hf; cases hf
  | poll s sc _ hp ih =>
    exact inv_withScripts _ _ ((poll_post fixed s ih).2.2.1 (by rw [hp]; simp))

/-- Every poll returns: the loops of `poll_read_us` and `poll_write_us` end for every (finite)
    script, because every iteration consumes an answer or the whole buffer. On the pinned code a
    local side that keeps accepting 0 bytes made `poll_read_us` loop for as long as it did. -/
theorem poll_terminates (s : St) : (poll fixed s).1 ≠ .diverged :=
  Bridge.poll_terminates fixed s

/-- Mux → local: after any poll (also a failing one) the bytes accepted by the local side are, in
    order, a prefix of the bytes taken out of the stream — exactly those not still in the stream's
    buffer — and all of them once the read direction is no longer `Transferring`; the state's
    counter is their number. -/
theorem relay_in {s : St} (h : Reach s) :
    let s' := (poll fixed s).2
    s'.toLocal ++ s'.mbuf = s'.muxGot ∧ s'.toLocal <+: s'.muxGot ∧
    ((∀ n, s'.rs ≠ .transferring n) → s'.toLocal = s'.muxGot) ∧
    s'.rs.count = s'.toLocal.length := by
  have inv := (poll_post fixed s (reach_inv h)).1
  refine ⟨inv.relay, ⟨_, inv.relay⟩, fun hn => ?_, inv.count⟩
  have := inv.relay; rw [inv.drained hn] at this; simpa using this

/-- Local → mux: after any poll the concatenation of the `Push` payloads sent, followed by the bytes
    of a frame that could not be sent (at most one, and only in a poll that returns `BrokenPipe`),
    is exactly the bytes consumed from the local side, in order; those are a prefix of what the
    local side handed out, all of it once the write direction is `Done`. No payload is empty. -/
theorem relay_out {s : St} (h : Reach s) :
    let s' := (poll fixed s).2
    s'.frames.flatten ++ s'.lost = s'.fromLocal ∧ s'.fromLocal ++ s'.lbuf = s'.localGot ∧
    ((∀ e, (poll fixed s).1 ≠ .err e) →
      s'.frames.flatten = s'.fromLocal ∧ s'.ws.count = s'.fromLocal.length ∧
      (s'.ws.isDone = true → s'.frames.flatten = s'.localGot)) ∧
    (∀ f ∈ s'.frames, f ≠ []) := by
  obtain ⟨_, weak, strong, _, _⟩ := poll_post fixed s (reach_inv h)
  refine ⟨weak.relay, weak.buf, fun hne => ?_, weak.nonempty⟩
  have w := (strong hne).w
  refine ⟨w.relay, w.count, fun hd => ?_⟩
  have hb := w.buf
  rw [w.drained hd] at hb
  show (poll fixed s).2.wcore.frames.flatten = (poll fixed s).2.wcore.localGot
  rw [w.relay]; simpa using hb

/-- Exactly one unit of credit per frame: the units taken are the frames sent, plus the one frame
    whose send failed (at most one ever, and then the poll returns an error). -/
theorem one_credit_per_frame {s : St} (h : Reach s) :
    let s' := (poll fixed s).2
    s'.credits = s'.frames.length + s'.failedSends ∧ s'.failedSends ≤ 1 ∧
    ((∀ e, (poll fixed s).1 ≠ .err e) → s'.credits = s'.frames.length ∧ s'.failedSends = 0) := by
  obtain ⟨_, weak, strong, _, _⟩ := poll_post fixed s (reach_inv h)
  exact ⟨weak.credit, weak.failed, fun hne => ⟨(strong hne).w.credit, (strong hne).w.failed⟩⟩

/-- End-of-stream of the mux side is propagated to the local side as a shutdown, in the same poll,
    and retried in every later poll until it completes; after it was started nothing but
    `poll_shutdown` is ever done in that direction (no write after shutdown), after it completed
    nothing at all. The write direction is not touched by any of this (`pollRead_leaves_write`). -/
theorem half_close_propagates_in (s : St) :
    (Call.mfill (some []) ∈ (poll fixed s).2.calls → ∃ a, Call.lshut a ∈ (poll fixed s).2.calls) ∧
    (∀ n, s.rs = .shuttingDown n → ∃ a, Call.lshut a ∈ (poll fixed s).2.calls) ∧
    ((∀ n, s.rs ≠ .transferring n) →
      ∀ c ∈ (poll fixed s).2.calls, c.dir = .read → ∃ a, c = .lshut a) ∧
    (s.rs.isDone = true → ∀ c ∈ (poll fixed s).2.calls, c.dir = .write) := by
  obtain ⟨h1, h2, h3, h4, _⟩ := poll_halfclose fixed s
  exact ⟨h1, h2, h3, h4⟩

/-- End-of-file of the local side is propagated to the peer as exactly one `do_shutdown` (one
    `Finish`): in the same poll — unless the frame gathered just before it cannot be sent, and then
    the poll fails with `BrokenPipe` —, `do_shutdown` is only ever called on local end-of-file, it
    leaves the write direction `Done`, and a `Done` write direction performs no operation any more.
    Over the whole run it is called at most once, and exactly once iff the direction is `Done`. -/
theorem half_close_propagates_out {s : St} (h : Reach s) :
    let s' := (poll fixed s).2
    (Call.lfill (.ready []) ∈ s'.calls →
      (Call.finish ∈ s'.calls ∧ s'.ws.isDone = true) ∨ (poll fixed s).1 = .err .brokenPipe) ∧
    (Call.finish ∈ s'.calls → Call.lfill (.ready []) ∈ s'.calls) ∧
    (s.ws.isDone = true → ∀ c ∈ s'.calls, c.dir = .read) ∧
    s'.finishes ≤ 1 ∧
    ((∀ e, (poll fixed s).1 ≠ .err e) → (s'.finishes = 1 ↔ s'.ws.isDone = true)) := by
  obtain ⟨_, _, _, _, h5, h6, h7⟩ := poll_halfclose fixed s
  obtain ⟨_, weak, strong, _, _⟩ := poll_post fixed s (reach_inv h)
  refine ⟨h5, h6, h7, weak.fin, fun hne => ?_⟩
  have hf := (strong hne).w.fin
  constructor
  · intro h1
    cases hd : (poll fixed s).2.wcore.ws.isDone
    · rw [hd] at hf; simp at hf; exact absurd h1 (by show (poll fixed s).2.wcore.finishes ≠ 1; omega)
    · exact hd
  · intro hd
    have hd' : (poll fixed s).2.wcore.ws.isDone = true := hd
    rw [hd'] at hf; exact hf

/-- Half-close, both ways, in one statement: the stream's end-of-file makes this poll call
    `poll_shutdown` on the local side and leaves the write direction's state as the write
    sub-poll alone determines it; the local side's end-of-file makes this poll call `do_shutdown`
    (or fail with `BrokenPipe`), which over the whole run happens at most once. -/
theorem half_close_propagates {s : St} (h : Reach s) :
    (Call.mfill (some []) ∈ (poll fixed s).2.calls → ∃ a, Call.lshut a ∈ (poll fixed s).2.calls) ∧
    (pollRead fixed { s with calls := [] }).2.ws = s.ws ∧
    (Call.lfill (.ready []) ∈ (poll fixed s).2.calls →
      Call.finish ∈ (poll fixed s).2.calls ∨ (poll fixed s).1 = .err .brokenPipe) ∧
    (poll fixed s).2.finishes ≤ 1 := by
  refine ⟨(half_close_propagates_in s).1, ws_of_wpart (pollRead_wpart fixed _), fun he => ?_,
    (half_close_propagates_out h).2.2.2.1⟩
  rcases (half_close_propagates_out h).1 he with ⟨hf, _⟩ | hb
  · exact .inl hf
  · exact .inr hb

/-- The two directions work on disjoint parts of the state: polling one leaves the other's state,
    scripts, buffer and logs unchanged, so the opposite direction keeps flowing across a half-close
    (non-vacuity: the `example`s at the end). -/
theorem pollRead_leaves_write (s : St) : (pollRead fixed s).2.wpart = s.wpart :=
  pollRead_wpart fixed s

theorem pollWrite_leaves_read (s : St) : (pollWrite fixed s).2.rpart = s.rpart :=
  pollWrite_rpart fixed s

/-- `Ready(Ok((r, w)))` only when both directions are `Done`, with `r` = all the bytes taken from
    the stream = the bytes written to the local side, and `w` = all the bytes the local side handed
    out = the concatenation of the payloads sent; and a poll that leaves both directions `Done`
    does not return `Pending`. -/
theorem completes_with_counts {s : St} (h : Reach s) :
    let s' := (poll fixed s).2
    (∀ r w, (poll fixed s).1 = .ok r w →
      s'.rs = .done r ∧ s'.ws = .done w ∧
      r = s'.toLocal.length ∧ s'.toLocal = s'.muxGot ∧
      w = s'.frames.flatten.length ∧ s'.frames.flatten = s'.localGot ∧
      s'.lshutOk = 1 ∧ s'.finishes = 1) ∧
    ((poll fixed s).1 = .pending → (s'.rs.isDone && s'.ws.isDone) = false) := by
  obtain ⟨-, -, strong, hok, hpend⟩ := poll_post fixed s (reach_inv h)
  refine ⟨fun r w hr => ?_, hpend⟩
  obtain ⟨hrs, hws⟩ := hok r w hr
  have hne : ∀ e, (poll fixed s).1 ≠ .err e := by rw [hr]; simp
  obtain ⟨-, -, hin, hcnt⟩ := relay_in h
  obtain ⟨hfl, hwc, hall⟩ := (relay_out h).2.2.1 hne
  have hsh := (strong hne).r.shut
  rw [hrs] at hcnt hsh
  rw [hws] at hwc
  exact ⟨hrs, hws, hcnt, hin (by rw [hrs]; simp), by rw [hfl]; exact hwc, hall (by rw [hws]; rfl), hsh,
    ((half_close_propagates_out h).2.2.2.2 hne).mpr (by rw [hws]; rfl)⟩

/-- A poll in which any operation of either side fails — a local `Err`, a closed stream
    (`BrokenPipe`), a frame that cannot be sent, a local write of zero bytes of a non-empty buffer —
    returns an error of that poll in that same poll; and an error it returns is the error of one of
    its operations. (With two failures in one poll — the local side fails inside the coalescing
    loop and then the frame cannot be sent — it is the later one.) No invariant is needed: this
    holds in every state. -/
theorem error_is_prompt (s : St) :
    (∀ e ∈ errors (poll fixed s).2.calls,
      ∃ e', (poll fixed s).1 = .err e' ∧ e' ∈ errors (poll fixed s).2.calls) ∧
    (∀ e, (poll fixed s).1 = .err e → e ∈ errors (poll fixed s).2.calls) :=
  ⟨(poll_calls s).1, (poll_calls s).2.1⟩

/-- `Pending` ⇒ for each direction that is not `Done` an operation of that direction returned
    `Pending` in this very poll, i.e. holds the task's waker (stream channel, credit, local
    `poll_fill_buf` / `poll_write` / `poll_flush` / `poll_shutdown`). In every state. -/
theorem pending_has_waker (s : St) (hp : (poll fixed s).1 = .pending) :
    ((poll fixed s).2.rs.isDone = false →
      ∃ c ∈ (poll fixed s).2.calls, c.dir = .read ∧ c.pendingSite.isSome = true) ∧
    ((poll fixed s).2.ws.isDone = false →
      ∃ c ∈ (poll fixed s).2.calls, c.dir = .write ∧ c.pendingSite.isSome = true) :=
  (poll_calls s).2.2 hp

/-! ### The pinned code fails `error_is_prompt` and `pending_has_waker` (witnesses, kernel-checked)

`fill_err_case`: the local side hands out "abc" and then fails with error 7
(`corpus/C13/coalesce-fill-error-swallowed.ops`). -/

def fill_err_case : St := start { lfill := [.ready [0x61, 0x62, 0x63], .err 7], mcredit := [.granted, .granted] }

/-- Pinned: the poll returns `Pending`, the failed operation is in its calls, the frame was sent. -/
theorem pinned_swallows_fill_error :
    (poll pinned fill_err_case).1 = .pending ∧
    errors (poll pinned fill_err_case).2.calls = [.localErr 7] ∧
    (poll pinned fill_err_case).2.frames = [[0x61, 0x62, 0x63]] := by decide

/-- Pinned: … and no operation of the write direction holds the waker although it is not `Done`. -/
theorem pinned_pending_without_waker :
    (poll pinned fill_err_case).1 = .pending ∧ (poll pinned fill_err_case).2.ws.isDone = false ∧
    ¬ ∃ c ∈ (poll pinned fill_err_case).2.calls, c.dir = .write ∧ c.pendingSite.isSome = true := by
  decide

/-- Repaired: the same poll sends the frame and returns the error. -/
example : (poll fixed fill_err_case).1 = .err (.localErr 7) ∧
    (poll fixed fill_err_case).2.frames = [[0x61, 0x62, 0x63]] := by decide

/-- `corpus/C13/write-zero-*.ops`: the peer sent "xy", the local side accepts 0 bytes five times. -/
def write_zero_case : St :=
  start { lfill := [.pending false], lwrite := List.replicate 5 (.ready 0), mrecv := [.frame [0x78, 0x79]] }

/-- Pinned: all five zero-length writes are retried at once within one poll (with a local side
    that goes on like this the poll never returns); none is reported. -/
theorem pinned_retries_write_zero :
    ((poll pinned write_zero_case).2.calls.filter (· == .lwrite 2 (.ready 0))).length = 5 ∧
    (poll pinned write_zero_case).1 = .pending := by decide

/-- Repaired: `WriteZero` after the first. -/
example : (poll fixed write_zero_case).1 = .err .writeZero ∧
    ((poll fixed write_zero_case).2.calls.filter (· == .lwrite 2 (.ready 0))).length = 1 := by decide

/-! ### Non-vacuity: a run with partial writes, coalescing, credit starvation and both half-closes -/

/-- Poll 1: the peer's "xy" goes to the local side in two partial writes; "ab" and "c" are coalesced
    into one frame that takes the only unit of credit; the local reader is then `Pending`. -/
def run1 : St := start
  { lfill := [.ready [0x61, 0x62], .ready [0x63], .pending true, .ready [0x64], .ready []],
    lwrite := [.ready 1, .ready 5], lshut := [.pending true, .ready ()],
    mrecv := [.frame [0x78, 0x79]], mcredit := [.granted] }

example : (poll fixed run1).1 = .pending ∧ (poll fixed run1).2.toLocal = [0x78, 0x79] ∧
    (poll fixed run1).2.frames = [[0x61, 0x62, 0x63]] ∧ (poll fixed run1).2.credits = 1 ∧
    wakers (poll fixed run1).2.calls = [.mread, .lfill] := by decide

/-- Poll 2: the peer finished (mux end-of-stream): `poll_shutdown` of the local side is called (and
    is `Pending`) while the write direction is still `Transferring`, blocked on credit with "d". -/
def run2 : St := withScripts (poll fixed run1).2
  { lfill := [.ready [0x64], .ready []], lshut := [.pending true, .ready ()], mrecv := [.eof] }

example : Reach run2 := Reach.poll run1 _ (Reach.start _) (by decide)

example : (poll fixed run2).1 = .pending ∧ (poll fixed run2).2.rs = .shuttingDown 2 ∧
    (poll fixed run2).2.ws = .transferring 3 ∧
    wakers (poll fixed run2).2.calls = [.lshut, .mcredit] := by decide

/-- Poll 3: credit arrives: the shutdown completes, "d" is sent, local end-of-file → `do_shutdown`;
    the bridge completes with (2, 4). -/
def run3 : St := withScripts (poll fixed run2).2
  { lfill := [.ready []], lshut := [.ready ()], mcredit := [.granted] }

example : (poll fixed run3).1 = .ok 2 4 ∧ (poll fixed run3).2.frames = [[0x61, 0x62, 0x63], [0x64]] ∧
    (poll fixed run3).2.finishes = 1 ∧ (poll fixed run3).2.lshutOk = 1 := by decide

/-- The other order: local end-of-file first (`Finish`), the peer's data keeps flowing afterwards. -/
def runB1 : St := start { lfill := [.ready []], mrecv := [] }
def runB2 : St := withScripts (poll fixed runB1).2 { mrecv := [.frame [0x7a]] }

example : (poll fixed runB1).1 = .pending ∧ (poll fixed runB1).2.ws = .done 0 ∧
    (poll fixed runB1).2.finishes = 1 := by decide
example : (poll fixed runB2).1 = .pending ∧ (poll fixed runB2).2.toLocal = [0x7a] ∧
    (poll fixed runB2).2.finishes = 1 := by decide

/-- Errors of the mux side: a closed stream gives `BrokenPipe` in the same poll. -/
example : (poll fixed (start { lfill := [.ready [1]], mcredit := [.closed] })).1 = .err .brokenPipe := by
  decide

end Penguin.C13
