/-
C06 — Abort is clean: peer is told, other streams untouched, flow ids released.
Theorems over the endpoint model. The part of the property that is FALSE of model and code — nothing
of an old stream affects a new stream on a reused id even while frames / the old handle of the
previous incarnation are still around — is refuted by concrete witnesses at the end
(`*_full_fails`), which are the known finding recorded in known_findings.txt (flow ids carry no
epoch; the drop notification carries only the id).
-/
import Penguin.Model.Mux
import Penguin.Lemmas.MuxBasic
import Penguin.Lemmas.MuxStep
import Penguin.Lemmas.PairCor
import Penguin.Lemmas.MuxLeakDrop
import Penguin.Lemmas.MuxLeakOpen
import Penguin.Lemmas.PairHarness
import Penguin.Lemmas.MuxAccountCount
import Penguin.Lemmas.MuxAccountReq
import Penguin.Lemmas.MuxEndedTable

namespace Penguin.C06
open Penguin Penguin.Mux

/-- Dropping a stream that was not shut down aborts it: the task removes the slot, closes the
    object in both directions and tells the peer with exactly one `Reset`. -/
theorem abort_tells_peer (e : EP) (fid i : Nat) (o : Obj)
    (hs : lookup e.flows fid = some (.established i)) (ho : e.objs[i]? = some o)
    (hf : o.finishSent = false) (hoc : e.outClosed = false) :
    (closeFlow e fid false).1.outq = e.outq ++ [.frame (.reset fid)] ∧
    lookup (closeFlow e fid false).1.flows fid = none ∧
    closedAt (closeFlow e fid false).1 i := by
  refine ⟨?_, closeFlow_slot_none e fid false, ?_⟩
  · simpa [hf] using (closeFlow_est e fid i o false hs ho hoc).outq
  · simp only [closeFlow, hs]
    exact closeLocal_closes _ i fid false false

/-- Dropping a stream that had been shut down cleanly sends nothing more (no `Reset` after `Finish`). -/
theorem finished_drop_is_silent (e : EP) (fid i : Nat) (o : Obj)
    (hs : lookup e.flows fid = some (.established i)) (ho : e.objs[i]? = some o) (hf : o.finishSent = true) :
    (closeFlow e fid false).1.outq = e.outq ∧ lookup (closeFlow e fid false).1.flows fid = none := by
  have ho' : ({ e with flows := erase e.flows fid } : EP).obj? i = some o := ho
  refine ⟨?_, closeFlow_slot_none e fid false⟩
  simp [closeFlow, hs, closeLocal, ho', hf]

/-- The peer's side of an abort: on `Reset` the slot is removed and the object closed, with no
    reply; reads then return what had been delivered and end-of-stream, writes fail with BrokenPipe
    (C08 `closed_stream_read_resolves` / `closed_stream_write_fails` apply to a closed object). -/
theorem reset_closes_stream (e : EP) (fid i : Nat) (o : Obj) (ig : Bool)
    (hs : lookup e.flows fid = some (.established i)) (ho : e.objs[i]? = some o) :
    lookup (processFrame e (.reset fid) ig).1.flows fid = none ∧
    closedAt (processFrame e (.reset fid) ig).1 i ∧
    (processFrame e (.reset fid) ig).1.outq = e.outq ∧
    (∀ x, (processFrame e (.reset fid) ig).1.objs[i]? = some x → x.rxq = o.rxq ∧ x.buf = o.buf) := by
  have ho' : ({ e with flows := erase e.flows fid } : EP).obj? i = some o := ho
  have hg : e.objs[i]? = some o := ho
  refine ⟨closeFlow_slot_none e fid true, ?_, ?_, ?_⟩
  · simp only [processFrame, closeFlow, hs]
    exact closeLocal_closes _ i fid true false
  · simp only [processFrame, closeFlow, hs, closeLocal, ho']
    simp
  · intro x hx
    simp only [processFrame, closeFlow, hs, closeLocal, ho'] at hx
    simp [modObj_get_self, hg, Obj.disallowWrite, Obj.wake] at hx
    subst hx
    split <;> exact ⟨rfl, rfl⟩

/-- All other streams on the connection keep their slot and all of their state when one is
    aborted or reset. -/
theorem bystanders_untouched (e : EP) (fid : Nat) (inh : Bool) :
    (∀ y s, lookup e.flows y = some s → y ≠ fid → lookup (closeFlow e fid inh).1.flows y = some s) ∧
    (∀ j, lookup e.flows fid ≠ some (.established j) → (closeFlow e fid inh).1.objs[j]? = e.objs[j]?) :=
  ⟨fun y s h hne => Mux.closeFlow_other_slot e fid inh y s h hne,
   fun j h => Mux.closeFlow_other_obj e fid inh j h⟩

/-- Once released, the id is free: a `Connect` with that id is accepted (not reset) and starts from a
    brand-new object — advertised credit, empty queue and buffer, flags clear — at a new index, so
    no buffered data, credit or closed flag of the old stream is carried over. -/
theorem fresh_after_release (e : EP) (fid rwnd port : Nat) (host : Bytes) (ig : Bool)
    (h0 : fid ≠ 0) (hfree : lookup e.flows fid = none) (hoc : e.outClosed = false) (hm : e.muxAlive = true) :
    let r := processFrame e (.connect fid rwnd port host) ig
    lookup r.1.flows fid = some (.established e.objs.length) ∧
    r.1.objs[e.objs.length]? = some (newObj e.opts fid rwnd host port) ∧
    (∀ j, j < e.objs.length → r.1.objs[j]? = e.objs[j]?) ∧
    r.1.outq = e.outq ++ [.frame (.acknowledge fid e.opts.rwnd)] := by
  have h := Mux.processFrame_connect_accepts e fid rwnd port host ig h0 hfree hoc hm
  simp only at h ⊢
  obtain ⟨h1, h2, h3, _, _⟩ := h
  refine ⟨h2, by rw [h1]; simp, ?_, h3⟩
  intro j hj
  rw [h1]; exact List.getElem?_append_left hj

/-- Released when quiescent: after the local abort (above) and after the peer's `Reset` has been
    processed there, neither endpoint holds a slot for the id. (Each half is a theorem above; the
    composition over the transport is exercised by the re-open probe of the correspondence.) -/
theorem released_locally_and_remotely (e : EP) (fid i : Nat) (o : Obj) (ig : Bool)
    (hs : lookup e.flows fid = some (.established i)) (ho : e.objs[i]? = some o) :
    lookup (closeFlow e fid false).1.flows fid = none ∧ lookup (processFrame e (.reset fid) ig).1.flows fid = none :=
  ⟨closeFlow_slot_none e fid false, closeFlow_slot_none e fid true⟩

/-- An endpoint whose application still holds the handle (object 0) of a stream on id 9 that the
    peer has already reset, and which has since accepted a *new* stream on the reused id 9
    (object 1). -/
def reuseWitness : EP :=
  { opts := {},
    objs := [{ fid := 9, cap := 4, credit := 0, threshold := 4, finishSent := true, senderAlive := false },
             { fid := 9, cap := 4, credit := 4, threshold := 4 }],
    handles := [0, 1],
    flows := [(9, .established 1)] }

/-- Dropping the OLD handle removes the NEW stream's slot, closes the new object and resets the new
    stream at the peer: state of one stream is not isolated from another when a flow id is reused
    while the old handle is alive. -/
theorem old_handle_drop_kills_new_incarnation_full_fails :
    let e := (settle (appDropStream reuseWitness 0).1).1
    lookup e.flows 9 = none ∧ (e.objs[1]?.map (·.finishSent)) = some true ∧
    (settle (appDropStream reuseWitness 0).1).2 = [.wire (.frame (.reset 9))] := by
  decide

/-- A `Reset` of the previous incarnation that is still in flight cancels a new open request on the
    reused id (it is indistinguishable from a rejection of the new `Connect`): the request gives up
    the id and proposes another one. -/
theorem stale_reset_cancels_new_request_full_fails :
    let e : EP := { opts := {}, flows := [(9, .requested 1)], rng := [10], inbox := [.msg (.frame (.reset 9))],
                    opens := [{ req := 1, host := [], port := 80, retriesLeft := 2 }] }
    lookup (settle e).1.flows 9 = none ∧ (settle e).2 = [.wire (.frame (.connect 10 4 80 []))] := by
  decide

/-- In every state an endpoint reaches — by any sequence of application calls and deliveries, from a
    well-behaved peer or not, through the wind-down — an `Established` slot under flow id `x` refers
    to a stream object whose id is `x`: the dropped-handle notification of a stream (which carries
    the object's id) addresses that stream's own slot. -/
theorem slots_address_their_own_object (o : Opts) (ops : List Mux.Op) :
    let e := runOps { opts := o } ops
    ∀ (fid i : Nat) (ob : Obj), lookup e.flows fid = some (.established i) → e.objs[i]? = some ob → ob.fid = fid :=
  reachable_slotFid o ops

/-- Once the flow table holds no slot for stream object `i`, it never holds one again, whatever the
    application and the peer do next — in particular a later `Connect` or open request that reuses the
    flow id gets a brand-new object: nothing revives the old one. -/
theorem released_slot_never_returns (e : EP) (i : Nat) (hi : i < e.objs.length)
    (h : ∀ fid, lookup e.flows fid ≠ some (.established i)) (ops : List Mux.Op) :
    ∀ fid, lookup (runOps e ops).flows fid ≠ some (.established i) :=
  no_slot_forever e i hi h ops

/-- No leak: when the application drops a stream on a running, idle endpoint (any reachable one), the
    task releases the slot of that stream during that very stimulus, and for every later history no
    slot refers to the dropped stream's object. -/
theorem dropped_stream_slot_released_forever (o : Opts) (pre post : List Mux.Op) (h i : Nat) (ob : Obj)
    (hidle : IdleE (runOps { opts := o } pre))
    (hh : (runOps { opts := o } pre).handleObj h = some (i, ob)) (hf : ob.fid ≠ 0) :
    ∀ fid, lookup (runOps (applyOp (runOps { opts := o } pre) (.dropStream h)).1 post).flows fid ≠ some (.established i) := by
  obtain ⟨hn, hi⟩ := dropStream_releases_slot _ h i ob (reachable_inv o pre).1 (reachable_slotFid o pre) hidle hh hf
  exact no_slot_forever _ i hi hn post

/-! Non-vacuity: an endpoint that accepted a stream on id 5 is idle and holds handle 0; after the
    drop and a new `Connect` on the same id, slot 5 refers to the new object 1, not to object 0. -/
private def pre6 : List Mux.Op := [.deliver (.msg (.frame (.connect 5 4 80 []))), .accept]
example : IdleE (runOps { opts := {} } pre6) := ⟨by decide, by decide, by decide, by decide, by decide, by decide⟩
example : ((runOps { opts := {} } pre6).handleObj 0).map (fun p => (p.1, p.2.fid)) = some (0, 5) := by decide
example : lookup (runOps { opts := {} } pre6).flows 5 = some (.established 0) := by decide
example : lookup (runOps (applyOp (runOps { opts := {} } pre6) (.dropStream 0)).1
    [.deliver (.msg (.frame (.connect 5 4 80 [])))]).flows 5 = some (.established 1) := by decide

/-- No leak through an abandoned request: when the caller of `new_stream_channel` has given up (a
    timeout around the call: its future is gone, request `req` is no longer pending) and the peer's
    `Acknowledge` arrives afterwards on a running, idle endpoint (any reachable one), the stream the
    handshake creates is let go of at once and the task releases its flow in that very stimulus: for
    every later history no slot refers to that stream's object — the flow id is free again. -/
theorem abandoned_request_slot_released_forever (o : Opts) (pre post : List Mux.Op) (x req n : Nat)
    (hidle : IdleE (runOps { opts := o } pre)) (hsrc : (runOps { opts := o } pre).srcEnded = false)
    (hpark : (runOps { opts := o } pre).park = none) (hx : x ≠ 0)
    (hslot : lookup (runOps { opts := o } pre).flows x = some (.requested req))
    (hgone : (runOps { opts := o } pre).opens.find? (·.req = req) = none) :
    ∀ fid, lookup (runOps (applyOp (runOps { opts := o } pre) (.deliver (.msg (.frame (.acknowledge x n))))).1 post).flows fid
      ≠ some (.established (runOps { opts := o } pre).objs.length) := by
  obtain ⟨hn, hi⟩ := abandoned_open_releases_slot _ x req n (reachable_inv o pre).1 (reachable_slotFid o pre) hidle hsrc hpark hx hslot hgone
  exact no_slot_forever _ _ hi hn post

/-! Non-vacuity: a request is started (the id comes from the endpoint's own generator) and cancelled;
    the endpoint is idle, its only slot is still `requested 1`, request 1 is no longer pending; after
    the late Acknowledge on that id the table is empty. -/
private def pre6b : List Mux.Op := [.open 1 [97] 80, .cancelOpen 1]
private def x6b : Nat := ((runOps { opts := {} } pre6b).flows.map (·.1)).headD 0
example : IdleE (runOps { opts := {} } pre6b) := ⟨by decide, by decide, by decide, by decide, by decide, by decide⟩
example : x6b ≠ 0 ∧ lookup (runOps { opts := {} } pre6b).flows x6b = some (.requested 1) ∧
    (runOps { opts := {} } pre6b).opens.find? (·.req = 1) = none ∧
    (runOps { opts := {} } pre6b).srcEnded = false ∧ (runOps { opts := {} } pre6b).park = none := by decide
example : (applyOp (runOps { opts := {} } pre6b) (.deliver (.msg (.frame (.acknowledge x6b 4))))).1.flows = [] := by decide

/-! #### No leak, as a number: every slot is accounted for (`Lemmas/MuxAccount.lean`, `MuxAccountCount.lean`)

The endpoint is *in service* (`Mux.Serving`) while its `Multiplexor` is held and its task runs and
has not begun to wind down.  (While the wind-down is in progress the accounting is moot: a parked
hand-over is abandoned and streams a `Connect` still creates are handed to nobody, but the wind-down
ends by clearing the whole table — `C10.invalid_frame_resolves_everything`, C08; an example below
shows such a slot.  Once the task has FINISHED the table is empty and stays empty —
`ended_connection_table_is_empty` below — so the theorems of this section are stated for endpoints
that are in service or have ended: only the wind-down in between is left out.)  The model keeps no
"dropped" mark on a handle (`rxOpen = false` is also what reading
end-of-stream leaves), so the handles a history has dropped are computed from the history:
`Mux.dropsOf`.  `Mux.liveHandles e D` counts the handles the application has obtained and not
dropped; `parkedCount` is 1 when the receive loop is parked handing a stream to a full accept queue.
`Requested` and `BindRequested` slots are themselves the only record of a request the peer has not
answered — each of them is put into the table together with its `Connect` / `Bind` (a call that
cannot queue the frame takes its slot out again: `open_on_ended_connection_leaves_no_slot`):
`pendingOpens` counts the `Requested` slots whose caller still waits, `cancelledAwaiting` those
whose caller has given up (`cancelOpen`; the slot stays until the peer answers — an `Acknowledge`,
`Reset` or `Finish` releases it, `abandoned_request_slot_released_forever`), `pendingBinds` the
`BindRequested` slots. -/

/-- Every slot has an owner: in every state an endpoint reaches while in service (or after its
    connection has ended, when there is no slot at all) — any sequence of application calls and
    deliveries, any peer — each `Established` slot `x ↦ i` of the flow table is justified by
    something that still exists: stream `i` waits in the accept queue, or is the parked hand-over, or
    a dropped-handle notification for id `x` is queued for the task, or the application holds a
    handle of stream `i` that it has not dropped. -/
theorem established_slot_has_an_owner (o : Opts) (ops : List Mux.Op) :
    let e := runOps { opts := o } ops
    let D := dropsOf { opts := o } ops
    Serving e ∨ e.dead = true → ∀ fid i, lookup e.flows fid = some (.established i) →
      i ∈ e.acceptq ∨ e.park = some (.accept i) ∨ fid ∈ e.droppedq ∨ ∃ h, e.handles[h]? = some i ∧ h ∉ D := by
  intro e D hs fid i hl
  rcases hs with hs | hdead
  case inr => rw [reachable_dead_table_empty o ops hdead] at hl; simp [lookup] at hl
  have hd : e.doneq = [] := runOps_doneq { opts := o } ops rfl
  rcases (reachable_accounted o ops hs).just fid i hl with h | h | h | h | h
  · exact Or.inl h
  · exact Or.inr (Or.inl h)
  · rw [hd] at h; cases h
  · exact Or.inr (Or.inr (Or.inl h))
  · exact Or.inr (Or.inr (Or.inr h))

/-- No sequence of opens and closes leaks slots: in every state an endpoint reaches while in service
    (or after its connection has ended, when the table is empty), whatever the application and the
    peer have done, the flow table has no more entries than
    handles the application still holds + streams waiting to be accepted + the parked hand-over +
    dropped-handle notifications the task has not processed yet + open requests the peer has not
    answered (pending, or abandoned by their caller) + bind requests the peer has not answered.
    (The owners of distinct slots are distinct: slots have distinct ids and distinct stream objects.) -/
theorem slots_are_accounted_for (o : Opts) (ops : List Mux.Op) :
    let e := runOps { opts := o } ops
    let D := dropsOf { opts := o } ops
    Serving e ∨ e.dead = true →
      e.flows.length ≤ liveHandles e D + e.acceptq.length + parkedCount e + e.droppedq.length +
        pendingOpens e + cancelledAwaiting e + pendingBinds e := by
  intro e D hs
  rcases hs with hs | hdead
  · exact reachable_slot_bound o ops hs
  · have hf : e.flows = [] := reachable_dead_table_empty o ops hdead
    rw [hf]; exact Nat.zero_le _

/-- Arbitrarily long sequences of opens and closes leave nothing behind: in a reachable state in
    service (or after the connection has ended) in which every handle the application ever obtained
    has been dropped, no stream waits to be accepted, nothing is parked, no notification is queued and
    no open or bind request (pending or abandoned) awaits the peer's answer, the flow table is EMPTY. -/
theorem no_leak_when_idle (o : Opts) (ops : List Mux.Op) :
    let e := runOps { opts := o } ops
    let D := dropsOf { opts := o } ops
    Serving e ∨ e.dead = true → (∀ h, h < e.handles.length → h ∈ D) → e.acceptq = [] → e.park = none →
      e.droppedq = [] → awaitingOpen e = 0 → pendingBinds e = 0 → e.flows = [] := by
  intro e D hs hh ha hp hq hr hb
  rcases hs with hs | hdead
  case inr => exact reachable_dead_table_empty o ops hdead
  have hbound : e.flows.length ≤ liveHandles e D + e.acceptq.length + parkedCount e + e.droppedq.length +
      pendingOpens e + cancelledAwaiting e + pendingBinds e := reachable_slot_bound o ops hs
  have hl : liveHandles e D = 0 := by
    unfold liveHandles heldList
    rw [List.length_eq_zero_iff, List.filter_eq_nil_iff]
    intro h hm
    simpa using hh h (List.mem_range.mp hm)
  have hpk : parkedCount e = 0 := by unfold parkedCount; rw [hp]
  have hr' := awaitingOpen_split e
  have : e.flows.length = 0 := by
    have h1 : e.acceptq.length = 0 := by rw [ha]; rfl
    have h2 : e.droppedq.length = 0 := by rw [hq]; rfl
    omega
  exact List.eq_nil_of_length_eq_zero this

/-! Non-vacuity of `no_leak_when_idle`: a history that opens two streams — one requested locally (the
    id comes from the endpoint's own generator) and acknowledged by the peer, one opened by the peer
    and accepted — holds two slots and two handles; after both handles are dropped the endpoint is in
    service, all hypotheses hold and the table is empty. -/
private def xo7 : Nat := ((runOps { opts := {} } [.open 1 [97] 80]).flows.map (·.1)).headD 0
private def h7 : List Mux.Op :=
  [.open 1 [97] 80, .deliver (.msg (.frame (.acknowledge xo7 4))), .deliver (.msg (.frame (.connect 5 4 80 []))), .accept]
example : (runOps { opts := {} } h7).flows = [(5, .established 1), (xo7, .established 0)] ∧
    (runOps { opts := {} } h7).handles = [0, 1] ∧ dropsOf { opts := {} } h7 = [] := by decide
example : Serving (runOps { opts := {} } (h7 ++ [.dropStream 0, .dropStream 1])) :=
  ⟨by decide, by decide, by decide, by decide, by decide⟩
example : let e := runOps { opts := {} } (h7 ++ [.dropStream 0, .dropStream 1])
    dropsOf { opts := {} } (h7 ++ [.dropStream 0, .dropStream 1]) = [0, 1] ∧ e.handles.length = 2 ∧
    e.acceptq = [] ∧ e.park = none ∧ e.droppedq = [] ∧ awaitingOpen e = 0 ∧ pendingBinds e = 0 ∧ e.flows = [] := by
  decide

/-! The bound is tight, with every kind of owner at once (accept queue of one): a stream accepted and
    held, one waiting in the accept queue, one parked, an open request pending, one abandoned by its
    caller, a bind request pending — six slots, six owners. -/
private def o8 : Mux.Opts := { acceptCap := 1, bindCap := 1 }
private def h8 : List Mux.Op :=
  [.deliver (.msg (.frame (.connect 5 4 80 []))), .accept, .deliver (.msg (.frame (.connect 6 4 80 []))),
   .deliver (.msg (.frame (.connect 7 4 80 []))), .open 1 [97] 80, .open 2 [98] 81, .cancelOpen 2, .bindReq 3 .stream [] 9]
example : Serving (runOps { opts := o8 } h8) := ⟨by decide, by decide, by decide, by decide, by decide⟩
example : (runOps { opts := o8 } h8).flows.length = 6 ∧
    liveHandles (runOps { opts := o8 } h8) (dropsOf { opts := o8 } h8) = 1 ∧
    (runOps { opts := o8 } h8).acceptq.length = 1 ∧ parkedCount (runOps { opts := o8 } h8) = 1 ∧
    (runOps { opts := o8 } h8).droppedq.length = 0 ∧ pendingOpens (runOps { opts := o8 } h8) = 1 ∧
    cancelledAwaiting (runOps { opts := o8 } h8) = 1 ∧ pendingBinds (runOps { opts := o8 } h8) = 1 := by decide

/-! Why `pendingOpens` counts slots and not entries of `opens`: request numbers are names the caller
    of the model chooses; a history that reuses the number of a cancelled request has two `Requested`
    slots (the abandoned one and the new one) under one pending request number. -/
example : let e := runOps { opts := {} } [.open 1 [97] 80, .cancelOpen 1, .open 1 [97] 80]
    e.flows.length = 2 ∧ e.opens.length = 1 ∧ pendingOpens e = 2 ∧ cancelledAwaiting e = 0 := by decide

/-- Each pending call owns at most one slot: in every history in which the caller never names a new
    open request like one whose slot is still in the table (`Mux.freshRun`; request numbers are the
    caller's names for its `new_stream_channel` futures), the `Requested` slots whose caller still
    waits are no more than the pending calls — so the bound holds with the number of pending calls
    (`opens`) in place of `pendingOpens`.  (`Lemmas/MuxAccountReq.lean`: no two `Requested` slots
    carry the same request, a request waiting for its retry has no slot; every function of the
    endpoint model, any peer.) -/
theorem slots_are_accounted_for_by_calls (o : Opts) (ops : List Mux.Op) (hf : freshRun { opts := o } ops = true) :
    let e := runOps { opts := o } ops
    let D := dropsOf { opts := o } ops
    pendingOpens e ≤ e.opens.length ∧
    (Serving e ∨ e.dead = true →
      e.flows.length ≤ liveHandles e D + e.acceptq.length + parkedCount e + e.droppedq.length +
        e.opens.length + cancelledAwaiting e + pendingBinds e) := by
  intro e D
  have hp : pendingOpens e ≤ e.opens.length := pendingOpens_le e (runOps_uq _ ops (init_uq o) rfl hf)
  refine ⟨hp, fun hs => ?_⟩
  have hb : e.flows.length ≤ liveHandles e D + e.acceptq.length + parkedCount e + e.droppedq.length +
      pendingOpens e + cancelledAwaiting e + pendingBinds e := slots_are_accounted_for o ops hs
  omega

/-! Non-vacuity: the history `h8` above names its requests 1, 2 (and 3 for the bind): the naming
    discipline holds, one call is pending, and the bound with `opens.length` is tight as well. -/
example : freshRun { opts := o8 } h8 = true := by decide
example : (runOps { opts := o8 } h8).opens.length = 1 := by decide
/-! … and it is what fails in the history that re-uses the number of a cancelled request. -/
example : freshRun { opts := {} } [.open 1 [97] 80, .cancelOpen 1, .open 1 [97] 80] = false := by decide

/-! Why the wind-down between "in service" and "ended" is left out: after the `Multiplexor` was dropped
    the task winds down and waits for the peer to end the connection; a `Connect` that still arrives
    creates a stream that is handed to nobody — its slot has no owner until the wind-down finishes and
    clears the table. -/
example : let e := runOps { opts := {} } [.dropMux, .deliver (.msg (.frame (.connect 9 4 80 [])))]
    e.flows = [(9, .established 0)] ∧ e.closing = some .ok ∧ e.outClosed = true ∧ e.dead = false ∧ e.acceptq = [] ∧
    e.park = none ∧ e.droppedq = [] ∧ e.handles = [] := by decide
example : (runOps { opts := {} } [.dropMux, .deliver (.msg (.frame (.connect 9 4 80 []))), .deliver .eof]).flows = [] := by
  decide

/-! #### Calls on a connection that no longer takes frames leave no slot behind

`new_stream_channel` and `request_bind` insert their slot first and queue the `Connect` / `Bind`
afterwards.  When the outbound queue is closed (the connection has ended or is winding down) the
frame cannot be queued: the call takes its slot out of the table again and returns `Closed`
(lib.rs; `Mux.openRound`, `Mux.appBindReq`). -/

/-- A call on a connection that no longer takes frames leaves NO slot behind — for EVERY endpoint
    state whose outbound queue is closed:
    * a round of `new_stream_channel` (the first one, `appOpen`, or a later one of a request that had
      been told "rejected") leaves the flow table exactly as it was, the request is no longer
      pending, and the call finishes at once — with `Closed` whenever it got as far as the send
      (a retry is left and a flow id could be drawn), otherwise with FlowIdRejected;
    * `request_bind` leaves the flow table exactly as it was and answers `Closed`. -/
theorem open_on_ended_connection_leaves_no_slot (e : EP) (hoc : e.outClosed = true) :
    (∀ r : OpenReq,
      (openRound e r).1.flows = e.flows ∧ (∀ q ∈ (openRound e r).1.opens, q.req ≠ r.req) ∧
      ((openRound e r).2 = [.openDone r.req .closed] ∨ (openRound e r).2 = [.openDone r.req .rejected]) ∧
      (r.retriesLeft ≠ 0 → (drawId e.flows e.rng e.fallback 64).isSome = true →
        (openRound e r).2 = [.openDone r.req .closed])) ∧
    (∀ req host port,
      (appOpen e req host port).1.flows = e.flows ∧ (∀ q ∈ (appOpen e req host port).1.opens, q.req ≠ req) ∧
      ((appOpen e req host port).2 = [.openDone req .closed] ∨ (appOpen e req host port).2 = [.openDone req .rejected]) ∧
      (e.opts.maxRetries ≠ 0 → (drawId e.flows e.rng e.fallback 64).isSome = true →
        (appOpen e req host port).2 = [.openDone req .closed])) ∧
    (∀ req bt host port,
      (appBindReq e req bt host port).1.flows = e.flows ∧
      (appBindReq e req bt host port).2 = [.bindDone req .closed]) := by
  have key : ∀ r : OpenReq,
      (openRound e r).1.flows = e.flows ∧ (∀ q ∈ (openRound e r).1.opens, q.req ≠ r.req) ∧
      ((openRound e r).2 = [.openDone r.req .closed] ∨ (openRound e r).2 = [.openDone r.req .rejected]) ∧
      (r.retriesLeft ≠ 0 → (drawId e.flows e.rng e.fallback 64).isSome = true →
        (openRound e r).2 = [.openDone r.req .closed]) := by
    intro r
    have h := openRound_closed_resolves e r hoc
    exact ⟨openRound_closed_flows e r hoc, h.2.2, h.1.symm, openRound_closed_answer e r hoc⟩
  exact ⟨key, fun req host port => key { req := req, host := host, port := port, retriesLeft := e.opts.maxRetries },
    fun req bt host port => appBindReq_closed_flows e req bt host port hoc⟩

/-! Non-vacuity: the peer ends the connection, then three `new_stream_channel` calls and a `request_bind` — the
    queue is closed, ids can be drawn, every call is answered `Closed`, and the table is still empty. -/
example : let e := runOps { opts := {} } [.deliver .eof]
    e.outClosed = true ∧ e.dead = true ∧ e.opts.maxRetries ≠ 0 ∧ (drawId e.flows e.rng e.fallback 64).isSome = true := by
  decide
example :
    let e := runOps { opts := {} } [.deliver .eof, .open 1 [97] 80, .open 2 [97] 80, .open 3 [97] 80, .bindReq 4 .stream [] 9]
    e.dead = true ∧ e.flows = [] ∧ e.opens = [] ∧ e.handles = [] ∧ cancelledAwaiting e = 0 ∧
    (applyOp (runOps { opts := {} } [.deliver .eof]) (.open 1 [97] 80)).2.2 = [.openDone 1 .closed] ∧
    (applyOp (runOps { opts := {} } [.deliver .eof]) (.bindReq 4 .stream [] 9)).2.2 = [.bindDone 4 .closed] := by
  decide
/-! … and on a connection that is only winding down (the `Multiplexor` handle of the model is gone,
    but the rule is about the queue): the table keeps exactly the slots it had. -/
example : let e := runOps { opts := {} } [.deliver (.msg (.frame (.connect 9 4 80 []))), .dropMux]
    e.outClosed = true ∧ e.dead = false ∧ e.flows = [(9, .established 0)] ∧
    (appOpen e 1 [97] 80).1.flows = e.flows ∧ (appOpen e 1 [97] 80).2 = [.openDone 1 .closed] ∧
    (appBindReq e 2 .stream [] 9).1.flows = e.flows := by decide

/-- The flow table of an ended connection is empty and stays empty: in every state an endpoint
    reaches — any sequence of application calls and deliveries, any peer — once the connection task
    has finished there is no slot in the flow table, whatever was called on the `Multiplexor`
    before and whatever is called on it afterwards (the wind-down clears the table, the task does
    nothing more, and by the theorem above no later call leaves a slot). -/
theorem ended_connection_table_is_empty (o : Opts) (ops : List Mux.Op) :
    (runOps { opts := o } ops).dead = true → (runOps { opts := o } ops).flows = [] :=
  reachable_dead_table_empty o ops

/-- … said for the rest of the history: from the moment the task has finished, the table is empty
    after every further stimulus. -/
theorem ended_connection_table_stays_empty (o : Opts) (pre post : List Mux.Op)
    (hd : (runOps { opts := o } pre).dead = true) : (runOps (runOps { opts := o } pre) post).flows = [] :=
  (runOps_ended _ post (reachable_ended o pre)).empty ((Mono.runOps _ post).dead hd)

/-! Non-vacuity: a connection with an open stream, a pending open request and a pending bind request
    is ended by the peer; calls keep coming afterwards. -/
example : let pre : List Mux.Op :=
      [.deliver (.msg (.frame (.connect 5 4 80 []))), .accept, .open 1 [97] 80, .bindReq 2 .stream [] 9]
    (runOps { opts := {} } pre).flows.length = 3 ∧ (runOps { opts := {} } pre).dead = false ∧
    (runOps { opts := {} } (pre ++ [.deliver .eof])).dead = true ∧
    (runOps { opts := {} } (pre ++ [.deliver .eof, .open 3 [97] 80, .bindReq 4 .stream [] 9, .dropStream 0])).flows = [] := by
  decide

/-! #### The pair: two endpoints and the wires, every interleaving (`Model/Pair.lean`)

`x ∈ p.linked` says the handshake of flow `x` completed at some point of the run; `lookup p.a.flows x
= none` says endpoint `a` has since let go of it — by abort (its application dropped the stream), by
finishing and dropping it, or because the peer's `Reset` arrived. -/

open Penguin.Mux Penguin.Pair in
/-- Abort is clean for the peer's reader, in every reachable state of every interleaving: after `a`
    let go of flow `x`, what `b`'s application has read is a prefix of what `a`'s application wrote,
    and every byte `a` wrote before letting go is accounted for — read, buffered, queued at `b`, or
    still in flight ahead of the end marker.  (Holds as long as `b`'s application still observes its
    stream: the handle's receiving half is open, or it has read end-of-stream.) -/
theorem pair_abort_reads_are_prefix {oa ob : Opts} {ra rb : List Nat} (c : Cfg oa ob ra rb) (as : List (Pair.Side × Pair.Act))
    {x : Nat} (hx : x ∈ (Pair.run (Pair.init oa ob ra rb) as).linked)
    (hrel : lookup (Pair.run (Pair.init oa ob ra rb) as).a.flows x = none) :
    let p := Pair.run (Pair.init oa ob ra rb) as
    ∃ i j oB, p.b.objs[j]? = some oB ∧ oB.fid = x ∧ (∀ k o, p.a.objs[k]? = some o → o.fid = x → k = i) ∧
      (observed p.b p.gb j = true →
        p.gb.rlog j <+: p.ga.wlog i ∧
        p.gb.rlog j ++ oB.buf ++ oB.rxq.flatten ++
          (Link.pushes (if oB.senderAlive then cutEnd ((fl x (pathAB p)).filterMap toItem) else [])).flatten = p.ga.wlog i) :=
  released_bytes (reach_inv c as) hx hrel

open Penguin.Mux Penguin.Pair in
/-- … and with the roles of the endpoints exchanged. -/
theorem pair_abort_reads_are_prefix_rev {oa ob : Opts} {ra rb : List Nat} (c : Cfg oa ob ra rb) (as : List (Pair.Side × Pair.Act))
    {x : Nat} (hx : x ∈ (Pair.run (Pair.init oa ob ra rb) as).linked)
    (hrel : lookup (Pair.run (Pair.init oa ob ra rb) as).b.flows x = none) :
    let p := Pair.run (Pair.init oa ob ra rb) as
    ∃ j i oA, p.a.objs[i]? = some oA ∧ oA.fid = x ∧ (∀ k o, p.b.objs[k]? = some o → o.fid = x → k = j) ∧
      (observed p.a p.ga i = true →
        p.ga.rlog i <+: p.gb.wlog j ∧
        p.ga.rlog i ++ oA.buf ++ oA.rxq.flatten ++
          (Link.pushes (if oA.senderAlive then cutEnd ((fl x (pathBA p)).filterMap toItem) else [])).flatten = p.gb.wlog j) :=
  released_bytes (p := (Pair.run (Pair.init oa ob ra rb) as).swap) (reach_inv c as).swap hx hrel

open Penguin.Mux Penguin.Pair in
/-- When the peer's application reads end-of-stream after `a` let go of the flow, it has read
    exactly the bytes `a`'s application wrote on it: what had been written is delivered before
    end-of-stream, nothing is lost and nothing invented, whatever frames were in flight. -/
theorem pair_abort_then_eof_is_exact {oa ob : Opts} {ra rb : List Nat} (c : Cfg oa ob ra rb) (as : List (Pair.Side × Pair.Act))
    {x : Nat} (hx : x ∈ (Pair.run (Pair.init oa ob ra rb) as).linked)
    (hrel : lookup (Pair.run (Pair.init oa ob ra rb) as).a.flows x = none) :
    let p := Pair.run (Pair.init oa ob ra rb) as
    ∃ i j, (∀ k o, p.a.objs[k]? = some o → o.fid = x → k = i) ∧ (∀ k o, p.b.objs[k]? = some o → o.fid = x → k = j) ∧
      (p.gb.eof j = true → p.gb.rlog j = p.ga.wlog i) :=
  released_eof (reach_inv c as) hx hrel

open Penguin.Mux Penguin.Pair in
/-- … and with the roles of the endpoints exchanged. -/
theorem pair_abort_then_eof_is_exact_rev {oa ob : Opts} {ra rb : List Nat} (c : Cfg oa ob ra rb) (as : List (Pair.Side × Pair.Act))
    {x : Nat} (hx : x ∈ (Pair.run (Pair.init oa ob ra rb) as).linked)
    (hrel : lookup (Pair.run (Pair.init oa ob ra rb) as).b.flows x = none) :
    let p := Pair.run (Pair.init oa ob ra rb) as
    ∃ j i, (∀ k o, p.b.objs[k]? = some o → o.fid = x → k = j) ∧ (∀ k o, p.a.objs[k]? = some o → o.fid = x → k = i) ∧
      (p.ga.eof i = true → p.ga.rlog i = p.gb.wlog j) :=
  released_eof (p := (Pair.run (Pair.init oa ob ra rb) as).swap) (reach_inv c as).swap hx hrel

open Penguin.Mux Penguin.Pair in
/-- Once an endpoint has let go of a flow — its own application aborted it, or the peer's `Reset`
    arrived — a write on a handle of that stream fails with BrokenPipe and transmits nothing. -/
theorem pair_released_write_fails {oa ob : Opts} {ra rb : List Nat} (c : Cfg oa ob ra rb) (as : List (Pair.Side × Pair.Act))
    {x : Nat} (hx : x ∈ (Pair.run (Pair.init oa ob ra rb) as).linked)
    (hrel : lookup (Pair.run (Pair.init oa ob ra rb) as).a.flows x = none)
    (hd i : Nat) (o : Obj) (d : Bytes) (hh : (Pair.run (Pair.init oa ob ra rb) as).a.handleObj hd = some (i, o)) (hf : o.fid = x) :
    let p := Pair.run (Pair.init oa ob ra rb) as
    (appWrite p.a hd d).2 = .brokenPipe ∧ (appWrite p.a hd d).1.outq = p.a.outq :=
  released_write_fails (reach_inv c as) hx hrel hd i o d hh hf

open Penguin.Mux Penguin.Pair in
/-- … at the other endpoint (e.g. the peer of an abort, once the `Reset` has been processed). -/
theorem pair_released_write_fails_rev {oa ob : Opts} {ra rb : List Nat} (c : Cfg oa ob ra rb) (as : List (Pair.Side × Pair.Act))
    {x : Nat} (hx : x ∈ (Pair.run (Pair.init oa ob ra rb) as).linked)
    (hrel : lookup (Pair.run (Pair.init oa ob ra rb) as).b.flows x = none)
    (hd j : Nat) (o : Obj) (d : Bytes) (hh : (Pair.run (Pair.init oa ob ra rb) as).b.handleObj hd = some (j, o)) (hf : o.fid = x) :
    let p := Pair.run (Pair.init oa ob ra rb) as
    (appWrite p.b hd d).2 = .brokenPipe ∧ (appWrite p.b hd d).1.outq = p.b.outq :=
  released_write_fails (p := (Pair.run (Pair.init oa ob ra rb) as).swap) (reach_inv c as).swap hx hrel hd j o d hh hf

open Penguin.Mux Penguin.Pair in
/-- The harness's `dropmany` stimulus (several streams of one endpoint dropped back to back before its
    task runs, then the task runs to quiescence — `Mux.applyDropMany`, what the driver executes) applied
    to any reachable state of the pair is a run of the fine-grained actions, so the pair invariant —
    and with it every `pair_*` theorem — holds afterwards: the task's notification loop handles a burst
    of drops like the same drops one at a time. -/
theorem pair_burst_of_drops_is_a_run {oa ob : Opts} {ra rb : List Nat} (c : Cfg oa ob ra rb) (as : List (Pair.Side × Pair.Act))
    (q : PS) (hs : List Nat) (hen : runL (Pair.run (Pair.init oa ob ra rb) as) (hs.map Pair.Act.dropStream) = some q)
    (hidle : Idle q.a) (hsr : q.a.sinkRoom = none) (hr : (settle q.a).1.rng ≠ []) :
    let p := Pair.run (Pair.init oa ob ra rb) as
    Pair.Inv { q with a := (applyDropMany p.a hs).1, ab := p.ab ++ wiresOf (applyDropMany p.a hs).2.2 } :=
  dropMany_inv _ q (reach_inv c as) hs hen hidle hsr hr

/-! Non-vacuity of the pair theorems: a run (windows 2, threshold 1) that opens a stream, writes
    three bytes (two fit the window), and then drops the stream without shutting it down; the peer
    processes the `Push` and the `Reset`, reads the two bytes and then end-of-stream, and its own
    write fails. -/
private def pcfg : Mux.Opts := { rwnd := 2, threshold := 1 }
private def pacts : List (Pair.Side × Pair.Act) :=
  [(.A, .open 1 [104] 80), (.A, .xmit), (.B, .recv), (.B, .xmit), (.A, .recv), (.A, .runDone), (.B, .accept),
   (.A, .write 0 [1, 2]), (.A, .xmit), (.A, .dropStream 0), (.A, .notif), (.A, .xmit),
   (.B, .recv), (.B, .read 0 9), (.B, .recv), (.B, .read 0 9)]
example : Pair.Cfg pcfg pcfg [7, 8] [9, 10] := ⟨by decide, by decide, by decide, by decide⟩
example : 7 ∈ (Pair.run (Pair.init pcfg pcfg [7, 8] [9, 10]) pacts).linked := by decide
example : Mux.lookup (Pair.run (Pair.init pcfg pcfg [7, 8] [9, 10]) pacts).a.flows 7 = none := by decide
example : Mux.lookup (Pair.run (Pair.init pcfg pcfg [7, 8] [9, 10]) pacts).b.flows 7 = none := by decide
example : (Pair.run (Pair.init pcfg pcfg [7, 8] [9, 10]) pacts).gb.eof 0 = true ∧
    (Pair.run (Pair.init pcfg pcfg [7, 8] [9, 10]) pacts).gb.rlog 0 = [1, 2] := by decide
example : (Mux.appWrite (Pair.run (Pair.init pcfg pcfg [7, 8] [9, 10]) pacts).b 0 [5]).2 = .brokenPipe := by decide

/-! Non-vacuity of `pair_burst_of_drops_is_a_run`: two streams opened by `a`, both dropped at once. -/
private def pacts2 : List (Pair.Side × Pair.Act) :=
  [(.A, .open 1 [104] 80), (.A, .xmit), (.B, .recv), (.B, .xmit), (.A, .recv), (.A, .runDone),
   (.A, .open 2 [105] 81), (.A, .xmit), (.B, .recv), (.B, .xmit), (.A, .recv), (.A, .runDone)]
example : ((Pair.runL (Pair.run (Pair.init pcfg pcfg [7, 8, 11] [9, 10]) pacts2) [.dropStream 0, .dropStream 1]).map
    (fun q => (q.a.droppedq, q.a.inbox.length, q.a.dead, q.a.muxAlive, q.a.sinkRoom.isNone, (Mux.settle q.a).1.rng))) =
    some ([7, 8], 0, false, true, true, [11]) := by decide

example : (closeFlow { opts := {}, flows := [(5, .established 0)],
                       objs := [{ fid := 5, cap := 4, credit := 4, threshold := 4 }] } 5 false).1.outq
    = [.frame (.reset 5)] := by decide

end Penguin.C06
