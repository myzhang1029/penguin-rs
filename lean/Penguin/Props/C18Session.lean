/-
C18 (continued; the handler is also an anchor of C01) — the client's SOCKS *session handler*
(`penguin/src/client/handle_remote/socks.rs`) uses the message readers and writers exactly as the
RFCs prescribe: whom it asks a tunnel for, what it answers and when, and what it does with the bytes
that arrive behind a request.  Property theorems only; every theorem here is audited by bin/check.

Vocabulary: `session ⟨bytes, eof⟩ env` (`Model/SocksSession.lean`) is one accepted connection: the
bytes the local client sends (and whether it then closes its sending side), and the answers `env` of
the handler's environment (`reserve()` works, the main loop yields a stream, the UDP bind).  The outcome
is the ordered trace of effects (`wrote`, `reserved`, `requested host port`, `gotStream`,
`relayStarted addr`, `relayAborted`), the number of bytes consumed, the bytes handed to the bridge, and
the result (`ok`, `err _`, `bridge`, `needMore`).  Dialogues are built by the independent builders of
`Spec.Rfc1928` / `Spec.Socks4a`; what the client reads is judged by `Spec.SocksClient`.
`requestRsv r rsv` is the RFC's request with an arbitrary reserved byte (`Rfc1928.request r` is
`requestRsv r 0`): the code does not look at it.
-/
import Penguin.Model.SocksSession
import Penguin.Spec.SocksClient
import Penguin.Lemmas.SocksSession
import Penguin.Props.C18

namespace Penguin.C18
open Penguin Penguin.Socks Penguin.SocksSession Penguin.Constants
open Penguin.Lemmas.Socks Penguin.Lemmas.SocksSession
open Penguin.Spec

/-- SOCKS5, environment says yes.  For every method list containing NOAUTH (1..255 methods), every
    well-formed CONNECT request (IPv4 / domain of 0..255 octets / IPv6, any port, any reserved byte)
    and ANY bytes `t` behind it, stream ended or not: the handler writes exactly `05 00`, reserves,
    asks the main loop for exactly one tunnel to exactly the request's (address, port), and only after
    the stream is there writes exactly the RFC's success reply (`REP = 00`, `BND = 0.0.0.0:0`); it has
    consumed exactly greeting + request, and exactly `t` goes to the tunnel through the bridge. -/
theorem session_connect5_wellformed (ms : Bytes) (hl : ms.length ≤ 255) (h0 : (0 : UInt8) ∈ ms)
    (r : Rfc1928.Request) (hr : r.wf) (hc : r.cmd = 1) (rsv : UInt8) (t : Bytes) (eof : Bool)
    (env : Env) (hres : env.reserveOk = true) (hst : env.streamOk = true) :
    session ⟨Rfc1928.greeting ms ++ requestRsv r rsv ++ t, eof⟩ env
      = ⟨[.wrote (Rfc1928.methodSelection 0x00), .reserved, .requested (hostOf r.addr) r.port,
          .gotStream, .wrote (Rfc1928.reply 0x00 (.ipv4 0 0 0 0) 0)],
         (Rfc1928.greeting ms ++ requestRsv r rsv).length, t, .bridge⟩ := by
  rw [session_request5_run ms hl h0 r hr]
  simp [hc, connectRun, hres, hst]

/-- The same for the request exactly as RFC 1928 builds it (`RSV = 00`). -/
theorem session_connect5_wellformed_rfc (ms : Bytes) (hl : ms.length ≤ 255) (h0 : (0 : UInt8) ∈ ms)
    (r : Rfc1928.Request) (hr : r.wf) (hc : r.cmd = 1) (t : Bytes) (eof : Bool)
    (env : Env) (hres : env.reserveOk = true) (hst : env.streamOk = true) :
    session ⟨Rfc1928.greeting ms ++ Rfc1928.request r ++ t, eof⟩ env
      = ⟨[.wrote (Rfc1928.methodSelection 0x00), .reserved, .requested (hostOf r.addr) r.port,
          .gotStream, .wrote (Rfc1928.reply 0x00 (.ipv4 0 0 0 0) 0)],
         (Rfc1928.greeting ms ++ Rfc1928.request r).length, t, .bridge⟩ :=
  session_connect5_wellformed ms hl h0 r hr hc 0 t eof env hres hst

/-- SOCKS5, the main loop does not deliver a stream: the tunnel was requested, and NOTHING is written
    after the method selection — no failure reply either (the handler returns the fatal error
    `MainLoopExitWithoutSendingStream`; the client just sees the connection end). -/
theorem session_open_failed5 (ms : Bytes) (hl : ms.length ≤ 255) (h0 : (0 : UInt8) ∈ ms)
    (r : Rfc1928.Request) (hr : r.wf) (hc : r.cmd = 1) (rsv : UInt8) (t : Bytes) (eof : Bool)
    (env : Env) (hres : env.reserveOk = true) (hst : env.streamOk = false) :
    session ⟨Rfc1928.greeting ms ++ requestRsv r rsv ++ t, eof⟩ env
      = ⟨[.wrote (Rfc1928.methodSelection 0x00), .reserved, .requested (hostOf r.addr) r.port],
         (Rfc1928.greeting ms ++ requestRsv r rsv).length, [], .err .fatalMainLoopExit⟩ := by
  rw [session_request5_run ms hl h0 r hr]
  simp [hc, connectRun, hres, hst]

/-- SOCKS5, the main loop is gone (`reserve()` fails): no tunnel is requested, nothing is written
    after the method selection, `RequestStream`. -/
theorem session_reserve_failed5 (ms : Bytes) (hl : ms.length ≤ 255) (h0 : (0 : UInt8) ∈ ms)
    (r : Rfc1928.Request) (hr : r.wf) (hc : r.cmd = 1) (rsv : UInt8) (t : Bytes) (eof : Bool)
    (env : Env) (hres : env.reserveOk = false) :
    session ⟨Rfc1928.greeting ms ++ requestRsv r rsv ++ t, eof⟩ env
      = ⟨[.wrote (Rfc1928.methodSelection 0x00)],
         (Rfc1928.greeting ms ++ requestRsv r rsv).length, [], .err .fatalRequestStream⟩ := by
  rw [session_request5_run ms hl h0 r hr]
  simp [hc, connectRun, hres]

/-- SOCKS4 (destination an IPv4 address that is not the 4a marker, any NUL-free user id), any bytes
    `t` behind the request: nothing is written before the stream is there, then exactly the 8-byte
    "request granted" reply (`CD = 90`); one tunnel to exactly (`DSTIP`, `DSTPORT`); `t` to the bridge. -/
theorem session_connect4_wellformed (r : Socks4a.Request4) (hr : r.wf) (hc : r.cmd = 1) (t : Bytes)
    (eof : Bool) (env : Env) (hres : env.reserveOk = true) (hst : env.streamOk = true) :
    session ⟨Socks4a.request4 r ++ t, eof⟩ env
      = ⟨[.reserved, .requested ⟨.ipv4, [r.a, r.b, r.c, r.d]⟩ r.port, .gotStream,
          .wrote (Socks4a.reply4 90)],
         (Socks4a.request4 r).length, t, .bridge⟩ := by
  rw [session_request4_run r hr]
  simp [hc, connectRun, hres, hst]

/-- SOCKS4a (marker `0.0.0.x`, NUL-free user id and domain name, empty ones included). -/
theorem session_connect4a_wellformed (r : Socks4a.Request4a) (hr : r.wf) (hc : r.cmd = 1)
    (t : Bytes) (eof : Bool) (env : Env) (hres : env.reserveOk = true) (hst : env.streamOk = true) :
    session ⟨Socks4a.request4a r ++ t, eof⟩ env
      = ⟨[.reserved, .requested ⟨.domain, r.domain⟩ r.port, .gotStream, .wrote (Socks4a.reply4 90)],
         (Socks4a.request4a r).length, t, .bridge⟩ := by
  rw [session_request4a_run r hr]
  simp [hc, connectRun, hres, hst]

/-- SOCKS4 / 4a, no stream: the tunnel was requested and nothing at all is written (no `CD = 91`). -/
theorem session_open_failed4 (r : Socks4a.Request4) (hr : r.wf) (hc : r.cmd = 1) (t : Bytes)
    (eof : Bool) (env : Env) (hres : env.reserveOk = true) (hst : env.streamOk = false) :
    session ⟨Socks4a.request4 r ++ t, eof⟩ env
      = ⟨[.reserved, .requested ⟨.ipv4, [r.a, r.b, r.c, r.d]⟩ r.port],
         (Socks4a.request4 r).length, [], .err .fatalMainLoopExit⟩ := by
  rw [session_request4_run r hr]
  simp [hc, connectRun, hres, hst]

theorem session_open_failed4a (r : Socks4a.Request4a) (hr : r.wf) (hc : r.cmd = 1) (t : Bytes)
    (eof : Bool) (env : Env) (hres : env.reserveOk = true) (hst : env.streamOk = false) :
    session ⟨Socks4a.request4a r ++ t, eof⟩ env
      = ⟨[.reserved, .requested ⟨.domain, r.domain⟩ r.port],
         (Socks4a.request4a r).length, [], .err .fatalMainLoopExit⟩ := by
  rw [session_request4a_run r hr]
  simp [hc, connectRun, hres, hst]

theorem session_reserve_failed4 (r : Socks4a.Request4) (hr : r.wf) (hc : r.cmd = 1) (t : Bytes)
    (eof : Bool) (env : Env) (hres : env.reserveOk = false) :
    session ⟨Socks4a.request4 r ++ t, eof⟩ env
      = ⟨[], (Socks4a.request4 r).length, [], .err .fatalRequestStream⟩ := by
  rw [session_request4_run r hr]
  simp [hc, connectRun, hres]

/-- Reported, not prettified: when the tunnel cannot be obtained the SOCKS5 client that sent a
    well-formed CONNECT is told NOTHING beyond `05 00` — RFC 1928 section 6 has a reply with a failure
    code for this (`REP = 01` and up), the handler sends none and just returns the fatal error.  (A
    witness; `session_open_failed5` / `4` state it for all requests.) -/
theorem session_open_failure_sends_no_reply :
    ∃ (inp : Input) (env : Env), (session inp env).requests ≠ [] ∧
      (session inp env).result = .err .fatalMainLoopExit ∧
      SocksClient.clientReads5 (session inp env).written = some (.method 0x00) :=
  ⟨⟨[5, 1, 0, 5, 1, 0, 1, 10, 0, 0, 1, 0, 80], true⟩, ⟨true, false, .bindFails⟩, by decide⟩

/-- A method list without `NO AUTHENTICATION REQUIRED` (0..255 methods), whatever follows: exactly
    `05 FF`, no tunnel, `OtherAuth`. -/
theorem session_no_noauth (ms : Bytes) (hl : ms.length ≤ 255) (h0 : (0 : UInt8) ∉ ms) (X : Bytes)
    (eof : Bool) (env : Env) :
    session ⟨Rfc1928.greeting ms ++ X, eof⟩ env
      = ⟨[.wrote (Rfc1928.methodSelection 0xFF)], (Rfc1928.greeting ms).length, [],
         .err .otherAuth⟩ := by
  rw [session_greeting ms hl, if_neg h0]

/-- SOCKS5 BIND or any command other than CONNECT and UDP ASSOCIATE: after the method selection
    exactly the RFC's reply "command not supported" (`REP = 07`), then `InvalidCommand`; no tunnel,
    no relay, whatever the environment. -/
theorem session_unsupported_command5 (ms : Bytes) (hl : ms.length ≤ 255) (h0 : (0 : UInt8) ∈ ms)
    (r : Rfc1928.Request) (hr : r.wf) (hc1 : r.cmd ≠ 1) (hc3 : r.cmd ≠ 3) (rsv : UInt8) (t : Bytes)
    (eof : Bool) (env : Env) :
    session ⟨Rfc1928.greeting ms ++ requestRsv r rsv ++ t, eof⟩ env
      = ⟨[.wrote (Rfc1928.methodSelection 0x00), .wrote (Rfc1928.reply 0x07 (.ipv4 0 0 0 0) 0)],
         (Rfc1928.greeting ms ++ requestRsv r rsv).length, [],
         .err (.socks (.invalidCommand r.cmd))⟩ := by
  rw [session_request5_run ms hl h0 r hr]
  simp [hc1, hc3]

/-- SOCKS4 BIND or any command other than CONNECT: exactly the reply "rejected or failed"
    (`CD = 91`), no tunnel. -/
theorem session_unsupported_command4 (r : Socks4a.Request4) (hr : r.wf) (hc : r.cmd ≠ 1) (t : Bytes)
    (eof : Bool) (env : Env) :
    session ⟨Socks4a.request4 r ++ t, eof⟩ env
      = ⟨[.wrote (Socks4a.reply4 91)], (Socks4a.request4 r).length, [],
         .err (.socks (.invalidCommand r.cmd))⟩ := by
  rw [session_request4_run r hr]
  simp [hc]

theorem session_unsupported_command4a (r : Socks4a.Request4a) (hr : r.wf) (hc : r.cmd ≠ 1)
    (t : Bytes) (eof : Bool) (env : Env) :
    session ⟨Socks4a.request4a r ++ t, eof⟩ env
      = ⟨[.wrote (Socks4a.reply4 91)], (Socks4a.request4a r).length, [],
         .err (.socks (.invalidCommand r.cmd))⟩ := by
  rw [session_request4a_run r hr]
  simp [hc]

/-- Any first byte other than 4 and 5: nothing written, nothing requested, `SocksVersion(v)`. -/
theorem session_unknown_version (v : UInt8) (h4 : v ≠ 4) (h5 : v ≠ 5) (rest : Bytes) (eof : Bool)
    (env : Env) :
    session ⟨v :: rest, eof⟩ env = ⟨[], 1, [], .err (.socks (.reader (.version v)))⟩ := by
  rw [session_cons, if_neg h4, if_neg h5]

/-- The relay's socket is bound at `a` (IPv4 or IPv6): the relay is started, the reply is the RFC's
    success reply carrying exactly `a`, and the handler waits on the TCP connection. -/
theorem session_associate_waits (ms : Bytes) (hl : ms.length ≤ 255) (h0 : (0 : UInt8) ∈ ms)
    (r : Rfc1928.Request) (hr : r.wf) (hc : r.cmd = 3) (rsv : UInt8) (env : Env) (a : SockAddr)
    (hu : env.udp = .bound a) (ha : a.wf) :
    session ⟨Rfc1928.greeting ms ++ requestRsv r rsv, false⟩ env
      = ⟨[.wrote (Rfc1928.methodSelection 0x00), .relayStarted a,
          .wrote (Rfc1928.reply 0x00 (addrOf a) (portOf a))],
         (Rfc1928.greeting ms ++ requestRsv r rsv).length, [], .needMore⟩ := by
  have h := session_request5_run ms hl h0 r hr rsv [] false env
  rw [List.append_nil] at h
  rw [h]
  simp [hc, assocRun, hu, writeResponse5_eq_rfc 0 a ha]

/-- The association ends — relay aborted, `Ok(())` — as soon as the client closes the TCP connection
    OR sends any further byte on it (one byte is consumed and thrown away; the rest is never read). -/
theorem session_associate_ends (ms : Bytes) (hl : ms.length ≤ 255) (h0 : (0 : UInt8) ∈ ms)
    (r : Rfc1928.Request) (hr : r.wf) (hc : r.cmd = 3) (rsv : UInt8) (t : Bytes) (eof : Bool)
    (env : Env) (a : SockAddr) (hu : env.udp = .bound a) (ha : a.wf) (h : t ≠ [] ∨ eof = true) :
    session ⟨Rfc1928.greeting ms ++ requestRsv r rsv ++ t, eof⟩ env
      = ⟨[.wrote (Rfc1928.methodSelection 0x00), .relayStarted a,
          .wrote (Rfc1928.reply 0x00 (addrOf a) (portOf a)), .relayAborted],
         (Rfc1928.greeting ms ++ requestRsv r rsv).length + min 1 t.length, [], .ok⟩ := by
  rw [session_request5_run ms hl h0 r hr]
  cases t with
  | nil =>
    have he : eof = true := by simpa using h
    simp [hc, assocRun, hu, he, writeResponse5_eq_rfc 0 a ha]
  | cons x t' =>
    simp [hc, assocRun, hu, writeResponse5_eq_rfc 0 a ha]

/-- The UDP bind fails: exactly the RFC's "general SOCKS server failure" reply (`REP = 01`), no
    relay, the error names the bind. -/
theorem session_associate_bind_failed (ms : Bytes) (hl : ms.length ≤ 255) (h0 : (0 : UInt8) ∈ ms)
    (r : Rfc1928.Request) (hr : r.wf) (hc : r.cmd = 3) (rsv : UInt8) (t : Bytes) (eof : Bool)
    (env : Env) (hu : env.udp = .bindFails) :
    session ⟨Rfc1928.greeting ms ++ requestRsv r rsv ++ t, eof⟩ env
      = ⟨[.wrote (Rfc1928.methodSelection 0x00), .wrote (Rfc1928.reply 0x01 (.ipv4 0 0 0 0) 0)],
         (Rfc1928.greeting ms ++ requestRsv r rsv).length, [], .err (.socks .bindUdp)⟩ := by
  rw [session_request5_run ms hl h0 r hr]
  simp [hc, assocRun, hu]

theorem session_associate_local_addr_failed (ms : Bytes) (hl : ms.length ≤ 255)
    (h0 : (0 : UInt8) ∈ ms) (r : Rfc1928.Request) (hr : r.wf) (hc : r.cmd = 3) (rsv : UInt8)
    (t : Bytes) (eof : Bool) (env : Env) (hu : env.udp = .localAddrFails) :
    session ⟨Rfc1928.greeting ms ++ requestRsv r rsv ++ t, eof⟩ env
      = ⟨[.wrote (Rfc1928.methodSelection 0x00), .wrote (Rfc1928.reply 0x01 (.ipv4 0 0 0 0) 0)],
         (Rfc1928.greeting ms ++ requestRsv r rsv).length, [], .err (.socks .udpLocalAddr)⟩ := by
  rw [session_request5_run ms hl h0 r hr]
  simp [hc, assocRun, hu]

/-- After a well-formed request the handler either runs `handle_connect` or does something that requests nothing:
    a tunnel request then means CONNECT, a permit, and that request's target. -/
private theorem connect_requests {out o : Outcome} {cmd : UInt8} {env : Env} {host : Host} {port c : Nat}
    {ok X : Bytes} {tr : List Event} (hs : out = if cmd = 1 then connectRun env host port ok X c tr else o)
    (htr : requests tr = []) (ho : o.requests = []) (h : out.requests ≠ []) :
    env.reserveOk = true ∧ cmd = 1 ∧ out.requests = [(host, port)] := by
  subst hs
  by_cases hc : cmd = 1
  · simp only [hc, if_true, connectRun_requests, htr, List.nil_append] at h ⊢
    by_cases hres : env.reserveOk = true
    · simp [hres]
    · simp [hres] at h
  · simp only [hc, if_false] at h
    exact absurd ho h

/-- Whenever the handler asks the main loop for a tunnel — on any input whatever, stream ended or
    not, any environment — what it had consumed IS a well-formed dialogue: a SOCKS5 greeting offering
    NOAUTH followed by a well-formed CONNECT request (up to the reserved byte), or a well-formed
    SOCKS4 / SOCKS4a CONNECT request with its NUL terminators; exactly one tunnel is requested, to
    exactly that request's target.  So: never for a truncated or malformed request, an unknown
    version, another command, or without NOAUTH offered. -/
theorem session_requests_only_wellformed (inp : Input) (env : Env)
    (h : (session inp env).requests ≠ []) :
    env.reserveOk = true ∧
    ((∃ ms r rsv rest, ms.length ≤ 255 ∧ (0 : UInt8) ∈ ms ∧ Rfc1928.Request.wf r ∧ r.cmd = 1 ∧
        inp.bytes = Rfc1928.greeting ms ++ requestRsv r rsv ++ rest ∧
        (session inp env).requests = [(hostOf r.addr, r.port)]) ∨
     (∃ (r : Socks4a.Request4) (rest : Bytes), r.wf ∧ r.cmd = 1 ∧
        inp.bytes = Socks4a.request4 r ++ rest ∧
        (session inp env).requests = [(⟨.ipv4, [r.a, r.b, r.c, r.d]⟩, r.port)]) ∨
     (∃ (r : Socks4a.Request4a) (rest : Bytes), r.wf ∧ r.cmd = 1 ∧
        inp.bytes = Socks4a.request4a r ++ rest ∧
        (session inp env).requests = [(⟨.domain, r.domain⟩, r.port)])) := by
  obtain ⟨b, eof⟩ := inp
  cases shape b eof env with
  | empty hb =>
    subst hb
    exact absurd (by simp [session_nil, Outcome.requests, requests]) h
  | badVersion v rest hb h4 h5 =>
    subst hb
    exact absurd (by simp [session_unknown_version v h4 h5, Outcome.requests, requests]) h
  | short4 rest hb res hs | shortMethods rest hb res hs =>
    exact absurd (by simp [hs, Outcome.requests, requests]) h
  | noNoauth ms X hl h0 hb =>
    subst hb
    exact absurd (by simp [session_no_noauth ms hl h0, Outcome.requests, requests]) h
  | shortRequest ms X hl h0 hb w hw res hs =>
    exact absurd (by
      rw [hs]
      show requests (Event.wrote _ :: wroteIf w) = []
      rw [show Event.wrote (Rfc1928.methodSelection 0x00) :: wroteIf w
            = [Event.wrote (Rfc1928.methodSelection 0x00)] ++ wroteIf w from rfl, requests_append,
        requests_wroteIf]
      simp [requests]) h
  | req4 r X hr hb =>
    subst hb
    obtain ⟨hres, hc, hq⟩ := connect_requests (session_request4_run r hr X eof env) rfl rfl h
    exact ⟨hres, .inr (.inl ⟨r, X, hr, hc, rfl, hq⟩)⟩
  | req4a r X hr hb =>
    subst hb
    obtain ⟨hres, hc, hq⟩ := connect_requests (session_request4a_run r hr X eof env) rfl rfl h
    exact ⟨hres, .inr (.inr ⟨r, X, hr, hc, rfl, hq⟩)⟩
  | req5 ms r rsv Y hl h0 hr hb =>
    subst hb
    obtain ⟨hres, hc, hq⟩ := connect_requests (session_request5_run ms hl h0 r hr rsv Y eof env) rfl
      (by split
          · rw [assocRun_requests]; rfl
          · rfl) h
    exact ⟨hres, .inl ⟨ms, r, rsv, Y, hl, h0, hr, hc, rfl, hq⟩⟩

/-- At the moment a tunnel is requested the client has been sent nothing but the method selection
    `05 00` (SOCKS5) or nothing at all (SOCKS4): no reply, in particular no success reply, precedes
    the request — for every input and environment. -/
theorem session_nothing_but_method_before_request (inp : Input) (env : Env)
    (h : (session inp env).requests ≠ []) :
    written (beforeRequest (session inp env).trace) = [] ∨
      written (beforeRequest (session inp env).trace) = Rfc1928.methodSelection 0x00 := by
  obtain ⟨hres, hcase⟩ := session_requests_only_wellformed inp env h
  obtain ⟨b, eof⟩ := inp
  rcases hcase with ⟨ms, r, rsv, rest, hl, h0, hr, hc, hb, _⟩ | ⟨r, rest, hr, hc, hb, _⟩ |
      ⟨r, rest, hr, hc, hb, _⟩
  · simp only at hb
    subst hb
    right
    rw [session_request5_run ms hl h0 r hr]
    simp only [hc, if_true]
    rw [connectRun_beforeRequest _ _ _ _ _ _ _ (by simp [requests]) hres]
    simp [written, writes]
  · simp only at hb
    subst hb
    left
    rw [session_request4_run r hr]
    simp only [hc, if_true]
    rw [connectRun_beforeRequest _ _ _ _ _ _ _ (by simp [requests]) hres]
    simp [written, writes]
  · simp only at hb
    subst hb
    left
    rw [session_request4a_run r hr]
    simp only [hc, if_true]
    rw [connectRun_beforeRequest _ _ _ _ _ _ _ (by simp [requests]) hres]
    simp [written, writes]

/-- SOCKS5: on every strict prefix `p` of a well-formed dialogue (greeting offering NOAUTH + request,
    any command) the handler, with the stream open, is waiting: it has requested no tunnel, started
    no relay, and written nothing (inside the greeting) or exactly the method selection `05 00`
    (greeting complete) — a prefix of whatever it writes in the end.  If the client closes there, the
    same state ends in an unexpected-EOF error: nothing more is written, nothing is requested. -/
theorem session_prefix_needMore5 (ms : Bytes) (hl : ms.length ≤ 255) (h0 : (0 : UInt8) ∈ ms)
    (r : Rfc1928.Request) (hr : r.wf) (rsv : UInt8) (p q : Bytes)
    (hpq : Rfc1928.greeting ms ++ requestRsv r rsv = p ++ q) (hq : q ≠ []) (env : Env) :
    ∃ tr c, ((p.length < (Rfc1928.greeting ms).length ∧ tr = []) ∨
             ((Rfc1928.greeting ms).length ≤ p.length ∧
                tr = [.wrote (Rfc1928.methodSelection 0x00)])) ∧
      session ⟨p, false⟩ env = ⟨tr, c, [], .needMore⟩ ∧
      ∃ ctx, session ⟨p, true⟩ env = ⟨tr, c, [], .err (.socks (.reader (.eof ctx)))⟩ := by
  rcases List.append_eq_append_iff.mp hpq with ⟨c', hp, hreq⟩ | ⟨a', hg, hq'⟩
  · -- `p` = greeting + a strict prefix of the request
    subst hp
    obtain ⟨h1, ctx, h2⟩ := read5_prefix_rsv r hr rsv c' q hreq hq
    unfold read5 at h1 h2
    refine ⟨[.wrote (Rfc1928.methodSelection 0x00)], (Rfc1928.greeting ms).length,
      Or.inr ⟨by simp, rfl⟩, ?_, ctx, ?_⟩
    · rw [session_greeting ms hl, if_pos h0]
      simp [socks5Request, Sess.run, h1]
    · rw [session_greeting ms hl, if_pos h0]
      simp [socks5Request, Sess.run, h2]
  · -- `p` ends inside the greeting (or exactly at its end)
    by_cases ha : a' = []
    · subst ha
      simp only [List.append_nil] at hg
      subst hg
      simp only [List.nil_append] at hq'
      obtain ⟨h1, ctx, h2⟩ := read5_prefix_rsv r hr rsv [] q (by simpa using hq'.symm) hq
      unfold read5 at h1 h2
      refine ⟨[.wrote (Rfc1928.methodSelection 0x00)], (Rfc1928.greeting ms).length,
        Or.inr ⟨Nat.le_refl _, rfl⟩, ?_, ctx, ?_⟩
      · have := session_greeting ms hl [] false env
        rw [List.append_nil] at this
        rw [this, if_pos h0]
        simp [socks5Request, Sess.run, h1]
      · have := session_greeting ms hl [] true env
        rw [List.append_nil] at this
        rw [this, if_pos h0]
        simp [socks5Request, Sess.run, h2]
    · have hlen : p.length < (Rfc1928.greeting ms).length := by
        have e1 := congrArg List.length hg
        have e2 : 0 < a'.length := List.length_pos_iff.mpr ha
        rw [List.length_append] at e1
        omega
      cases p with
      | nil =>
        exact ⟨[], 0, Or.inl ⟨hlen, rfl⟩, by simp [session_nil], .version, by simp [session_nil]⟩
      | cons v p' =>
        have hv : v = 5 ∧ (Rfc1928.greeting ms).drop 1 = p' ++ a' := by
          simp only [Rfc1928.greeting, List.cons_append, List.cons.injEq] at hg
          exact ⟨hg.1.symm, by simpa [Rfc1928.greeting] using hg.2⟩
        obtain ⟨rfl, hd⟩ := hv
        obtain ⟨h1, ctx, h2⟩ := authMethods_prefix_needMore_or_error ms hl p' a' hd ha
        unfold readMethods at h1 h2
        refine ⟨[], 1, Or.inl ⟨hlen, rfl⟩, ?_, ctx, ?_⟩
        · simp [session_cons, socks5, Sess.run, h1]
        · simp [session_cons, socks5, Sess.run, h2]

private theorem session_prefix4 {tail p q : Bytes} (hpq : 4 :: tail = p ++ q) (env : Env)
    (hread : ∀ p', tail = p' ++ q → read4 p' false = .needMore ∧ ∃ ctx, read4 p' true = .error (.eof ctx) []) :
    ∃ c, session ⟨p, false⟩ env = ⟨[], c, [], .needMore⟩ ∧
      ∃ ctx, session ⟨p, true⟩ env = ⟨[], c, [], .err (.socks (.reader (.eof ctx)))⟩ := by
  cases p with
  | nil => exact ⟨0, by simp [session_nil], .version, by simp [session_nil]⟩
  | cons v p' =>
    cases List.cons.inj hpq with
    | intro hv hd =>
      subst hv
      obtain ⟨h1, ctx, h2⟩ := hread p' hd
      unfold read4 at h1 h2
      exact ⟨1, by simp [session_cons, socks4, Sess.run, h1], ctx, by simp [session_cons, socks4, Sess.run, h2]⟩

/-- SOCKS4: on every strict prefix of a well-formed request the handler waits, having written
    nothing and requested nothing; closed there, it returns an unexpected-EOF error. -/
theorem session_prefix_needMore4 (r : Socks4a.Request4) (hr : r.wf) (p q : Bytes)
    (hpq : Socks4a.request4 r = p ++ q) (hq : q ≠ []) (env : Env) :
    ∃ c, session ⟨p, false⟩ env = ⟨[], c, [], .needMore⟩ ∧
      ∃ ctx, session ⟨p, true⟩ env = ⟨[], c, [], .err (.socks (.reader (.eof ctx)))⟩ :=
  session_prefix4 (tail := (Socks4a.request4 r).drop 1) hpq env
    fun p' hd => read4_prefix_needMore_or_error r hr p' q hd hq

theorem session_prefix_needMore4a (r : Socks4a.Request4a) (hr : r.wf) (p q : Bytes)
    (hpq : Socks4a.request4a r = p ++ q) (hq : q ≠ []) (env : Env) :
    ∃ c, session ⟨p, false⟩ env = ⟨[], c, [], .needMore⟩ ∧
      ∃ ctx, session ⟨p, true⟩ env = ⟨[], c, [], .err (.socks (.reader (.eof ctx)))⟩ :=
  session_prefix4 (tail := (Socks4a.request4a r).drop 1) hpq env
    fun p' hd => read4a_prefix_needMore_or_error r hr p' q hd hq

/-- How the client's bytes are cut into chunks does not matter.  If after the bytes `p` (stream still
    open) the handler has returned or entered the bridge, then after ANY further bytes `q`, and
    whether or not the client then closes, the outcome is the same — same trace, same result, same
    bytes consumed — except that a bridge is handed `q` as well, behind what it already had. -/
theorem session_chunking_independent (p q : Bytes) (eof : Bool) (env : Env)
    (h : (session ⟨p, false⟩ env).result ≠ .needMore) :
    session ⟨p ++ q, eof⟩ env =
      if (session ⟨p, false⟩ env).result = .bridge then
        { session ⟨p, false⟩ env with leftover := (session ⟨p, false⟩ env).leftover ++ q }
      else session ⟨p, false⟩ env := by
  have := run_stable (onSocksAccept env) p q eof 0 [] h
  simp only [session]
  rw [this, extend]
  split
  · rename_i hb; simp [hb]
  · rename_i hb
    have : ¬ ((onSocksAccept env).run p false 0 []).result = .bridge := fun hh => hb hh
    simp [this]

/-- And while the handler is still waiting, everything it has done so far — the ordered trace, hence
    the bytes written and the tunnels requested — is an initial part of what it will have done after
    any continuation: effects are never revised, only added. -/
theorem session_prefix_monotone (p q : Bytes) (eof : Bool) (env : Env) :
    (session ⟨p, false⟩ env).trace <+: (session ⟨p ++ q, eof⟩ env).trace ∧
    (session ⟨p, false⟩ env).written <+: (session ⟨p ++ q, eof⟩ env).written ∧
    (session ⟨p, false⟩ env).requests <+: (session ⟨p ++ q, eof⟩ env).requests ∧
    (session ⟨p, false⟩ env).consumed ≤ (session ⟨p ++ q, eof⟩ env).consumed := by
  obtain ⟨⟨t, ht⟩, hc⟩ := run_mono (onSocksAccept env) p q eof 0 []
  refine ⟨⟨t, ht⟩, ?_, ?_, hc⟩
  · refine ⟨written t, ?_⟩
    simp only [Outcome.written, session]
    rw [← ht, written_append]
  · refine ⟨requests t, ?_⟩
    simp only [Outcome.requests, session]
    rw [← ht, requests_append]

private theorem replies4 {rest X : Bytes} {eof : Bool} {env : Env} {q : Req} {c : Nat}
    (hs : session ⟨4 :: rest, eof⟩ env = (dispatch4 env q).run X eof c []) :
    ∃ hd, SocksClient.clientReads4 (session ⟨4 :: rest, eof⟩ env).written = some hd ∧
      (hd = none ∨ hd = some 90 ∨ hd = some 91) := by
  rw [hs, dispatch4_run]
  by_cases hc : q.cmd = 1
  · simp only [hc, if_true, connectRun_written]
    by_cases hy : env.reserveOk = true ∧ env.streamOk = true
    · exact ⟨some 90, by simp [hy, written, writes]; decide, .inr (.inl rfl)⟩
    · exact ⟨none, by simp [hy, written, writes, SocksClient.clientReads4], .inl rfl⟩
  · simp only [hc, if_false]
    exact ⟨some 91, by simp only [Outcome.written]; decide, .inr (.inr rfl)⟩

/-- Whatever the client sends and whatever the environment answers (bound addresses being IPv4 or
    IPv6 socket addresses), everything the handler has written is what a conforming client can read:
      * to a SOCKS5 client: nothing yet; or the method selection `05 00` / `05 FF` and nothing more;
        or `05 00` followed by exactly one RFC 1928 reply with a defined reply code (0..8);
      * to a SOCKS4 client: nothing, or exactly one 8-byte reply with `CD` 90 or 91;
      * to anything else: nothing. -/
theorem session_replies_are_rfc (inp : Input) (env : Env) (hu : ∀ a, env.udp = .bound a → a.wf) :
    match inp.bytes with
    | [] => (session inp env).written = []
    | v :: _ =>
      if v = 5 then
        ∃ hd, SocksClient.clientReads5 (session inp env).written = some hd ∧
          (hd = .nothing ∨ hd = .method 0x00 ∨ hd = .method 0xFF ∨
            ∃ rep a p, hd = .reply rep a p ∧ rep.toNat ≤ 8)
      else if v = 4 then
        ∃ hd, SocksClient.clientReads4 (session inp env).written = some hd ∧
          (hd = none ∨ hd = some 90 ∨ hd = some 91)
      else (session inp env).written = [] := by
  obtain ⟨b, eof⟩ := inp
  cases shape b eof env with
  | empty hb => subst hb; simp [session_nil, Outcome.written, written, writes]
  | badVersion v rest hb h4 h5 =>
    subst hb
    simp [h4, h5, session_unknown_version v h4 h5, Outcome.written, written, writes]
  | short4 rest hb res hs =>
    subst hb
    simp only [hs, show ((4 : UInt8) = 5) = False by decide, if_false, if_true]
    exact ⟨none, by simp [Outcome.written, written, writes, SocksClient.clientReads4], Or.inl rfl⟩
  | shortMethods rest hb res hs =>
    subst hb
    simp only [hs, if_true]
    exact ⟨.nothing, by simp [Outcome.written, written, writes, SocksClient.clientReads5], Or.inl rfl⟩
  | noNoauth ms X hl h0 hb =>
    subst hb
    simp only [Rfc1928.greeting, List.cons_append, if_true]
    have := session_no_noauth ms hl h0 X eof env
    simp only [Rfc1928.greeting, List.cons_append] at this
    rw [this]
    exact ⟨.method 0xFF, by simp only [Outcome.written]; decide, Or.inr (Or.inr (Or.inl rfl))⟩
  | shortRequest ms X hl h0 hb w hw res hs =>
    subst hb
    rw [hs]
    simp only [Rfc1928.greeting, List.cons_append, if_true]
    rcases hw with rfl | rfl
    · exact ⟨.method 0x00, by simp only [Outcome.written]; decide, Or.inr (Or.inl rfl)⟩
    · exact ⟨.reply 0x08 (.ipv4 0 0 0 0) 0, by simp only [Outcome.written]; decide,
        Or.inr (Or.inr (Or.inr ⟨_, _, _, rfl, by decide⟩))⟩
  | req4 r X hr hb =>
    subst hb
    rw [show Socks4a.request4 r ++ X = 4 :: ((Socks4a.request4 r).drop 1 ++ X) from rfl]
    simp only [show ((4 : UInt8) = 5) = False by decide, if_false, if_true]
    exact replies4 (socks4_run_request4 r hr X eof env)
  | req4a r X hr hb =>
    subst hb
    rw [show Socks4a.request4a r ++ X = 4 :: ((Socks4a.request4a r).drop 1 ++ X) from rfl]
    simp only [show ((4 : UInt8) = 5) = False by decide, if_false, if_true]
    exact replies4 (socks4_run_request4a r hr X eof env)
  | req5 ms r rsv Y hl h0 hr hb =>
    subst hb
    have hs := session_request5_run ms hl h0 r hr rsv Y eof env
    have hb5 : Rfc1928.greeting ms ++ requestRsv r rsv ++ Y
        = 5 :: ((Rfc1928.greeting ms).drop 1 ++ requestRsv r rsv ++ Y) := by
      simp [Rfc1928.greeting]
    rw [hb5] at hs ⊢
    simp only [if_true]
    rw [hs]
    by_cases hc : r.cmd = 1
    · simp only [hc, if_true, connectRun_written]
      by_cases hy : env.reserveOk = true ∧ env.streamOk = true
      · exact ⟨.reply 0x00 (.ipv4 0 0 0 0) 0, by simp [hy, written, writes]; decide,
          Or.inr (Or.inr (Or.inr ⟨_, _, _, rfl, by decide⟩))⟩
      · exact ⟨.method 0x00, by simp [hy, written, writes]; decide, Or.inr (Or.inl rfl)⟩
    · by_cases hc3 : r.cmd = 3
      · simp only [hc3, show ((3 : UInt8) = 1) = False by decide, if_false, if_true]
        obtain ⟨x, hx, hcase⟩ := assocRun_written env Y eof
          ((Rfc1928.greeting ms).length + (requestRsv r rsv).length)
          [.wrote (Rfc1928.methodSelection 0x00)]
        rw [hx]
        rcases hcase with rfl | ⟨a, hua, rfl⟩
        · exact ⟨.reply 0x01 (.ipv4 0 0 0 0) 0, by decide,
            Or.inr (Or.inr (Or.inr ⟨_, _, _, rfl, by decide⟩))⟩
        · have hp := client_parses_response5 0 a (hu a hua)
          refine ⟨.reply 0 (addrOf a) (portOf a), ?_, Or.inr (Or.inr (Or.inr ⟨_, _, _, rfl, by decide⟩))⟩
          cases hw : writeResponse5 0 a with
          | nil => rw [hw] at hp; simp [Rfc1928.clientParseReply] at hp
          | cons y ys =>
            rw [hw] at hp
            simp [written, writes, Rfc1928.methodSelection, SocksClient.clientReads5, hp]
      · simp only [hc, hc3, if_false]
        exact ⟨.reply 0x07 (.ipv4 0 0 0 0) 0, by simp only [Outcome.written]; decide,
          Or.inr (Or.inr (Or.inr ⟨_, _, _, rfl, by decide⟩))⟩

-- the hypotheses of the CONNECT theorems: methods [GSSAPI, NOAUTH], CONNECT www:80, env says yes
example : (0 : UInt8) ∈ ([1, 0] : Bytes) ∧ (Rfc1928.Request.mk 1 (.domain [0x77, 0x77, 0x77]) 80).wf := by
  decide
-- the dialogue followed by two bytes of optimistic data, stream still open
example : session ⟨[5, 2, 1, 0] ++ [5, 1, 0, 3, 3, 0x77, 0x77, 0x77, 0, 80] ++ [0xaa, 0xbb], false⟩
      ⟨true, true, .bindFails⟩
    = ⟨[.wrote [5, 0], .reserved, .requested ⟨.domain, [0x77, 0x77, 0x77]⟩ 80, .gotStream,
        .wrote [5, 0, 0, 1, 0, 0, 0, 0, 0, 0]], 14, [0xaa, 0xbb], .bridge⟩ := by decide
-- the same cut inside the domain name: waiting, only the method selection written
example : session ⟨[5, 2, 1, 0, 5, 1, 0, 3, 3, 0x77], false⟩ ⟨true, true, .bindFails⟩
    = ⟨[.wrote [5, 0]], 4, [], .needMore⟩ := by decide
example : session ⟨[5, 2, 1, 0, 5, 1, 0, 3, 3, 0x77], true⟩ ⟨true, true, .bindFails⟩
    = ⟨[.wrote [5, 0]], 4, [], .err (.socks (.reader (.eof .domainAddress)))⟩ := by decide
-- no stream: the request is made, no reply at all follows
example : session ⟨[5, 1, 0, 5, 1, 0, 1, 10, 0, 0, 1, 0, 80], true⟩ ⟨true, false, .bindFails⟩
    = ⟨[.wrote [5, 0], .reserved, .requested ⟨.ipv4, [10, 0, 0, 1]⟩ 80], 13, [],
        .err .fatalMainLoopExit⟩ := by decide
-- methods without NOAUTH; BIND; SOCKS4 BIND; SOCKS4a CONNECT with user id "a", domain "ww", data 7
example : session ⟨[5, 2, 1, 2, 9, 9], false⟩ ⟨true, true, .bindFails⟩
    = ⟨[.wrote [5, 0xFF]], 4, [], .err .otherAuth⟩ := by decide
example : session ⟨[5, 1, 0, 5, 2, 0, 1, 10, 0, 0, 1, 0, 80], false⟩ ⟨true, true, .bindFails⟩
    = ⟨[.wrote [5, 0], .wrote [5, 7, 0, 1, 0, 0, 0, 0, 0, 0]], 13, [],
        .err (.socks (.invalidCommand 2))⟩ := by decide
example : session ⟨[4, 2, 0, 80, 1, 2, 3, 4, 0x61, 0], false⟩ ⟨true, true, .bindFails⟩
    = ⟨[.wrote [0, 91, 0, 0, 0, 0, 0, 0]], 10, [], .err (.socks (.invalidCommand 2))⟩ := by decide
example : session ⟨[4, 1, 0, 80, 0, 0, 0, 1, 0x61, 0, 0x77, 0x77, 0, 7], false⟩ ⟨true, true, .bindFails⟩
    = ⟨[.reserved, .requested ⟨.domain, [0x77, 0x77]⟩ 80, .gotStream, .wrote [0, 90, 0, 0, 0, 0, 0, 0]],
        13, [7], .bridge⟩ := by decide
-- UDP ASSOCIATE with the relay bound at 127.0.0.1:4660: waits; one more byte ends the association
example : (SockAddr.v4 [127, 0, 0, 1] 4660).wf := by decide
example : session ⟨[5, 1, 0, 5, 3, 0, 1, 0, 0, 0, 0, 0, 0], false⟩ ⟨true, true, .bound (.v4 [127, 0, 0, 1] 4660)⟩
    = ⟨[.wrote [5, 0], .relayStarted (.v4 [127, 0, 0, 1] 4660),
        .wrote [5, 0, 0, 1, 127, 0, 0, 1, 0x12, 0x34]], 13, [], .needMore⟩ := by decide
example : session ⟨[5, 1, 0, 5, 3, 0, 1, 0, 0, 0, 0, 0, 0, 9, 9], false⟩ ⟨true, true, .bound (.v4 [127, 0, 0, 1] 4660)⟩
    = ⟨[.wrote [5, 0], .relayStarted (.v4 [127, 0, 0, 1] 4660),
        .wrote [5, 0, 0, 1, 127, 0, 0, 1, 0x12, 0x34], .relayAborted], 14, [], .ok⟩ := by decide
-- a conforming client reads `05 00` + the success reply
example : SocksClient.clientReads5 [5, 0, 5, 0, 0, 1, 127, 0, 0, 1, 0x12, 0x34]
    = some (.reply 0 (.ipv4 127 0 0 1) 4660) := by decide
-- … and would not read a reply that came without the method selection, or a truncated one
example : SocksClient.clientReads5 [5, 0, 0, 1, 0, 0, 0, 0, 0, 0] = none := by decide
example : SocksClient.clientReads5 [5, 0, 5, 0, 0, 1, 127, 0, 0, 1, 0x12] = none := by decide
-- chunking: decided after the first 14 bytes, later bytes only reach the bridge
example : (session ⟨[5, 2, 1, 0, 5, 1, 0, 3, 3, 0x77, 0x77, 0x77, 0, 80], false⟩ ⟨true, true, .bindFails⟩).result
    = .bridge := by decide

end Penguin.C18
