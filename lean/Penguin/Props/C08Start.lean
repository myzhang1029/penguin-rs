/-
C08 — When the connection ends, everything resolves: the stimuli of `Model/MuxStart.lean`.

`Props/C08.lean` quantifies over histories of `Mux.Op`.  Two stimuli of the correspondence harness
are not in `Mux.Op`: a transport whose OUTBOUND direction fails (`sinkfail`, `applySinkFail`) and
the first poll of a connection task that was created but not polled yet (`start`, `applyStart`;
until then every call is `opStep` alone).  The theorems here state the end-of-connection properties
for them — for every endpoint state, and for EVERY history `ops : List OpX` (`Model/MuxHist.lean`)
from a fresh endpoint (any options, any script of id draws):

* a poll with a failed sink ends the connection at once (which modes end at once, which were
  already ending), and with it every pending open request and every pending bind request is
  answered, the flow table is empty, every stream is closed in both directions, every parked writer
  is woken — also when that poll is the task's FIRST one, whatever was called before it;
* in every reachable state whose task has finished: no request is pending, the flow table is empty,
  all streams are closed, all parked writers woken; the end is final; each request is answered at
  most once over the whole history;
* no Close reaches the wire through a failed sink, and a finished task transmits nothing.

The invariants are those behind `Props/C08.lean`, shown for `taskPollSinkFailed`, `applySinkFail` and
`applyStart` in the files `Lemmas/MuxStart*` and lifted to `runOpsX` in `Lemmas/MuxStartHist`.
-/
import Penguin.Model.Mux
import Penguin.Model.MuxStart
import Penguin.Model.MuxHist
import Penguin.Lemmas.MuxStartRel
import Penguin.Lemmas.MuxStartOnce
import Penguin.Lemmas.MuxStartEnd
import Penguin.Lemmas.MuxStartKept
import Penguin.Lemmas.MuxStartTx
import Penguin.Lemmas.MuxStartHist
import Penguin.Lemmas.MuxStartPre
import Penguin.Lemmas.MuxStartAns

namespace Penguin.C08
open Penguin Penguin.Mux

/-- A failing sink ends the connection at once.  On an endpoint whose task has not finished and is
    in none of the two wind-down waits (`closing`: waiting for the peer's end; `draining`: the drain
    after a local drop), the poll with the failed sink
    * finishes the task, or — only if the receive loop itself ended the connection in this very poll
      (e.g. it found the peer's Close among the delivered items, without the end of the source) —
      leaves it waiting for the peer's end;
    * once the poll has finished the task, the stimulus leaves the endpoint finished with its
      outbound queue closed;
    * it does finish the task when the receive loop has nothing to do (nothing delivered, no
      hand-over parked), and when the source has already ended or failed (the end marker is among
      the delivered items, or was seen before) — nothing waits for the application or the peer. -/
theorem sinkfail_ends_the_connection (e : EP) (hd : e.dead = false) (hc : e.closing = none) (hdr : e.draining = none) :
    ((taskPollSinkFailed e).1.dead = true ∨ (taskPollSinkFailed e).1.closing.isSome = true) ∧
    ((taskPollSinkFailed e).1.dead = true →
      (applySinkFail e).1.dead = true ∧ (applySinkFail e).1.outClosed = true) ∧
    ((e.inbox = [] ∧ e.park = none) ∨ hasEnd e.inbox = true ∨ e.srcEnded = true →
      (applySinkFail e).1.dead = true) := by
  refine ⟨taskPollSinkFailed_ends e hd hc, fun h => ?_, fun h => applySinkFail_dead e ?_⟩
  · exact ⟨applySinkFail_dead e h,
      (applySinkFail_ended e (Ended.of_running hd hc hdr)).closed (Or.inl (applySinkFail_dead e h))⟩
  · rcases h with ⟨hi, hp⟩ | h | h
    · exact taskPollSinkFailed_quiet_dead e hd hc hdr hi hp
    · exact taskPollSinkFailed_hasEnd e hd hc hdr (Or.inl h)
    · exact taskPollSinkFailed_hasEnd e hd hc hdr (Or.inr h)

/-- "A failing sink ALWAYS finishes a running task at once" is false of the model (and of the code it
    follows): when the peer's Close has been delivered but not the end of the source, the receive loop
    ends the connection itself in that poll and the task waits for the peer's end — with the requests
    still pending until it arrives (the close-handshake wait recorded as a known finding in
    `Props/C08.lean`; the harness's transport always ends the source right after a Close, so its runs
    do not reach this).  Witness: an open request, then a bare Close handed to the transport, before a
    first poll on a failed sink. -/
theorem sinkfail_may_leave_the_task_waiting_for_the_peer :
    ∃ ops : List OpX,
      let e := runOpsX (initX {} [7]) ops
      e.dead = false ∧ e.closing = none ∧ e.draining = none ∧
      (applyStart e true).1.dead = false ∧ (applyStart e true).1.closing = some .ok ∧ pend (applyStart e true).1 = [1] :=
  ⟨[.pre (.open 1 [] 80), .preDeliver [.msg .close]], by decide⟩

/-- The modes that were already ending.  Finished, or waiting for the peer's end: the sink is not
    used any more, the poll does nothing.  Parked in the drain after a local drop: the drain ends
    (the queue is discarded) and the rest of the wind-down follows with the result of the drop — the
    task finishes, or (clean result, source still open, no end delivered) waits for the peer's end;
    it finishes when the source has ended or the result is an error. -/
theorem sinkfail_while_already_ending (e : EP) :
    (e.dead = true ∨ e.closing.isSome = true → taskPollSinkFailed e = (e, [])) ∧
    (∀ res, e.dead = false → e.closing = none → e.draining = some res →
      ((taskPollSinkFailed e).1.dead = true ∨ (taskPollSinkFailed e).1.closing = some res) ∧
      (hasEnd e.inbox = true ∨ e.srcEnded = true ∨ res ≠ .ok → (taskPollSinkFailed e).1.dead = true)) :=
  ⟨taskPollSinkFailed_idle e, fun res hd hc hdr => taskPollSinkFailed_draining e res hd hc hdr⟩

/-- What "everything resolves" means for one stimulus from `e` to `e'` with events `evs`:
    1. the task has finished and the outbound queue is closed;
    2. the flow table is empty;
    3. no open request is pending (neither waiting nor answered-but-not-returned);
    4. every open request that was pending has its answer among the events of this stimulus;
    5. every `BindRequested` slot got its answer among the events of this stimulus;
    6. every stream object is closed in both directions (reads end, writes fail);
    7. every writer parked on flow-control credit has been woken. -/
def Resolved (e e' : EP) (evs : List Ev) : Prop :=
  (e'.dead = true ∧ e'.outClosed = true) ∧
  e'.flows = [] ∧
  (e'.opens = [] ∧ e'.doneq = []) ∧
  (∀ q, q ∈ pend e → q ∈ doneReqs evs) ∧
  (∀ fid q, lookup e.flows fid = some (.bindRequested q) → q ∈ doneB evs) ∧
  (Inv2 e → ∀ (i : Nat) (ob : Obj), e'.objs[i]? = some ob → ob.closed) ∧
  (Inv2 e → WakeOk e → ∀ (i : Nat) (ob : Obj), e'.objs[i]? = some ob → ob.parked = true → ob.woken = true)

/-- A failing sink resolves every pending request.  `e` is any endpoint state whose task has not
    finished and is not waiting for the peer's end (`Ended e` holds in every reachable state, and
    trivially for a running one: `Ended.of_running`).  If the poll finishes the task
    (`sinkfail_ends_the_connection` says when), then after the stimulus: the task is finished, the
    flow table empty, no open request pending; every open request that was pending and every
    `BindRequested` slot has its answer among the emitted events (each at most once:
    `each_request_answered_at_most_once_x`); all streams are closed, all parked writers woken. -/
theorem sinkfail_resolves_every_pending_request (e : EP) (hd : e.dead = false) (he : Ended e)
    (hfin : (taskPollSinkFailed e).1.dead = true) :
    Resolved e (applySinkFail e).1 (applySinkFail e).2.2 := by
  have hdead := applySinkFail_dead e hfin
  have hended := applySinkFail_ended e he
  have hflows : (applySinkFail e).1.flows = [] := hended.empty hdead
  have hpend : pend (applySinkFail e).1 = [] := applySinkFail_done e he (Tidy.of_alive hd) hdead
  have hk := Kept.applySinkFail e
  refine ⟨⟨hdead, hended.closed (Or.inl hdead)⟩, hflows, pend_nil hpend, ?_, ?_, ?_, ?_⟩
  · intro q hq
    rcases hk.opens q hq with h | h
    · rw [hpend] at h; cases h
    · exact h
  · intro fid q hq
    rcases hk.binds fid q hq with h | h
    · rw [hflows] at h; simp at h
    · exact h
  · intro hi
    exact (applySinkFail_inv e hi).dead_all_closed hdead
  · intro hi hw
    exact (applySinkFail_inv e hi).dead_all_woken (Keeps.applySinkFail e hw) hdead

/-- WHICH answers: on a running endpoint whose receive loop has nothing to do (nothing delivered and
    unprocessed, no hand-over parked — the state between two stimuli of a healthy connection) the
    failing sink answers every bind request `refused` and every open request `Closed` — or
    `FlowIdRejected` when the peer had rejected it and no retry is left; a stream is handed out only
    for a request the peer had acknowledged before and whose future had not run yet (none after a
    `settle`).  (When frames are still waiting in the transport the receive loop processes them in
    the same poll first, and an answer may be what the peer sent.) -/
theorem sinkfail_answers_are_negative (e : EP) (hd : e.dead = false) (hc : e.closing = none) (hdr : e.draining = none)
    (hi : e.inbox = []) (hp : e.park = none) :
    (∀ q r, Ev.bindDone q r ∈ (applySinkFail e).2.2 → r = .refused) ∧
    (∀ q r, Ev.openDone q r ∈ (applySinkFail e).2.2 →
      r = .closed ∨ r = .rejected ∨ ((∃ h, r = .ok h) ∧ q ∈ e.doneq.map (·.1))) :=
  ⟨fun q r h => applySinkFail_quiet_ans e hd hc hdr hi hp (Ev.bindDone q r) h,
   fun q r h => applySinkFail_quiet_ans e hd hc hdr hi hp (Ev.openDone q r) h⟩

/-- The same at the earliest point: the task's FIRST poll finds the sink already failed
    (`applyStart e true`), whatever calls were made and whatever was delivered before — `e` is any
    state (every unstarted history leads to one with `dead = false`, `Ended`, `Inv2`, `WakeOk`:
    `unstarted_history_is_running`).  Requests made before the first poll do not stay pending. -/
theorem start_on_dead_transport_resolves_everything (e : EP) (hd : e.dead = false) (he : Ended e)
    (hfin : (taskPollSinkFailed e).1.dead = true) :
    Resolved e (applyStart e true).1 (applyStart e true).2.2 := by
  rw [applyStart_failed]
  exact sinkfail_resolves_every_pending_request e hd he hfin

/-- Every history of an endpoint whose task has not been polled yet (application calls and
    deliveries into the transport, `opStep` / `deliverMany` alone) leaves the task neither finished
    nor winding down, in a well-formed state — so the two theorems above apply to its first poll:
    that poll, with a failed sink, finishes the task or leaves it waiting for the peer's end, and
    finishes it when nothing needs receiving or the source has ended. -/
theorem unstarted_history_is_running (o : Opts) (rng : List Nat) (pres : List OpX) (hpre : pres.all isPre = true) :
    let e := runOpsX (initX o rng) pres
    e.dead = false ∧ e.closing = none ∧ e.draining = none ∧ Ended e ∧ Inv2 e ∧ WakeOk e ∧
    ((taskPollSinkFailed e).1.dead = true ∨ (taskPollSinkFailed e).1.closing.isSome = true) ∧
    ((e.inbox = [] ∧ e.park = none) ∨ hasEnd e.inbox = true ∨ e.srcEnded = true →
      (applyStart e true).1.dead = true) := by
  intro e
  have f := pre_flags (initX o rng) pres hpre
  have hd : e.dead = false := f.dead
  have hc : e.closing = none := f.closing
  have hdr : e.draining = none := f.draining
  refine ⟨hd, hc, hdr, reachableX_ended o rng pres, reachableX_inv o rng pres, reachableX_wakeOk o rng pres,
    taskPollSinkFailed_ends e hd hc, ?_⟩
  intro h
  rw [applyStart_failed]
  exact (sinkfail_ends_the_connection e hd hc hdr).2.2 h

/-- The clause "at any point, including before the task's first poll", unconditionally: WHATEVER the
    application calls before the first poll — open requests, bind requests, datagrams, drops of the
    `Multiplexor`, cancellations, in any number and order, with any options and id draws; nothing
    delivered yet — if the sink has failed by the time of the first poll, that poll finishes the task
    and everything is resolved (`Resolved`: every one of those requests is answered in that very
    step, none stays pending, the table is empty, …), and nothing at all is transmitted. -/
theorem requests_before_first_poll_resolve_on_dead_transport (o : Opts) (rng : List Nat) (pres : List OpX)
    (hpre : pres.all isPreCall = true) :
    let e := runOpsX (initX o rng) pres
    Resolved e (applyStart e true).1 (applyStart e true).2.2 ∧ txOf (applyStart e true).2.2 = [] := by
  intro e
  have hp := all_isPre_of_isPreCall hpre
  have f := pre_flags (initX o rng) pres hp
  have hd : e.dead = false := f.dead
  have hfin : (taskPollSinkFailed e).1.dead = true := preCall_start_failed_dead o rng pres hpre
  refine ⟨start_on_dead_transport_resolves_everything e hd (reachableX_ended o rng pres) hfin, ?_⟩
  rw [applyStart_failed]
  exact applySinkFail_quiet_tx e hd f.closing f.draining (preCall_inbox _ pres hpre) (pre_park _ pres hp)

/-- Neither the connection task nor the open futures ever drop a request silently: across `settle`
    (the task's run to quiescence after any stimulus), across a poll with a failed sink and across a
    first poll, every open request that was pending is still pending or has its answer among the
    emitted events, and every `BindRequested` slot is still in the table or has its answer there.
    (An application that gives a request up — `cancelOpen` — is the only way one leaves unanswered.) -/
theorem task_never_drops_a_request (e : EP) (sf : Bool) :
    Kept e (settle e).1 (settle e).2 ∧
    Kept e (applySinkFail e).1 (applySinkFail e).2.2 ∧
    Kept e (applyStart e sf).1 (applyStart e sf).2.2 :=
  ⟨Kept.settle e, Kept.applySinkFail e, Kept.applyStart e sf⟩

/-- The end is final, also across failing sinks and first polls: once the task has finished and
    the outbound queue is closed they stay so through every further history; a dropped
    `Multiplexor` stays dropped. -/
theorem the_end_is_final_x (e : EP) (ops : List OpX) :
    (e.dead = true → (runOpsX e ops).dead = true) ∧
    (e.outClosed = true → (runOpsX e ops).outClosed = true) ∧
    (e.muxAlive = false → (runOpsX e ops).muxAlive = false) :=
  ⟨(Mono.runOpsX e ops).dead, (Mono.runOpsX e ops).outClosed, (Mono.runOpsX e ops).muxGone⟩

/-- In EVERY state an endpoint can reach — any options, any script of id draws, any history of calls
    before the first poll, first polls, stimuli of the started task and failing sinks — once the
    task has finished, every stream object ever created is closed in both directions and no flow
    refers to a stream. -/
theorem every_stream_closed_after_end_x (o : Opts) (rng : List Nat) (ops : List OpX)
    (hd : (runOpsX (initX o rng) ops).dead = true) :
    (∀ (i : Nat) (ob : Obj), (runOpsX (initX o rng) ops).objs[i]? = some ob → ob.closed) ∧
    (∀ fid i, lookup (runOpsX (initX o rng) ops).flows fid ≠ some (.established i)) :=
  ⟨reachableX_dead_all_closed o rng ops hd, (reachableX_inv o rng ops).2 hd⟩

/-- … the flow table is empty (and stays empty: calls on an ended connection take the slot they
    inserted out again), and while the task is winding down or finished the outbound queue is closed. -/
theorem ended_connection_table_is_empty_x (o : Opts) (rng : List Nat) (ops : List OpX) :
    ((runOpsX (initX o rng) ops).dead = true → (runOpsX (initX o rng) ops).flows = []) ∧
    ((runOpsX (initX o rng) ops).dead = true ∨ (runOpsX (initX o rng) ops).draining ≠ none ∨
      (runOpsX (initX o rng) ops).closing ≠ none → (runOpsX (initX o rng) ops).outClosed = true) :=
  ⟨(reachableX_ended o rng ops).empty, (reachableX_ended o rng ops).closed⟩

/-- … and NO open request is pending: no `new_stream_channel` future is still waiting, none is
    answered without having returned.  (Together with the empty flow table: no bind request is
    pending either.)  This is the clause "at any point, including before the task's first poll":
    whatever ended the connection — the peer, the source, a failing sink, a first poll on a dead
    transport — nothing stays pending for ever. -/
theorem no_request_pending_after_end_x (o : Opts) (rng : List Nat) (ops : List OpX)
    (hd : (runOpsX (initX o rng) ops).dead = true) :
    (runOpsX (initX o rng) ops).opens = [] ∧ (runOpsX (initX o rng) ops).doneq = [] ∧
    pendB (runOpsX (initX o rng) ops) = [] := by
  have h := pend_nil (reachableX_done o rng ops hd)
  refine ⟨h.1, h.2, ?_⟩
  unfold pendB
  rw [(reachableX_ended o rng ops).empty hd]; rfl

/-- Each request is answered at most once over the whole history, and only requests that were
    started are answered: for every history whose open requests (resp. bind requests) are numbered
    without repetition, the `openDone` (resp. `bindDone`) events of the whole run name each request
    at most once and only started ones. -/
theorem each_request_answered_at_most_once_x (o : Opts) (rng : List Nat) (ops : List OpX) :
    ((opensOfX ops).Nodup →
      (doneReqs (runOpsXEv (initX o rng) ops).2).Nodup ∧
      ∀ r, r ∈ doneReqs (runOpsXEv (initX o rng) ops).2 → r ∈ opensOfX ops) ∧
    ((bindsOfX ops).Nodup →
      (doneB (runOpsXEv (initX o rng) ops).2).Nodup ∧
      ∀ r, r ∈ doneB (runOpsXEv (initX o rng) ops).2 → r ∈ bindsOfX ops) :=
  ⟨answered_at_most_once_x o rng ops, binds_answered_at_most_once_x o rng ops⟩

/-- Nothing blocks for ever, writers included: in every reachable state whose task has finished,
    every writer that was parked on flow-control credit has been woken. -/
theorem parked_writers_woken_after_end_x (o : Opts) (rng : List Nat) (ops : List OpX)
    (hd : (runOpsX (initX o rng) ops).dead = true) (i : Nat) (ob : Obj)
    (ho : (runOpsX (initX o rng) ops).objs[i]? = some ob) (hp : ob.parked = true) : ob.woken = true :=
  (reachableX_inv o rng ops).dead_all_woken (reachableX_wakeOk o rng ops) hd i ob ho hp

/-- In every reachable state, finished or not: the flow table and the stream objects are consistent
    (`WF`), a parked un-woken writer has no credit and an open stream (`WakeOk`), the queues respect
    their bounds and flow id 0 is never in the table (`Bnd`), and an `Established` slot under id `x`
    refers to an object of id `x` (`SlotFidE`). -/
theorem reachable_wellformed_x (o : Opts) (rng : List Nat) (ops : List OpX) :
    WF (runOpsX (initX o rng) ops) ∧ WakeOk (runOpsX (initX o rng) ops) ∧ Bnd o (runOpsX (initX o rng) ops) ∧
    SlotFidE (runOpsX (initX o rng) ops) :=
  ⟨(reachableX_inv o rng ops).1, reachableX_wakeOk o rng ops, reachableX_bnd o rng ops, reachableX_slotFid o rng ops⟩

/-- No Close on the wire through a failed sink.  In NO state does the poll with a failed sink emit
    `wireClose`; once that poll has finished the task, the whole stimulus emits none and everything
    it emits after the poll is no transmission at all; on a running endpoint whose receive loop has
    nothing to do the stimulus transmits nothing whatsoever (what was queued is discarded). -/
theorem no_close_on_wire_after_sinkfail (e : EP) :
    Ev.wireClose ∉ (taskPollSinkFailed e).2 ∧
    ((taskPollSinkFailed e).1.dead = true →
      Ev.wireClose ∉ (applySinkFail e).2.2 ∧
      ∃ later, (applySinkFail e).2.2 = (taskPollSinkFailed e).2 ++ later ∧ txOf later = []) ∧
    (e.dead = false → e.closing = none → e.draining = none → e.inbox = [] → e.park = none →
      txOf (applySinkFail e).2.2 = []) := by
  refine ⟨taskPollSinkFailed_no_close_mem e, ?_, ?_⟩
  · intro hd
    obtain ⟨later, h1, h2⟩ := applySinkFail_after_poll_tx e hd
    refine ⟨?_, later, h1, h2⟩
    apply not_mem_of_closesOf
    rw [h1, closesOf_append, taskPollSinkFailed_no_close, closesOf_of_txOf h2]; rfl
  · exact applySinkFail_quiet_tx e

/-- A finished task transmits nothing, whatever happens next: no message and no Close is handed to
    the sink by any later stimulus of any kind. -/
theorem nothing_transmitted_after_the_end_x (e : EP) (hd : e.dead = true) (ops : List OpX) :
    txOf (runOpsXEv e ops).2 = [] :=
  dead_runOpsXEv_tx e ops hd

/-- An open request and a bind request, both unanswered (ids 7 and 9 from the script). -/
def twoRequests : List OpX := [.op (.open 1 [104] 80), .op (.bindReq 2 .stream [] 8080)]

/-- They are pending on a running endpoint whose receive loop has nothing to do … -/
example : let e := runOpsX (initX {} [7, 9]) twoRequests
    (e.dead = false ∧ e.closing = none ∧ e.draining = none ∧ e.inbox = [] ∧ e.park = none ∧
     e.flows = [(9, .bindRequested 2), (7, .requested 1)] ∧ pend e = [1] ∧ pendB e = [2]) := by decide

/-- … the sink fails: both are answered, nothing is pending, the table is empty, the task is
    finished with the transport error, and no Close was sent. -/
example : (runOpsXEv (initX {} [7, 9]) (twoRequests ++ [.sinkfail])).2 =
    [.wire (.frame (.connect 7 4 80 [104])), .wire (.frame (.bind 9 .stream 8080 [])),
     .bindDone 2 .refused, .openDone 1 .closed, .exit .wsError] := by decide
example : let e := runOpsX (initX {} [7, 9]) (twoRequests ++ [.sinkfail])
    (e.dead = true ∧ e.flows = [] ∧ pend e = [] ∧ pendB e = []) := by decide
example : let e := runOpsX (initX {} [7, 9]) twoRequests
    ((taskPollSinkFailed e).1.dead = true ∧ (applySinkFail e).2.2 = [.bindDone 2 .refused, .openDone 1 .closed, .exit .wsError]) := by
  decide

/-- The same two requests made BEFORE the task's first poll, on a transport whose sink has failed
    already: the first poll answers them (C08-9's scenario). -/
def twoRequestsUnstarted : List OpX := [.pre (.open 1 [104] 80), .pre (.bindReq 2 .stream [] 8080)]

example : twoRequestsUnstarted.all isPre = true ∧ twoRequestsUnstarted.all isPreCall = true := by decide
example : let e := runOpsX (initX {} [7, 9]) twoRequestsUnstarted
    (e.inbox = [] ∧ e.park = none ∧ pend e = [1] ∧ pendB e = [2] ∧
     e.outq = [.frame (.connect 7 4 80 [104]), .frame (.bind 9 .stream 8080 [])]) := by decide
example : (runOpsXEv (initX {} [7, 9]) (twoRequestsUnstarted ++ [.start true])).2 =
    [.bindDone 2 .refused, .openDone 1 .closed, .exit .wsError] := by decide
example : let e := runOpsX (initX {} [7, 9]) (twoRequestsUnstarted ++ [.start true])
    (e.dead = true ∧ e.flows = [] ∧ pend e = [] ∧ pendB e = []) := by decide
/-- With a sink that works the first poll sends the two requests instead. -/
example : (runOpsXEv (initX {} [7, 9]) (twoRequestsUnstarted ++ [.start false])).2 =
    [.wire (.frame (.connect 7 4 80 [104])), .wire (.frame (.bind 9 .stream 8080 []))] := by decide

/-- The second disjunct of `sinkfail_ends_the_connection` is real: the peer's Close was delivered
    without the end of the source; the receive loop ends the connection itself in the poll and the
    task waits for the peer's end (the requests are answered when that arrives). -/
example : let e := runOpsX (initX {} [7, 9]) (twoRequestsUnstarted ++ [.preDeliver [.msg .close], .start true])
    (e.dead = false ∧ e.closing = some .ok ∧ pend e = [1]) := by decide
example : let e := runOpsX (initX {} [7, 9]) (twoRequestsUnstarted ++ [.preDeliver [.msg .close], .start true, .op (.deliver .eof)])
    (e.dead = true ∧ pend e = [] ∧ pendB e = []) := by decide

/-- A parked writer is woken by the failing sink (window 1: the second write parks). -/
example : let e := runOpsX (initX {} []) [.op (.deliver (.msg (.frame (.connect 5 1 80 [])))), .op .accept,
      .op (.write 0 [1]), .op (.write 0 [2]), .sinkfail]
    (e.dead = true ∧ e.objs.map (fun ob => (ob.parked, ob.woken, ob.finishSent, ob.senderAlive)) = [(true, true, true, false)]) := by
  decide

/-- Draining after a local drop with a stalled sink, then the sink fails: the task goes on to wait
    for the peer's end (`sinkfail_while_already_ending`); the source's end finishes it. -/
example : let e := runOpsX (initX {} [7]) [.op (.sinkRoom (some 0)), .op (.open 1 [] 80), .op .dropMux]
    (e.dead = false ∧ e.draining = some .ok ∧ e.outq.length = 1) := by decide
example : let e := runOpsX (initX {} [7]) [.op (.sinkRoom (some 0)), .op (.open 1 [] 80), .op .dropMux, .sinkfail]
    (e.dead = false ∧ e.draining = none ∧ e.closing = some .ok ∧ e.outq = []) := by decide
example : let e := runOpsX (initX {} [7]) [.op (.sinkRoom (some 0)), .op (.open 1 [] 80), .op .dropMux, .sinkfail,
      .op (.deliver .eof)]
    (e.dead = true ∧ pend e = [] ∧ e.flows = []) := by decide

end Penguin.C08
