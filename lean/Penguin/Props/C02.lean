/-
C02 — Logical streams deliver bytes intact, in order, exactly once, without cross-talk.
Over the link model (every action sequence, every window and threshold) for the byte-level
statements; over the endpoint model (every state, every frame) for "no cross-talk"; over the pair of
endpoint models for the running phase; and over EVERY history of one endpoint model with ANY peer
(wind-down, faults and misbehaving peers included) for receiver and sender integrity
(`receiver_integrity_every_history`, `sender_integrity_every_history`, …); and over EVERY history of TWO
endpoint models joined by FIFO wires, connection end and faults included
(`pair_reads_are_prefix_of_peer_writes_every_history`, `Model/PairAll.lean`).
-/
import Penguin.Model.Link
import Penguin.Model.Mux
import Penguin.Model.MuxVec
import Penguin.Model.Frame
import Penguin.Lemmas.Link
import Penguin.Lemmas.MuxStep
import Penguin.Lemmas.PairHarness
import Penguin.Lemmas.PairBytes
import Penguin.Lemmas.MuxIntegritySrc
import Penguin.Lemmas.PairAllRun

namespace Penguin.C02
open Penguin Penguin.Link

/-- Every byte accepted by a successful write is, at every moment, in exactly one place and in
    order: already read, in the reader's buffer, in its queue, or in flight. -/
theorem bytes_conserved (W th : Nat) (hW : 0 < W) (hth : th ≤ W) (as : List Act) :
    let s := run (init W th) as
    s.delivered ++ s.buf ++ s.rxq.flatten ++ (pushes s.wire).flatten = s.accepted :=
  (reach_inv hW hth as).hdata

/-- The bytes obtained by the reading end are at every moment a prefix of the bytes accepted by
    successful writes on the other end, in the same order. -/
theorem delivered_is_prefix (W th : Nat) (hW : 0 < W) (hth : th ≤ W) (as : List Act) :
    (run (init W th) as).delivered <+: (run (init W th) as).accepted := by
  have h := bytes_conserved W th hW hth as
  simp only at h
  rw [← h, List.append_assoc, List.append_assoc]
  exact List.prefix_append _ _

/-- When the writer has shut down (or aborted) and the reader has read to end-of-stream, the two
    byte sequences are equal. -/
theorem equal_at_eof (W th : Nat) (hW : 0 < W) (hth : th ≤ W) (as : List Act)
    (he : (run (init W th) as).eofSeen = true) :
    (run (init W th) as).delivered = (run (init W th) as).accepted :=
  (eof_facts _ (reach_inv hW hth as) he).2

/-- A vectored write is the write of the concatenation: one `Push` whose payload is the pieces back
    to back (the encoder's `encodePushVectored`; the endpoint model writes `pieces.flatten`). -/
theorem vectored_is_concat (id : Nat) (pieces : List Bytes) :
    encodePushVectored id pieces = encode (.push id pieces.flatten) := rfl

/-- Exactly once: a byte leaves the reader's queue only by being returned by a read — the number of
    bytes delivered never exceeds the number accepted. -/
theorem never_duplicated (W th : Nat) (hW : 0 < W) (hth : th ≤ W) (as : List Act) :
    (run (init W th) as).delivered.length ≤ (run (init W th) as).accepted.length :=
  (delivered_is_prefix W th hW hth as).length_le

open Penguin.Mux in
/-- No cross-talk: a `Push` addressed to flow `fid` never changes the stream object of any other
    flow, whatever the state of the endpoint and whatever the frame carries. -/
theorem no_crosstalk (e : EP) (fid : Nat) (d : Bytes) (ig : Bool) (j : Nat) (hj : j < e.objs.length)
    (hne : lookup e.flows fid ≠ some (.established j)) :
    (processFrame e (.push fid d) ig).1.objs[j]? = e.objs[j]? :=
  Mux.processFrame_other_obj e (.push fid d) ig j hj (by
    intro f hf
    simp only [Msg.flow?, Frame.id, Option.some.injEq] at hf
    subst hf; exact hne)

open Penguin.Mux Penguin.Pair in
/-- On every flow established on both endpoints, in every reachable state of the pair (every
    interleaving, any number of concurrent flows, every pair of options): what `b`'s application has
    read on the stream, what its handle buffers, what its queue holds and what is in flight add up, in
    order, to exactly what `a`'s application wrote on the stream — so the bytes read are a prefix of
    the bytes written, and bytes of other flows never appear (they are filtered out by flow id). -/
theorem pair_bytes_conserved {oa ob : Opts} {ra rb : List Nat} (c : Cfg oa ob ra rb) (as : List (Pair.Side × Pair.Act))
    {x i j : Nat} (e : Established (Pair.run (Pair.init oa ob ra rb) as) x i j) :
    let p := Pair.run (Pair.init oa ob ra rb) as
    ∃ oB, p.b.objs[j]? = some oB ∧
      p.gb.rlog j ++ oB.buf ++ oB.rxq.flatten ++ (pushesOf x (pathAB p)).flatten = p.ga.wlog i ∧
      p.gb.rlog j <+: p.ga.wlog i :=
  established_bytes (reach_inv c as) e

open Penguin.Mux Penguin.Pair in
/-- … and in the direction `b → a`. -/
theorem pair_bytes_conserved_rev {oa ob : Opts} {ra rb : List Nat} (c : Cfg oa ob ra rb) (as : List (Pair.Side × Pair.Act))
    {x i j : Nat} (e : Established (Pair.run (Pair.init oa ob ra rb) as) x i j) :
    let p := Pair.run (Pair.init oa ob ra rb) as
    ∃ oA, p.a.objs[i]? = some oA ∧
      p.ga.rlog i ++ oA.buf ++ oA.rxq.flatten ++ (pushesOf x (pathBA p)).flatten = p.gb.wlog j ∧
      p.ga.rlog i <+: p.gb.wlog j :=
  established_bytes (reach_inv c as).swap e.swap

open Penguin.Mux Penguin.Pair in
/-- No cross-talk at the level of the pair: on each endpoint exactly one stream object carries the
    flow id of an established flow, so frames of the flow reach that object and no other. -/
theorem pair_one_object_per_flow {oa ob : Opts} {ra rb : List Nat} (c : Cfg oa ob ra rb) (as : List (Pair.Side × Pair.Act))
    {x i j : Nat} (e : Established (Pair.run (Pair.init oa ob ra rb) as) x i j) :
    let p := Pair.run (Pair.init oa ob ra rb) as
    (∀ k o, p.a.objs[k]? = some o → o.fid = x → k = i) ∧ (∀ k o, p.b.objs[k]? = some o → o.fid = x → k = j) := by
  obtain ⟨_, _, _, _, _, _, _, _, _, _, h1, h2⟩ := established_dir (reach_inv c as) e
  exact ⟨h1, h2⟩

open Penguin.Mux Penguin.Pair in
/-- The same at the level the correspondence harness works at: after EVERY history of stimuli
    (application calls and deliveries at either endpoint, each followed by that endpoint's run to
    quiescence, `Mux.applyOp`), on every established flow the bytes read are a prefix of the bytes
    written and every written byte is in exactly one place. -/
theorem harness_history_bytes {oa ob : Opts} {ra rb : List Nat} (c : Cfg oa ob ra rb) (l : List (Pair.Side × Stim)) (q : PS)
    (h : stimRun (Pair.init oa ob ra rb) l = some q) {x i j : Nat} (e : Established q x i j) :
    ∃ oB, q.b.objs[j]? = some oB ∧
      q.gb.rlog j ++ oB.buf ++ oB.rxq.flatten ++ (pushesOf x (pathAB q)).flatten = q.ga.wlog i ∧
      q.gb.rlog j <+: q.ga.wlog i :=
  established_bytes (stim_history_inv c l q h) e

open Penguin.Mux Penguin.Pair in
/-- … and after a `batch` stimulus (several application calls of one endpoint back to back before its
    task runs — `Mux.applyBatch`, what the driver executes), applied to any reachable state of the
    pair: it is a run of the fine-grained actions, so the invariant, and with it every `pair_*`
    theorem, holds afterwards. -/
theorem harness_batch_is_a_run {oa ob : Opts} {ra rb : List Nat} (c : Cfg oa ob ra rb) (as : List (Pair.Side × Pair.Act))
    (q : PS) (ops : List Mux.Op) (acts : List Pair.Act) (hacts : ops.map actOf = acts.map some)
    (hen : runL (Pair.run (Pair.init oa ob ra rb) as) acts = some q)
    (hidle : Idle q.a) (hsr : q.a.sinkRoom = none) (hr : (settle q.a).1.rng ≠ []) :
    let p := Pair.run (Pair.init oa ob ra rb) as
    Pair.Inv { q with a := (applyBatch p.a ops).1, ab := p.ab ++ wiresOf (applyBatch p.a ops).2.2 } :=
  batch_inv _ q (reach_inv c as) ops acts hacts hen hidle hsr hr

/-! Non-vacuity of the pair theorems: a concrete run (windows 2, threshold 1) that opens a stream,
    writes three bytes, reads them in two reads, shuts down and reads end-of-stream. -/
private def pcfg : Mux.Opts := { rwnd := 2, threshold := 1 }
private def pacts : List (Pair.Side × Pair.Act) :=
  [(.A, .open 1 [104] 80), (.A, .xmit), (.B, .recv), (.B, .xmit), (.A, .recv), (.A, .runDone), (.B, .accept),
   (.A, .write 0 [1, 2, 3]), (.A, .xmit), (.B, .recv), (.B, .read 0 2), (.B, .read 0 9), (.B, .xmit), (.A, .recv),
   (.A, .shutdown 0), (.A, .xmit), (.B, .recv), (.B, .read 0 9)]
example : Pair.Cfg pcfg pcfg [7, 8] [9, 10] := ⟨by decide, by decide, by decide, by decide⟩
example : Pair.Established (Pair.run (Pair.init pcfg pcfg [7, 8] [9, 10]) pacts) 7 0 0 :=
  ⟨by decide, by decide, by decide, by decide, by decide⟩
example : (Pair.run (Pair.init pcfg pcfg [7, 8] [9, 10]) pacts).gb.rlog 0 = [1, 2, 3] := by decide

open Penguin.Mux Penguin.Pair Penguin.PairBytes in
/-- `pair_bytes_conserved` for two endpoint models joined by wires that carry the ENCODED bytes of
    each frame, the receiver decoding before `process_frame`: on every flow established on both
    endpoints, in every reachable state, what `b`'s application has read, what its handle buffers,
    what its queue holds, the `Push` payloads found by decoding the Binary messages in transit and
    those still queued at `a` add up, in order, to exactly what `a`'s application wrote.
    (`c`: sane windows, distinct non-zero ids; `w`, `has`: the ranges the Rust types enforce — see
    `C09.byte_pair_refines_frame_pair`, through which the frame-level theorem is transported.) -/
theorem pair_bytes_conserved_over_byte_wires {oa ob : Opts} {ra rb : List Nat} (c : Cfg oa ob ra rb)
    (w : WireCfg oa ob ra rb) (as : List (Pair.Side × Pair.Act)) (has : ∀ sa ∈ as, sa.2.inRange)
    {x i j : Nat} (e : Established (runb (initb oa ob ra rb) as).view x i j) :
    let pb := runb (initb oa ob ra rb) as
    ∃ oB, pb.b.objs[j]? = some oB ∧
      pb.gb.rlog j ++ oB.buf ++ oB.rxq.flatten ++ (pushesOf x (decWire pb.ab ++ pb.a.outq)).flatten = pb.ga.wlog i ∧
      pb.gb.rlog j <+: pb.ga.wlog i := by
  intro pb
  have he : pb = enc (Pair.run (Pair.init oa ob ra rb) as) := reach_enc w as has
  have hv : pb.view = Pair.run (Pair.init oa ob ra rb) as := by rw [he]; exact view_enc _ (reach_wf w as has)
  have e' : Established (Pair.run (Pair.init oa ob ra rb) as) x i j := by rw [← hv]; exact e
  have h := pair_bytes_conserved c as e'
  simp only at h
  rw [← hv] at h
  exact h

/-! Non-vacuity over byte wires: the run above, the flow established, the `Push` in transit as bytes. -/
private def pactsW : List (Pair.Side × Pair.Act) :=
  [(.A, .open 1 [104] 80), (.A, .xmit), (.B, .recv), (.B, .xmit), (.A, .recv), (.A, .runDone), (.B, .accept),
   (.A, .write 0 [1, 2, 3]), (.A, .xmit)]
example : PairBytes.WireCfg pcfg pcfg [7, 8] [9, 10] := ⟨by decide, by decide, by decide⟩
example : ∀ sa ∈ pactsW, sa.2.inRange := by decide
example : Pair.Established (PairBytes.runb (PairBytes.initb pcfg pcfg [7, 8] [9, 10]) pactsW).view 7 0 0 :=
  ⟨by decide, by decide, by decide, by decide, by decide⟩
example : (PairBytes.runb (PairBytes.initb pcfg pcfg [7, 8] [9, 10]) pactsW).ab = [.bin [0x74, 0, 0, 0, 7, 1, 2, 3]] := by decide
example : (PairBytes.runb (PairBytes.initb pcfg pcfg [7, 8] [9, 10]) pactsW).ga.wlog 0 = [1, 2, 3] := by decide

/-! ### Stream integrity for EVERY history of ONE endpoint with ANY peer

The pair theorems above speak about two conforming endpoints while the connection runs.  The theorems
below speak about one endpoint (`Mux.EP`) and every history of stimuli `Mux.Op` from the fresh state:
application calls, faults, and deliveries of ARBITRARY incoming messages — the peer is unconstrained;
wind-down, a dropped `Multiplexor`, transport errors, undecodable frames, window overruns and flow ids
reused by the peer are all inside the quantifier.  `Mux.runOpsG` runs the history and keeps the record
of what could be observed (`Mux.Ghost`):
* `accepted` — `(i, d)`: `process_frame` accepted a `Push` with payload `d` into stream object `i`.  This
  is decided by `process_frame`'s own test evaluated on the state BEFORE the frame is processed
  (`Mux.acceptedInto`: the frame's flow id has a slot `Established i`, the object still has its `Sender`,
  an open `Receiver` and room in its bounded queue), frame by frame along the task's run
  (`Mux.settleLog` mirrors `settleLoop`/`windDown`: several inbox items can be processed per stimulus);
* `returned` — `(i, bs)`: a `read` through a handle of object `i` answered `data bs` (from the call's result);
* `discarded` — `(i, bs)`: the application dropped the handle of object `i` while `bs` was queued unread;
* `wrote` — `(i, x, d)`: a `write` of `d ≠ []` through a handle of object `i` (flow id `x`) answered `wrote`;
* `evs` — every event the endpoint emitted (`Ev.wire m` = `m` was handed to the transport).
None of these is defined from the fields the theorems equate them with. -/

open Penguin.Mux in
/-- Receiver integrity.  After every history, for every stream object `i`: the bytes its reads have
    returned, then the handle's buffer, then the queued frames, then what was thrown away when the
    handle was dropped, are — in order, each byte once — exactly the payloads of the `Push` frames that
    `process_frame` accepted into THAT object.  Nothing else ever enters a stream: not a frame of another
    flow, not a frame that arrived while another object (or none) held the id, not a datagram, nothing
    the wind-down does; and nothing accepted is lost or reordered, through the wind-down included. -/
theorem receiver_integrity_every_history (o : Opts) (ops : List Mux.Op) (i : Nat) (ob : Obj)
    (hi : (runOps { opts := o } ops).objs[i]? = some ob) :
    let g := (runOpsG { opts := o } {} ops).2
    chunks g.returned i ++ ob.buf ++ ob.rxq.flatten ++ chunks g.discarded i = chunks g.accepted i := by
  have h := (receiver_inv o ops).eq i
  rw [← runOpsG_fst _ {} ops] at hi
  simp only [Mux.str, strO, hi, Obj.stream] at h
  simpa [List.append_assoc] using h

open Penguin.Mux in
/-- … and as long as no stream handle was dropped nothing is discarded: read ++ buffered ++ queued is
    exactly what was accepted.  (`Mux.discardedBy_spec`: only `dropStream` on a handle of `i` ever
    discards bytes of object `i`.) -/
theorem receiver_integrity_no_drop (o : Opts) (ops : List Mux.Op) (hnd : ∀ op ∈ ops, ∀ h, op ≠ Mux.Op.dropStream h)
    (i : Nat) (ob : Obj) (hi : (runOps { opts := o } ops).objs[i]? = some ob) :
    let g := (runOpsG { opts := o } {} ops).2
    chunks g.returned i ++ ob.buf ++ ob.rxq.flatten = chunks g.accepted i := by
  have h := receiver_integrity_every_history o ops i ob hi
  have hd := discarded_nil_of_no_drop { opts := o } {} ops hnd
  simp only at h ⊢
  rw [hd] at h
  simpa using h

open Penguin.Mux in
/-- What a stream's reader has seen is, at every moment of every history, a prefix of the payloads of
    the `Push` frames accepted into its object, in order. -/
theorem reads_are_prefix_of_accepted_pushes (o : Opts) (ops : List Mux.Op) (i : Nat) :
    chunks (runOpsG { opts := o } {} ops).2.returned i <+: chunks (runOpsG { opts := o } {} ops).2.accepted i := by
  have h := (receiver_inv o ops).eq i
  rw [← h, List.append_assoc]
  exact List.prefix_append _ _

open Penguin.Mux in
/-- Where accepted frames come from.  The payloads accepted into stream objects (all objects together,
    in the order of acceptance) are a SUBSEQUENCE of the payloads of the `Push` frames the transport
    delivered, in delivery order: a delivered `Push` is accepted at most once, into at most one object,
    never out of order, and nothing that was not delivered as a `Push` is ever accepted.  The frames of
    one object are a subsequence of those, and its byte stream is their concatenation. -/
theorem accepted_pushes_are_delivered_once_in_order (o : Opts) (ops : List Mux.Op) (i : Nat) :
    let g := (runOpsG { opts := o } {} ops).2
    List.Sublist (Log.data g.accepted) (deliveredData ops) ∧
    List.Sublist (Log.dataOf g.accepted i) (Log.data g.accepted) ∧
    chunks g.accepted i = (Log.dataOf g.accepted i).flatten :=
  ⟨accepted_sublist_delivered o ops, Log.dataOf_sub _ i, chunks_eq_flatten _ i⟩

open Penguin.Mux in
/-- Sender integrity.  After every history: the `Push` frames handed to the transport so far, followed
    by those still in the outbound queue, are — as (flow id, payload), in order — a prefix of the writes
    that answered `wrote` (each with the flow id of the object behind the handle used, which is the
    object's own id for ever: third conjunct), and they are ALL of them as long as the outbound queue
    is open.  So every successful write is sent exactly once, in order, under its own stream's id, and
    no other `Push` is ever enqueued or sent — whatever the peer does; once the connection is torn down
    after an error or a Close what was still queued is dropped (a prefix was sent), after a dropped
    `Multiplexor` it is sent first.  (`g.evs` is `(Mux.runOpsEv _ ops).2`: `Mux.runOpsG_evs`.) -/
theorem sender_integrity_every_history (o : Opts) (ops : List Mux.Op) :
    let e := runOps { opts := o } ops
    let g := (runOpsG { opts := o } {} ops).2
    (pushesEv g.evs ++ pushesQ e.outq <+: wroteFrames g.wrote) ∧
    (e.outClosed = false → pushesEv g.evs ++ pushesQ e.outq = wroteFrames g.wrote) ∧
    (∀ w ∈ g.wrote, ∃ ob, e.objs[w.1]? = some ob ∧ ob.fid = w.2.1) := by
  have h := sender_inv o ops
  have hw := wrote_ids { opts := o } {} ops (by intro w hw; cases hw)
  rw [runOpsG_fst] at h hw
  exact ⟨h.1, h.2, hw⟩

open Penguin.Mux in
/-- No cross-talk, history form.  In every state (so after every history) and for every stimulus: the
    readable bytes of stream object `i` change only by `i`'s own events — if the stimulus returns nothing
    from `i`, discards nothing of `i`, and no frame is accepted into `i` while the task runs, they are
    exactly what they were, whatever happens to other streams and to the connection.  And those events
    are tied to `i`: bytes are returned from `i` only by a `read` through a handle of `i`; a frame is
    accepted into `i` only if it is a `Push` whose flow id is at that moment the id of the slot
    `Established i` — and it is then accepted into no other object and leaves every other object's
    readable bytes untouched. -/
theorem no_crosstalk_every_history (e : EP) (op : Mux.Op) (i : Nat) :
    (chunks (settleLog (opStep e op).1) i = [] → chunks (returnedBy e op (applyOp e op).2.1) i = [] →
      chunks (discardedBy e op) i = [] → str (applyOp e op).1 i = str e i) ∧
    (∀ bs, (i, bs) ∈ returnedBy e op (applyOp e op).2.1 →
      ∃ h n, op = .read h n ∧ (applyOp e op).2.1 = .data bs ∧ e.handles[h]? = some i) ∧
    (∀ (e' : EP) (f : Frame) (ig : Bool) (d : Bytes), (i, d) ∈ acceptedInto e' f →
      (∃ fid, f = .push fid d ∧ lookup e'.flows fid = some (.established i) ∧ acceptedInto e' f = [(i, d)]) ∧
      ∀ j, j ≠ i → str (processFrame e' f ig).1 j = str e' j) :=
  ⟨stream_changes_only_by_own_events e op i,
   fun bs h => returnedBy_spec e op _ i bs h,
   fun e' f ig d h => ⟨acceptedInto_spec e' f i d h, fun j hj => accepted_frame_touches_one_object e' f ig i j d h hj⟩⟩

/-! Non-vacuity of the every-history theorems (windows 2, threshold 1; the peer opens the streams). -/
private def hcfg : Mux.Opts := { rwnd := 2, threshold := 1 }
private def fr (f : Frame) : Mux.Op := .deliver (.msg (.frame f))

/-- Two streams (flow ids 5 and 6, objects 0 and 1), `Push` frames interleaved, reads interleaved. -/
private def hTwo : List Mux.Op :=
  [fr (.connect 5 4 80 [104]), fr (.connect 6 4 81 [105]), .accept, .accept,
   fr (.push 5 [1, 2]), fr (.push 6 [9]), fr (.push 5 [3]), .read 0 1, .read 1 5, .read 0 5]
open Penguin.Mux in
example : (runOpsG { opts := hcfg } {} hTwo).2.accepted = [(0, [1, 2]), (1, [9]), (0, [3])] ∧
    (runOpsG { opts := hcfg } {} hTwo).2.returned = [(0, [1]), (1, [9]), (0, [2])] ∧
    chunks (runOpsG { opts := hcfg } {} hTwo).2.accepted 0 = [1, 2, 3] ∧
    chunks (runOpsG { opts := hcfg } {} hTwo).2.returned 0 = [1, 2] ∧
    (runOps { opts := hcfg } hTwo).objs.map (fun ob => (ob.buf, ob.rxq)) = [([], [[3]]), ([], [])] ∧
    deliveredData hTwo = [[1, 2], [9], [3]] := by decide
/-! … no handle is dropped in it (hypothesis of `receiver_integrity_no_drop`), and its second read is an
    event of object 1 in the sense of `no_crosstalk_every_history`. -/
example : ∀ op ∈ hTwo, ∀ h, op ≠ Mux.Op.dropStream h := by
  intro op hop h heq
  subst heq
  simp [hTwo, fr] at hop
open Penguin.Mux in
example : (1, [9]) ∈ returnedBy (runOps { opts := hcfg } (hTwo.take 8)) (.read 1 5)
    (applyOp (runOps { opts := hcfg } (hTwo.take 8)) (.read 1 5)).2.1 := by decide

/-- The connection ends (the peer sends Close) with two frames still queued; the reader then reads
    them all, and only then sees end-of-stream. -/
private def hEnd : List Mux.Op :=
  [fr (.connect 5 4 80 [104]), .accept, fr (.push 5 [1, 2]), fr (.push 5 [3]), .deliver (.msg .close),
   .read 0 9, .read 0 9]
open Penguin.Mux in
example : (runOps { opts := hcfg } (hEnd.take 5)).dead = true ∧
    (runOps { opts := hcfg } (hEnd.take 5)).objs.map (fun ob => (ob.buf, ob.rxq)) = [([], [[1, 2], [3]])] ∧
    chunks (runOpsG { opts := hcfg } {} hEnd).2.returned 0 = [1, 2, 3] ∧
    chunks (runOpsG { opts := hcfg } {} hEnd).2.accepted 0 = [1, 2, 3] ∧
    (applyOp (runOps { opts := hcfg } hEnd) (.read 0 9)).2.1 = .eof := by decide

/-- A misbehaving peer: a `Push` on an unknown flow (77), a datagram carrying stream 6's id, and a window
    overrun on stream 5 (third `Push` into a queue of 2: the flow is closed and reset, the fourth finds
    no flow) — while stream 6 accepts and keeps its frames, and stream 5's reader still gets, in order,
    what had been accepted. -/
private def hBad : List Mux.Op :=
  [fr (.connect 5 4 80 [104]), fr (.connect 6 4 81 [105]), .accept, .accept,
   fr (.push 77 [7, 7]), fr (.push 6 [9]), fr (.push 5 [1]), fr (.push 5 [2]), fr (.push 5 [3]), fr (.push 5 [4]),
   fr (.push 6 [8]), fr (.datagram 6 1 [1] [66]), .read 1 9, .read 0 9]
open Penguin.Mux in
example : (runOpsG { opts := hcfg } {} hBad).2.accepted = [(1, [9]), (0, [1]), (0, [2]), (1, [8])] ∧
    (runOpsG { opts := hcfg } {} hBad).2.returned = [(1, [9]), (0, [1])] ∧
    (runOps { opts := hcfg } hBad).flows = [(6, .established 1)] ∧
    (runOps { opts := hcfg } hBad).objs.map (fun ob => (ob.buf, ob.rxq, ob.senderAlive)) =
      [([], [[2]], false), ([], [[8]], true)] ∧
    deliveredData hBad = [[7, 7], [9], [1], [2], [3], [4], [8]] := by decide

/-- A handle is dropped with a frame queued: the frame is accounted for as discarded. -/
private def hDrop : List Mux.Op :=
  [fr (.connect 5 4 80 [104]), .accept, fr (.push 5 [1, 2]), fr (.push 5 [3]), .read 0 1, .dropStream 0]
open Penguin.Mux in
example : chunks (runOpsG { opts := hcfg } {} hDrop).2.returned 0 = [1] ∧
    (runOps { opts := hcfg } hDrop).objs.map (fun ob => (ob.buf, ob.rxq)) = [([2], [])] ∧
    chunks (runOpsG { opts := hcfg } {} hDrop).2.discarded 0 = [3] ∧
    chunks (runOpsG { opts := hcfg } {} hDrop).2.accepted 0 = [1, 2, 3] := by decide

/-- Sender: four successful writes (an empty one in between sends nothing), the transport accepting
    only the first two frames so far; a fifth write finds no credit.  Then the transport fails: the two
    queued frames are dropped with the connection, a later write is refused — a prefix was sent. -/
private def hSend : List Mux.Op :=
  [fr (.connect 5 4 80 [104]), .accept, .write 0 [1, 2], .write 0 [], .write 0 [3], .sinkRoom (some 0),
   .write 0 [4], .write 0 [5], .write 0 [6]]
open Penguin.Mux in
example : (runOpsG { opts := hcfg } {} hSend).2.wrote = [(0, 5, [1, 2]), (0, 5, [3]), (0, 5, [4]), (0, 5, [5])] ∧
    pushesEv (runOpsG { opts := hcfg } {} hSend).2.evs = [(5, [1, 2]), (5, [3])] ∧
    pushesQ (runOps { opts := hcfg } hSend).outq = [(5, [4]), (5, [5])] ∧
    (runOps { opts := hcfg } hSend).outClosed = false := by decide
open Penguin.Mux in
example : (runOpsG { opts := hcfg } {} (hSend ++ [.deliver .err, .write 0 [7]])).2.wrote =
      [(0, 5, [1, 2]), (0, 5, [3]), (0, 5, [4]), (0, 5, [5])] ∧
    pushesEv (runOpsG { opts := hcfg } {} (hSend ++ [.deliver .err, .write 0 [7]])).2.evs = [(5, [1, 2]), (5, [3])] ∧
    (runOps { opts := hcfg } (hSend ++ [.deliver .err, .write 0 [7]])).outq = [] ∧
    (runOps { opts := hcfg } (hSend ++ [.deliver .err, .write 0 [7]])).outClosed = true := by decide

/-! No cross-talk: the hypotheses of the first part are met for object 1 by a `Push` for object 0's flow
    (and object 1 has bytes to keep); those of the last part by that same `Push`. -/
open Penguin.Mux in
example : chunks (settleLog (opStep (runOps { opts := hcfg } (hTwo.take 6)) (fr (.push 5 [3]))).1) 1 = [] ∧
    chunks (settleLog (opStep (runOps { opts := hcfg } (hTwo.take 6)) (fr (.push 5 [3]))).1) 0 = [3] ∧
    str (runOps { opts := hcfg } (hTwo.take 6)) 1 = [9] ∧
    (0, [3]) ∈ acceptedInto (runOps { opts := hcfg } (hTwo.take 6)) (.push 5 [3]) := by decide

/-! ### Two endpoints, EVERY history: what a reader reads is a prefix of what the peer wrote

`Penguin.PairAll` (`Model/PairAll.lean`) joins two endpoint models by two FIFO wires at the stimulus level,
with nothing left out: a stimulus at either side is ANY stimulus of the endpoint model except a delivery
(`call op`: `open`, `accept`, `write`, `read`, `shutdown`, `dropStream`, the datagram and bind calls, `dropMux`,
`sinkRoom`, `cancelOpen`), the delivery of the oldest message on the wire to that side (`deliver`; a delivered
Close ends the source after it), or a transport fault (`cut`: the side's source fails or ends, what was on
the wire to it is lost, the wire stays closed).  Each side keeps the ghost record of the one-endpoint theorems
above (`Mux.Ghost` via `Mux.stepG`).  Flow ids come from two scripts that together are duplicate-free and do
not run out (`PairAll.Cfg`: no id is ever drawn twice; a stimulus that exhausts the acting side's script is
not enabled): the model's reading of "random 32-bit ids do not collide" — weaker than `Pair.Cfg` (no
hypothesis on windows, none on zero ids).  The proof composes sender integrity at the writer,
FIFO wires that lose only a suffix, "acceptance is prefix-closed per flow id" at the reader (a `Push x`
that is not accepted into the object is never followed by one that is, because `x` is established at most
once and never after a `Push x` was processed — an invariant of the pair, `Lemmas/PairAll*.lean`), and
receiver integrity at the reader. -/

open Penguin.Mux Penguin.PairAll in
/-- In every reachable state of the pair — after EVERY history of application calls, deliveries and
    transport faults at both sides, whatever happened: the connection ended in any state, a `Multiplexor`
    was dropped with data queued, the source failed in the middle of a burst, streams were reset, handles
    dropped — for every flow id `x` and BOTH directions: the bytes one side's application has read from
    a stream object carrying `x` (`Ghost.returned`, from the results of its `read` calls) are a PREFIX of
    the bytes the other side's application successfully wrote on flow `x` (`Ghost.wrote`, from the results of
    its `write` calls; `wroteOn x` = the payloads of the writes whose stream carries `x`, concatenated).
    Nothing is read that was not written, nothing out of order, nothing twice, nothing of another flow. -/
theorem pair_reads_are_prefix_of_peer_writes_every_history {ra rb : List Nat} (c : Cfg ra rb) (oa ob : Opts)
    (l : List (PairAll.Side × Stim)) (x : Nat) :
    let p := PairAll.run (PairAll.init oa ob ra rb) l
    (∀ j o, p.b.objs[j]? = some o → o.fid = x → chunks p.gb.returned j <+: wroteOn x p.ga.wrote) ∧
    (∀ i o, p.a.objs[i]? = some o → o.fid = x → chunks p.ga.returned i <+: wroteOn x p.gb.wrote) :=
  ⟨fun j o hj hx => reads_prefix_of_writes c oa ob l x j o hj hx,
   fun i o hi hx => reads_prefix_of_writes_rev c oa ob l x i o hi hx⟩

open Penguin.Mux Penguin.PairAll in
/-- The frame-level link between the one-endpoint theorems: in every reachable state of the
    pair, the payloads of the `Push` frames `process_frame` accepted into a stream object of `b` carrying `x`
    are a PREFIX (not merely a subsequence) of the payloads of the `Push x` frames `a`'s sink has taken, in
    order — once a `Push x` is not accepted (no slot, receiver closed, window overrun, wind-down, lost with
    the wire), no later `Push x` is accepted into any object carrying `x`. -/
theorem pair_accepted_pushes_are_prefix_of_peer_pushes_every_history {ra rb : List Nat} (c : Cfg ra rb) (oa ob : Opts)
    (l : List (PairAll.Side × Stim)) (x j : Nat) (o : Obj)
    (hj : (PairAll.run (PairAll.init oa ob ra rb) l).b.objs[j]? = some o) (hx : o.fid = x) :
    Log.dataOf (PairAll.run (PairAll.init oa ob ra rb) l).gb.accepted j <+:
      pX x (wireMsgs (PairAll.run (PairAll.init oa ob ra rb) l).ga.evs) :=
  accepted_prefix_of_sent c oa ob l x j o hj hx

/-! Non-vacuity (windows 2, threshold 1; scripts `[7, 8]` and `[9, 10]`; `a` opens flow 7, `b` accepts it). -/
private def qcfg : Mux.Opts := { rwnd := 2, threshold := 1 }
example : PairAll.Cfg [7, 8] [9, 10] := ⟨by decide, by decide, by decide⟩
open Penguin.PairAll in
private def qopen : List (PairAll.Side × Stim) :=
  [(.A, .call (.open 1 [104] 80)), (.B, .deliver), (.B, .call .accept), (.A, .deliver)]

open Penguin.PairAll in
/-- `a` writes two frames, the first is delivered, then the wire to `b` is cut (the source fails): `b` reads
    the first frame — a strict prefix of what was written — and then end-of-stream. -/
private def qCut : List (PairAll.Side × Stim) :=
  qopen ++ [(.A, .call (.write 0 [1, 2])), (.A, .call (.write 0 [3])), (.B, .deliver), (.B, .cut false),
            (.B, .call (.read 0 9))]
open Penguin.Mux Penguin.PairAll in
example : let p := PairAll.run (PairAll.init qcfg qcfg [7, 8] [9, 10]) qCut
    (p.b.objs.map (·.fid) = [7] ∧ p.b.dead = true ∧ p.abOpen = false ∧
     chunks p.gb.returned 0 = [1, 2] ∧ wroteOn 7 p.ga.wrote = [1, 2, 3] ∧
     (applyOp p.b (.read 0 9)).2.1 = .eof) := by decide

open Penguin.PairAll in
/-- `a` drops its `Multiplexor` with two frames queued behind a sink that takes nothing; when the sink takes
    again they are sent, then the Close; everything arrives, `b` reads it all and then end-of-stream. -/
private def qDrop : List (PairAll.Side × Stim) :=
  qopen ++ [(.A, .call (.sinkRoom (some 0))), (.A, .call (.write 0 [1, 2])), (.A, .call (.write 0 [3])),
            (.A, .call .dropMux), (.A, .call (.sinkRoom none)), (.B, .deliver), (.B, .deliver), (.B, .deliver),
            (.B, .call (.read 0 9)), (.B, .call (.read 0 9))]
open Penguin.Mux Penguin.PairAll in
example : let p := PairAll.run (PairAll.init qcfg qcfg [7, 8] [9, 10]) qDrop
    (p.a.muxAlive = false ∧ p.b.dead = true ∧ chunks p.gb.returned 0 = [1, 2, 3] ∧ wroteOn 7 p.ga.wrote = [1, 2, 3] ∧
     (applyOp p.b (.read 0 9)).2.1 = .eof) := by decide

open Penguin.PairAll in
/-- A frame that is invalid in the middle of the run: `b` drops its handle while `a` goes on writing; `a`'s
    next `Push` arrives for a flow `b` no longer has and is answered by a `Reset` (it is written, never read);
    after the `Reset` `a`'s writes fail. -/
private def qStale : List (PairAll.Side × Stim) :=
  qopen ++ [(.A, .call (.write 0 [1, 2])), (.B, .deliver), (.B, .call (.read 0 9)), (.A, .deliver),
            (.B, .call (.dropStream 0)), (.A, .call (.write 0 [3])), (.B, .deliver), (.A, .deliver), (.A, .deliver),
            (.A, .call (.write 0 [4]))]
open Penguin.Mux Penguin.PairAll in
example : let p := PairAll.run (PairAll.init qcfg qcfg [7, 8] [9, 10]) qStale
    (p.b.flows = [] ∧ p.a.flows = [] ∧ chunks p.gb.returned 0 = [1, 2] ∧ wroteOn 7 p.ga.wrote = [1, 2, 3] ∧
     (applyOp p.a (.write 0 [5])).2.1 = .brokenPipe) := by decide

example : (run (init 2 2) [.write [1, 2, 3], .deliver, .read 2, .write [4], .deliver, .read 9, .read 9]).delivered
    = [1, 2, 3, 4] := by decide
example : (run (init 1 1) [.write [7], .shutdown, .deliver, .deliver, .read 4, .read 4]).eofSeen = true := by decide

/-! ### The vectored entry point (`poll_write_vectored`, modelled on its own in `Model/MuxVec.lean`) -/

theorem totalLen_eq_flatten_length (ds : List Bytes) : Mux.totalLen ds = ds.flatten.length := by
  unfold Mux.totalLen
  induction ds with
  | nil => rfl
  | cons d ds ih => simp only [List.map_cons, List.sum_cons, List.flatten_cons, List.length_append, ih]

/-- `poll_write_vectored` with the slices `ds` IS `poll_write` with their concatenation: same result, same
    next state (credit, parked writer, queued `Push` frame with exactly the concatenated bytes), for every
    endpoint state, handle and slice list — no slices, empty slices and a total of 0 included. The byte-level
    theorems of this file, stated for `write`, therefore hold for vectored writes as they are. -/
theorem vectored_write_is_write_of_concatenation (e : Mux.EP) (h : Nat) (ds : List Bytes) :
    Mux.appWriteV e h ds = Mux.appWrite e h ds.flatten := by
  unfold Mux.appWriteV Mux.appWrite
  rw [totalLen_eq_flatten_length]
  generalize ds.flatten = d
  cases hh : e.handleObj h with
  | none => rfl
  | some p =>
    obtain ⟨i, o⟩ := p
    cases d with
    | nil =>
      simp only [List.length_nil, if_true, List.isEmpty_nil]
    | cons b d =>
      simp only [List.length_cons, Nat.add_one_ne_zero, if_false, List.isEmpty_cons, Bool.false_eq_true]

/-- A vectored write never sends more than one frame and never takes more than one unit of credit. -/
theorem vectored_write_one_frame_one_credit (e : Mux.EP) (h : Nat) (ds : List Bytes) (n : Nat)
    (hw : (Mux.appWriteV e h ds).2 = .wrote n) (hn : 0 < n) :
    ∃ i o, e.handleObj h = some (i, o) ∧ 0 < o.credit ∧ n = ds.flatten.length ∧
      (Mux.appWriteV e h ds).1 =
        (e.modObj i (fun o => { o with credit := o.credit - 1, parked := false })).enqFrame (.push o.fid ds.flatten) := by
  rw [vectored_write_is_write_of_concatenation] at hw ⊢
  unfold Mux.appWrite at hw ⊢
  cases hh : e.handleObj h with
  | none => simp [hh] at hw
  | some p =>
    obtain ⟨i, o⟩ := p
    simp only [hh] at hw ⊢
    refine ⟨i, o, rfl, ?_⟩
    by_cases hf : o.finishSent = true
    · simp [hf] at hw
    · by_cases hemp : ds.flatten.isEmpty = true
      · simp [hf, hemp] at hw; omega
      · by_cases hc : o.credit = 0
        · simp [hf, hemp, hc] at hw
        · by_cases ho : e.outClosed = true
          · simp [hf, hemp, hc, ho] at hw
          · simp [hf, hemp, hc, ho] at hw ⊢
            omega

/-- Non-vacuity: on the endpoint of `hTwo` (two established streams, the peer advertised a window of 4) a
    vectored write with an empty slice in the middle is accepted with its 3 bytes and queues one `Push`. -/
example : (Mux.appWriteV (Mux.runOps { opts := hcfg } hTwo) 0 [[1, 2], [], [3]]).2 = .wrote 3 := by decide

end Penguin.C02
