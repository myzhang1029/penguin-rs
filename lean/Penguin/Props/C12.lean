/-
C12 — No lost wake-ups or credit races between writer threads and the connection task.

Every theorem is about EVERY reachable state `run sc ls` of EVERY scenario `sc` (any initial credit,
any number of writer polls, any number of `acknowledge(n)` / `disallow_write()` threads) under
EVERY schedule `ls` of the atomic operations — induction over the step relation
(`Lemmas/Waker.lean`), not enumeration.  The model is sequentially consistent; see
`Model/Waker.lean` for what one step is and what is trusted (`AtomicWaker`'s register / wake).

The first part is about ONE writer thread per stream (what `AsyncWrite` allows); the second part
("Several writers on one stream", theorems `…_n`, model `Model/WakerN.lean`) about any number of writer
threads polling one stream through the `&self` entry points `poll_write_push` /
`poll_obtain_write_permission`.
-/
import Penguin.Model.Waker
import Penguin.Model.WakerN
import Penguin.Lemmas.Waker
import Penguin.Lemmas.WakerNInv
import Penguin.Lemmas.WakerNId
import Penguin.Lemmas.WakerNSim
import Penguin.Lemmas.MuxWake
import Penguin.Lemmas.LinkGlue

namespace Penguin.C12
open Penguin.Waker Penguin.Lemmas.Waker

/-- A writer that returned `Pending` from its last poll (it sleeps) is in one of three situations:
    there is nothing it could do (no credit and the stream is not closed); or the waker of that very
    poll has been woken (so the task is scheduled again); or an `acknowledge` / `disallow_write`
    has done its write and its `wake()` is that thread's next operation. -/
theorem no_lost_wakeup (sc : Scenario) (ls : List Label) :
    let s := run sc ls
    parked s = true →
      (s.credit = 0 ∧ s.closed = false) ∨ woken s = true ∨ wakePending s = true := by
  intro s hp
  have inv : Inv sc s := run_inv sc ls
  have hrw := inv.reg_or_woken (Or.inr (Or.inr hp))
  rcases hrw with hreg | hw
  · obtain ⟨hd, hc⟩ := inv.parked_ok hp hreg
    rcases idle_or_wake_coming hd hc with ⟨h0, hcl⟩ | hwk
    · exact .inl ⟨h0, by simpa using mt inv.closed_iff.mp (by omega)⟩
    · exact .inr (.inr hwk)
  · right; left
    simpa [woken] using hw

/-- "Woken" above means woken after registering: the waker of the writer's last poll can only have
    been woken once that poll had executed `register` (and no waker of a later poll exists). -/
theorem woken_only_after_register (sc : Scenario) (ls : List Label) :
    let s := run sc ls
    (woken s = true → s.curRegistered = true) ∧ (∀ j ∈ s.wakeLog, j ≤ s.cur) := by
  intro s
  have inv : Inv2 s := run_inv2 sc ls
  exact ⟨fun h => inv.woken_cur (by simpa [woken] using h), inv.woken_le⟩

/-- … so, once every other thread has finished, a sleeping writer has neither credit nor a closed
    stream to react to, or it has been woken after it registered: it never sleeps while it could
    proceed or should fail. -/
theorem no_lost_wakeup_quiescent (sc : Scenario) (ls : List Label) :
    let s := run sc ls
    parked s = true → allActorsDone s = true →
      (s.credit = 0 ∧ s.closed = false) ∨ woken s = true := by
  intro s hp hdone
  rcases no_lost_wakeup sc ls hp with h | h | h
  · exact Or.inl h
  · exact Or.inr h
  · exact (no_wake_of_all_done hdone h).elim

/-- Credit grants racing with the writer taking credit: the credit finally (and at every moment)
    available plus the units taken equals the initial credit plus the units granted. -/
theorem credit_conservation (sc : Scenario) (ls : List Label) :
    let s := run sc ls
    s.credit + s.takes.length = sc.credit + s.grants :=
  (run_inv sc ls).conservation

/-- A writer never sends a frame without a unit of credit: the frames handed to the task never
    exceed the successful decrements, every decrement was from a positive value, and the polls that
    returned `Ready(Some(()))` are exactly the frames sent. -/
theorem no_frame_without_credit (sc : Scenario) (ls : List Label) :
    let s := run sc ls
    s.sent ≤ s.takes.length ∧ (∀ v ∈ s.takes, 0 < v) ∧
      (results s).count .some = s.sent := by
  intro s
  have inv : Inv sc s := run_inv sc ls
  refine ⟨?_, inv.takes_pos, ?_⟩
  · have := inv.sent_takes
    split at this <;> omega
  · rw [← inv.log_some]; exact count_some_results s.log

/-- A poll whose first operation comes after a close has completed its `swap` returns
    `Ready(None)`: every logged poll that found `finish_sent` set when it started failed. -/
theorem closed_writer_fails (sc : Scenario) (ls : List Label) :
    let s := run sc ls
    ∀ p ∈ s.log, p.1 = true → p.2 = .none :=
  (run_inv sc ls).log_closed

/-- The flag a starting poll looks at is set exactly when some `disallow_write()` has performed its
    `swap` (whether or not its `wake()` has run yet), so "started after close completed" above is
    about the closer threads, not about a ghost. -/
theorem closed_iff_some_close_swapped (sc : Scenario) (ls : List Label) :
    let s := run sc ls
    s.closed = true ↔ ∃ a ∈ s.actors, a.isCloser = true ∧ a.pc ≠ .write := by
  exact (run_inv sc ls).closed_iff.trans (closers_pos_iff _)

/-! ### The pinned code loses a wake-up (documented witness, regression)

`stepPinned` is the code before the repair: `register` is followed by `return Poll::Pending`
without looking at the credit or the closed flag again.  Scenario: no credit, one poll, one
`acknowledge(1)`.  Schedule: the writer loads `finish_sent` (false) and the credit (0); the
acknowledger adds 1 and calls `wake()` (nothing registered yet); the writer registers and parks.
All threads have finished, one unit of credit is available, nobody was woken: the writer sleeps
forever.  loom reaches the same outcome on the real pinned code (`corpus/C12/`). -/

def lostWakeupScenario : Scenario := ⟨0, 1, [.ack 1]⟩
def lostWakeupSchedule : List Label := [.writer, .writer, .actor 0, .actor 0, .writer]

theorem pinned_code_loses_wakeup :
    let s := runPinned lostWakeupScenario lostWakeupSchedule
    parked s = true ∧ allActorsDone s = true ∧ s.credit = 1 ∧ woken s = false ∧
      wakePending s = false := by
  decide

/-- The same for a close: the writer is never told that the stream was closed. -/
theorem pinned_code_loses_close_wakeup :
    let s := runPinned ⟨0, 1, [.close]⟩ [.writer, .writer, .actor 0, .actor 0, .writer]
    parked s = true ∧ allActorsDone s = true ∧ s.closed = true ∧ woken s = false := by
  decide

/-- On the repaired code the same schedule continues with the re-check and takes the credit. -/
example :
    let s := run lostWakeupScenario (lostWakeupSchedule ++ [.writer, .writer, .writer, .writer])
    results s = [.some] ∧ s.credit = 0 ∧ s.sent = 1 ∧ s.pc = .finished := by
  decide

/-- parked with a wake delivered after the registration (`woken`) -/
example :
    let s := run ⟨0, 1, [.ack 1]⟩ [.writer, .writer, .writer, .writer, .writer, .actor 0, .actor 0]
    parked s = true ∧ allActorsDone s = true ∧ s.credit = 1 ∧ woken s = true := by
  decide

/-- parked while the acknowledger sits between `fetch_add` and `wake` (`wakePending`) -/
example :
    let s := run ⟨0, 1, [.ack 1]⟩ [.writer, .writer, .writer, .writer, .writer, .actor 0]
    parked s = true ∧ s.credit = 1 ∧ woken s = false ∧ wakePending s = true := by
  decide

/-- parked with nothing to do -/
example :
    let s := run ⟨0, 1, []⟩ [.writer, .writer, .writer, .writer, .writer]
    parked s = true ∧ allActorsDone s = true ∧ s.credit = 0 ∧ s.closed = false := by
  decide

/-- a poll that starts after the close has swapped fails; the close that lands during a poll
    which already registered makes the re-check fail it -/
example :
    let s := run ⟨1, 2, [.close]⟩ [.actor 0, .writer, .writer]
    s.log = [(true, .none), (true, .none)] := by
  decide

example :
    let s := run ⟨0, 1, [.close]⟩ [.writer, .writer, .writer, .actor 0, .writer]
    results s = [.none] ∧ s.log = [(false, .none)] := by
  decide

/-- a grant racing with the take: CAS fails once, is retried, conservation 0 + 1 = 0 + 1 … -/
example :
    let s := run ⟨1, 1, [.ack 2]⟩ [.writer, .writer, .actor 0, .writer, .writer, .writer, .writer]
    results s = [.some] ∧ s.credit = 2 ∧ s.takes = [3] ∧ s.grants = 2 ∧ s.sent = 1 := by
  decide

/-! ### The composite paths: the whole endpoint (`Lemmas/MuxWake.lean`)

The scenarios above race `acknowledge` / `disallow_write` with the writer.  Whether the task CALLS
them whenever it grants credit or closes a stream is a matter of `process_frame`, `close_flow` and
`wind_down`; the endpoint model (`Model/Mux`, the one the correspondence harness compares with the
real `Multiplexor`, whose wake flags are part of the comparison) covers those. -/

open Penguin.Mux in
/-- In every state an endpoint reaches — any sequence of application calls and deliveries, any peer,
    connection ends and wind-downs included — a writer that is parked and whose waker has not been
    woken has no credit, and its stream has not been closed for writing. -/
theorem endpoint_parked_writer_is_blocked (o : Opts) (ops : List Mux.Op) (i : Nat) (ob : Obj)
    (ho : (runOps { opts := o } ops).objs[i]? = some ob) (hp : ob.parked = true) (hw : ob.woken = false) :
    ob.credit = 0 ∧ ob.finishSent = false :=
  reachable_wakeOk o ops i ob ho hp hw

open Penguin.Mux in
/-- … so polling such a writer again returns `Pending` again: it never sleeps while it could
    proceed or should fail. -/
theorem endpoint_no_lost_wakeup (o : Opts) (ops : List Mux.Op) (h i : Nat) (ob : Obj) (d : Bytes)
    (hh : (runOps { opts := o } ops).handleObj h = some (i, ob)) (hp : ob.parked = true) (hw : ob.woken = false)
    (hd : d ≠ []) :
    (appWrite (runOps { opts := o } ops) h d).2 = .pending := by
  obtain ⟨hc, hf⟩ := reachable_wakeOk o ops i ob (handleObj_some hh) hp hw
  exact ((appWrite_glue _ h i ob d (handleObj_handle hh) (handleObj_some hh)).2.2.1 hf hd hc).1

/-! Non-vacuity: a writer parked on an exhausted window of 1 (first example); the connection then
    ends (peer `Close`): the writer has been woken and its next poll fails (second example). -/
private def wops : List Mux.Op :=
  [.deliver (.msg (.frame (.connect 5 1 80 []))), .accept, .write 0 [1], .write 0 [2]]
example : ((Mux.runOps { opts := {} } wops).objs[0]?.map (fun o => (o.parked, o.woken, o.credit))) = some (true, false, 0) := by decide
example : ((Mux.runOps { opts := {} } (wops ++ [.deliver (.msg .close), .deliver .eof])).objs[0]?.map
    (fun o => (o.parked, o.woken, o.finishSent))) = some (true, true, true) := by decide

end Penguin.C12

/-! ## Several writers on one stream (`Model/WakerN`)

`poll_write_push` / `poll_obtain_write_permission` take `&self` and `MuxStream` is `Sync`: safe code can
poll the write side of ONE stream from several tasks at once.  The theorems below (suffix `_n`) are
about EVERY reachable state `run sc ls` of EVERY scenario `sc` of `Model/WakerN` — any initial credit,
any number of writer threads each with any number of polls, any number of `acknowledge(n)` /
`disallow_write()` threads (the connection task's operations), any number of threads calling
`do_shutdown()` through another handle of the stream (`sc.shutdowns`; `swap(true)` without any
`wake()`) — under EVERY schedule `ls` of the atomic operations; induction over the step relation
(`Lemmas/WakerN*.lean`).

What holds exactly as for one writer: the credit arithmetic (the `compare_exchange` makes the
decrement atomic with the check, so no unit is spent twice) and "closed writers fail".  What the ONE
`AtomicWaker` slot still gives for wake-ups, and what it does not, is stated in
`no_lost_wakeup_n` … `two_writers_one_slot_full_fails`. -/

namespace Penguin.C12
open Penguin.Waker (PollResult ActorKind APc Actor WPc)
open Penguin.WakerN Penguin.Lemmas.WakerN

/-- With ONE writer thread the model of this section IS the single-writer model of the theorems above:
    under every schedule the run of `Model/WakerN` with the writer list `[polls]` has one writer and,
    with the thread component of the waker names and the ghosts `lastReg` / `regMark` forgotten
    (`proj1`), is the run of `Model/Waker` under the same schedule. -/
theorem one_writer_is_single_writer_model (credit polls : Nat) (actors : List ActorKind) (ls : List Waker.Label) :
    ∃ w, (run ⟨credit, [polls], actors, 0⟩ (ls.map lift1)).writers = [w] ∧
      proj1 (run ⟨credit, [polls], actors, 0⟩ (ls.map lift1)) w = Waker.run ⟨credit, polls, actors⟩ ls := by
  have h0 : (init ⟨credit, [polls], actors, 0⟩).writers = [initWriter polls] := rfl
  obtain ⟨w, h1, h2⟩ := foldl_sim ls _ _ h0
  refine ⟨w, h1, ?_⟩
  unfold run Waker.run
  rw [h2]
  congr 1

/-- Credit conservation with any number of writers racing each other and the acknowledgers: at every
    moment the credit available plus the units taken by all writers equals the initial credit plus
    the units granted; a unit taken is a frame sent or is held by a writer whose `send` is its next
    operation; so once every writer has returned, credit + frames sent = initial + grants. -/
theorem credit_conservation_n (sc : Scenario) (ls : List Label) :
    let s := run sc ls
    s.credit + totalTakes s = sc.credit + s.grants ∧
    s.credit + totalSent s + inFlight s = sc.credit + s.grants ∧
    (allWritersFinished s = true → s.credit + totalSent s = sc.credit + s.grants) := by
  intro s
  have inv : Inv sc s := run_inv sc ls
  have h2 := inv.sent_conservation
  refine ⟨inv.conservation, h2, fun hf => ?_⟩
  have := finished_inFlight hf
  omega

/-- No writer ever sends a frame without a unit of credit: each writer's frames never exceed ITS OWN
    successful `compare_exchange`s, each of which was from a positive value, and its `Ready(Some(()))`
    polls are exactly its frames; so the frames sent by all writers together never exceed the initial
    credit plus the grants performed so far, which never exceed what the scenario's acknowledgers
    grant altogether. -/
theorem no_frame_without_credit_n (sc : Scenario) (ls : List Label) :
    let s := run sc ls
    (∀ w ∈ s.writers, w.sent ≤ w.takes.length ∧ (∀ v ∈ w.takes, 0 < v) ∧ w.results.count .some = w.sent) ∧
    totalSent s ≤ sc.credit + s.grants ∧ s.grants ≤ sc.ackTotal := by
  intro s
  have inv : Inv sc s := run_inv sc ls
  refine ⟨fun w hw => ?_, ?_, ?_⟩
  · have hwi := winv_of_mem inv hw
    refine ⟨?_, hwi.takes_pos, results_count_some w hwi⟩
    have := hwi.sent_takes
    split at this <;> omega
  · have := inv.sent_conservation
    omega
  · have := inv.grants
    omega

/-- The last unit: whatever the number of writers racing for it, a scenario in which the initial
    credit and all acknowledgements together amount to ONE unit sees at most one frame (two writers
    that both loaded `1` and both try `compare_exchange(1, 0)`: one of them fails and starts over). -/
theorem last_unit_one_frame_n (sc : Scenario) (ls : List Label) (h1 : sc.credit + sc.ackTotal = 1) :
    totalSent (run sc ls) ≤ 1 ∧ totalSome (run sc ls) ≤ 1 := by
  have inv : Inv sc (run sc ls) := run_inv sc ls
  have h := no_frame_without_credit_n sc ls
  simp only [] at h
  rw [totalSome_eq_totalSent inv]
  omega

/-- The same from the middle of a run: in a reachable state with one unit of credit left, no writer
    holding a unit and no grant still to come, every continuation — with any number of writers
    anywhere between their load and their `compare_exchange` — sends at most one more frame. -/
theorem last_unit_one_more_frame_n (sc : Scenario) (ls ls' : List Label) :
    let s := run sc ls
    let s' := run sc (ls ++ ls')
    s.credit = 1 → inFlight s = 0 → grantsToCome s = 0 → totalSent s' ≤ totalSent s + 1 := by
  intro s s' hc hi hg
  have inv : Inv sc s := run_inv sc ls
  have inv' : Inv sc s' := run_inv sc (ls ++ ls')
  have a1 := inv.sent_conservation
  have a3 := inv.grants
  have b1 := inv'.sent_conservation
  have b3 := inv'.grants
  omega

/-- A poll of any writer whose first operation comes after a close has completed its `swap` returns
    `Ready(None)`: every logged poll that found `finish_sent` set when it started failed. -/
theorem closed_writers_fail_n (sc : Scenario) (ls : List Label) :
    let s := run sc ls
    ∀ w ∈ s.writers, ∀ p ∈ w.log, p.1 = true → p.2 = .none := by
  intro s w hw
  exact (winv_of_mem (run_inv sc ls) hw).log_closed

/-- … and that flag is set exactly when some `disallow_write()` of the connection task has performed
    its `swap` (`taskClosed`) or some `do_shutdown()` was called through a handle of the stream
    (`Model/WakerN`, "foreign shutdowns"; at most as many as the scenario has such threads). -/
theorem closed_iff_close_or_foreign_shutdown_n (sc : Scenario) (ls : List Label) :
    let s := run sc ls
    (s.closed = true ↔ taskClosed s = true ∨ 0 < s.shutdownsDone) ∧ s.shutdownsDone ≤ sc.shutdowns := by
  intro s
  have inv : Inv sc s := run_inv sc ls
  have h6 := inv.shutdowns
  refine ⟨?_, by omega⟩
  rw [inv.closed_iff, taskClosed_iff]
  omega

/-- Without foreign shutdowns: the flag is set exactly when some `disallow_write()` has performed its
    `swap`. -/
theorem closed_iff_some_close_swapped_n (sc : Scenario) (ls : List Label) (hs : sc.shutdowns = 0) :
    let s := run sc ls
    s.closed = true ↔ ∃ a ∈ s.actors, a.isCloser = true ∧ a.pc ≠ .write := by
  intro s
  have inv : Inv sc s := run_inv sc ls
  rw [closed_eq_taskClosed inv hs]
  simp only [taskClosed, List.any_eq_true, Bool.and_eq_true, bne_iff_ne, ne_eq]

/-! ### Wake-ups with ONE waker slot and several waiting tasks

The stream has one `AtomicWaker`.  A `register` replaces whatever the cell holds, also the waker of
ANOTHER task; `wake()` wakes the waker that registered last.  So the guarantee of `no_lost_wakeup`
("a parked writer has nothing to do, or ITS waker was woken, or a wake is about to come") cannot hold
for every writer — `two_writers_one_slot_full_fails` — and what does hold is stated below, twice:

* for EVERY scenario, foreign `do_shutdown()` calls included (theorems `…_task_n`,
  `close_after_foreign_shutdown_wakes_n`, …): the guarantee is about what the CONNECTION TASK does —
  `acknowledge` and `disallow_write` always wake after they wrote — so "nothing to do" reads "no
  credit and the connection task has not closed the stream" (`taskClosed`).  A `do_shutdown()` through
  another handle sets the flag and wakes nobody (`foreign_shutdown_alone_wakes_nobody`: the behaviour
  of the code, C12 quantifies over the writer and the connection task); the connection task's later
  close wakes, whoever set the flag first;
* for scenarios WITHOUT foreign shutdowns (hypothesis `sc.shutdowns = 0`) in terms of the flag itself,
  exactly as for one writer (`no_lost_wakeup_slot_n` … `replacing_registration_served_n`). -/

/-- The stream-level guarantee, every scenario: a writer that returned `Pending` from its last poll
    has no credit to take and the connection task has not closed the stream, or a wake-up has been
    delivered to the stream's waker slot AFTER that writer registered (to its own waker or to one that
    registered later), or the `wake()` of an acknowledge / close that already wrote is still to come. -/
theorem no_lost_wakeup_slot_task_n (sc : Scenario) (ls : List Label) :
    let s := run sc ls
    ∀ w ∈ s.writers, w.parked = true →
      (s.credit = 0 ∧ taskClosed s = false) ∨ 0 < wakesSinceReg s w ∨ wakePending s = true := by
  intro s w hw hp
  have inv : Inv sc s := run_inv sc ls
  rcases (view_of_mem inv hw).parked_cases hp with ⟨hd, hc⟩ | hpos
  · rcases Lemmas.Waker.idle_or_wake_coming hd hc with ⟨h0, hcl⟩ | hwk
    · exact .inl ⟨h0, by simpa using mt (taskClosed_iff s).mp (by omega)⟩
    · exact .inr (.inr hwk)
  · exact .inr (.inl hpos)

/-- Who is woken: the cell only ever holds the waker of the LATEST `register` on the stream, so every
    wake-up goes to the task that registered last; and a waker is woken only after its own poll
    registered it (no wake-up is attributed to a poll that has not registered, or to a thread that is
    not a writer of the scenario). -/
theorem wakeups_go_to_latest_registration_n (sc : Scenario) (ls : List Label) :
    let s := run sc ls
    (∀ x, s.registered = some x → s.lastReg = some x) ∧
    (∀ i k, (i, k) ∈ s.wakeLog → ∃ w, s.writers[i]? = some w ∧ k ≤ w.cur ∧ (k = w.cur → w.curRegistered = true)) := by
  intro s
  have inv2 : Inv2 s := run_inv2 sc ls
  refine ⟨inv2.reg_last, fun i k hk => ?_⟩
  have hi := inv2.woken_bound i k hk
  refine ⟨s.writers[i], by simp [hi], ?_, ?_⟩
  · exact (inv2.wid i _ (by simp [hi])).woken_le k hk
  · intro e
    exact (inv2.wid i _ (by simp [hi])).woken_cur (e ▸ hk)

/-- A wake-up delivered after the registration of a parked writer whose registration is still the
    latest one on the stream went to that very writer. -/
theorem wakeup_after_latest_registration_is_own_n (sc : Scenario) (ls : List Label) :
    let s := run sc ls
    ∀ i w, s.writers[i]? = some w → w.parked = true → replacedW s i w = false →
      0 < wakesSinceReg s w → wokenW s i w = true := by
  intro s i w hw hp hr hpos
  have inv2 : Inv2 s := run_inv2 sc ls
  have hl : s.lastReg = some (i, w.cur) := by simpa [replacedW] using hr
  have hid := inv2.wid i w hw
  rcases hid.last_live (Or.inr (Or.inr hp)) hl with hreg | hwk
  · have hm := hid.reg_mark hreg
    simp only [wakesSinceReg] at hpos; omega
  · simpa [wokenW] using hwk

/-- The full per-writer guarantee holds, in every scenario, for the writer whose registration is the
    latest one on the stream (not replaced by a later `register`): if it is parked, it has no credit to
    take and the connection task has not closed the stream, or ITS waker has been woken, or a `wake()`
    is still to come. -/
theorem latest_registration_not_lost_task_n (sc : Scenario) (ls : List Label) :
    let s := run sc ls
    ∀ i w, s.writers[i]? = some w → w.parked = true → replacedW s i w = false →
      (s.credit = 0 ∧ taskClosed s = false) ∨ wokenW s i w = true ∨ wakePending s = true := by
  intro s i w hw hp hr
  have hslot : (s.credit = 0 ∧ taskClosed s = false) ∨ 0 < wakesSinceReg s w ∨ wakePending s = true :=
    no_lost_wakeup_slot_task_n sc ls w (List.mem_of_getElem? hw) hp
  rcases hslot with h | h | h
  · exact Or.inl h
  · exact Or.inr (Or.inl (wakeup_after_latest_registration_is_own_n sc ls i w hw hp hr h))
  · exact Or.inr (Or.inr h)

/-- Every parked writer, every scenario: it has no credit to take and the connection task has not
    closed the stream; or its own waker was woken; or its registration was REPLACED by a later
    `register` of another task and a wake-up has been delivered to the slot since (to that later
    registration, see `wakeups_go_to_latest_registration_n`); or a `wake()` is still to come.  The
    third case is the price of one slot: this writer itself may sleep on. -/
theorem no_lost_wakeup_task_n (sc : Scenario) (ls : List Label) :
    let s := run sc ls
    ∀ i w, s.writers[i]? = some w → w.parked = true →
      (s.credit = 0 ∧ taskClosed s = false) ∨ wokenW s i w = true ∨
        (replacedW s i w = true ∧ 0 < wakesSinceReg s w) ∨ wakePending s = true := by
  intro s i w hw hp
  by_cases hr : replacedW s i w = true
  · have hslot : (s.credit = 0 ∧ taskClosed s = false) ∨ 0 < wakesSinceReg s w ∨ wakePending s = true :=
      no_lost_wakeup_slot_task_n sc ls w (List.mem_of_getElem? hw) hp
    rcases hslot with h | h | h
    · exact Or.inl h
    · exact Or.inr (Or.inr (Or.inl ⟨hr, h⟩))
    · exact Or.inr (Or.inr (Or.inr h))
  · have hl : (s.credit = 0 ∧ taskClosed s = false) ∨ wokenW s i w = true ∨ wakePending s = true :=
      latest_registration_not_lost_task_n sc ls i w hw hp (by simpa using hr)
    rcases hl with h | h | h
    · exact Or.inl h
    · exact Or.inr (Or.inl h)
    · exact Or.inr (Or.inr (Or.inr h))

/-- The connection task's close ALWAYS wakes, whoever set the flag first.  In every scenario (any
    number of foreign `do_shutdown()` calls, before or after) and under every schedule: for a parked
    writer, once some `disallow_write()` has completed — `swap` and the unconditional `wake()` both
    done — a wake-up has been delivered to the stream's slot after that writer registered, and the
    writer's own waker has been woken unless its registration was replaced by a later one (to which
    the wake-up then went).  No quiescence is needed: a close that completed BEFORE the writer's re-check
    makes that poll return `Ready(None)`, so it is not parked. -/
theorem close_after_foreign_shutdown_wakes_n (sc : Scenario) (ls : List Label) :
    let s := run sc ls
    taskCloseCompleted s = true →
    ∀ i w, s.writers[i]? = some w → w.parked = true →
      0 < wakesSinceReg s w ∧ (wokenW s i w = true ∨ replacedW s i w = true) := by
  intro s hc i w hw hp
  have inv : Inv sc s := run_inv sc ls
  have hv := view_of_mem inv (List.mem_of_getElem? hw)
  have hcd := (taskCloseCompleted_iff s).mp hc
  have hpos : 0 < wakesSinceReg s w := by
    rcases hv.parked_cases hp with ⟨hd, -⟩ | hpos
    · omega
    · exact hpos
  refine ⟨hpos, ?_⟩
  by_cases hr : replacedW s i w = true
  · exact Or.inr hr
  · exact Or.inl (wakeup_after_latest_registration_is_own_n sc ls i w hw hp (by simpa using hr) hpos)

/-- … and while the close is between its `swap` and its `wake()`, the wake is still to come: a parked
    writer of a stream the connection task has closed (`swap` done) has been served as above, or some
    `wake()` is the next operation of an actor thread. -/
theorem close_in_progress_will_wake_n (sc : Scenario) (ls : List Label) :
    let s := run sc ls
    taskClosed s = true →
    ∀ i w, s.writers[i]? = some w → w.parked = true →
      wokenW s i w = true ∨ (replacedW s i w = true ∧ 0 < wakesSinceReg s w) ∨ wakePending s = true := by
  intro s hc i w hw hp
  have hn : (s.credit = 0 ∧ taskClosed s = false) ∨ wokenW s i w = true ∨
      (replacedW s i w = true ∧ 0 < wakesSinceReg s w) ∨ wakePending s = true :=
    no_lost_wakeup_task_n sc ls i w hw hp
  rcases hn with h | h | h | h
  · rw [hc] at h; exact absurd h.2 (by decide)
  · exact Or.inl h
  · exact Or.inr (Or.inl h)
  · exact Or.inr (Or.inr h)

/-- At quiescence of a scenario that contains at least one `disallow_write()` — the connection task
    closes every flow sooner or later: peer `Reset`, `Finish` exchange, wind-down —, whatever foreign
    shutdowns happened and whenever: no writer is left parked with its waker unwoken, except one whose
    registration was replaced by a later registration, to which the wake-up went. -/
theorem no_writer_left_unwoken_after_close_n (sc : Scenario) (ls : List Label) :
    let s := run sc ls
    allActorsDone s = true → (∃ a ∈ s.actors, a.isCloser = true) →
    ∀ i w, s.writers[i]? = some w → w.parked = true →
      wokenW s i w = true ∨ (replacedW s i w = true ∧ 0 < wakesSinceReg s w) := by
  intro s hdone ⟨a, ha, hcl⟩ i w hw hp
  have hc : taskCloseCompleted s = true := by
    simp only [taskCloseCompleted, List.any_eq_true]
    simp only [allActorsDone, List.all_eq_true] at hdone
    exact ⟨a, ha, by simp [hcl, hdone a ha]⟩
  have h : 0 < wakesSinceReg s w ∧ (wokenW s i w = true ∨ replacedW s i w = true) :=
    close_after_foreign_shutdown_wakes_n sc ls hc i w hw hp
  rcases h.2 with h2 | h2
  · exact Or.inl h2
  · exact Or.inr ⟨h2, h.1⟩

/-- … and the task that took the slot is served, every scenario: at quiescence, if credit is available
    or the connection task has closed the stream, the writer `j` of the latest registration `(j, k)`
    has been woken through that very waker, or it is not asleep (its last poll returned `Ready`). -/
theorem replacing_registration_served_task_n (sc : Scenario) (ls : List Label) :
    let s := run sc ls
    allActorsDone s = true → (0 < s.credit ∨ taskClosed s = true) →
    ∀ j k, s.lastReg = some (j, k) →
      ∃ v, s.writers[j]? = some v ∧ ((j, k) ∈ s.wakeLog ∨ v.parked = false) := by
  intro s hdone hcond j k hl
  have inv : Inv sc s := run_inv sc ls
  have inv2 : Inv2 s := run_inv2 sc ls
  have hj := inv2.last_bound j k hl
  have hv : s.writers[j]? = some s.writers[j] := by simp [hj]
  refine ⟨s.writers[j], hv, ?_⟩
  generalize s.writers[j] = v at hv
  by_cases hp : v.parked = true
  · left
    have hid := inv2.wid j v hv
    have hreg := (inv.winv j v hv).post_reg (Or.inr (Or.inr hp))
    have hk : k = v.cur := (hid.last_cur k hl).mpr hreg
    subst hk
    have hr : replacedW s j v = false := by simp [replacedW, hl]
    have hq : (s.credit = 0 ∧ taskClosed s = false) ∨ wokenW s j v = true ∨ wakePending s = true :=
      latest_registration_not_lost_task_n sc ls j v hv hp hr
    rcases hq with h | h | h
    · rcases hcond with c | c
      · omega
      · rw [h.2] at c; exact absurd c (by decide)
    · simpa [wokenW] using h
    · exact (Lemmas.Waker.no_wake_of_all_done hdone h).elim
  · right; simpa using hp

/-! #### Scenarios without foreign shutdowns: the same in terms of the flag `finish_sent` itself -/

/-- The stream-level guarantee: a writer that returned `Pending` from its last poll has nothing it
    could do, or a wake-up has been delivered to the stream's waker slot AFTER that writer registered
    (to its own waker or to one that registered later), or the `wake()` of an acknowledge / close
    that already wrote is still to come. -/
theorem no_lost_wakeup_slot_n (sc : Scenario) (ls : List Label) (hs : sc.shutdowns = 0) :
    let s := run sc ls
    ∀ w ∈ s.writers, w.parked = true →
      (s.credit = 0 ∧ s.closed = false) ∨ 0 < wakesSinceReg s w ∨ wakePending s = true := by
  intro s w hw hp
  rw [closed_eq_taskClosed (run_inv sc ls) hs]
  exact no_lost_wakeup_slot_task_n sc ls w hw hp

/-- The full per-writer guarantee holds for the writer whose registration is the latest one on the
    stream (not replaced by a later `register`): if it is parked, it has nothing to do, or ITS waker
    has been woken, or a `wake()` is still to come.  With one writer thread this is `no_lost_wakeup`. -/
theorem latest_registration_not_lost_n (sc : Scenario) (ls : List Label) (hs : sc.shutdowns = 0) :
    let s := run sc ls
    ∀ i w, s.writers[i]? = some w → w.parked = true → replacedW s i w = false →
      (s.credit = 0 ∧ s.closed = false) ∨ wokenW s i w = true ∨ wakePending s = true := by
  intro s i w hw hp hr
  rw [closed_eq_taskClosed (run_inv sc ls) hs]
  exact latest_registration_not_lost_task_n sc ls i w hw hp hr

/-- Every parked writer: it has nothing to do; or its own waker was woken; or its registration was
    REPLACED by a later `register` of another task and a wake-up has been delivered to the slot since
    (to that later registration, see `wakeups_go_to_latest_registration_n`); or a `wake()` is still to
    come.  The third case is the price of one slot: this writer itself may sleep on. -/
theorem no_lost_wakeup_n (sc : Scenario) (ls : List Label) (hs : sc.shutdowns = 0) :
    let s := run sc ls
    ∀ i w, s.writers[i]? = some w → w.parked = true →
      (s.credit = 0 ∧ s.closed = false) ∨ wokenW s i w = true ∨
        (replacedW s i w = true ∧ 0 < wakesSinceReg s w) ∨ wakePending s = true := by
  intro s i w hw hp
  rw [closed_eq_taskClosed (run_inv sc ls) hs]
  exact no_lost_wakeup_task_n sc ls i w hw hp

/-- At quiescence (every actor thread has finished): a sleeping writer that could proceed or should
    fail has been woken after it registered, or its registration was replaced and the wake-up went to
    the slot after that. -/
theorem no_lost_wakeup_quiescent_n (sc : Scenario) (ls : List Label) (hs : sc.shutdowns = 0) :
    let s := run sc ls
    allActorsDone s = true →
    ∀ i w, s.writers[i]? = some w → w.parked = true → (0 < s.credit ∨ s.closed = true) →
      wokenW s i w = true ∨ (replacedW s i w = true ∧ 0 < wakesSinceReg s w) := by
  intro s hdone i w hw hp hcond
  have hn : (s.credit = 0 ∧ s.closed = false) ∨ wokenW s i w = true ∨
      (replacedW s i w = true ∧ 0 < wakesSinceReg s w) ∨ wakePending s = true :=
    no_lost_wakeup_n sc ls hs i w hw hp
  rcases hn with h | h | h | h
  · rcases hcond with c | c
    · omega
    · rw [h.2] at c; exact absurd c (by decide)
  · exact Or.inl h
  · exact Or.inr h
  · exact (Lemmas.Waker.no_wake_of_all_done hdone h).elim

/-- … and the task that took the slot is served: at quiescence, if credit is available or the stream
    is closed, the writer `j` of the latest registration `(j, k)` has been woken through that very
    waker, or it is not asleep (its last poll returned `Ready`: it saw the condition). -/
theorem replacing_registration_served_n (sc : Scenario) (ls : List Label) (hs : sc.shutdowns = 0) :
    let s := run sc ls
    allActorsDone s = true → (0 < s.credit ∨ s.closed = true) →
    ∀ j k, s.lastReg = some (j, k) →
      ∃ v, s.writers[j]? = some v ∧ ((j, k) ∈ s.wakeLog ∨ v.parked = false) := by
  intro s hdone hcond j k hl
  rw [closed_eq_taskClosed (run_inv sc ls) hs] at hcond
  exact replacing_registration_served_task_n sc ls hdone hcond j k hl

/-! #### The negative witness: the per-writer guarantee is FALSE with one slot

No credit, two writer threads with one poll each, one `acknowledge(1)`.  Writer 0 polls: loads, finds
no credit, registers, re-checks, returns `Pending`.  Writer 1 does the same: its `register` REPLACES
writer 0's waker.  The acknowledger adds one unit and calls `wake()`: writer 1 is woken.  Everybody has
finished; one unit of credit is available; writer 0 sleeps and its waker was never woken.  (Writer 1's
task will be polled again and can use the unit; a unit it does not need stays unused until the next
acknowledgement although writer 0 waits for it.)  loom reaches the same outcome on the real code:
`res=P,P;credit=1;wakes=0,1;after=1,1;closed=0;frames=0` of scenario `c0-w2-a1`. -/

def oneSlotScenario : Scenario := ⟨0, [1, 1], [.ack 1], 0⟩
def oneSlotSchedule : List Label :=
  [.writer 0, .writer 0, .writer 0, .writer 0, .writer 0,
   .writer 1, .writer 1, .writer 1, .writer 1, .writer 1, .actor 0, .actor 0]

theorem two_writers_one_slot_witness :
    let s := run oneSlotScenario oneSlotSchedule
    allActorsDone s = true ∧ allWritersFinished s = true ∧ s.credit = 1 ∧
      s.writers.map (·.parked) = [true, true] ∧
      (s.writers[0]?.map fun w => (wokenW s 0 w, replacedW s 0 w, wakesSinceReg s w)) = some (false, true, 1) ∧
      (s.writers[1]?.map fun w => (wokenW s 1 w, replacedW s 1 w)) = some (true, false) := by
  decide

/-- The statement of `no_lost_wakeup_quiescent` for EVERY writer of a stream ("a parked writer has
    nothing to do or its own waker was woken") does not hold when two tasks wait on one stream —
    also without any foreign shutdown (`sc.shutdowns = 0`): it is the one slot that breaks it. -/
theorem two_writers_one_slot_full_fails :
    ¬ (∀ (sc : Scenario) (ls : List Label), sc.shutdowns = 0 →
        let s := run sc ls
        allActorsDone s = true →
        ∀ i w, s.writers[i]? = some w → w.parked = true →
          (s.credit = 0 ∧ s.closed = false) ∨ wokenW s i w = true) := by
  intro h
  have hw := h oneSlotScenario oneSlotSchedule rfl (by decide) 0
  cases e : (run oneSlotScenario oneSlotSchedule).writers[0]? with
  | none => exact absurd e (by decide)
  | some w =>
    have h1 : w.parked = true ∧ wokenW (run oneSlotScenario oneSlotSchedule) 0 w = false := by
      have : ((run oneSlotScenario oneSlotSchedule).writers[0]?.map fun w =>
          (w.parked, wokenW (run oneSlotScenario oneSlotSchedule) 0 w)) = some (true, false) := by decide
      rw [e] at this
      simpa using this
    rcases hw w e h1.1 with h2 | h2
    · exact absurd h2.1 (by decide)
    · rw [h1.2] at h2; exact absurd h2 (by decide)

/-- two writers that both loaded the last unit: one `compare_exchange` succeeds, the other fails,
    re-loads 0, registers, re-checks and parks — ONE frame, credit 0 -/
example :
    let s := run ⟨1, [1, 1], [], 0⟩ [.writer 0, .writer 1, .writer 0, .writer 1]
    s.credit = 1 ∧ s.writers.map (·.pc) = [.cas 1, .cas 1] ∧ inFlight s = 0 ∧ grantsToCome s = 0 := by
  decide

example :
    let s := run ⟨1, [1, 1], [], 0⟩ ([.writer 0, .writer 1, .writer 0, .writer 1] ++
      [.writer 1, .writer 0, .writer 0, .writer 0, .writer 0, .writer 0, .writer 1])
    allWritersFinished s = true ∧ s.writers.map (·.results) = [[.pending], [.some]] ∧ s.credit = 0 ∧
      totalSent s = 1 ∧ totalTakes s = 1 := by
  decide

/-- conservation with a grant racing two takes: 1 + 2 granted, two frames, one unit left -/
example :
    let s := run ⟨1, [1, 1], [.ack 2], 0⟩ [.writer 0, .writer 0, .actor 0, .writer 1, .writer 1, .writer 0,
      .writer 0, .writer 0, .writer 0, .writer 1, .writer 1, .writer 1, .writer 1, .actor 0]
    allWritersFinished s = true ∧ s.writers.map (·.results) = [[.some], [.some]] ∧ s.credit = 1 ∧
      s.grants = 2 ∧ totalSent s = 2 ∧ s.writers.map (·.takes) = [[3], [2]] := by
  decide

/-- a parked writer whose own waker was woken (it is the latest registration) -/
example :
    let s := run ⟨0, [1, 1], [.ack 1], 0⟩ [.writer 1, .writer 1, .writer 1, .writer 1, .writer 1, .actor 0, .actor 0]
    (s.writers[1]?.map fun w => (w.parked, replacedW s 1 w, wokenW s 1 w)) = some (true, false, true) ∧
      s.credit = 1 := by
  decide

/-- closed: a poll of writer 1 that starts after the `swap` fails; writer 0, parked before, is woken -/
example :
    let s := run ⟨0, [1, 1], [.close], 0⟩ [.writer 0, .writer 0, .writer 0, .writer 0, .writer 0, .actor 0,
      .writer 1, .actor 0]
    s.writers.map (·.log) = [[(false, .pending)], [(true, .none)]] ∧ s.closed = true ∧
      s.wakeLog = [(0, 0)] := by
  decide

/-- the latest registration belongs to a writer that is not asleep (it saw the credit in its re-check),
    while the replaced writer sleeps with one unit left: `replacing_registration_served_n`, second case -/
example :
    let s := run ⟨0, [1, 1], [.ack 2], 0⟩ [.writer 0, .writer 0, .writer 0, .writer 0, .writer 0,
      .writer 1, .writer 1, .writer 1, .actor 0, .writer 1, .writer 1, .writer 1, .writer 1, .actor 0]
    allActorsDone s = true ∧ allWritersFinished s = true ∧ s.credit = 1 ∧ s.lastReg = some (1, 0) ∧
      s.writers.map (·.results) = [[.pending], [.some]] ∧ s.wakeLog = [(1, 0)] := by
  decide

/-! #### Foreign shutdown: `do_shutdown()` through another handle of the stream

`MuxStream::do_shutdown(&self)` sets `finish_sent` and wakes nobody.  That is the behaviour of the code
and not a violation of C12, which is about the writer and the CONNECTION TASK: the witness below
documents it; `close_after_foreign_shutdown_wakes_n` / `no_writer_left_unwoken_after_close_n` above say
what the connection task's close then guarantees. -/

/-- No credit, one writer, one `do_shutdown()` thread, no operation of the connection task.  The writer
    polls (loads, registers, re-checks) and returns `Pending`; then the shutdown runs.  Everything has
    finished: the flag is set, the writer is parked, its waker is still in the cell and was never
    woken, no `wake()` is pending — although a re-poll would return `Ready(None)` (second conjunct: the
    same schedule with a writer of two polls, the second of which starts after the shutdown). -/
theorem foreign_shutdown_alone_wakes_nobody :
    (let s := run ⟨0, [1], [], 1⟩ [.writer 0, .writer 0, .writer 0, .writer 0, .writer 0, .shutdown]
     allWritersFinished s = true ∧ allActorsDone s = true ∧ s.shutdownsLeft = 0 ∧ s.closed = true ∧
       taskClosed s = false ∧ s.writers.map (·.parked) = [true] ∧ s.registered = some (0, 0) ∧
       s.wakeLog = [] ∧ wakePending s = false) ∧
    (let s := run ⟨0, [2], [], 1⟩ [.writer 0, .writer 0, .writer 0, .writer 0, .writer 0, .shutdown, .writer 0]
     s.writers.map (·.results) = [[.pending, .none]] ∧ s.wakeLog = []) := by
  decide

/-- the connection task's close after a foreign shutdown (flag already set by `do_shutdown`): the
    `swap` changes nothing, the unconditional `wake()` wakes the parked writer —
    `close_after_foreign_shutdown_wakes_n` / `no_writer_left_unwoken_after_close_n`, non-vacuity -/
example :
    let s := run ⟨0, [1], [.close], 1⟩ [.writer 0, .writer 0, .writer 0, .writer 0, .writer 0, .shutdown,
      .actor 0, .actor 0]
    allActorsDone s = true ∧ taskCloseCompleted s = true ∧ s.shutdownsDone = 1 ∧
      (s.writers[0]?.map fun w => (w.parked, wokenW s 0 w, wakesSinceReg s w)) = some (true, true, 1) := by
  decide

/-- the same with the close in progress: flag set twice, the `wake()` still to come
    (`close_in_progress_will_wake_n`, third case) -/
example :
    let s := run ⟨0, [1], [.close], 1⟩ [.writer 0, .writer 0, .writer 0, .writer 0, .writer 0, .shutdown, .actor 0]
    taskClosed s = true ∧ taskCloseCompleted s = false ∧ wakePending s = true ∧
      (s.writers[0]?.map fun w => (w.parked, wokenW s 0 w)) = some (true, false) := by
  decide

/-- two writers parked, foreign shutdown, then the close: the wake-up goes to the latest registration
    (writer 1); writer 0's registration was replaced — the second disjunct of
    `no_writer_left_unwoken_after_close_n` -/
example :
    let s := run ⟨0, [1, 1], [.close], 1⟩ [.writer 0, .writer 0, .writer 0, .writer 0, .writer 0,
      .writer 1, .writer 1, .writer 1, .writer 1, .writer 1, .shutdown, .actor 0, .actor 0]
    allActorsDone s = true ∧ s.writers.map (·.parked) = [true, true] ∧ s.wakeLog = [(1, 0)] ∧
      (s.writers[0]?.map fun w => (wokenW s 0 w, replacedW s 0 w, wakesSinceReg s w)) = some (false, true, 1) := by
  decide

/-- a poll that starts after a foreign shutdown fails like one that starts after a close
    (`closed_writers_fail_n`, `closed_iff_close_or_foreign_shutdown_n`) -/
example :
    let s := run ⟨1, [1], [], 1⟩ [.shutdown, .writer 0]
    s.writers.map (·.log) = [[(true, .none)]] ∧ s.closed = true ∧ taskClosed s = false ∧ s.credit = 1 := by
  decide

end Penguin.C12
