/-
C15 — Bind requests resolve exactly once with the peer's decision.
Theorems over the endpoint model: the requester's slot life cycle, what the peer application is
shown, what each kind of answer (accept, reject, drop before/after answering) puts on the wire.
-/
import Penguin.Model.Mux
import Penguin.Lemmas.MuxBasic
import Penguin.Lemmas.MuxStep
import Penguin.Lemmas.MuxOnceB
import Penguin.Lemmas.BindPair
import Penguin.Lemmas.BindStim
import Penguin.Lemmas.PairCor
import Penguin.Lemmas.PairHarness
import Penguin.Lemmas.BindAllReach
import Penguin.Lemmas.BindAllConv
import Penguin.Lemmas.BindAllClosed

namespace Penguin.C15
open Penguin Penguin.Mux

/-- A bind request reserves a fresh non-zero flow id and sends exactly one `Bind` frame carrying the
    requested type, host bytes and port under that id. -/
theorem request_sends_bind (e : EP) (req : Nat) (bt : BindType) (host : Bytes) (port : Nat)
    (hoc : e.outClosed = false) :
    (∃ fid, fid ≠ 0 ∧ lookup e.flows fid = none ∧
      (appBindReq e req bt host port).1.outq = e.outq ++ [.frame (.bind fid bt port host)] ∧
      lookup (appBindReq e req bt host port).1.flows fid = some (.bindRequested req) ∧
      (appBindReq e req bt host port).2 = []) ∨
    appBindReq e req bt host port = (e, [.bindDone req .closed]) := by
  unfold appBindReq
  cases hd : drawId e.flows e.rng e.fallback 64 with
  | none => right; rfl
  | some r =>
    obtain ⟨fid, rng', fb'⟩ := r
    have hs := drawId_spec _ _ _ _ _ _ _ hd
    left
    exact ⟨fid, hs.1, hs.2, by simp [hoc, EP.enqFrame, enq_outq], by simp [hoc, EP.enqFrame, lookup_insert_self], by simp [hoc]⟩

/-- The peer application is shown exactly the requested bind type, host bytes and port under the
    flow id chosen by the requester (queued for `next_bind_request`, or held by the parked receive
    loop when that queue is full). -/
theorem peer_sees_request (e : EP) (fid : Nat) (bt : BindType) (port : Nat) (host : Bytes)
    (hen : e.opts.bindCap ≠ 0) (hm : e.muxAlive = true) :
    let b : BindIn := { fid := fid, bt := bt, host := host, port := port }
    let r := processFrame e (.bind fid bt port host) false
    (r.1.bindq = e.bindq ++ [b] ∨ r.1.park = some (.bind b)) ∧ r.1.outq = e.outq ∧ r.2.2 = none := by
  simp only [processFrame, hen, if_false, hm, Bool.not_true, Bool.false_eq_true]
  refine ⟨?_, (Path.offerBind _ _).frame .outq, trivial⟩
  unfold offerBind
  split
  · left; rfl
  · right; rfl

theorem next_bind_request_shows_it (e : EP) (b : BindIn) (rest : List BindIn)
    (hen : e.opts.bindCap ≠ 0) (hq : e.bindq = b :: rest) :
    (appBindNext e).2 = .bindReq e.held.length b.fid b.bt b.host b.port := by
  simp [appBindNext, hen, hq]

/-- The peer's answers: accepting sends `Finish`, rejecting sends `Reset`; dropping an unanswered
    request rejects it; dropping an answered one sends nothing more. -/
theorem answers (e : EP) (k : Nat) (b : BindIn) (hk : e.held[k]? = some b) (ha : b.alive = true)
    (hoc : e.outClosed = false) :
    (appBindReply e k true).1.outq = e.outq ++ [.frame (.finish b.fid)] ∧
    (appBindReply e k false).1.outq = e.outq ++ [.frame (.reset b.fid)] ∧
    (b.replied = false → (appBindDrop e k).1.outq = e.outq ++ [.frame (.reset b.fid)]) ∧
    (b.replied = true → (appBindDrop e k).1.outq = e.outq) := by
  refine ⟨by simp [appBindReply, hk, ha, hoc, EP.enqFrame, enq_outq],
    by simp [appBindReply, hk, ha, hoc, EP.enqFrame, enq_outq], ?_, ?_⟩
  · intro hr; simp [appBindDrop, hk, ha, hr, EP.enqFrame, enq_outq, hoc]
  · intro hr; simp [appBindDrop, hk, ha, hr]

theorem reply_marks_answered (e : EP) (k : Nat) (b : BindIn) (acc : Bool) (hk : e.held[k]? = some b)
    (ha : b.alive = true) (hoc : e.outClosed = false) :
    (appBindReply e k acc).1.held[k]? = some { b with replied := true } := by
  simp [appBindReply, hk, ha, hoc]

/-- The requester's request resolves `true` exactly on the peer's `Finish`, `false` on its `Reset`;
    either way the flow id is released (free for reuse) in the same step, so no second resolution of
    that slot can follow. -/
theorem resolution (e : EP) (fid req : Nat) (ig : Bool) (hs : lookup e.flows fid = some (.bindRequested req)) :
    (processFrame e (.finish fid) ig).2.1 = [.bindDone req .accepted] ∧
    lookup (processFrame e (.finish fid) ig).1.flows fid = none ∧
    (processFrame e (.reset fid) ig).2.1 = [.bindDone req .refused] ∧
    lookup (processFrame e (.reset fid) ig).1.flows fid = none := by
  simp [processFrame, hs, closeFlow, closeLocal, lookup_erase_self]

/-- Nothing else resolves it: `Acknowledge`, `Push`, `Connect` on the id of a pending bind request
    are answered with `Reset` and the request stays pending. -/
theorem other_frames_keep_it_pending (e : EP) (fid req : Nat) (ig : Bool)
    (hs : lookup e.flows fid = some (.bindRequested req)) :
    (∀ n, processFrame e (.acknowledge fid n) ig = (e.enqFrame (.reset fid), [], none)) ∧
    (∀ d, processFrame e (.push fid d) ig = (e.enqFrame (.reset fid), [], none)) ∧
    (∀ w p h, processFrame e (.connect fid w p h) ig = (e.enqFrame (.reset fid), [], none)) := by
  simp [processFrame, hs]

/-- Requests are answered independently of one another: an answer for one id leaves every other
    pending request's slot as it is. -/
theorem independent_answers (e : EP) (f : Frame) (ig : Bool) (y req : Nat)
    (hy : lookup e.flows y = some (.bindRequested req)) (hne : ∀ fid, Msg.flow? (.frame f) = some fid → y ≠ fid) :
    lookup (processFrame e f ig).1.flows y = some (.bindRequested req) :=
  Mux.processFrame_other_slot e f ig y _ hy hne

/-- A peer that is not configured to accept binds answers `Reset` (the requester resolves `false`). -/
theorem binds_disabled (e : EP) (fid : Nat) (bt : BindType) (port : Nat) (host : Bytes) (ig : Bool)
    (h : e.opts.bindCap = 0) :
    processFrame e (.bind fid bt port host) ig = (e.enqFrame (.reset fid), [], none) := by
  simp [processFrame, h]

/-- If the connection ends first, a pending request resolves `false`. -/
theorem connection_end_resolves_false (e : EP) (req fid : Nat) (inh final : Bool) :
    (closeLocal e (.bindRequested req) fid inh final).2 = [.bindDone req .refused] := rfl

/-- Exactly once, the "at most" half for every history: over any history of stimuli of one endpoint
    (application calls, deliveries of anything a peer may send, faults, the wind-down) in which bind
    request numbers are not reused, no bind request is answered twice — accepted (the peer's `Finish`),
    refused (its `Reset`, or the connection ending first) or `Closed` — and only requests that were
    made are answered. (The "at least" half is C08: whatever is pending when the connection ends is
    answered by the wind-down, `connection_end_resolves_false`.) `Lemmas/MuxOnceB.lean`. -/
theorem each_bind_request_answered_at_most_once (o : Opts) (ops : List Mux.Op) (h : (bindsOf ops).Nodup) :
    (doneB (runOpsEv { opts := o } ops).2).Nodup ∧
    ∀ r, r ∈ doneB (runOpsEv { opts := o } ops).2 → r ∈ bindsOf ops :=
  binds_answered_at_most_once o ops h

/-! Non-vacuity: request 1 is accepted by the peer, request 2 refused, request 3 is still pending
    when the peer closes the connection (refused by the wind-down). -/
private def bops : List Mux.Op :=
  [.bindReq 1 .stream [97] 80, .bindReq 2 .datagram [98] 81, .deliver (.msg (.frame (.finish 7))),
   .deliver (.msg (.frame (.reset 8))), .bindReq 3 .stream [99] 82, .deliver (.msg .close)]
example : bindsOf bops = [1, 2, 3] := by decide
example : doneB (runOpsEv { opts := {}, rng := [7, 8, 9] } bops).2 = [1, 2, 3] := by decide

/-! Non-vacuity: a bind request queues a `Bind` frame under the id drawn from the script. -/
example : (appBindReq { opts := {}, rng := [7] } 1 .stream [0x61] 80).1.outq = [.frame (.bind 7 .stream 80 [0x61])] := by decide

/-! ### Two endpoints: the answer IS the peer application's decision on that very request

`Model/BindPair`: two endpoint models joined by two FIFO wires, every interleaving of application
calls (`request_bind`, `next_bind_request`, `reply`, dropping a `BindRequest`), single messages handed
to the transport, single frames processed, completed hand-overs to a full bind queue; both sides ask
and answer, any number of requests at a time, any queue sizes, binds enabled or not.  The ghost
history records what the applications did and saw.  `Lemmas/BindDir`, `BindInj`, `BindPair`. -/

open Penguin.BindPair in
/-- What the resolution of request `req` of the asking side (`p.a`) means at the answering side
    (`p.b`, whose `bind_buffer_size` is `peerCap`). -/
def ResolvedAsDecided (peerCap : Nat) (p : BindPair.PS) (req : Nat) : Prop :=
  ((req, BindRes.accepted) ∈ p.ga.results →
      ∃ k b, (req, k) ∈ p.gb.links ∧ p.b.held[k]? = some b ∧ recOf req b ∈ p.ga.asked ∧
             k ∈ p.gb.accepted ∧ k ∉ p.gb.rejected) ∧
  ((req, BindRes.refused) ∈ p.ga.results →
      peerCap = 0 ∨ ∃ k b, (req, k) ∈ p.gb.links ∧ p.b.held[k]? = some b ∧ recOf req b ∈ p.ga.asked ∧
             k ∈ p.gb.rejected ∧ k ∉ p.gb.accepted)

/-- `true` iff the peer accepted that very request: in every reachable state of the pair, a request
    that resolved `true` was shown to the peer application as `BindRequest` number `k` with exactly
    the asked type, host bytes and port under the requester's flow id (`recOf req b` is the asked
    record), and the peer application answered THAT `BindRequest` with `reply(true)` and did not
    reject it; one that resolved `false` met a peer that takes no binds, or its `BindRequest` was
    rejected or dropped unanswered and not accepted.  In both directions. -/
theorem pair_bind_resolves_with_the_peers_decision (oa ob : Opts) (ra rb : List Nat)
    (acts : List (BindPair.Side × BindPair.Act)) (req : Nat) :
    ResolvedAsDecided ob.bindCap (BindPair.run (BindPair.init oa ob ra rb) acts) req ∧
    ResolvedAsDecided oa.bindCap (BindPair.run (BindPair.init oa ob ra rb) acts).swap req := by
  have h := BindPair.reachable_inv oa ob ra rb acts
  exact ⟨⟨BindPair.accepted_means_peer_accepted h req, BindPair.refused_means_peer_refused h req⟩,
         ⟨BindPair.accepted_means_peer_accepted h.swap req, BindPair.refused_means_peer_refused h.swap req⟩⟩

/-- The peer application is shown exactly what was asked: every `BindRequest` it ever receives is,
    field for field and under the requester's flow id, a request the other application made; the
    pairing of requests and `BindRequest`s is one-to-one (no request is shown twice, none is
    invented, none stands for two).  In both directions. -/
theorem pair_bind_peer_is_shown_exactly_the_requests (oa ob : Opts) (ra rb : List Nat)
    (acts : List (BindPair.Side × BindPair.Act)) :
    let p := BindPair.run (BindPair.init oa ob ra rb) acts
    (∀ (k : Nat) (b : BindIn), p.b.held[k]? = some b → ∃ req, (req, k) ∈ p.gb.links ∧ BindPair.recOf req b ∈ p.ga.asked) ∧
    (∀ (k : Nat) (b : BindIn), p.a.held[k]? = some b → ∃ req, (req, k) ∈ p.ga.links ∧ BindPair.recOf req b ∈ p.gb.asked) ∧
    (p.gb.links.map (·.1)).Nodup ∧ (p.gb.links.map (·.2)).Nodup ∧
    (p.ga.links.map (·.1)).Nodup ∧ (p.ga.links.map (·.2)).Nodup := by
  intro p
  have h := BindPair.reachable_inv oa ob ra rb acts
  exact ⟨BindPair.shown_is_asked h, BindPair.shown_is_asked h.swap,
         (BindPair.links_one_to_one h).1, (BindPair.links_one_to_one h).2,
         (BindPair.links_one_to_one h.swap).1, (BindPair.links_one_to_one h.swap).2⟩

/-- The flow id is free for reuse afterwards, on both endpoints: once the requester holds no slot
    for an id, no answer for it is queued or on the wire, the peer's bind queue has no request under
    it, and no `BindRequest` under it awaits the peer application's decision — a new request drawn
    with the same id starts clean. -/
theorem pair_bind_id_is_free_afterwards (oa ob : Opts) (ra rb : List Nat)
    (acts : List (BindPair.Side × BindPair.Act)) (x : Nat) :
    let p := BindPair.run (BindPair.init oa ob ra rb) acts
    lookup p.a.flows x = none →
      (.frame (.finish x)) ∉ p.ba ++ p.b.outq ∧ (.frame (.reset x)) ∉ p.ba ++ p.b.outq ∧
      (∀ c ∈ p.b.bindq, c.fid ≠ x) ∧
      (∀ (k : Nat) (b : BindIn), p.b.held[k]? = some b → b.pending = true → b.fid ≠ x) := by
  intro p hx
  exact BindPair.resolved_id_is_free (BindPair.reachable_inv oa ob ra rb acts) x hx

/-! Non-vacuity: A asks twice (ids 7 and 8); B's application takes both, answers the SECOND first
    (accept) and drops the first unanswered; both answers travel back: request 2 resolved `true`,
    request 1 `false`, and the links pair request 1 with `BindRequest` 0 and request 2 with 1. -/
private def pacts : List (BindPair.Side × BindPair.Act) :=
  [(.A, .bindReq 1 .stream [97] 80), (.A, .bindReq 2 .datagram [98] 81), (.A, .xmit), (.A, .xmit),
   (.B, .recv), (.B, .recv), (.B, .bindNext), (.B, .bindNext), (.B, .bindReply 1 true), (.B, .bindDrop 0),
   (.B, .xmit), (.B, .xmit), (.A, .recv), (.A, .recv)]
private def pfin : BindPair.PS := BindPair.run (BindPair.init {} { bindCap := 2 } [7, 8] []) pacts
example : pfin.ga.results = [(2, .accepted), (1, .refused)] := by decide
example : pfin.gb.links = [(1, 0), (2, 1)] ∧ pfin.gb.accepted = [1] ∧ pfin.gb.rejected = [0] := by decide
example : pfin.a.flows = [] ∧ pfin.ba = [] ∧ pfin.b.outq = [] := by decide

/-- What the correspondence harness executes is covered by the pair theorems: an application call of
    the harness at an endpoint (`request_bind`, `next_bind_request`, `reply`, dropping a
    `BindRequest` — each followed by the connection task's run to quiescence, `Mux.applyOp`, the
    function compared with the real `Multiplexor`) leaves the endpoint and the wire exactly as the
    run `call; unpark; xmit × n` of the pair does. -/
theorem harness_bind_call_is_a_run (oa ob : Opts) (ra rb : List Nat) (acts : List (BindPair.Side × BindPair.Act))
    (a : BindPair.Act) (op : Mux.Op) (q1 : BindPair.PS) (ho : BindPair.opOf a = some op)
    (hs : BindPair.stepL (BindPair.run (BindPair.init oa ob ra rb) acts) a = some q1) :
    let p := BindPair.run (BindPair.init oa ob ra rb) acts
    ∃ n q, BindPair.runL p (a :: .unpark :: List.replicate n .xmit) = some q ∧
      q.a = (applyOp p.a op).1 ∧ q.ab = p.ab ++ BindPair.wiresOf (applyOp p.a op).2.2 ∧ q.b = p.b ∧ q.ba = p.ba :=
  BindPair.call_is_a_run (BindPair.reachable_inv oa ob ra rb acts) ho hs

/-- … and a delivery of the harness (the oldest message in transit is handed to an endpoint whose
    receive loop is not parked, then the task runs to quiescence) leaves them as the run
    `recv; unpark; xmit × n` does; the delivery is always enabled (no frame of bind traffic ends the
    connection). -/
theorem harness_bind_delivery_is_a_run (oa ob : Opts) (ra rb : List Nat) (acts : List (BindPair.Side × BindPair.Act))
    (f : Frame) (rest : List Msg)
    (hba : (BindPair.run (BindPair.init oa ob ra rb) acts).ba = .frame f :: rest)
    (hp : (BindPair.run (BindPair.init oa ob ra rb) acts).a.park = none) :
    let p := BindPair.run (BindPair.init oa ob ra rb) acts
    ∃ n q, BindPair.runL p (.recv :: .unpark :: List.replicate n .xmit) = some q ∧
      q.a = (applyOp p.a (.deliver (.msg (.frame f)))).1 ∧
      q.ab = p.ab ++ BindPair.wiresOf (applyOp p.a (.deliver (.msg (.frame f)))).2.2 ∧ q.b = p.b ∧ q.ba = rest :=
  BindPair.deliver_is_a_run (BindPair.reachable_inv oa ob ra rb acts) f rest hba hp

/-! Non-vacuity: after A's two requests were transmitted, the first is in transit to B, whose receive
    loop is not parked; and `request_bind` is enabled at A in the initial state. -/
example : (BindPair.run (BindPair.init {} { bindCap := 2 } [7, 8] []) (pacts.take 4)).swap.ba =
    [.frame (.bind 7 .stream 80 [97]), .frame (.bind 8 .datagram 81 [98])] ∧
    (BindPair.run (BindPair.init {} { bindCap := 2 } [7, 8] []) (pacts.take 4)).swap.a.park = none := by decide
example : (BindPair.stepL (BindPair.init {} { bindCap := 2 } [7, 8] []) (.bindReq 1 .stream [97] 80)).isSome = true := by decide

/-! ### Bind requests and streams on ONE connection (`Model/Pair` with the bind actions)

The theorems above treat connections that carry bind traffic only.  `Model/Pair` is the running phase
of a connection with streams, datagrams AND bind requests: its actions include `request_bind`,
`next_bind_request`, `reply`, the drop of a `BindRequest`, and its receive loop processes `Bind` frames.
Its invariant (`Pair.Inv`, proved for every run in `Lemmas/PairMain.lean`) has two parts: the stream
part (every flow id is fresh, requested, half-open, linked or dead; `Props/C02`–`C07` read their
`pair_*` theorems off it), and `Pair.Binds`: the flow id of every bind request that is under way or
that an endpoint remembers belongs to no stream.  Since `C02`–`C07` quantify over ALL runs of
`Model/Pair`, they hold in runs with bind traffic; the first theorem below says so explicitly. -/

open Penguin.Pair in
/-- Streams are unaffected by concurrent bind requests.  In every reachable state of a connection on
    which streams, datagrams and bind requests travel in any interleaving (flow ids never drawn twice):
    (1) the invariant of the pair holds;
    (2) on every flow established on both endpoints, in both directions, what the reader's application
        has read ++ what its handle buffers ++ what its queue holds ++ what is in flight equals, in
        order, exactly what the writer's application wrote — whatever bind requests were made,
        queued, answered, rejected or dropped meanwhile;
    (3) the flow id of every bind request that is in transit or that an endpoint remembers (parked
        hand-over, bind queue, `BindRequest` handed to the application) is the id of no stream: it is
        in no script any more, no `Connect` carries it, no stream object carries it on either
        endpoint, neither endpoint has a stream slot for it, and it was never recorded as
        established. -/
theorem pair_streams_unaffected_by_bind_traffic {oa ob : Opts} {ra rb : List Nat} (c : Pair.Cfg oa ob ra rb)
    (as : List (Pair.Side × Pair.Act)) :
    let p := Pair.run (Pair.init oa ob ra rb) as
    Pair.Inv p ∧
    (∀ x i j, Pair.Established p x i j →
      (∃ oB, p.b.objs[j]? = some oB ∧
        p.gb.rlog j ++ oB.buf ++ oB.rxq.flatten ++ (pushesOf x (pathAB p)).flatten = p.ga.wlog i ∧
        p.gb.rlog j <+: p.ga.wlog i) ∧
      (∃ oA, p.a.objs[i]? = some oA ∧
        p.ga.rlog i ++ oA.buf ++ oA.rxq.flatten ++ (pushesOf x (pathBA p)).flatten = p.gb.wlog j ∧
        p.ga.rlog i <+: p.gb.wlog j)) ∧
    (∀ x, Pair.Marked x p → Pair.BoundAt x p ∧ x ∉ p.linked) := by
  intro p
  have h : Pair.Inv p := reach_inv c as
  exact ⟨h, fun x i j e => ⟨established_bytes h e, established_bytes h.swap e.swap⟩, fun x hm => h.marked_bound hm⟩

open Penguin.Pair in
/-- A bind request never touches a stream (the footprint of bind traffic).  Whenever an endpoint —
    on either side, in ANY state of the pair, reachable or not — makes one of the bind calls
    (`request_bind`, `next_bind_request`, `reply`, dropping a `BindRequest`) or its receive loop
    processes a `Bind` frame, then on both endpoints every stream object, every handle, every stream
    slot (`Requested` or `Established`: the same ids hold the same slots before and after), the accept
    queue, the pending `new_stream_channel` calls and the dropped-handle notifications are unchanged,
    and so is everything the applications have observed on their streams (bytes written and read,
    end-of-stream, datagrams) and the record of established flows. -/
theorem bind_request_never_touches_a_stream (p p' : Pair.PS) (s : Pair.Side) (a : Pair.Act)
    (ha : a.isBindCall = true ∨
      (a = .recv ∧ ∃ (x : Nat) (bt : BindType) (port : Nat) (host : Bytes) (rest : List Msg),
        p.incoming s = .frame (.bind x bt port host) :: rest))
    (hs : Pair.step p s a = some p') : Pair.StreamsSame p p' := by
  cases s with
  | A =>
    rcases ha with ha | ⟨rfl, x, bt, port, host, rest, hba⟩
    · exact stepL_bindCall_same a ha hs
    · exact stepL_recvBind_same x bt port host rest hba hs
  | B =>
    simp only [Pair.step, Option.map_eq_some_iff] at hs
    obtain ⟨q, hq, rfl⟩ := hs
    rcases ha with ha | ⟨rfl, x, bt, port, host, rest, hba⟩
    · exact (stepL_bindCall_same a ha hq).unswap
    · exact (stepL_recvBind_same (p := p.swap) x bt port host rest hba hq).unswap

/-! Non-vacuity: a run of the pair (windows 2, threshold 1; `b` takes up to two bind requests) in
    which `a` opens a stream (flow id 7), makes a bind request (flow id 8), writes three bytes; `b`
    receives the `Bind` frame and the data, takes the request, accepts it, reads the data; `a` receives
    the answer.  At the end the stream is established on both sides with all three bytes read, the
    bind request is resolved (its slot is gone), and `b` still remembers id 8 — which is bound. -/
private def mcfgA : Mux.Opts := { rwnd := 2, threshold := 1 }
private def mcfgB : Mux.Opts := { rwnd := 2, threshold := 1, bindCap := 2 }
private def macts : List (Pair.Side × Pair.Act) :=
  [(.A, .open 1 [104] 80), (.A, .xmit), (.B, .recv), (.B, .xmit), (.A, .recv), (.A, .runDone), (.B, .accept),
   (.A, .bindReq 5 .stream [97] 81), (.A, .write 0 [1, 2, 3]), (.A, .xmit), (.A, .xmit),
   (.B, .recv), (.B, .recv), (.B, .bindNext), (.B, .bindReply 0 true), (.B, .xmit), (.B, .read 0 9), (.A, .recv)]
private def mfin : Pair.PS := Pair.run (Pair.init mcfgA mcfgB [7, 8, 11] [9, 10]) macts
example : Pair.Cfg mcfgA mcfgB [7, 8, 11] [9, 10] := ⟨by decide, by decide, by decide, by decide⟩
example : Pair.Established mfin 7 0 0 := ⟨by decide, by decide, by decide, by decide, by decide⟩
example : mfin.gb.rlog 0 = [1, 2, 3] ∧ mfin.ga.wlog 0 = [1, 2, 3] := by decide
-- the bind request went through: `b`'s application was handed it and accepted it, `a`'s slot is resolved
example : (mfin.b.held.map (fun r => (r.fid, r.replied))) = [(8, true)] ∧ lookup mfin.a.flows 8 = none := by decide
-- id 8 is marked (b remembers it) — so, by the theorem, bound
example : Pair.Marked 8 mfin := Or.inr (Or.inr (Or.inr (by decide)))
-- while the `Bind` frame is in transit (after the 11th action) it is marked as well, and the next
-- action is the receive loop of `b` processing it: the hypotheses of the footprint theorem are met
example : Pair.Marked 8 (Pair.run (Pair.init mcfgA mcfgB [7, 8, 11] [9, 10]) (macts.take 11)) :=
  Or.inl ⟨.frame (.bind 8 .stream 81 [97]), by decide, rfl⟩
example : (Pair.run (Pair.init mcfgA mcfgB [7, 8, 11] [9, 10]) (macts.take 11)).ab =
    [.frame (.bind 8 .stream 81 [97]), .frame (.push 7 [1, 2, 3])] := by decide
example : (Pair.step (Pair.run (Pair.init mcfgA mcfgB [7, 8, 11] [9, 10]) (macts.take 11)) .B .recv).isSome = true := by decide
example : (Pair.step (Pair.run (Pair.init mcfgA mcfgB [7, 8, 11] [9, 10]) (macts.take 7)) .A (.bindReq 5 .stream [97] 81)).isSome = true := by
  decide

open Penguin.Pair in
/-- The same at the level the correspondence harness works at.  A history of checked stimuli at
    either endpoint — application calls, `request_bind`, `next_bind_request`, `reply` and the drop
    of a `BindRequest` among them, and deliveries, those of `Bind` frames among them, each followed
    by that endpoint's run to quiescence (`Mux.applyOp`) — is a run of the pair's fine-grained actions (`Pair.stimRun_is_run`); so after every such history the invariant holds, on every
    established flow every written byte is in exactly one place, and the flow id of every bind request
    under way or remembered is the id of no stream. -/
theorem harness_history_with_bind_traffic {oa ob : Opts} {ra rb : List Nat} (c : Pair.Cfg oa ob ra rb)
    (l : List (Pair.Side × Pair.Stim)) (q : Pair.PS) (h : Pair.stimRun (Pair.init oa ob ra rb) l = some q) :
    (∃ as : List (Pair.Side × Pair.Act), Pair.run (Pair.init oa ob ra rb) as = q) ∧
    Pair.Inv q ∧
    (∀ x i j, Pair.Established q x i j →
      ∃ oB, q.b.objs[j]? = some oB ∧
        q.gb.rlog j ++ oB.buf ++ oB.rxq.flatten ++ (pushesOf x (pathAB q)).flatten = q.ga.wlog i ∧
        q.gb.rlog j <+: q.ga.wlog i) ∧
    (∀ x, Pair.Marked x q → Pair.BoundAt x q ∧ x ∉ q.linked) := by
  obtain ⟨as, rfl⟩ := stimRun_is_run _ _ _ h
  have hp := pair_streams_unaffected_by_bind_traffic c as
  exact ⟨⟨as, rfl⟩, hp.1, fun x i j e => (hp.2.1 x i j e).1, hp.2.2⟩

/-! Non-vacuity: a stimulus-level history with a stream and a bind request on one connection is
    accepted by `stimRun` (every side condition holds at every step): `a` opens a stream, asks for a
    bind, writes; `b` is delivered the `Bind` frame and the data, takes the request, accepts it, reads;
    `a` is delivered the answer. -/
private def mhist : List (Pair.Side × Pair.Stim) :=
  [(.A, .call (.open 1 [104] 80)), (.B, .deliver), (.A, .deliver), (.B, .call .accept),
   (.A, .call (.bindReq 5 .stream [97] 81)), (.A, .call (.write 0 [1, 2, 3])), (.B, .deliver), (.B, .deliver),
   (.B, .call .bindNext), (.B, .call (.bindReply 0 true)), (.B, .call (.read 0 9)), (.A, .deliver)]
example : ((Pair.stimRun (Pair.init mcfgA mcfgB [7, 8, 11] [9, 10]) mhist).map
    (fun q => (q.gb.rlog 0, q.b.held.map (fun r => (r.fid, r.replied)), lookup q.a.flows 8))) =
    some ([1, 2, 3], [(8, true)], none) := by decide

/-! ### Two endpoints, EVERY history: stream and datagram traffic, faults and connection end included

`Model/PairAll.lean`: two endpoint models at the stimulus level — ANY `Mux.Op` call at either side (streams,
datagrams, bind calls, `dropMux`, dropped handles …), deliveries from the head of a wire, cuts, Close — under the
only hypothesis `PairAll.Cfg` (the two id scripts together are duplicate-free).  Beside `Mux.Ghost`, each side
has an OBSERVER of its bind traffic (`BindAll.runB`, `Lemmas/BindAllMain.lean`): the list of `BindAll.BEv`
events, in order, computed from the calls, their results and the emitted events —
`asked req fid bt host port` (a `request_bind` call number `req` queued its `Bind` frame; `fid` is the flow id
the call drew), `done req r` (`Ev.bindDone`), `shown k fid bt host port` (`next_bind_request` returned
`BindRequest` number `k`), `replied k acc` (`reply(acc)` on number `k` returned `Ok`), `dropped k`,
`muxDropped`.  `(runB q l).p = PairAll.run q.p l` (`BindAll.runB_p`): the run is the run of the pair model.

Proof (`Lemmas/BindAll*.lean`): a bind VIEW of an endpoint covering all flow ids (flow table, ids of the stream
objects, script, inbox, outbound queue, bind queue, parked hand-over, held `BindRequest`s …), 19 atomic view
changes labelled with the messages sent and the events recorded, a simulation of every function of the
endpoint model by those changes (`BSim`), and an invariant on the pair of views: the id discipline per flow
id (a numeric summary, `Num`), "every request under way, waiting or shown was asked with exactly these
fields", "every `Finish x` travelling back to the side that asked with `x` is backed by a shown and accepted
`BindRequest` of `x`". -/

open Penguin.BindAll Penguin.PairAll in
/-- `true` ONLY IF the peer application accepted that very request — in every history.  Whatever happens on
    the connection (streams opened, written, reset, handles dropped, datagrams, other bind requests, frames
    lost in a cut, either `Multiplexor` dropped, either task winding down): if a bind request number `req` of
    one side resolved `accepted`, then that side made a request number `req` which drew some flow id `x` and
    asked for `(bt, host, port)`, the OTHER application was shown a `BindRequest` (number `k`) with exactly
    that flow id, bind type, host bytes and port, and its `reply(true)` on that very `BindRequest` went through.
    Both directions.  (With request numbers that are not reused the asked record is the request; in any
    case a flow id names at most one request, see the next theorem.) -/
theorem pair_bind_true_only_if_peer_accepted_every_history (oa ob : Opts) {ra rb : List Nat} (cfg : PairAll.Cfg ra rb)
    (l : List (PairAll.Side × PairAll.Stim)) (req : Nat) :
    let q := runB { p := PairAll.init oa ob ra rb } l
    (BEv.done req .accepted ∈ q.ha →
      ∃ x bt host port k, BEv.asked req x bt host port ∈ q.ha ∧ BEv.shown k x bt host port ∈ q.hb ∧
        BEv.replied k true ∈ q.hb) ∧
    (BEv.done req .accepted ∈ q.hb →
      ∃ x bt host port k, BEv.asked req x bt host port ∈ q.hb ∧ BEv.shown k x bt host port ∈ q.ha ∧
        BEv.replied k true ∈ q.ha) := by
  intro q
  have h := reach_inv oa ob cfg l
  exact ⟨h.l.glob req, h.r.glob req⟩

open Penguin.BindAll Penguin.PairAll in
/-- The peer application is shown ONLY what was asked, at most once — in every history.  Every `BindRequest`
    an application is ever shown carries the flow id, bind type, host bytes and port of a request the other
    application made (nothing is invented, nothing altered, also not by stream or datagram traffic, faults
    or the connection ending); per flow id at most one `BindRequest` is ever shown, and a flow id names at
    most one request (so the asked record is unique, and no request is shown twice).  Both directions. -/
theorem pair_bind_shown_only_what_was_asked_every_history (oa ob : Opts) {ra rb : List Nat} (cfg : PairAll.Cfg ra rb)
    (l : List (PairAll.Side × PairAll.Stim)) :
    let q := runB { p := PairAll.init oa ob ra rb } l
    (∀ k x bt host port, BEv.shown k x bt host port ∈ q.hb → ∃ req, BEv.asked req x bt host port ∈ q.ha) ∧
    (∀ k x bt host port, BEv.shown k x bt host port ∈ q.ha → ∃ req, BEv.asked req x bt host port ∈ q.hb) ∧
    (∀ x, q.hb.countP (isShown x) ≤ 1 ∧ q.ha.countP (isShown x) ≤ 1) ∧
    (∀ x, q.ha.countP (isAsked x) ≤ 1 ∧ q.hb.countP (isAsked x) ≤ 1) := by
  intro q
  have h := reach_inv oa ob cfg l
  exact ⟨fun k x bt host port hs => h.l.asked x bt host port (Or.inr (Or.inr (Or.inr ⟨k, hs⟩))),
    fun k x bt host port hs => h.r.asked x bt host port (Or.inr (Or.inr (Or.inr ⟨k, hs⟩))),
    fun x => ⟨(h.once x).1, (h.swap.once x).1⟩, fun x => ⟨(h.once x).2, (h.swap.once x).2⟩⟩

open Penguin.BindAll Penguin.PairAll in
/-- The flow id of a bind request is never a stream's — in every history.  Once a `request_bind` call drew
    flow id `x`, then at every later moment: no stream object on either endpoint carries `x`, the answering
    endpoint has no slot for `x`, and the asking endpoint's slot for `x`, if any, is that of a pending bind
    request (so neither stream traffic nor a stale frame can stand for the answer: the `Finish x` that
    resolves the request can only come from `reply(true)`). -/
theorem pair_bind_id_carries_no_stream_every_history (oa ob : Opts) {ra rb : List Nat} (cfg : PairAll.Cfg ra rb)
    (l : List (PairAll.Side × PairAll.Stim)) (req x : Nat) (bt : BindType) (host : Bytes) (port : Nat) :
    let q := runB { p := PairAll.init oa ob ra rb } l
    BEv.asked req x bt host port ∈ q.ha →
      (∀ o ∈ q.p.a.objs, o.fid ≠ x) ∧ (∀ o ∈ q.p.b.objs, o.fid ≠ x) ∧ lookup q.p.b.flows x = none ∧
      (lookup q.p.a.flows x = none ∨ ∃ r, lookup q.p.a.flows x = some (.bindRequested r)) := by
  intro q ha
  obtain ⟨h1, h2, h3, h4⟩ := (reach_inv oa ob cfg l).asked_no_stream (one_le_asked ha)
  exact ⟨fun o ho he => h1 (List.mem_map.mpr ⟨o, ho, he⟩), fun o ho he => h2 (List.mem_map.mpr ⟨o, ho, he⟩), h3, h4⟩

open Penguin.BindAll Penguin.PairAll in
/-- The records are those of the run of `Model/PairAll.lean`: the pair state after the run with records is
    the pair state after the run. -/
theorem bind_records_follow_the_pair_run (oa ob : Opts) (ra rb : List Nat) (l : List (PairAll.Side × PairAll.Stim)) :
    (runB { p := PairAll.init oa ob ra rb } l).p = PairAll.run (PairAll.init oa ob ra rb) l :=
  runB_p _ l

/-! Non-vacuity (the hypotheses of the implications above are met by concrete reachable states; `b` takes up
    to two bind requests, scripts `[7, 8, 11]` and `[9, 10]`). -/
private def allB : Mux.Opts := { bindCap := 2 }
example : PairAll.Cfg [7, 8, 11] [9, 10] := ⟨by decide, by decide, by decide⟩

open Penguin.BindAll Penguin.PairAll in
/-- (1) A bind request accepted while a stream transfers data: `a` opens a stream (flow 7), asks for a bind
    (flow 8) and writes three bytes; `b` is delivered the `Bind` frame and the data, takes the request, accepts
    it and reads the bytes; `a` is delivered the answer. -/
private def hist1 : List (PairAll.Side × PairAll.Stim) :=
  [(.A, .call (.open 1 [104] 80)), (.B, .deliver), (.A, .deliver), (.B, .call .accept),
   (.A, .call (.bindReq 5 .stream [97] 81)), (.A, .call (.write 0 [1, 2, 3])), (.B, .deliver), (.B, .deliver),
   (.B, .call .bindNext), (.B, .call (.bindReply 0 true)), (.B, .call (.read 0 9)), (.A, .deliver)]
open Penguin.BindAll Penguin.PairAll in
example :
    let q := runB { p := PairAll.init {} allB [7, 8, 11] [9, 10] } hist1
    q.ha = [.asked 5 8 .stream [97] 81, .done 5 .accepted] ∧ q.hb = [.shown 0 8 .stream [97] 81, .replied 0 true] ∧
    q.p.gb.returned = [(0, [1, 2, 3])] := by decide

-- … and while the request is pending (after the 6th stimulus) its id 8 has a `BindRequested` slot at `a`, flow 7 a stream
open Penguin.BindAll Penguin.PairAll in
example :
    let q := runB { p := PairAll.init {} allB [7, 8, 11] [9, 10] } (hist1.take 6)
    BEv.asked 5 8 .stream [97] 81 ∈ q.ha ∧ lookup q.p.a.flows 8 = some (.bindRequested 5) ∧
    lookup q.p.a.flows 7 = some (.established 0) := by decide

open Penguin.BindAll Penguin.PairAll in
/-- (2) A bind request whose answer is lost in a cut: `b`'s application accepts, the `Finish` is on the wire
    when `a`'s source fails; `a`'s task winds down and the request resolves `refused` — NOT `accepted`, although
    the peer accepted (the theorem is an "only if"; the connection ended first). -/
private def hist2 : List (PairAll.Side × PairAll.Stim) :=
  [(.A, .call (.bindReq 5 .stream [97] 81)), (.B, .deliver), (.B, .call .bindNext), (.B, .call (.bindReply 0 true)),
   (.A, .cut false)]
open Penguin.BindAll Penguin.PairAll in
example :
    let q := runB { p := PairAll.init {} allB [7, 8, 11] [9, 10] } hist2
    q.ha = [.asked 5 7 .stream [97] 81, .done 5 .refused] ∧ q.hb = [.shown 0 7 .stream [97] 81, .replied 0 true] ∧
    q.p.a.dead = true ∧ q.p.ba = [] := by decide
-- just before the cut the answer is in transit
open Penguin.BindAll Penguin.PairAll in
example : (runB { p := PairAll.init {} allB [7, 8, 11] [9, 10] } (hist2.take 4)).p.ba = [.frame (.finish 7)] := by decide

open Penguin.BindAll Penguin.PairAll in
/-- (3) Two bind requests answered in reverse order: `b` accepts the second and rejects the first; the answers
    travel back; request 2 resolved `accepted`, request 1 `refused`, each shown once with its own fields. -/
private def hist3 : List (PairAll.Side × PairAll.Stim) :=
  [(.A, .call (.bindReq 1 .stream [97] 80)), (.A, .call (.bindReq 2 .datagram [98] 81)), (.B, .deliver), (.B, .deliver),
   (.B, .call .bindNext), (.B, .call .bindNext), (.B, .call (.bindReply 1 true)), (.B, .call (.bindReply 0 false)),
   (.A, .deliver), (.A, .deliver)]
open Penguin.BindAll Penguin.PairAll in
example :
    let q := runB { p := PairAll.init {} allB [7, 8, 11] [9, 10] } hist3
    q.ha = [.asked 1 7 .stream [97] 80, .asked 2 8 .datagram [98] 81, .done 2 .accepted, .done 1 .refused] ∧
    q.hb = [.shown 0 7 .stream [97] 80, .shown 1 8 .datagram [98] 81, .replied 1 true, .replied 0 false] := by decide

/-! ### `false` only if not accepted, or ended — every history (the first answer counts)

Two further layers of the invariant.  The second layer (`Lemmas/BindAllLocal.lean`, `BindAllInv.lean`,
`BindAllReach.lean`): every `Reset x` travelling back to the side that asked with `x` is backed (the answering
endpoint takes no binds; or its `Multiplexor` was dropped; or a `BindRequest` of `x` was shown and rejected, or
dropped unanswered); the flags of an endpoint are tied to its observer's record (`Loc`); while `x` is still in a
script no `Reset x` travels.

The ORDER layer (`Lemmas/BindAllFacts.lean`, `BindAllLocal.lean`, `BindAllOrd.lean`, `BindAllOrdStep.lean`,
`BindAllReach.lean`).  The atomic steps never drop an answer frame (`Finish x` / `Reset x`) of a pending
bind request from the inbox silently (`Shrinks.pops`; the simulation releases the slot before it pops), a
delivery is ignored only by a view whose source has ended (`CStepL.dlv`, `deafV`; then the wire to it is
closed: `Wires`), so the answers that can still reach the asking side — its inbox, then, while the wire is
open, the wire and the peer's outbound queue (`BC.live`) — are a FIFO sequence that loses only suffixes
(a cut, a dropped queue, an emit to a closed wire).  Invariant `Ord`: if the FIRST recorded reply on the
`BindRequest` of `x` is `reply(true)` and `x`'s slot is pending, then the first answer for `x` on the live
path is a `Finish`, or there is none and none can come any more.  So a `Reset x` at the head of the inbox of a
side whose request is pending was not preceded by a `reply(true)`.

The full theorem comes first; `…_partial` (some `reply(false)` was recorded) and `…_single_reply` (applications
that answer a `BindRequest` at most once) are weaker forms and follow from it. -/

open Penguin.BindAll Penguin.PairAll in
/-- `false` ONLY IF one of four things happened, the FIRST answer counting — in every history.  If bind
    request number `req` of side `a` resolved `refused`, then `a` made a request number `req` that drew a flow
    id `x` and asked `(bt, host, port)`, and at least one of:
    (d) `a`'s own connection task has finished (`dead`: the peer or the transport ended the connection, an
        invalid frame arrived, or `a`'s `Multiplexor` was dropped and the wind-down completed — pending
        requests are refused by the wind-down's last step and by nothing else local: the model's other local
        cause, `closeFlow` on a dropped-handle notification for the id, CANNOT happen for a bind id, since no
        stream object ever carries it — `pair_bind_id_carries_no_stream_every_history`; dropping `a`'s
        `Multiplexor` by itself refuses nothing until the task finishes);
    (a) `b`'s endpoint takes no binds (`bind_buffer_size = 0`);
    (b) `b`'s `Multiplexor` had been dropped (queued / arriving requests reject themselves);
    (c) `b`'s application was shown a `BindRequest` (number `k`) with exactly `x`, `bt`, `host`, `port` and
        - called `reply(false)` on it with NO `reply(true)` on that same `BindRequest` recorded BEFORE it
          (the record `q.hb` splits as `g1 ++ replied k false :: g2` with no `replied k true` in `g1`;
          `BindRequest::reply` takes `&self`, so an application can answer twice: the first answer counts), or
        - dropped it WITHOUT EVER replying to it.
    Both directions.  In particular a request the peer application accepted FIRST is never refused by a
    later `reply(false)`: it resolves `accepted`, or stays pending until the requester's task ends. -/
theorem pair_bind_false_only_if_not_accepted_or_ended (oa ob : Opts) {ra rb : List Nat} (cfg : PairAll.Cfg ra rb)
    (l : List (PairAll.Side × PairAll.Stim)) (req : Nat) :
    let q := runB { p := PairAll.init oa ob ra rb } l
    (BEv.done req .refused ∈ q.ha →
      ∃ x bt host port, BEv.asked req x bt host port ∈ q.ha ∧
        (q.p.a.dead = true ∨ ob.bindCap = 0 ∨ BEv.muxDropped ∈ q.hb ∨
         ∃ k, BEv.shown k x bt host port ∈ q.hb ∧
           ((∃ g1 g2, q.hb = g1 ++ BEv.replied k false :: g2 ∧ BEv.replied k true ∉ g1) ∨
            (BEv.dropped k ∈ q.hb ∧ ∀ acc, BEv.replied k acc ∉ q.hb)))) ∧
    (BEv.done req .refused ∈ q.hb →
      ∃ x bt host port, BEv.asked req x bt host port ∈ q.hb ∧
        (q.p.b.dead = true ∨ oa.bindCap = 0 ∨ BEv.muxDropped ∈ q.ha ∨
         ∃ k, BEv.shown k x bt host port ∈ q.ha ∧
           ((∃ g1 g2, q.ha = g1 ++ BEv.replied k false :: g2 ∧ BEv.replied k true ∉ g1) ∨
            (BEv.dropped k ∈ q.ha ∧ ∀ acc, BEv.replied k acc ∉ q.ha)))) := by
  intro q
  have h : Inv4 (absB q) := reach_inv4 oa ob cfg l
  have hcap := runB_caps { p := PairAll.init oa ob ra rb } l
  have one : ∀ (c : BC), Inv4 c → ∀ cap, c.b.bindCap = cap → BEv.done req .refused ∈ c.ga →
      ∃ x bt host port, BEv.asked req x bt host port ∈ c.ga ∧
        (c.a.dead = true ∨ cap = 0 ∨ BEv.muxDropped ∈ c.gb ∨
         ∃ k, BEv.shown k x bt host port ∈ c.gb ∧
           ((∃ g1 g2, c.gb = g1 ++ BEv.replied k false :: g2 ∧ BEv.replied k true ∉ g1) ∨
            (BEv.dropped k ∈ c.gb ∧ ∀ acc, BEv.replied k acc ∉ c.gb))) := by
    intro c hc cap hcp hd
    obtain ⟨x, bt, host, port, ha, hw⟩ := hc.g4L req hd
    exact ⟨x, bt, host, port, ha, Backed.fields hc.base.base hcp ha hw⟩
  exact ⟨one (absB q) h ob.bindCap hcap.2, one (absB q).swap h.swap oa.bindCap hcap.1⟩

open Penguin.BindAll Penguin.PairAll in
/-- The same with (c) weakened to "SOME `reply(false)` on that `BindRequest` was recorded".  If bind request
    number `req` of side `a` resolved `refused`, then `a` made a request number `req` that drew a flow id `x` and
    asked `(bt, host, port)`, and (d), (a) or (b) of `pair_bind_false_only_if_not_accepted_or_ended` holds, or
    (c) `b`'s application was shown a `BindRequest` (number `k`) with exactly `x`, `bt`, `host`, `port` and
        called `reply(false)` on it, or dropped it WITHOUT EVER replying to it (no `reply` on `k` went
        through, before or after: a dropped `BindRequest` takes no reply).
    Both directions.  A corollary of the full theorem: a record that splits at a `reply(false)` contains one. -/
theorem pair_bind_false_only_if_not_accepted_or_ended_partial (oa ob : Opts) {ra rb : List Nat} (cfg : PairAll.Cfg ra rb)
    (l : List (PairAll.Side × PairAll.Stim)) (req : Nat) :
    let q := runB { p := PairAll.init oa ob ra rb } l
    (BEv.done req .refused ∈ q.ha →
      ∃ x bt host port, BEv.asked req x bt host port ∈ q.ha ∧
        (q.p.a.dead = true ∨ ob.bindCap = 0 ∨ BEv.muxDropped ∈ q.hb ∨
         ∃ k, BEv.shown k x bt host port ∈ q.hb ∧
           (BEv.replied k false ∈ q.hb ∨ (BEv.dropped k ∈ q.hb ∧ ∀ acc, BEv.replied k acc ∉ q.hb)))) ∧
    (BEv.done req .refused ∈ q.hb →
      ∃ x bt host port, BEv.asked req x bt host port ∈ q.hb ∧
        (q.p.b.dead = true ∨ oa.bindCap = 0 ∨ BEv.muxDropped ∈ q.ha ∨
         ∃ k, BEv.shown k x bt host port ∈ q.ha ∧
           (BEv.replied k false ∈ q.ha ∨ (BEv.dropped k ∈ q.ha ∧ ∀ acc, BEv.replied k acc ∉ q.ha)))) := by
  intro q
  have weaken : ∀ (g : List BEv) (k : Nat), (∃ g1 g2, g = g1 ++ BEv.replied k false :: g2 ∧ BEv.replied k true ∉ g1) →
      BEv.replied k false ∈ g := by
    rintro g k ⟨g1, g2, rfl, _⟩; simp
  obtain ⟨hl, hr⟩ := pair_bind_false_only_if_not_accepted_or_ended oa ob cfg l req
  refine ⟨fun hd => ?_, fun hd => ?_⟩
  · obtain ⟨x, bt, host, port, ha, hw⟩ := hl hd
    exact ⟨x, bt, host, port, ha, hw.imp id (.imp id (.imp id fun ⟨k, hs, hk⟩ => ⟨k, hs, hk.imp (weaken _ k) id⟩))⟩
  · obtain ⟨x, bt, host, port, ha, hw⟩ := hr hd
    exact ⟨x, bt, host, port, ha, hw.imp id (.imp id (.imp id fun ⟨k, hs, hk⟩ => ⟨k, hs, hk.imp (weaken _ k) id⟩))⟩

open Penguin.BindAll Penguin.PairAll in
/-- The full disjunct (c) for applications that answer a `BindRequest` at most once.  If in the run no
    `BindRequest` of side `b` got BOTH answers (`reply(true)` and `reply(false)` — `BindRequest::reply` takes
    `&self`, so the API does not forbid it; penguin's own server answers once), then a request of `a` that
    resolved `refused` met (d), (a), (b) of `pair_bind_false_only_if_not_accepted_or_ended`, or
    (c) `b`'s application was shown it (exact fields) and replied `false` to it and NEVER `true` (neither before
    nor after), or dropped it without ever replying.  (Without the hypothesis the first answer counts:
    `pair_bind_false_only_if_not_accepted_or_ended`.) -/
theorem pair_bind_false_only_if_not_accepted_or_ended_single_reply (oa ob : Opts) {ra rb : List Nat}
    (cfg : PairAll.Cfg ra rb) (l : List (PairAll.Side × PairAll.Stim)) (req : Nat) :
    let q := runB { p := PairAll.init oa ob ra rb } l
    (∀ k, ¬(BEv.replied k true ∈ q.hb ∧ BEv.replied k false ∈ q.hb)) →
    BEv.done req .refused ∈ q.ha →
      ∃ x bt host port, BEv.asked req x bt host port ∈ q.ha ∧
        (q.p.a.dead = true ∨ ob.bindCap = 0 ∨ BEv.muxDropped ∈ q.hb ∨
         ∃ k, BEv.shown k x bt host port ∈ q.hb ∧
           ((BEv.replied k false ∈ q.hb ∧ BEv.replied k true ∉ q.hb) ∨
            (BEv.dropped k ∈ q.hb ∧ ∀ acc, BEv.replied k acc ∉ q.hb))) := by
  intro q hsingle hd
  obtain ⟨x, bt, host, port, ha, hw⟩ := (pair_bind_false_only_if_not_accepted_or_ended_partial oa ob cfg l req).1 hd
  refine ⟨x, bt, host, port, ha, ?_⟩
  rcases hw with hw | hw | hw | ⟨k, hs, hk⟩
  · exact Or.inl hw
  · exact Or.inr (Or.inl hw)
  · exact Or.inr (Or.inr (Or.inl hw))
  · refine Or.inr (Or.inr (Or.inr ⟨k, hs, ?_⟩))
    rcases hk with hk | hk
    · exact Or.inl ⟨hk, fun ht => hsingle k ⟨ht, hk⟩⟩
    · exact Or.inr hk

/-! Non-vacuity: one run per cause (`a` asks once, flow id 7). -/
private def askB : PairAll.Side × PairAll.Stim := (.A, .call (.bindReq 5 .stream [97] 81))

open Penguin.BindAll Penguin.PairAll in
/-- (a) `b` takes no binds: the `Bind` frame is answered with `Reset` by `b`'s task; nothing is shown. -/
example :
    let q := runB { p := PairAll.init {} {} [7, 8, 11] [9, 10] } [askB, (.B, .deliver), (.A, .deliver)]
    q.ha = [.asked 5 7 .stream [97] 81, .done 5 .refused] ∧ q.hb = [] ∧ q.p.a.dead = false := by decide

open Penguin.BindAll Penguin.PairAll in
/-- (b) `b`'s `Multiplexor` is dropped while the request waits in its bind queue. -/
example :
    let q := runB { p := PairAll.init {} allB [7, 8, 11] [9, 10] } [askB, (.B, .deliver), (.B, .call .dropMux), (.A, .deliver)]
    q.ha = [.asked 5 7 .stream [97] 81, .done 5 .refused] ∧ q.hb = [.muxDropped] ∧ q.p.a.dead = false := by decide

open Penguin.BindAll Penguin.PairAll in
/-- (c) rejected: `b`'s application is shown the request and calls `reply(false)`. -/
example :
    let q := runB { p := PairAll.init {} allB [7, 8, 11] [9, 10] }
      [askB, (.B, .deliver), (.B, .call .bindNext), (.B, .call (.bindReply 0 false)), (.A, .deliver)]
    q.ha = [.asked 5 7 .stream [97] 81, .done 5 .refused] ∧ q.hb = [.shown 0 7 .stream [97] 81, .replied 0 false] ∧
    q.p.a.dead = false := by decide

open Penguin.BindAll Penguin.PairAll in
/-- (c) dropped unanswered: `b`'s application is shown the request and drops it. -/
example :
    let q := runB { p := PairAll.init {} allB [7, 8, 11] [9, 10] }
      [askB, (.B, .deliver), (.B, .call .bindNext), (.B, .call (.bindDrop 0)), (.A, .deliver)]
    q.ha = [.asked 5 7 .stream [97] 81, .done 5 .refused] ∧ q.hb = [.shown 0 7 .stream [97] 81, .dropped 0] ∧
    q.p.a.dead = false := by decide

-- (d) the connection ended first: `hist2` above (`b` ACCEPTED, the `Finish` was lost in a cut, `a`'s task is dead) —
-- of the four causes only (d) holds there.

open Penguin.BindAll Penguin.PairAll in
/-- The converse, as a sanity lemma (one endpoint step): if the oldest message in transit to side `a` is the
    `Finish x` of an accepted request, `a`'s task is running and idle (not finished, not winding down, receive
    loop not parked, nothing buffered, source alive) and `a` holds the pending bind request `req` under `x`, then
    delivering it (if the stimulus is enabled) records `done req accepted`: an accepted request whose answer
    reaches a running requester resolves `true`.  Any state `q`, reachable or not. -/
theorem pair_bind_delivered_accept_resolves_true (q : PB) (x req : Nat) (rest : List Msg)
    (hba : q.p.ba = .frame (.finish x) :: rest) (hs : lookup q.p.a.flows x = some (.bindRequested req))
    (hd : q.p.a.dead = false) (hdr : q.p.a.draining = none) (hc : q.p.a.closing = none) (hp : q.p.a.park = none)
    (hi : q.p.a.inbox = []) (hse : q.p.a.srcEnded = false) (hen : (PairAll.stepL q.p .deliver).isSome = true) :
    BEv.done req .accepted ∈ (stepB q .A .deliver).ha :=
  delivered_finish_recorded q x req rest hba hs hd hdr hc hp hi hse hen

-- non-vacuity: the state of `hist1` before its last stimulus meets every hypothesis
open Penguin.BindAll Penguin.PairAll in
example :
    let q := runB { p := PairAll.init {} allB [7, 8, 11] [9, 10] } (hist1.take 11)
    q.p.ba = [.frame (.finish 8)] ∧ lookup q.p.a.flows 8 = some (.bindRequested 5) ∧ q.p.a.dead = false ∧
    q.p.a.draining = none ∧ q.p.a.closing = none ∧ q.p.a.park = none ∧ q.p.a.inbox = [] ∧ q.p.a.srcEnded = false ∧
    (PairAll.stepL q.p .deliver).isSome = true := by decide

open Penguin.BindAll Penguin.PairAll in
/-- `Closed` only at the call, and only if the queue was closed — in every history.  If the record of a side
    contains `done req closed` after a run (from the initial state), then the run contains a `request_bind`
    call number `req` OF THAT SIDE such that, in the state the pair was in when the call was made, that side's
    outbound queue was closed (its task was winding down or had finished: `tx_msg_tx.send` fails) or no flow id
    could be drawn (`drawId = none`: the script has no usable value and the bounded fallback search fails —
    the model's reading of an exhausted id space).  Nothing else resolves a request `closed`: not a frame, not
    the wind-down (which refuses), not a dropped handle, not the open futures (`BindAll.nc_settle`).
    Both directions. -/
theorem pair_bind_closed_only_if_queue_closed (oa ob : Opts) (ra rb : List Nat)
    (l : List (PairAll.Side × PairAll.Stim)) (req : Nat) :
    let q0 : PB := { p := PairAll.init oa ob ra rb }
    (BEv.done req .closed ∈ (runB q0 l).ha →
      ∃ l1 l2 bt host port, l = l1 ++ (PairAll.Side.A, PairAll.Stim.call (.bindReq req bt host port)) :: l2 ∧
        ((runB q0 l1).p.a.outClosed = true ∨
          drawId (runB q0 l1).p.a.flows (runB q0 l1).p.a.rng (runB q0 l1).p.a.fallback 64 = none)) ∧
    (BEv.done req .closed ∈ (runB q0 l).hb →
      ∃ l1 l2 bt host port, l = l1 ++ (PairAll.Side.B, PairAll.Stim.call (.bindReq req bt host port)) :: l2 ∧
        ((runB q0 l1).p.b.outClosed = true ∨
          drawId (runB q0 l1).p.b.flows (runB q0 l1).p.b.rng (runB q0 l1).p.b.fallback 64 = none)) := by
  intro q0
  exact ⟨closed_in_runA q0 l req (by simp [q0]), closed_in_runB q0 l req (by simp [q0])⟩

/-- … and for ONE stimulus of one endpoint, any state: `bindDone req closed` is emitted only by the
    `request_bind` call number `req`, and only if the outbound queue was closed or no id could be drawn. -/
theorem closed_only_at_the_call (e : EP) (op : Mux.Op) (req : Nat) (h : Ev.bindDone req .closed ∈ (applyOp e op).2.2) :
    ∃ bt host port, op = .bindReq req bt host port ∧
      (e.outClosed = true ∨ drawId e.flows e.rng e.fallback 64 = none) :=
  BindAll.closed_only_at_call e op req h

-- non-vacuity: `a`'s source fails, its task winds down (the outbound queue is closed); a later `request_bind` resolves `closed`
open Penguin.BindAll Penguin.PairAll in
example :
    let q0 : PB := { p := PairAll.init {} allB [7, 8, 11] [9, 10] }
    (runB q0 [(.A, .cut false), (.A, .call (.bindReq 5 .stream [97] 81))]).ha = [.done 5 .closed] ∧
    (runB q0 [(.A, .cut false)]).p.a.outClosed = true := by decide

/-! Non-vacuity: the order matters.  `b`'s application answers the same `BindRequest` twice. -/
open Penguin.BindAll Penguin.PairAll in
/-- rejected FIRST, then accepted: the request resolves `refused` (and the late `Finish` is answered with a `Reset`) -/
example :
    let q := runB { p := PairAll.init {} allB [7, 8, 11] [9, 10] }
      [askB, (.B, .deliver), (.B, .call .bindNext), (.B, .call (.bindReply 0 false)), (.B, .call (.bindReply 0 true)),
       (.A, .deliver), (.A, .deliver)]
    q.ha = [.asked 5 7 .stream [97] 81, .done 5 .refused] ∧
    q.hb = [.shown 0 7 .stream [97] 81, .replied 0 false, .replied 0 true] ∧ q.p.a.dead = false := by decide

open Penguin.BindAll Penguin.PairAll in
/-- accepted FIRST, then rejected: the request resolves `accepted`; the late `Reset` finds no slot -/
example :
    let q := runB { p := PairAll.init {} allB [7, 8, 11] [9, 10] }
      [askB, (.B, .deliver), (.B, .call .bindNext), (.B, .call (.bindReply 0 true)), (.B, .call (.bindReply 0 false)),
       (.A, .deliver), (.A, .deliver)]
    q.ha = [.asked 5 7 .stream [97] 81, .done 5 .accepted] ∧
    q.hb = [.shown 0 7 .stream [97] 81, .replied 0 true, .replied 0 false] := by decide

end Penguin.C15
