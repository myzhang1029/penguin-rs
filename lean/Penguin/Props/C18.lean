/-
C18 — SOCKS4/4a/5 messages are parsed and produced exactly per the RFCs.
Property theorems only; every theorem here is audited (`#print axioms`) by bin/check.

Vocabulary: `Spec.Rfc1928` / `Spec.Socks4a` are the builders and conforming-client parsers written
from the RFC texts; `Penguin.Socks` is the model of `penguin-socks` (reader scripts run on an input
`(bytes, eof)`, writers, UDP header functions); `hostOf`, `addrOf`, `portOf`, `requestRsv` translate
between the two (Lemmas/Socks.lean).
-/
import Penguin.Model.Socks
import Penguin.Spec.Rfc1928
import Penguin.Spec.Socks4a
import Penguin.Lemmas.Socks

namespace Penguin.C18
open Penguin Penguin.Socks Penguin.Constants Penguin.Lemmas.Socks
open Penguin.Spec

/-- Every well-formed SOCKS5 request (any command, any address type, domain length 0..255, any port),
    followed by any further bytes, with the stream ended or not: `read_request` returns exactly its
    command, address and port, consumes exactly the request and writes nothing. -/
theorem read5_wellformed (r : Rfc1928.Request) (h : r.wf) (rest : Bytes) (eof : Bool) :
    read5 (Rfc1928.request r ++ rest) eof
      = .done ⟨r.cmd, hostOf r.addr, r.port⟩ (Rfc1928.request r).length [] :=
  read5_wellformed_rsv r h 0 rest eof

/-- Every well-formed plain SOCKS4 request (any `DSTIP` that is not the 4a marker `0.0.0.x`, `x ≠ 0`;
    any NUL-free user id), the version byte having been read by the caller. -/
theorem read4_wellformed (r : Socks4a.Request4) (h : r.wf) (rest : Bytes) (eof : Bool) :
    read4 ((Socks4a.request4 r).drop 1 ++ rest) eof
      = .done ⟨r.cmd, ⟨.ipv4, [r.a, r.b, r.c, r.d]⟩, r.port⟩ ((Socks4a.request4 r).length - 1) [] := by
  obtain ⟨cmd, port, a, b, c, d, uid⟩ := r
  obtain ⟨hp, hu, hm⟩ := h
  simp only at hp hu hm
  have hmk : is4aMarker (rd32 a b c d) = false := by
    rw [Bool.eq_false_iff, ne_eq, is4aMarker_iff]; exact hm
  simp [read4, readRequest4, Socks4a.request4, be16, run_readU8_cons, run_readU16_cons,
    run_readU32_cons, run_readUntilNul_append _ _ uid hu, Script.run, rd16_be16 port hp, hmk, be32_rd32]
  omega

/-- Every well-formed SOCKS4a request (marker `0.0.0.x`, `x ≠ 0`; any NUL-free user id and domain
    name, including empty ones). -/
theorem read4a_wellformed (r : Socks4a.Request4a) (h : r.wf) (rest : Bytes) (eof : Bool) :
    read4 ((Socks4a.request4a r).drop 1 ++ rest) eof
      = .done ⟨r.cmd, ⟨.domain, r.domain⟩, r.port⟩ ((Socks4a.request4a r).length - 1) [] := by
  obtain ⟨cmd, port, x, uid, dom⟩ := r
  obtain ⟨hp, hx, hu, hd⟩ := h
  simp only at hp hx hu hd
  have hmk : is4aMarker (rd32 0 0 0 x) = true := by
    rw [is4aMarker_iff]; exact ⟨rfl, rfl, rfl, hx⟩
  simp [read4, readRequest4, Socks4a.request4a, be16, run_readU8_cons, run_readU16_cons,
    run_readU32_cons, run_readUntilNul_append _ _ uid hu, run_readUntilNul_append _ _ dom hd,
    Script.run, rd16_be16 port hp, hmk]
  omega

/-- Every method-selection message (0..255 methods), the version byte having been read. -/
theorem authMethods_wellformed (ms : Bytes) (h : ms.length ≤ 255) (rest : Bytes) (eof : Bool) :
    readMethods ((Rfc1928.greeting ms).drop 1 ++ rest) eof
      = .done ms ((Rfc1928.greeting ms).length - 1) [] := by
  have hm : ms.length % 256 = ms.length := by omega
  simp [readMethods, readAuthMethods, Rfc1928.greeting, run_readU8_cons,
    run_readN_append (a := ms) rfl, Script.run, hm]
  omega

/-- On every strict prefix of a well-formed SOCKS5 request the reader keeps waiting while the stream
    is open and fails with an unexpected-EOF error once it has ended; it has written nothing. -/
theorem read5_prefix_needMore_or_error (r : Rfc1928.Request) (h : r.wf) (p q : Bytes)
    (hpq : Rfc1928.request r = p ++ q) (hq : q ≠ []) :
    read5 p false = .needMore ∧ ∃ ctx, read5 p true = .error (.eof ctx) [] :=
  read5_prefix_rsv r h 0 p q hpq hq

theorem read4_prefix_needMore_or_error (r : Socks4a.Request4) (h : r.wf) (p q : Bytes)
    (hpq : (Socks4a.request4 r).drop 1 = p ++ q) (hq : q ≠ []) :
    read4 p false = .needMore ∧ ∃ ctx, read4 p true = .error (.eof ctx) [] :=
  run_strict_prefix readRequest4 (read4_wellformed r h [] false) (by simp) hpq hq

theorem read4a_prefix_needMore_or_error (r : Socks4a.Request4a) (h : r.wf) (p q : Bytes)
    (hpq : (Socks4a.request4a r).drop 1 = p ++ q) (hq : q ≠ []) :
    read4 p false = .needMore ∧ ∃ ctx, read4 p true = .error (.eof ctx) [] :=
  run_strict_prefix readRequest4 (read4a_wellformed r h [] false) (by simp) hpq hq

theorem authMethods_prefix_needMore_or_error (ms : Bytes) (h : ms.length ≤ 255) (p q : Bytes)
    (hpq : (Rfc1928.greeting ms).drop 1 = p ++ q) (hq : q ≠ []) :
    readMethods p false = .needMore ∧ ∃ ctx, readMethods p true = .error (.eof ctx) [] :=
  run_strict_prefix readAuthMethods (authMethods_wellformed ms h [] false) (by simp) hpq hq

/-- Any version byte other than 5: `SocksVersion(v)`, nothing written, whatever follows. -/
theorem read5_unknown_version (v : UInt8) (hv : v ≠ 5) (rest : Bytes) (eof : Bool) :
    read5 (v :: rest) eof = .error (.version v) [] := by
  have : v.toNat ≠ 5 := fun h => hv ((toNat_eq_iff v rfl).mp h)
  simp [read5, readRequest5, run_readU8_cons, Script.run, socksVer5, this]

/-- Any address type other than 1, 3, 4: `AddressType(t)`, and exactly the RFC's reply
    "address type not supported" (`REP = X'08'`, `BND = 0.0.0.0:0`) has been written. -/
theorem read5_unknown_atyp (cmd rsv t : UInt8) (h1 : t ≠ 1) (h3 : t ≠ 3) (h4 : t ≠ 4)
    (rest : Bytes) (eof : Bool) :
    read5 (5 :: cmd :: rsv :: t :: rest) eof
      = .error (.atyp t) (Rfc1928.reply 0x08 (.ipv4 0 0 0 0) 0) := by
  have e1 : t.toNat ≠ 1 := fun h => h1 ((toNat_eq_iff t rfl).mp h)
  have e3 : t.toNat ≠ 3 := fun h => h3 ((toNat_eq_iff t rfl).mp h)
  have e4 : t.toNat ≠ 4 := fun h => h4 ((toNat_eq_iff t rfl).mp h)
  simp [read5, readRequest5, readAddress5, run_readU8_cons, Script.run, socksVer5, socksAtypIpv4,
    socksAtypDomain, socksAtypIpv6, e1, e3, e4, atypUnsupReply, Rfc1928.reply, Rfc1928.addrBytes,
    be16, u8, socksRepAtypunsup, socksReserved]

/-- Conversely, whatever `read_request` accepts *is* a well-formed RFC 1928 request (up to the
    reserved byte, which is not validated) followed by the unconsumed rest: no other byte string is
    ever accepted, on an open or on an ended stream. -/
theorem read5_done_wellformed (inp : Bytes) (eof : Bool) (q : Req) (n : Nat) (w : Bytes)
    (h : read5 inp eof = .done q n w) :
    w = [] ∧ ∃ (r : Rfc1928.Request) (rsv : UInt8) (rest : Bytes), r.wf ∧
      q = ⟨r.cmd, hostOf r.addr, r.port⟩ ∧ inp = requestRsv r rsv ++ rest ∧
      n = (requestRsv r rsv).length := by
  unfold read5 readRequest5 at h
  obtain ⟨v, r1, e1, h1⟩ := run_readU8_done h
  clear h
  by_cases hv : v.toNat = socksVer5
  · simp only [hv, ne_eq, not_true_eq_false, if_false] at h1
    obtain ⟨cmd, r2, e2, h2⟩ := run_readU8_done h1
    obtain ⟨rsv, r3, e3, h3⟩ := run_readU8_done h2
    unfold readAddress5 at h3
    obtain ⟨t, r4, e4, h4⟩ := run_readU8_done h3
    clear h1 h2 h3
    have hv5 : v = 5 := (toNat_eq_iff v rfl).mp hv
    subst e1 e2 e3 e4 hv5
    by_cases h1 : t.toNat = socksAtypIpv4
    · simp only [h1, if_true] at h4
      have ht : t = 1 := (toNat_eq_iff t rfl).mp h1
      obtain ⟨x, r5, hx, e5, h5⟩ := run_readN_done h4
      obtain ⟨p0, p1, r6, e6, h6⟩ := run_readU16_done h5
      clear h4 h5
      simp only [Script.run, Result.done.injEq] at h6
      obtain ⟨rfl, rfl, rfl⟩ := h6
      subst ht e5 e6
      match x, hx with
      | [a, b, c, d], _ =>
        refine ⟨rfl, ⟨cmd, .ipv4 a b c d, rd16 p0 p1⟩, rsv, r6, ⟨trivial, rd16_lt _ _⟩, rfl, ?_, ?_⟩
        · simp [requestRsv, Rfc1928.addrBytes, be16_rd16]
        · simp [requestRsv, Rfc1928.addrBytes]
    · simp only [h1, if_false] at h4
      by_cases h3 : t.toNat = socksAtypDomain
      · simp only [h3, if_true] at h4
        have ht : t = 3 := (toNat_eq_iff t rfl).mp h3
        obtain ⟨l, r5, e5, h5⟩ := run_readU8_done h4
        obtain ⟨x, r6, hx, e6, h6⟩ := run_readN_done h5
        obtain ⟨p0, p1, r7, e7, h7⟩ := run_readU16_done h6
        clear h4 h5 h6
        simp only [Script.run, Result.done.injEq] at h7
        obtain ⟨rfl, rfl, rfl⟩ := h7
        subst ht e5 e6 e7
        have hl := l.toNat_lt
        have hxl : UInt8.ofNat x.length = l := by rw [hx]; simp
        refine ⟨rfl, ⟨cmd, .domain x, rd16 p0 p1⟩, rsv, r7, ⟨?_, rd16_lt _ _⟩, rfl, ?_, ?_⟩
        · simp only [Rfc1928.Addr.wf]; omega
        · simp [requestRsv, Rfc1928.addrBytes, be16_rd16, hxl]
        · simp [requestRsv, Rfc1928.addrBytes, hx]; omega
      · simp only [h3, if_false] at h4
        by_cases h4' : t.toNat = socksAtypIpv6
        · simp only [h4', if_true] at h4
          have ht : t = 4 := (toNat_eq_iff t rfl).mp h4'
          obtain ⟨x, r5, hx, e5, h5⟩ := run_readN_done h4
          obtain ⟨p0, p1, r6, e6, h6⟩ := run_readU16_done h5
          clear h4 h5
          simp only [Script.run, Result.done.injEq] at h6
          obtain ⟨rfl, rfl, rfl⟩ := h6
          subst ht e5 e6
          refine ⟨rfl, ⟨cmd, .ipv6 x, rd16 p0 p1⟩, rsv, r6, ⟨hx, rd16_lt _ _⟩, rfl, ?_, ?_⟩
          · simp [requestRsv, Rfc1928.addrBytes, be16_rd16]
          · simp [requestRsv, Rfc1928.addrBytes, hx]
        · simp [h4', Script.run] at h4
  · simp [hv, Script.run] at h1

/-- Whatever the SOCKS4 reader accepts is a well-formed SOCKS4 request (`DSTIP` not the marker) or a
    well-formed SOCKS4a request (marker `0.0.0.x`, `x ≠ 0`, NUL-terminated domain), terminators
    included, followed by the unconsumed rest. -/
theorem read4_done_wellformed (inp : Bytes) (eof : Bool) (q : Req) (n : Nat) (w : Bytes)
    (h : read4 inp eof = .done q n w) :
    w = [] ∧ ∃ rest : Bytes,
      (∃ r : Socks4a.Request4, r.wf ∧ q = ⟨r.cmd, ⟨.ipv4, [r.a, r.b, r.c, r.d]⟩, r.port⟩ ∧
          inp = (Socks4a.request4 r).drop 1 ++ rest ∧ n + 1 = (Socks4a.request4 r).length) ∨
      (∃ r : Socks4a.Request4a, r.wf ∧ q = ⟨r.cmd, ⟨.domain, r.domain⟩, r.port⟩ ∧
          inp = (Socks4a.request4a r).drop 1 ++ rest ∧ n + 1 = (Socks4a.request4a r).length) := by
  unfold read4 readRequest4 at h
  obtain ⟨cmd, r1, e1, h1⟩ := run_readU8_done h
  obtain ⟨p0, p1, r2, e2, h2⟩ := run_readU16_done h1
  obtain ⟨a, b, c, d, r3, e3, h3⟩ := run_readU32_done h2
  obtain ⟨uid, r4, hu, e4, h4⟩ := run_readUntilNul_done h3
  clear h h1 h2 h3
  subst e1 e2 e3 e4
  by_cases hm : is4aMarker (rd32 a b c d) = true
  · simp only [hm, if_true] at h4
    obtain ⟨dom, r5, hd, e5, h5⟩ := run_readUntilNul_done h4
    clear h4
    simp only [Script.run, Result.done.injEq] at h5
    obtain ⟨rfl, rfl, rfl⟩ := h5
    subst e5
    obtain ⟨rfl, rfl, rfl, hd0⟩ := (is4aMarker_iff a b c d).mp hm
    refine ⟨rfl, r5, Or.inr ⟨⟨cmd, rd16 p0 p1, d, uid, dom⟩, ⟨rd16_lt _ _, hd0, hu, hd⟩, rfl, ?_, ?_⟩⟩
    · simp [Socks4a.request4a, be16_rd16]
    · simp [Socks4a.request4a]; omega
  · rw [if_neg hm] at h4
    simp only [Script.run, Result.done.injEq] at h4
    obtain ⟨rfl, rfl, rfl⟩ := h4
    have hnm : ¬ Socks4a.isMarker a b c d := fun hh => hm ((is4aMarker_iff a b c d).mpr hh)
    refine ⟨rfl, r4, Or.inl ⟨⟨cmd, rd16 p0 p1, a, b, c, d, uid⟩, ⟨rd16_lt _ _, hu, hnm⟩, ?_, ?_, ?_⟩⟩
    · simp [be32_rd32]
    · simp [Socks4a.request4, be16_rd16]
    · simp [Socks4a.request4]; omega

/-- Whatever `read_auth_methods` accepts is a method list of the announced length. -/
theorem readMethods_done_wellformed (inp : Bytes) (eof : Bool) (ms : Bytes) (n : Nat) (w : Bytes)
    (h : readMethods inp eof = .done ms n w) :
    w = [] ∧ ms.length ≤ 255 ∧ n = ms.length + 1 ∧
      ∃ rest, inp = (Rfc1928.greeting ms).drop 1 ++ rest := by
  unfold readMethods readAuthMethods at h
  obtain ⟨l, r1, e1, h1⟩ := run_readU8_done h
  obtain ⟨x, r2, hx, e2, h2⟩ := run_readN_done h1
  simp only [Script.run, Result.done.injEq] at h2
  obtain ⟨rfl, rfl, rfl⟩ := h2
  have hl := l.toNat_lt
  have hxl : UInt8.ofNat x.length = l := by rw [hx]; simp
  subst e1 e2
  refine ⟨rfl, by omega, by omega, r2, ?_⟩
  simp [Rfc1928.greeting, hxl]

/-- `write_response` for every reply code and every IPv4 / IPv6 socket address is the RFC's reply. -/
theorem writeResponse5_eq_rfc (rep : UInt8) (a : SockAddr) (h : a.wf) :
    writeResponse5 rep a = Rfc1928.reply rep (addrOf a) (portOf a) := by
  cases a with
  | v4 o p =>
    obtain ⟨ho, _⟩ := h
    match o, ho with
    | [a, b, c, d], _ =>
      simp [writeResponse5, Rfc1928.reply, Rfc1928.addrBytes, addrOf, portOf, u8, socksVer5,
        socksReserved, socksAtypIpv4]
  | v6 o p =>
    simp [writeResponse5, Rfc1928.reply, Rfc1928.addrBytes, addrOf, portOf, u8, socksVer5,
      socksReserved, socksAtypIpv6]

theorem writeResponseUnspecified_eq_rfc (rep : UInt8) :
    writeResponseUnspecified rep = Rfc1928.reply rep (.ipv4 0 0 0 0) 0 := by
  simp [writeResponseUnspecified, Rfc1928.reply, Rfc1928.addrBytes, be16, u8, socksVer5,
    socksReserved, socksAtypIpv4]

theorem writeAuthMethod_eq_rfc (m : UInt8) : writeAuthMethod m = Rfc1928.methodSelection m := by
  simp [writeAuthMethod, Rfc1928.methodSelection, u8, socksVer5]

theorem writeResponse4_eq_spec (cd : UInt8) : writeResponse4 cd = Socks4a.reply4 cd := by
  simp [writeResponse4, Socks4a.reply4, u8, socksVerRep4]

/-- A conforming client reads back from `write_response` the reply code, address and port given. -/
theorem client_parses_response5 (rep : UInt8) (a : SockAddr) (h : a.wf) :
    Rfc1928.clientParseReply (writeResponse5 rep a) = some (rep, addrOf a, portOf a) := by
  rw [writeResponse5_eq_rfc rep a h]
  exact clientParseReply_reply rep _ (addrOf_wf h).1 _ (addrOf_wf h).2

theorem client_parses_response4 (cd : UInt8) :
    Socks4a.clientParseReply4 (writeResponse4 cd) = some cd := by
  simp [writeResponse4, Socks4a.clientParseReply4, u8, socksVerRep4]

/-- `udp_relay_response` is the RFC's header for the target address followed by the payload. -/
theorem udp_response_eq_rfc (a : SockAddr) (h : a.wf) (d : Bytes) :
    udpRelayResponse a d = Rfc1928.udpHeader (addrOf a) (portOf a) ++ d := by
  cases a with
  | v4 o p =>
    obtain ⟨ho, _⟩ := h
    match o, ho with
    | [a, b, c, d], _ =>
      simp [udpRelayResponse, Rfc1928.udpHeader, Rfc1928.addrBytes, addrOf, portOf, u8, socksAtypIpv4]
  | v6 o p =>
    simp [udpRelayResponse, Rfc1928.udpHeader, Rfc1928.addrBytes, addrOf, portOf, u8, socksAtypIpv6]

/-- The RFC's client parser inverts the RFC's header builder (all three address types). -/
theorem clientParseUdp_udpHeader (a : Rfc1928.Addr) (ha : a.wf) (port : Nat) (hp : port < 65536)
    (d : Bytes) : Rfc1928.clientParseUdp (Rfc1928.udpHeader a port ++ d) = some (a, port, d) := by
  simp [Rfc1928.clientParseUdp, Rfc1928.udpHeader, parseAddrPort_addrBytes a ha port hp d]

/-- A relay datagram built for any IPv4 / IPv6 target and any payload parses back, as a conforming
    client parses it, to the same address, port and payload. -/
theorem udp_client_parses_response (a : SockAddr) (h : a.wf) (d : Bytes) :
    Rfc1928.clientParseUdp (udpRelayResponse a d) = some (addrOf a, portOf a, d) := by
  rw [udp_response_eq_rfc a h d]
  exact clientParseUdp_udpHeader _ (addrOf_wf h).1 _ (addrOf_wf h).2 d

/-- `parse_udp_relay_header` on the RFC's header for any address (IPv4, domain of length 0..255,
    IPv6), any port, followed by any payload: that address, port and payload. -/
theorem parseUdp_wellformed (a : Rfc1928.Addr) (ha : a.wf) (port : Nat) (hp : port < 65536)
    (d : Bytes) : parseUdpRelayHeader (Rfc1928.udpHeader a port ++ d) = .ok (hostOf a, port, d) := by
  cases a with
  | ipv4 a b c d' =>
    simp [parseUdpRelayHeader, Rfc1928.udpHeader, Rfc1928.addrBytes, be16, hostOf,
      rd16_be16 port hp, be32_rd32, socksUdpMinHeader, socksUdpMinV4, socksAtypIpv4]
    repeat' split
    all_goals first | rfl | omega
  | domain n =>
    simp only [Rfc1928.Addr.wf] at ha
    have hm : n.length % 256 = n.length := by omega
    simp [parseUdpRelayHeader, Rfc1928.udpHeader, Rfc1928.addrBytes, be16, hostOf,
      rd16_be16 port hp, hm, socksUdpMinHeader, socksUdpMinDomainLen, socksUdpMinDomainAfterLen,
      socksAtypIpv4, socksAtypDomain]
    repeat' split
    all_goals first | rfl | omega
  | ipv6 o =>
    simp only [Rfc1928.Addr.wf] at ha
    simp [parseUdpRelayHeader, Rfc1928.udpHeader, Rfc1928.addrBytes, be16, hostOf,
      rd16_be16 port hp, ha, socksUdpMinHeader, socksUdpMinV6,
      socksAtypIpv4, socksAtypDomain, socksAtypIpv6]
    repeat' split
    all_goals first | rfl | omega

/-- What the relay builds, the relay's own parser reads back (server-side round trip). -/
theorem parseUdp_udpRelayResponse (a : SockAddr) (h : a.wf) (d : Bytes) :
    parseUdpRelayHeader (udpRelayResponse a d) = .ok (hostOf (addrOf a), portOf a, d) := by
  rw [udp_response_eq_rfc a h d]
  exact parseUdp_wellformed _ (addrOf_wf h).1 _ (addrOf_wf h).2 d

/-- Fragments (`FRAG ≠ 0`) are rejected as such, whatever the reserved bytes and the rest. -/
theorem parseUdp_fragment_rejected (r0 r1 frag t : UInt8) (rest : Bytes) (h : frag ≠ 0) :
    parseUdpRelayHeader (r0 :: r1 :: frag :: t :: rest) = .error .fragmented := by
  simp [parseUdpRelayHeader, socksUdpMinHeader, h]

/-- Fewer than four bytes: `ParseAssociate`. -/
theorem parseUdp_short (bs : Bytes) (h : bs.length < 4) :
    parseUdpRelayHeader bs = .error .parseAssociate := by
  simp [parseUdpRelayHeader, socksUdpMinHeader, h]

/-- Unknown address type: `UnknownAddressType(t)`. -/
theorem parseUdp_unknown_atyp (r0 r1 t : UInt8) (h1 : t ≠ 1) (h3 : t ≠ 3) (h4 : t ≠ 4)
    (rest : Bytes) :
    parseUdpRelayHeader (r0 :: r1 :: 0 :: t :: rest) = .error (.unknownAtyp t) := by
  have e1 : t.toNat ≠ 1 := fun h => h1 ((toNat_eq_iff t rfl).mp h)
  have e3 : t.toNat ≠ 3 := fun h => h3 ((toNat_eq_iff t rfl).mp h)
  have e4 : t.toNat ≠ 4 := fun h => h4 ((toNat_eq_iff t rfl).mp h)
  simp [parseUdpRelayHeader, socksUdpMinHeader, socksAtypIpv4, socksAtypDomain, socksAtypIpv6, e1, e3, e4]

/-- Every strict prefix of a header (any address type, any domain length) is rejected with
    `ParseAssociate`: a datagram cut inside its header is never delivered. -/
theorem parseUdp_truncated_header (a : Rfc1928.Addr) (ha : a.wf) (port : Nat) (p q : Bytes)
    (h : Rfc1928.udpHeader a port = p ++ q) (hq : q ≠ []) :
    parseUdpRelayHeader p = .error .parseAssociate := by
  have hql : 0 < q.length := List.length_pos_iff.mpr hq
  have hlen := congrArg List.length h
  match p with
  | [] | [_] | [_, _] | [_, _, _] => simp [parseUdpRelayHeader, socksUdpMinHeader]
  | r0 :: r1 :: f :: t :: rest =>
    cases a with
    | ipv4 a b c d =>
      simp [Rfc1928.udpHeader, Rfc1928.addrBytes, be16] at h hlen
      obtain ⟨rfl, rfl, rfl, rfl, _⟩ := h
      have hlt : rest.length < 6 := by omega
      simp [parseUdpRelayHeader, socksUdpMinHeader, socksUdpMinV4, socksAtypIpv4, hlt]
    | domain n =>
      simp only [Rfc1928.Addr.wf] at ha
      have hm : n.length % 256 = n.length := by omega
      simp [Rfc1928.udpHeader, Rfc1928.addrBytes, be16] at h hlen
      obtain ⟨rfl, rfl, rfl, rfl, h⟩ := h
      match rest with
      | [] =>
        simp [parseUdpRelayHeader, socksUdpMinHeader, socksUdpMinDomainLen, socksAtypIpv4,
          socksAtypDomain]
      | l :: after =>
        simp at h hlen
        obtain ⟨rfl, _⟩ := h
        simp [parseUdpRelayHeader, socksUdpMinHeader, socksUdpMinDomainLen,
          socksUdpMinDomainAfterLen, socksAtypIpv4, socksAtypDomain, hm]
        intro h2
        omega
    | ipv6 o =>
      simp only [Rfc1928.Addr.wf] at ha
      simp [Rfc1928.udpHeader, Rfc1928.addrBytes, be16] at h hlen
      obtain ⟨rfl, rfl, rfl, rfl, _⟩ := h
      have hlt : rest.length < 18 := by omega
      simp [parseUdpRelayHeader, socksUdpMinHeader, socksUdpMinV6, socksAtypIpv4, socksAtypDomain,
        socksAtypIpv6, hlt]

/-- `magics.rs` (re-extracted on every run) against the numbers of RFC 1928 sections 3-6 and of the
    SOCKS4 protocol note; the address kinds map to ATYP 1 / 3 / 4. -/
theorem magics_eq_rfc :
    socksVer4 = 4 ∧ socksVer5 = 5 ∧ socksVerRep4 = 0 ∧
    socksCmdConnect = 1 ∧ socksCmdBind = 2 ∧ socksCmdAssoc = 3 ∧
    AddrKind.ipv4.atyp = 1 ∧ AddrKind.domain.atyp = 3 ∧ AddrKind.ipv6.atyp = 4 ∧
    socksAuthNoauth = 0 ∧ socksAuthNoaccept = 255 ∧
    [socksRepSucc, socksRepGenfail, socksRepNotallowed, socksRepNetunre, socksRepHostunre,
      socksRepConnref, socksRepTtlexp, socksRepCmdunsup, socksRepAtypunsup] = [0, 1, 2, 3, 4, 5, 6, 7, 8] ∧
    socksRepV4Succ = 90 ∧ socksRepV4Fail = 91 ∧ socksReserved = 0 := by
  decide

-- CONNECT www (domain, 3 bytes) port 80, followed by two more bytes
example : (Rfc1928.Request.mk 1 (.domain [0x77, 0x77, 0x77]) 80).wf := by decide
example : read5 ([5, 1, 0, 3, 3, 0x77, 0x77, 0x77, 0, 80] ++ [0xaa, 0xbb]) false
    = .done ⟨1, ⟨.domain, [0x77, 0x77, 0x77]⟩, 80⟩ 10 [] := by decide
-- the same cut after the length byte: waits / unexpected EOF while reading the name
example : read5 [5, 1, 0, 3, 3] false = .needMore := by decide
example : read5 [5, 1, 0, 3, 3, 0x77] true = .error (.eof .domainAddress) [] := by decide
-- empty domain name
example : read5 [5, 1, 0, 3, 0, 0x1f, 0x90] true = .done ⟨1, ⟨.domain, []⟩, 8080⟩ 7 [] := by decide
-- unknown address type 2: the RFC's "address type not supported" reply
example : read5 [5, 1, 0, 2, 9, 9] true = .error (.atyp 2) [5, 8, 0, 1, 0, 0, 0, 0, 0, 0] := by decide
-- SOCKS4 to 0.1.2.3 (first octet 0 but not the marker) and SOCKS4a with user id "a", domain "ww"
example : (Socks4a.Request4.mk 1 80 0 1 2 3 [0x61]).wf := by decide
example : read4 [1, 0, 80, 0, 1, 2, 3, 0x61, 0] true = .done ⟨1, ⟨.ipv4, [0, 1, 2, 3]⟩, 80⟩ 9 [] := by decide
example : (Socks4a.Request4a.mk 1 80 1 [0x61] [0x77, 0x77]).wf := by decide
example : read4 [1, 0, 80, 0, 0, 0, 1, 0x61, 0, 0x77, 0x77, 0] false
    = .done ⟨1, ⟨.domain, [0x77, 0x77]⟩, 80⟩ 12 [] := by decide
-- the domain cut before its terminator is not accepted
example : read4 [1, 0, 80, 0, 0, 0, 1, 0x61, 0, 0x77, 0x77] true = .error (.eof .domain) [] := by decide
-- UDP: 1.2.3.4:80 "xy"
example : (SockAddr.v4 [1, 2, 3, 4] 80).wf := by decide
example : udpRelayResponse (.v4 [1, 2, 3, 4] 80) [0x78, 0x79] = [0, 0, 0, 1, 1, 2, 3, 4, 0, 80, 0x78, 0x79] := by
  decide
example : Rfc1928.clientParseUdp [0, 0, 0, 1, 1, 2, 3, 4, 0, 80, 0x78, 0x79]
    = some (.ipv4 1 2 3 4, 80, [0x78, 0x79]) := by decide
-- the byte order of the unrepaired code is not parsed back to the target by a conforming client
example : Rfc1928.clientParseUdp [0, 0, 0, 1, 2, 3, 4, 1, 0, 80, 0x78, 0x79]
    ≠ some (.ipv4 1 2 3 4, 80, [0x78, 0x79]) := by decide
example : parseUdpRelayHeader [0, 0, 1, 1, 1, 2, 3, 4, 0, 80] = .error .fragmented := by decide

end Penguin.C18
