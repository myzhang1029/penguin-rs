/-
C05 — End-of-stream is reported exactly when the peer finished, after all its data.
-/
import Penguin.Model.Link
import Penguin.Model.Mux
import Penguin.Lemmas.Link
import Penguin.Lemmas.LinkGlue
import Penguin.Lemmas.PairCor
import Penguin.Lemmas.MuxEof
import Penguin.Lemmas.MuxEofRead
import Penguin.Lemmas.MuxEofConn
import Penguin.Lemmas.PairAllRun

namespace Penguin.C05
open Penguin Penguin.Link

/-- A read returns end-of-stream only after the peer shut down or aborted the stream, and only
    after every byte the peer wrote before that point has been returned. -/
theorem eof_sound (W th : Nat) (hW : 0 < W) (hth : th ≤ W) (as : List Act)
    (he : (run (init W th) as).eofSeen = true) :
    (run (init W th) as).sFin = true ∧ (run (init W th) as).delivered = (run (init W th) as).accepted :=
  eof_facts _ (reach_inv hW hth as) he

/-- While the peer has not finished, a read never reports end-of-stream: it returns data or is
    pending. -/
theorem no_eof_while_peer_writes (W th : Nat) (hW : 0 < W) (hth : th ≤ W) (as : List Act) (n : Nat)
    (hs : (run (init W th) as).sFin = false) :
    (step (run (init W th) as) (.read n)).2 ≠ .eof := by
  have h := reach_inv hW hth as
  have hal := (h.hopen hs).2
  exact Link.read_no_eof _ n h hal

/-- A zero-length write is never seen by the peer at all: no frame, no credit, no state change —
    in particular not as end-of-stream. -/
theorem zero_write_invisible (s : St) :
    step s (.write []) = (s, if s.sFin then .brokenPipe else .wrote 0) := by
  simp only [step]; split <;> simp_all

/-- After a local shutdown (or abort, or close) further writes fail with BrokenPipe and nothing is
    transmitted. -/
theorem write_after_shutdown_fails (s : St) (d : Bytes) (h : s.sFin = true) :
    step s (.write d) = (s, .brokenPipe) := by
  simp [step, h]

theorem shutdown_then_write (s : St) (d : Bytes) : (step (step s .shutdown).1 (.write d)).2 = .brokenPipe := by
  have : (step s .shutdown).1.sFin = true := by
    simp only [step]; split <;> simp_all
  rw [write_after_shutdown_fails _ d this]

/-- Once the peer has finished and everything it sent was read, the next read reports
    end-of-stream (it does not stay pending). -/
theorem eof_after_all_data (s : St) (n : Nat) (h1 : s.rAlive = false) (h2 : s.rxq = []) (h3 : s.buf = []) :
    (step s (.read n)).2 = .eof := by
  simp [step, fill, h1, h2, h3]

open Penguin.Mux in
/-- Half-close at the endpoint: shutting down the write direction of a stream touches only the
    `finishSent` flag of that stream object (and the harness's note that a write call is pending) and
    queues one `Finish`, once; its receive queue, buffer and the slot (hence the opposite direction)
    are unchanged. -/
theorem half_close (e : EP) (h i : Nat) (o : Obj)
    (hh : e.handles[h]? = some i) (ho : e.objs[i]? = some o) (hoc : e.outClosed = false) :
    (o.finishSent = true →
        (appShutdown e h).2 = .unit ∧ (appShutdown e h).1.objs[i]? = some { o with parked := false } ∧
        (appShutdown e h).1.outq = e.outq) ∧
    (o.finishSent = false →
        (appShutdown e h).1.objs[i]? = some { o with finishSent := true, parked := false } ∧
        (appShutdown e h).1.outq = e.outq ++ [.frame (.finish o.fid)]) :=
  Mux.appShutdown_glue e h i o hh ho hoc

open Penguin.Mux in
/-- … and receiving the peer's `Finish` only ends the read direction: the object's write side
    (credit, `finishSent`) and the slot are untouched. -/
theorem peer_finish_keeps_write_side (e : EP) (fid i : Nat) (o : Obj) (ig : Bool)
    (hs : lookup e.flows fid = some (.established i)) (ho : e.objs[i]? = some o) :
    (processFrame e (.finish fid) ig).1.objs[i]? = some { o with senderAlive := false } ∧
    (processFrame e (.finish fid) ig).1.outq = e.outq ∧
    (processFrame e (.finish fid) ig).1.flows = e.flows :=
  Mux.processFrame_finish_glue e fid i o ig hs ho

open Penguin.Mux Penguin.Pair in
/-- On every flow established on both endpoints, in every reachable state of the pair: if a read on
    `b`'s stream has returned end-of-stream, then `a` had shut its direction down and `b` has read
    exactly the bytes `a` wrote — never earlier, never fewer. -/
theorem pair_eof_sound {oa ob : Opts} {ra rb : List Nat} (c : Cfg oa ob ra rb) (as : List (Pair.Side × Pair.Act))
    {x i j : Nat} (e : Established (Pair.run (Pair.init oa ob ra rb) as) x i j)
    (he : (Pair.run (Pair.init oa ob ra rb) as).gb.eof j = true) :
    let p := Pair.run (Pair.init oa ob ra rb) as
    ∃ oA, p.a.objs[i]? = some oA ∧ oA.finishSent = true ∧ p.gb.rlog j = p.ga.wlog i :=
  established_eof (reach_inv c as) e he

open Penguin.Mux Penguin.Pair in
/-- … and in the direction `b → a`. -/
theorem pair_eof_sound_rev {oa ob : Opts} {ra rb : List Nat} (c : Cfg oa ob ra rb) (as : List (Pair.Side × Pair.Act))
    {x i j : Nat} (e : Established (Pair.run (Pair.init oa ob ra rb) as) x i j)
    (he : (Pair.run (Pair.init oa ob ra rb) as).ga.eof i = true) :
    let p := Pair.run (Pair.init oa ob ra rb) as
    ∃ oB, p.b.objs[j]? = some oB ∧ oB.finishSent = true ∧ p.ga.rlog i = p.gb.wlog j :=
  established_eof (reach_inv c as).swap e.swap he

/-! Non-vacuity of the pair theorems: a concrete run (windows 2, threshold 1) that opens a stream,
    writes three bytes, reads them in two reads, shuts down and reads end-of-stream. -/
private def pcfg : Mux.Opts := { rwnd := 2, threshold := 1 }
private def pacts : List (Pair.Side × Pair.Act) :=
  [(.A, .open 1 [104] 80), (.A, .xmit), (.B, .recv), (.B, .xmit), (.A, .recv), (.A, .runDone), (.B, .accept),
   (.A, .write 0 [1, 2, 3]), (.A, .xmit), (.B, .recv), (.B, .read 0 2), (.B, .read 0 9), (.B, .xmit), (.A, .recv),
   (.A, .shutdown 0), (.A, .xmit), (.B, .recv), (.B, .read 0 9)]
example : Pair.Cfg pcfg pcfg [7, 8] [9, 10] := ⟨by decide, by decide, by decide, by decide⟩
example : Pair.Established (Pair.run (Pair.init pcfg pcfg [7, 8] [9, 10]) pacts) 7 0 0 :=
  ⟨by decide, by decide, by decide, by decide, by decide⟩
example : (Pair.run (Pair.init pcfg pcfg [7, 8] [9, 10]) pacts).gb.eof 0 = true := by decide

example : (step (run (init 2 1) [.write [1], .write [], .deliver]) (.read 4)).2 = .data [1] := by decide
example : (step (run (init 2 1) [.write [1], .write [], .deliver, .read 4]) (.read 4)).2 = .pending := by decide

/-! ### One whole endpoint, every history, ANY peer (`Lemmas/MuxEof`, `Lemmas/MuxEofRead`)

`runOps { opts := o } ops` is the endpoint after an arbitrary history `ops` of application calls,
deliveries of arbitrary messages (the peer is unconstrained) and transport faults.
`endsOf { opts := o } ops` is the ghost computed from that history: the list of all events "the
receiving half of stream object `i` was closed for cause `c`", recorded at exactly five places of the
model — a `Finish` / a `Reset` processed while object `i` holds the frame's slot, a `Push` that finds
the window of the object holding its slot full, a dropped-handle notification for the held slot, and
the drain of the flow table that ends the wind-down of the task (`Mux.EndCause`).  `endCause D i` is
the first cause recorded for object `i`. -/

section Endpoint
open Penguin.Mux

/-- (1) A read through handle `h` returns end-of-stream only if the handle's stream object has lost
    its channel sender, and that happens only for a recorded cause: the peer's `Finish` or `Reset` for
    the flow id while this object held the slot, the peer overrunning this object's window, the
    application dropping the stream, or the end of the connection (the task wound down).  For every
    history, with any peer. -/
theorem eof_only_after_end_of_that_stream (o : Opts) (ops : List Mux.Op) (h n : Nat)
    (he : (appRead (runOps { opts := o } ops) h n).2 = .eof) :
    ∃ i ob c, (runOps { opts := o } ops).handles[h]? = some i ∧
      (runOps { opts := o } ops).objs[i]? = some ob ∧ ob.senderAlive = false ∧
      endCause (endsOf { opts := o } ops) i = some c := by
  obtain ⟨i, ob, hh, ho, hs, -, -⟩ := appRead_eof he
  obtain ⟨c, hc⟩ := reachable_gone_has_cause o ops i ob ho hs
  exact ⟨i, ob, c, hh, ho, hs, hc⟩

/-- … the recorded causes are real: an event `(i, c)` of the history means that object `i` exists,
    its sender is gone for good, and — unless the cause is the peer's orderly `Finish` — its write
    side is shut too. -/
theorem recorded_end_is_real (o : Opts) (ops : List Mux.Op) (i : Nat) (c : EndCause)
    (hc : endCause (endsOf { opts := o } ops) i = some c) :
    ∃ ob, (runOps { opts := o } ops).objs[i]? = some ob ∧ ob.senderAlive = false ∧
      (c.isFinish = false → ob.finishSent = true) :=
  reachable_cause_is_real _ ops i c (endCause_mem hc)

/-- … the cause "the connection ended" is recorded only when the task finishes its wind-down (after
    the transport's Close / end / error, an invalid frame, a keepalive timeout or the drop of the
    `Multiplexor`): whenever a history records it, the task is finished. -/
theorem conn_ended_only_when_task_finished (o : Opts) (ops : List Mux.Op) (i : Nat) (r : ExitRes)
    (hc : (i, EndCause.connEnded r) ∈ endsOf { opts := o } ops) : (runOps { opts := o } ops).dead = true :=
  (CE.runOps { opts := o } ops).conn i r hc

/-- … a frame closes a receiving half only if it is a `Finish`, a `Reset` or an overrunning `Push`,
    and then only that of the object which holds the frame's own flow id at that moment — never
    another flow's. -/
theorem only_these_frames_end_a_stream (e : EP) (f : Frame) (i : Nat) (c : EndCause)
    (hm : (i, c) ∈ processFrameEnds e f) :
    lookup e.flows f.id = some (.established i) ∧
    ((f = .finish f.id ∧ c = .peerFinish f.id) ∨ (f = .reset f.id ∧ c = .peerReset f.id) ∨
     (∃ d, f = .push f.id d ∧ overruns e f.id = true ∧ c = .overrun f.id)) := by
  cases f with
  | finish fid => obtain ⟨h1, h2⟩ := closeFlowEnds_cause hm; exact ⟨h1, Or.inl ⟨rfl, h2⟩⟩
  | reset fid => obtain ⟨h1, h2⟩ := closeFlowEnds_cause hm; exact ⟨h1, Or.inr (Or.inl ⟨rfl, h2⟩)⟩
  | push fid d =>
    simp only [processFrameEnds] at hm
    split at hm
    · rename_i hov
      obtain ⟨h1, h2⟩ := closeFlowEnds_cause hm
      exact ⟨h1, Or.inr (Or.inr ⟨d, rfl, hov, h2⟩)⟩
    · cases hm
  | connect fid rwnd port host => cases hm
  | acknowledge fid k => cases hm
  | bind fid bt port host => cases hm
  | datagram fid port host d => cases hm

/-- … and every other frame — `Connect`, `Acknowledge`, `Bind`, `Datagram`, a `Push` (empty or not)
    that fits the window — records nothing and closes no receiving half: every object whose sender
    is gone afterwards had it gone before. -/
theorem other_frames_end_nothing (e : EP) (f : Frame) (ig : Bool)
    (h1 : ∀ fid, f ≠ .finish fid) (h2 : ∀ fid, f ≠ .reset fid)
    (h3 : ∀ fid d, f = .push fid d → overruns e fid = false) :
    processFrameEnds e f = [] ∧
    ∀ (i : Nat) (ob' : Obj), (processFrame e f ig).1.objs[i]? = some ob' → ob'.senderAlive = false →
      ∃ ob : Obj, e.objs[i]? = some ob ∧ ob.senderAlive = false := by
  have hn : processFrameEnds e f = [] := by
    cases f with
    | finish fid => exact absurd rfl (h1 fid)
    | reset fid => exact absurd rfl (h2 fid)
    | push fid d => simp [processFrameEnds, h3 fid d rfl]
    | connect fid rwnd port host => rfl
    | acknowledge fid k => rfl
    | bind fid bt port host => rfl
    | datagram fid port host d => rfl
  refine ⟨hn, ?_⟩
  intro i ob' ho hs
  have t := Tr.processFrame e f ig
  rw [hn] at t
  rcases t.expl i ob' ho hs with h | ⟨c, hc⟩
  · exact h
  · cases hc

/-- (2) A read returns end-of-stream only when no byte is queued for the reader: the handle's buffer
    is empty and the receive queue holds nothing but empty frames (which the read discards) … -/
theorem eof_only_after_all_queued_data (o : Opts) (ops : List Mux.Op) (h n : Nat)
    (he : (appRead (runOps { opts := o } ops) h n).2 = .eof) :
    ∃ i ob, (runOps { opts := o } ops).handles[h]? = some i ∧
      (runOps { opts := o } ops).objs[i]? = some ob ∧ ob.buf = [] ∧ ∀ f ∈ ob.rxq, f = [] := by
  obtain ⟨i, ob, hh, ho, -, hb, hq⟩ := appRead_eof he
  exact ⟨i, ob, hh, ho, hb, hq⟩

/-- … and as long as a byte is queued, a read returns bytes, whatever has happened to the stream
    or the connection in between (peer's `Finish`, `Reset`, the end of the connection). -/
theorem queued_data_comes_first (o : Opts) (ops : List Mux.Op) (h i n : Nat) (ob : Obj) (hn : 0 < n)
    (hh : (runOps { opts := o } ops).handles[h]? = some i) (ho : (runOps { opts := o } ops).objs[i]? = some ob)
    (hq : ob.buf ≠ [] ∨ ∃ f ∈ ob.rxq, f ≠ []) :
    ∃ b, b ≠ [] ∧ (appRead (runOps { opts := o } ops) h n).2 = .data b := by
  obtain ⟨b, hb, hr⟩ := readRes_data_of_queued ob hq
  refine ⟨b.take n, ?_, by rw [appRead_res _ h i n ob hh ho, hr]; rfl⟩
  cases b with
  | nil => exact absurd rfl hb
  | cons x xs => cases n with
    | zero => omega
    | succ k => simp

/-- (3) A zero-length write of the peer never ends a stream.  In every reachable state, processing
    `Push fid []` (unless it overruns the window, as any `Push` frame beyond the window would) records
    no end event, changes `senderAlive`, `rxOpen` and `finishSent` of no stream object, creates none,
    and every read afterwards returns exactly what it would have returned before. -/
theorem empty_push_never_ends_a_stream (o : Opts) (ops : List Mux.Op) (fid : Nat) (ig : Bool)
    (hno : overruns (runOps { opts := o } ops) fid = false) :
    let e := runOps { opts := o } ops
    let e' := (processFrame e (.push fid []) ig).1
    processFrameEnds e (.push fid []) = [] ∧
    (∀ j : Nat, (e'.objs[j]?).map (fun x => (x.senderAlive, x.rxOpen, x.finishSent)) =
                (e.objs[j]?).map (fun x => (x.senderAlive, x.rxOpen, x.finishSent))) ∧
    (∀ h n, (appRead e' h n).2 = (appRead e h n).2) := by
  intro e e'
  have hno' : overruns e fid = false := hno
  refine ⟨by simp [processFrameEnds, hno'], ?_, fun h n => push_empty_read e fid ig hno h n⟩
  intro j
  rcases push_keeps_halves e fid [] ig hno j with hsame | ⟨ob, ho, _, _, _, ho'⟩
  · show ((processFrame e (.push fid []) ig).1.objs[j]?).map _ = _
    rw [hsame]
  · show ((processFrame e (.push fid []) ig).1.objs[j]?).map _ = _
    rw [ho', ho]; rfl

/-- (4) Shutting down the write side leaves the read side fully usable.  In every reachable state,
    `appShutdown` leaves the handles and the receive side of every stream object (queue, buffer,
    sender flag, receiver flag, acknowledgement counters) exactly as they were, and what a read
    returns and does is a function of that receive side alone: any sequence of reads, on any
    handles, returns the same results after the shutdown as without it. -/
theorem local_shutdown_keeps_reading (o : Opts) (ops : List Mux.Op) (h : Nat) :
    let e := runOps { opts := o } ops
    RecvEq e (appShutdown e h).1 ∧ ∀ rs, readsRes (appShutdown e h).1 rs = readsRes e rs := by
  intro e
  exact ⟨appShutdown_recvEq e h, fun rs => (appShutdown_recvEq e h).readsRes rs⟩

/-- (5) Writes fail after the end.  In every reachable state, for a handle `h` of stream object `i`:
    once the object's write side is shut (`finishSent`), a write returns BrokenPipe and queues
    nothing; the write side IS shut whenever the history records an end of the stream other than
    the peer's orderly `Finish` (peer's `Reset`, overrun, dropped, connection ended), and whenever
    the task has finished — so a write never blocks (`pending`) once the task is dead. -/
theorem write_fails_after_end (o : Opts) (ops : List Mux.Op) (h i : Nat) (ob : Obj) (d : Bytes)
    (hh : (runOps { opts := o } ops).handles[h]? = some i) (ho : (runOps { opts := o } ops).objs[i]? = some ob) :
    let e := runOps { opts := o } ops
    (ob.finishSent = true → (appWrite e h d).2 = .brokenPipe ∧ (appWrite e h d).1.outq = e.outq) ∧
    ((∃ c, (i, c) ∈ endsOf { opts := o } ops ∧ c.isFinish = false) → ob.finishSent = true) ∧
    (e.dead = true → ob.finishSent = true) ∧
    (e.dead = true → (appWrite e h d).2 = .brokenPipe) := by
  intro e
  have hw : ob.finishSent = true → (appWrite e h d).2 = .brokenPipe ∧ (appWrite e h d).1.outq = e.outq := by
    intro hf
    have := (appWrite_glue e h i ob d hh ho).1 hf
    exact ⟨this.1, this.2.1⟩
  have hdead : e.dead = true → ob.finishSent = true := fun hd => (reachable_dead_all_closed o ops hd i ob ho).1
  refine ⟨hw, ?_, hdead, fun hd => (hw (hdead hd)).1⟩
  rintro ⟨c, hc, hnf⟩
  obtain ⟨ob', ho', _, hf⟩ := reachable_cause_is_real _ ops i c hc
  rw [ho] at ho'; cases ho'
  exact hf hnf

/-- … and after a local shutdown: whatever happens after `shutdown h` (any further history `ops2`,
    any peer), the handle still denotes the same stream and a write through it returns BrokenPipe
    and queues nothing. -/
theorem write_fails_after_local_shutdown (o : Opts) (ops1 ops2 : List Mux.Op) (h i : Nat) (ob : Obj) (d : Bytes)
    (hh : (runOps { opts := o } ops1).handles[h]? = some i) (ho : (runOps { opts := o } ops1).objs[i]? = some ob) :
    let e2 := runOps (applyOp (runOps { opts := o } ops1) (.shutdown h)).1 ops2
    e2.handles[h]? = some i ∧ (appWrite e2 h d).2 = .brokenPipe ∧ (appWrite e2 h d).1.outq = e2.outq := by
  intro e2
  obtain ⟨o1, ho1, hf1⟩ := appShutdown_sets _ h i ob hh ho
  have t0 := Tr.appShutdown (runOps { opts := o } ops1) h
  have t1 := Tr.settle (appShutdown (runOps { opts := o } ops1) h).1
  have hfst : (applyOp (runOps { opts := o } ops1) (.shutdown h)).1 =
      (settle (appShutdown (runOps { opts := o } ops1) h).1).1 := by
    rw [applyOp_fst]
    simp only [Mux.opStep]
  rw [← hfst] at t1
  have t := t1.trans (Tr.runOps (applyOp (runOps { opts := o } ops1) (.shutdown h)).1 ops2)
  have hh2 : e2.handles[h]? = some i := t.hnd h i (t0.hnd h i hh)
  have hlt : i < e2.objs.length := Nat.lt_of_lt_of_le (List.getElem?_eq_some_iff.mp ho1).1 t.len
  obtain ⟨o2, ho2⟩ : ∃ o2, e2.objs[i]? = some o2 := ⟨e2.objs[i], List.getElem?_eq_getElem hlt⟩
  have hf2 := (t.mono i o1 o2 ho1 ho2).2 hf1
  have := (appWrite_glue e2 h i o2 d hh2 ho2).1 hf2
  exact ⟨hh2, this.1, this.2.1⟩

/-! Non-vacuity: concrete histories of one endpoint (default options: window 4). -/

/-- The peer opens flow 7, the application accepts it; the peer sends an empty `Push`, three bytes,
    and `Finish`. -/
private def hA : List Mux.Op :=
  [.deliver (.msg (.frame (.connect 7 4 80 [104]))), .accept,
   .deliver (.msg (.frame (.push 7 []))), .deliver (.msg (.frame (.push 7 [1, 2, 3]))),
   .deliver (.msg (.frame (.finish 7)))]
-- the reader gets the data, then end-of-stream; the recorded cause is the peer's `Finish`
example : (appRead (runOps { opts := {} } hA) 0 9).2 = .data [1, 2, 3] := by decide
example : (appRead (runOps { opts := {} } (hA ++ [.read 0 9])) 0 9).2 = .eof := by decide
example : endsOf { opts := {} } (hA ++ [.read 0 9]) = [(0, .peerFinish 7)] := by decide
example : endCause (endsOf { opts := {} } (hA ++ [.read 0 9])) 0 = some (.peerFinish 7) := by decide
-- `queued_data_comes_first` applies before that read (the sender is already gone, a byte is queued)
example : ((runOps { opts := {} } hA).objs[0]?).map (fun x => (x.senderAlive, x.buf, x.rxq)) =
    some (false, [], [[], [1, 2, 3]]) := by decide
example : (runOps { opts := {} } hA).handles = [0] := by decide
-- the event is recorded when the `Finish` is processed, for the object holding slot 7
example : processFrameEnds (runOps { opts := {} } (hA.take 4)) (.finish 7) = [(0, .peerFinish 7)] := by decide
example : processFrameEnds (runOps { opts := {} } (hA.take 4)) (.finish 8) = [] := by decide
-- the empty `Push` alone: the window has room, and a read is pending, not end-of-stream
example : overruns (runOps { opts := {} } (hA.take 2)) 7 = false := by decide
example : (appRead (runOps { opts := {} } (hA.take 3)) 0 9).2 = .pending := by decide
example : endsOf { opts := {} } (hA.take 4) = [] := by decide
-- after the peer's `Finish` the write side is still usable (half-close)
example : (appWrite (runOps { opts := {} } hA) 0 [5]).2 = .wrote 1 := by decide

/-- The connection ends (the transport reports its end) while two bytes are queued. -/
private def hB : List Mux.Op :=
  [.deliver (.msg (.frame (.connect 7 4 80 [104]))), .accept,
   .deliver (.msg (.frame (.push 7 [1, 2]))), .deliver .eof]
example : (runOps { opts := {} } hB).dead = true := by decide
example : endsOf { opts := {} } hB = [(0, .connEnded .ok)] := by decide
example : (appRead (runOps { opts := {} } hB) 0 9).2 = .data [1, 2] := by decide
example : (appRead (runOps { opts := {} } (hB ++ [.read 0 9])) 0 9).2 = .eof := by decide
example : (appWrite (runOps { opts := {} } hB) 0 [5]).2 = .brokenPipe := by decide

/-- Local shutdown, then the peer keeps sending. -/
private def hC : List Mux.Op :=
  [.deliver (.msg (.frame (.connect 7 4 80 [104]))), .accept, .shutdown 0,
   .deliver (.msg (.frame (.push 7 [9])))]
example : (appRead (runOps { opts := {} } hC) 0 9).2 = .data [9] := by decide
example : (appWrite (runOps { opts := {} } hC) 0 [5]).2 = .brokenPipe := by decide
example : endsOf { opts := {} } hC = [] := by decide
example : readsRes (appShutdown (runOps { opts := {} } (hA.take 4)) 0).1 [(0, 2), (0, 9), (0, 9)] =
    [.data [1, 2], .data [3], .pending] := by decide

/-- The peer's `Reset`; an overrun (window 1, two frames); the application drops the stream. -/
private def hD : List Mux.Op :=
  [.deliver (.msg (.frame (.connect 7 4 80 [104]))), .accept, .deliver (.msg (.frame (.push 7 [1]))),
   .deliver (.msg (.frame (.reset 7)))]
example : endsOf { opts := {} } hD = [(0, .peerReset 7)] := by decide
example : (appWrite (runOps { opts := {} } hD) 0 [5]).2 = .brokenPipe := by decide
example : (appRead (runOps { opts := {} } hD) 0 9).2 = .data [1] := by decide
example : (appRead (runOps { opts := {} } (hD ++ [.read 0 9])) 0 9).2 = .eof := by decide
private def hE : List Mux.Op :=
  [.deliver (.msg (.frame (.connect 7 4 80 [104]))), .accept, .deliver (.msg (.frame (.push 7 [1]))),
   .deliver (.msg (.frame (.push 7 [])))]
example : overruns (runOps { opts := { rwnd := 1 } } (hE.take 3)) 7 = true := by decide
example : endsOf { opts := { rwnd := 1 } } hE = [(0, .overrun 7)] := by decide
example : (appWrite (runOps { opts := { rwnd := 1 } } hE) 0 [5]).2 = .brokenPipe := by decide
example : endsOf { opts := {} } [.deliver (.msg (.frame (.connect 7 4 80 [104]))), .accept, .dropStream 0] =
    [(0, .dropped 7)] := by decide
-- a `Finish` for another flow id, a `Datagram`, a `Bind`, an `Acknowledge` end nothing
example : endsOf { opts := {} } (hA.take 2 ++ [.deliver (.msg (.frame (.finish 8))),
    .deliver (.msg (.frame (.datagram 7 53 [104] [1]))), .deliver (.msg (.frame (.bind 7 .stream 80 [104]))),
    .deliver (.msg (.frame (.acknowledge 7 1)))]) = [] := by decide

end Endpoint

/-! ### Two endpoints, EVERY history: a clean end-of-stream is exact (`Model/PairAll.lean`)

`Penguin.PairAll` joins two endpoint models by FIFO wires at the stimulus level — every application call,
delivery, Close and transport fault at either side (see Props C02,
`pair_reads_are_prefix_of_peer_writes_every_history`).  `PairAll.opsB p l` is the list of endpoint stimuli
(`Mux.Op`) a run `l` applies to the right endpoint, so that the right endpoint after the run IS
`Mux.runOps` of that history and the end events of the run ARE the ghost `Mux.endsOf` of that history
(`pair_run_is_a_history`); `opsA` likewise for the left endpoint. -/

section PairAll
open Penguin.Mux Penguin.PairAll

/-- The endpoints of a run of the pair are the endpoint model after the histories `opsA` / `opsB` (the
    stimuli the run applied to each side, deliveries with the messages the wires actually carried). -/
theorem pair_run_is_a_history (p : PS) (l : List (PairAll.Side × Stim)) :
    (PairAll.run p l).a = runOps p.a (opsA p l) ∧ (PairAll.run p l).b = runOps p.b (opsB p l) :=
  ⟨(run_a_ops p l).1, (run_b_ops p l).1⟩

/-- C05, "a read returns end-of-stream … only after every byte the peer wrote before that point has been
    returned", at full strength for the orderly end.  In every reachable state of the pair (every history,
    faults included, under `PairAll.Cfg`), for every flow id `x` and BOTH directions: if the next read through
    a handle `h` of stream object `j` (carrying `x`; its receiver still open: the handle is alive and has
    not consumed the end yet) returns end-of-stream, and the end cause recorded for `j` is `peerFinish x` — the
    peer's `Finish` was processed for that object while it held the slot of `x` — then what the application
    has read from `j` is EXACTLY what the peer's application successfully wrote on `x`: not merely a prefix,
    nothing is missing, and nothing more will ever be written on `x`. -/
theorem pair_clean_eof_is_exact_every_history {ra rb : List Nat} (c : Cfg ra rb) (oa ob : Opts)
    (l : List (PairAll.Side × Stim)) (x : Nat) :
    let p0 := PairAll.init oa ob ra rb
    let p := PairAll.run p0 l
    (∀ (j h n : Nat) (o : Obj), p.b.handles[h]? = some j → p.b.objs[j]? = some o → o.fid = x → o.rxOpen = true →
      (appRead p.b h n).2 = .eof → endCause (endsOf p0.b (opsB p0 l)) j = some (.peerFinish x) →
      chunks p.gb.returned j = wroteOn x p.ga.wrote) ∧
    (∀ (i h n : Nat) (o : Obj), p.a.handles[h]? = some i → p.a.objs[i]? = some o → o.fid = x → o.rxOpen = true →
      (appRead p.a h n).2 = .eof → endCause (endsOf p0.a (opsA p0 l)) i = some (.peerFinish x) →
      chunks p.ga.returned i = wroteOn x p.gb.wrote) := by
  refine ⟨fun j h n o hh hj hx hro he hc => ?_, fun i h n o hh hi hx hro he hc => ?_⟩
  · exact clean_eof_exact c oa ob l x j h n o hh hj hx hro he
      (by rw [(run_b_ops _ l).2]; exact endCause_mem hc)
  · exact clean_eof_exact_rev c oa ob l x i h n o hh hi hx hro he
      (by rw [(run_a_ops _ l).2]; exact endCause_mem hc)

/-- The weaker sibling that needs no read: if the end cause recorded for stream object `j` (carrying `x`,
    receiver still open) is `peerFinish x`, the peer's application has shut its stream down: the peer has a
    stream object carrying `x`, and every such object has its write side closed (`finishSent`: set by
    `shutdown`, or by dropping / aborting the stream) — the `Finish` was not invented, and (with
    `write_fails_after_local_shutdown`) no later write on `x` succeeds.  Also: the frames accepted into `j`
    are exactly the payloads the peer's writes put on `x`. -/
theorem pair_eof_after_peer_finish_means_peer_shut_down {ra rb : List Nat} (c : Cfg ra rb) (oa ob : Opts)
    (l : List (PairAll.Side × Stim)) (x j : Nat) (o : Obj) :
    let p0 := PairAll.init oa ob ra rb
    let p := PairAll.run p0 l
    p.b.objs[j]? = some o → o.fid = x → o.rxOpen = true →
    endCause (endsOf p0.b (opsB p0 l)) j = some (.peerFinish x) →
    (∃ (i : Nat) (oA : Obj), p.a.objs[i]? = some oA ∧ oA.fid = x) ∧
    (∀ (i : Nat) (oA : Obj), p.a.objs[i]? = some oA → oA.fid = x → oA.finishSent = true) ∧
    (Log.dataOf p.gb.accepted j).flatten = wroteOn x p.ga.wrote := by
  intro p0 p hj hx hro hc
  obtain ⟨h1, h2, h3⟩ := finish_processed c oa ob l x j o hj hx hro
    (by rw [(run_b_ops _ l).2]; exact endCause_mem hc)
  exact ⟨h2, h3, by rw [h1, wroteX_flatten]⟩

/-! Non-vacuity (windows 2, threshold 1; scripts `[7, 8]`, `[9, 10]`; `a` opens flow 7, `b` accepts it). -/
private def ecfg : Mux.Opts := { rwnd := 2, threshold := 1 }
example : PairAll.Cfg [7, 8] [9, 10] := ⟨by decide, by decide, by decide⟩
private def eopen : List (PairAll.Side × Stim) :=
  [(.A, .call (.open 1 [104] 80)), (.B, .deliver), (.B, .call .accept), (.A, .deliver)]

/-- Two writes, shutdown, all delivered, read to the end: the hypotheses of
    `pair_clean_eof_is_exact_every_history` hold (next read: end-of-stream; receiver open; cause `peerFinish 7`)
    and what was read is what was written. -/
private def eClean : List (PairAll.Side × Stim) :=
  eopen ++ [(.A, .call (.write 0 [1, 2])), (.A, .call (.write 0 [3])), (.A, .call (.shutdown 0)),
            (.B, .deliver), (.B, .deliver), (.B, .deliver), (.B, .call (.read 0 9)), (.B, .call (.read 0 9))]
example : let p0 := PairAll.init ecfg ecfg [7, 8] [9, 10]
    let p := PairAll.run p0 eClean
    (p.b.handles[0]? = some 0 ∧ p.b.objs.map (fun o => (o.fid, o.rxOpen)) = [(7, true)] ∧
     (appRead p.b 0 9).2 = .eof ∧ endCause (endsOf p0.b (opsB p0 eClean)) 0 = some (.peerFinish 7) ∧
     chunks p.gb.returned 0 = [1, 2, 3] ∧ wroteOn 7 p.ga.wrote = [1, 2, 3] ∧
     p.a.objs.map (fun o => (o.fid, o.finishSent)) = [(7, true)]) := by decide

/-- The wire is cut between the first `Push` and the rest (second `Push`, `Finish`): the reader gets
    end-of-stream too, but the recorded cause is `connEnded`, not `peerFinish` — and what was read is a strict
    prefix of what was written. -/
private def eCut : List (PairAll.Side × Stim) :=
  eopen ++ [(.A, .call (.write 0 [1, 2])), (.A, .call (.write 0 [3])), (.A, .call (.shutdown 0)),
            (.B, .deliver), (.B, .cut false), (.B, .call (.read 0 9))]
example : let p0 := PairAll.init ecfg ecfg [7, 8] [9, 10]
    let p := PairAll.run p0 eCut
    ((appRead p.b 0 9).2 = .eof ∧ endCause (endsOf p0.b (opsB p0 eCut)) 0 = some (.connEnded .wsError) ∧
     chunks p.gb.returned 0 = [1, 2] ∧ wroteOn 7 p.ga.wrote = [1, 2, 3]) := by decide

/-- … and cut between the last `Push` and the `Finish`: everything written happens to have been read, the cause
    is still `connEnded` (the reader cannot know the writer was done). -/
private def eCut2 : List (PairAll.Side × Stim) :=
  eopen ++ [(.A, .call (.write 0 [1, 2])), (.A, .call (.write 0 [3])), (.A, .call (.shutdown 0)),
            (.B, .deliver), (.B, .deliver), (.B, .cut false), (.B, .call (.read 0 9)), (.B, .call (.read 0 9))]
example : let p0 := PairAll.init ecfg ecfg [7, 8] [9, 10]
    let p := PairAll.run p0 eCut2
    ((appRead p.b 0 9).2 = .eof ∧ endCause (endsOf p0.b (opsB p0 eCut2)) 0 = some (.connEnded .wsError) ∧
     chunks p.gb.returned 0 = [1, 2, 3] ∧ wroteOn 7 p.ga.wrote = [1, 2, 3]) := by decide

end PairAll

end Penguin.C05
