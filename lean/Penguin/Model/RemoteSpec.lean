/-
Model of the client's remote-specification parser (glue of C01): which entry point a remote
argument opens, where it listens, and which fixed target it forwards to.

Source mirrored (pinned tree), statement by statement: `penguin/src/arg/remote_spec.rs`
* `:9-24`    `default_host!` (the `default-is-ipv6` feature is OFF in the checked build)
* `:44-49`   `SOCKS_DEFAULT_PORT`, `HTTP_DEFAULT_PORT`, `TPROXY_DEFAULT_PORT`
* `:51-59`   `add_brackets!`
* `:61-83`   `Error`
* `:85-164`  `Remote`, `LocalSpec`, `RemoteSpec`, `Protocol` and their `Display`
* `:168-210` `tokenize_remote`
* `:212-412` `impl FromStr for Remote`
* `:414-424` `impl FromStr for Protocol`
and `u16::from_str` of the standard library (`core/src/num/mod.rs`, `from_ascii_radix`).

Strings are `List Char` everywhere.  The Rust code slices `&str` at byte indices found by
`find(']')`, `split_once(':')`, `rsplit_once('/')`, `starts_with("unix:")`: all delimiters are
single-byte ASCII, so the slices fall on character boundaries and a list of characters is a
faithful view.  The only place where a BYTE count matters is the fast-path test of `u16::from_str`
(`digits.len() <= 4`): `utf8Len` below.

TWO BLACK BOXES, parameters of the model (`Oracle`):
* `idna`  = `idna::domain_to_ascii` (UTS 46 processing; `none` = it returned `Err`),
* `lower` = `str::to_lowercase` (Unicode, not ASCII, lower-casing; used on the protocol suffix only).
Nothing is assumed about them unless a theorem says so.  The harness feeds the model the real
functions' answers for exactly the strings the model asks about.

The two `unreachable!()` of the Rust code (`:232`, `:370`) are explicit `Fail.panic` results, so
that "never reached" is a theorem.  The Rust `loop` of the tokenizer is unrolled with a fuel of
`remoteMaxSegments + 1` iterations; running out of fuel is a third `panic` value
(`PanicSite.loopBound`, a model artefact) which is proved unreachable as well, for this and every
larger fuel (`Lemmas/RemoteSpec.lean`: `tokLoop_fuel_irrelevant`).

Core Lean only (the driver links against this file).
-/
import Penguin.Basic.Bytes
import Penguin.Gen.RemoteSpec

namespace Penguin.RemoteSpec
open Penguin.Constants

abbrev Str := List Char

/-! ### Values (`remote_spec.rs:85-164`) -/

/-- `Protocol` (`:157-164`). -/
inductive Protocol where
  | tcp
  | udp
  deriving DecidableEq, Repr

/-- `LocalSpec` (`:98-110`).  `PathBuf::from(&str)` keeps the text as it is; the path is its text. -/
inductive LocalSpec where
  | inet (host : Str) (port : Nat)
  | stdio
  | domainSocket (path : Str)
  deriving DecidableEq, Repr

/-- `RemoteSpec` (`:125-140`). -/
inductive RemoteSpec where
  | inet (host : Str) (port : Nat)
  | socks
  | http
  | tproxy
  deriving DecidableEq, Repr

/-- `Remote` (`:85-96`).  Equality here is structural (the Rust `PartialEq` of the two address
    types compares hosts ignoring ASCII case and paths by components; the harness compares fields). -/
structure Remote where
  localAddr : LocalSpec
  remoteAddr : RemoteSpec
  protocol : Protocol
  deriving DecidableEq, Repr

/-- `std::num::IntErrorKind`. -/
inductive IntErrKind where
  | empty
  | invalidDigit
  | posOverflow
  | negOverflow
  | zero
  deriving DecidableEq, Repr

/-- The four `UnsupportedCombination(&'static str, &'static str)` values the code can build
    (`:276-279`, `:382`, `:392-395`, `:405-408`). -/
inductive Combo where
  | stdioTproxy
  | socksHttpUdp
  | unixUdp
  | unixTproxy
  deriving DecidableEq, Repr

/-- The two texts of each combination. -/
def Combo.texts : Combo → String × String
  | .stdioTproxy => ("stdio local", "tproxy remote")
  | .socksHttpUdp => ("socks or http local", "udp")
  | .unixUdp => ("unix domain socket local", "udp")
  | .unixTproxy => ("unix domain socket local", "tproxy remote")

/-- `Error` (`:61-83`). -/
inductive Error where
  | emptySegment
  | bracketMismatch
  | garbageAfterAddress (c : Char)
  | port (text : Str) (kind : IntErrKind)
  | protocol (text : Str)
  | unsupportedCombination (c : Combo)
  | tooManySegments
  | invalidDomain (text : Str)
  deriving DecidableEq, Repr

/-- Where the real code would panic. -/
inductive PanicSite where
  /-- `parse_remote_special!`: `_ => unreachable!()` (`:232`). -/
  | special
  /-- `match tokens[..] { … _ => unreachable!(..) }` (`:368-371`). -/
  | arms
  /-- Model artefact: the unrolled tokenizer loop ran out of iterations. -/
  | loopBound
  deriving DecidableEq, Repr

inductive Fail where
  | err (e : Error)
  | panic (p : PanicSite)
  deriving DecidableEq, Repr

/-- The two library functions the parser calls and this model does not look into. -/
structure Oracle where
  /-- `idna::domain_to_ascii(host).ok()`. -/
  idna : Str → Option Str
  /-- `str::to_lowercase`. -/
  lower : Str → Str

/-! ### Constants -/

def kwSocks : Str := "socks".toList
def kwHttp : Str := "http".toList
def kwTproxy : Str := "tproxy".toList
def kwStdio : Str := "stdio".toList
def kwTcp : Str := "tcp".toList
def kwUdp : Str := "udp".toList
/-- `"unix:"` (`:286`, `:296`, `:333`). -/
def unixPrefix : Str := remoteUnixPrefix.toList
/-- `default_host!(local)` (`:12-14`). -/
def defaultLocal : Str := remoteDefaultLocalHost.toList
/-- `default_host!(unspec)` (`:15-17`). -/
def defaultUnspec : Str := remoteDefaultUnspecHost.toList
/-- `u16::MAX`. -/
def u16Max : Nat := 65535

/-! ### `u16::from_str` (`core::num`, `from_ascii_radix` with radix 10, unsigned) -/

/-- `(c as char).to_digit(10)`. -/
def toDigit10 (c : Char) : Option Nat :=
  if c.isDigit then some (c.toNat - '0'.toNat) else none

/-- Length in bytes of the UTF-8 encoding (`<[u8]>::len` of `str::as_bytes`). -/
def utf8Len : Str → Nat
  | [] => 0
  | c :: cs => c.utf8Size + utf8Len cs

/-- `run_unchecked_loop!(+)`: taken when `can_not_overflow` (at most 4 bytes of digits for `u16`).
    A non-ASCII character is several bytes ≥ 0x80, the first of which is not a digit: same outcome
    as treating the character as a non-digit. -/
def uncheckedLoop : Nat → Str → Except IntErrKind Nat
  | acc, [] => .ok acc
  | acc, c :: rest =>
    match toDigit10 c with
    | none => .error .invalidDigit
    | some x => uncheckedLoop (acc * 10 + x) rest

/-- `run_checked_loop!(checked_add, PosOverflow)`: `mul = result.checked_mul(10)` is computed
    first, but the digit test of the current character is reported before the overflow of `mul`. -/
def checkedLoop : Nat → Str → Except IntErrKind Nat
  | acc, [] => .ok acc
  | acc, c :: rest =>
    match toDigit10 c with
    | none => .error .invalidDigit
    | some x =>
      if acc * 10 ≤ u16Max then
        if acc * 10 + x ≤ u16Max then checkedLoop (acc * 10 + x) rest
        else .error .posOverflow
      else .error .posOverflow

/-- `"<text>".parse::<u16>()`.  A single leading `+` is accepted; `-` is not a sign for an
    unsigned type (it is an invalid digit); no white space; the empty string is `Empty`. -/
def parseU16 (src : Str) : Except IntErrKind Nat :=
  if src = [] then .error .empty
  else if src = ['+'] ∨ src = ['-'] then .error .invalidDigit
  else
    let digits := match src with
      | c :: rest => if c = '+' then rest else src
      | [] => src
    if utf8Len digits ≤ 4 then uncheckedLoop 0 digits else checkedLoop 0 digits

/-! ### `tokenize_remote` (`:168-210`) -/

/-- `str::split_once(d)`: the text before the first `d` and the text after it. -/
def splitOnce (d : Char) : Str → Option (Str × Str)
  | [] => none
  | c :: cs =>
    if c = d then some ([], cs)
    else match splitOnce d cs with
      | none => none
      | some (a, b) => some (c :: a, b)

/-- `str::rsplit_once(d)`: the text before the LAST `d` and the text after it. -/
def rsplitOnce (d : Char) (s : Str) : Option (Str × Str) :=
  match splitOnce d s.reverse with
  | none => none
  | some (a, b) => some (b.reverse, a.reverse)

/-- One element of the `Vec<&str>`, plus (ghost, never read by the parser) whether it was written
    in brackets. -/
structure Tok where
  text : Str
  bracketed : Bool
  deriving DecidableEq, Repr

/-- `check_and_push!` (`:171-182`): the count check comes BEFORE the empty check. -/
def checkAndPush (tokens : List Tok) (t : Tok) : Except Fail (List Tok) :=
  if tokens.length ≥ remoteMaxSegments then .error (.err .tooManySegments)
  else if t.text = [] then .error (.err .emptySegment)
  else .ok (tokens ++ [t])

/-- The `loop` of `:183-209`, at most `fuel` iterations. -/
def tokLoop : Nat → List Tok → Str → Except Fail (List Tok)
  | 0, _, _ => .error (.panic .loopBound)
  | fuel + 1, tokens, stuff =>
    match stuff with
    | c :: body =>
      if c = '[' then
        -- `:185-201`
        match splitOnce ']' body with
        | none => .error (.err .bracketMismatch)
        | some (tok, after) =>
          match checkAndPush tokens ⟨tok, true⟩ with
          | .error e => .error e
          | .ok tokens' =>
            match after with
            | [] => .ok tokens'
            | ch :: rest =>
              if ch = ':' then tokLoop fuel tokens' rest
              else .error (.err (.garbageAfterAddress ch))
      else
        -- `:202-208`
        match splitOnce ':' stuff with
        | some (tok, rest) =>
          match checkAndPush tokens ⟨tok, false⟩ with
          | .error e => .error e
          | .ok tokens' => tokLoop fuel tokens' rest
        | none => checkAndPush tokens ⟨stuff, false⟩
    | [] =>
      -- `"".split_once(':')` is `None`: `check_and_push!("")`
      checkAndPush tokens ⟨[], false⟩

/-- `tokenize_remote(s)`. -/
def tokenize (s : Str) : Except Fail (List Tok) :=
  tokLoop (remoteMaxSegments + 1) [] s

/-! ### `impl FromStr for Protocol` (`:414-424`) and the protocol split (`:236-239`) -/

def parseProtocol (o : Oracle) (s : Str) : Except Fail Protocol :=
  let l := o.lower s
  if l = kwTcp then .ok .tcp
  else if l = kwUdp then .ok .udp
  else .error (.err (.protocol l))

/-- `match s.rsplit_once('/') { Some((rest, proto)) if !proto.contains(':') => (rest, proto.parse()?), _ => (s, Tcp) }` -/
def splitProto (o : Oracle) (s : Str) : Except Fail (Str × Protocol) :=
  match rsplitOnce '/' s with
  | some (rest, proto) =>
    if ':' ∈ proto then .ok (s, .tcp)
    else match parseProtocol o proto with
      | .ok p => .ok (rest, p)
      | .error e => .error e
  | none => .ok (s, .tcp)

/-! ### `match tokens[..]` (`:241-372`) -/

/-- `"socks" | "http" | "tproxy"`. -/
def isSpecial (t : Str) : Bool := t = kwSocks || t = kwHttp || t = kwTproxy

/-- `uds_path.starts_with("unix:")`. -/
def isUnix (t : Str) : Bool := unixPrefix.isPrefixOf t

/-- `&uds_path[5..]`. -/
def udsPath (t : Str) : Str := t.drop unixPrefix.length

/-- The arms, in source order. -/
inductive Arm where
  | socks1 | http1 | tproxy1 | port1
  | stdioSpecial2 | stdioTproxy2 | stdioPort2 | unixSpecial2 | portSpecial2 | unixPort2 | hostPort2
  | stdio3 | special3 | unix3 | port3
  | full4
  | wildcard
  deriving DecidableEq, Repr

def Arm.all : List Arm :=
  [.socks1, .http1, .tproxy1, .port1, .stdioSpecial2, .stdioTproxy2, .stdioPort2, .unixSpecial2,
   .portSpecial2, .unixPort2, .hostPort2, .stdio3, .special3, .unix3, .port3, .full4, .wildcard]

/-- The pattern of each arm as written in the source. -/
def Arm.pattern : Arm → String
  | .socks1 => "[\"socks\"]"
  | .http1 => "[\"http\"]"
  | .tproxy1 => "[\"tproxy\"]"
  | .port1 => "[port]"
  | .stdioSpecial2 => "[\"stdio\", \"socks\" | \"http\"]"
  | .stdioTproxy2 => "[\"stdio\", \"tproxy\"]"
  | .stdioPort2 => "[\"stdio\", port]"
  | .unixSpecial2 => "[uds_path, \"socks\" | \"http\" | \"tproxy\"] if uds_path.starts_with(\"unix:\")"
  | .portSpecial2 => "[port, \"socks\" | \"http\" | \"tproxy\"]"
  | .unixPort2 => "[uds_path, port] if uds_path.starts_with(\"unix:\")"
  | .hostPort2 => "[host, port]"
  | .stdio3 => "[\"stdio\", remote_host, remote_port]"
  | .special3 => "[local_host, local_port, \"socks\" | \"http\" | \"tproxy\"]"
  | .unix3 => "[uds_path, remote_host, remote_port] if uds_path.starts_with(\"unix:\")"
  | .port3 => "[local_port, remote_host, remote_port]"
  | .full4 => "[local_host, local_port, remote_host, remote_port]"
  | .wildcard => "_"

/-- Source-shape tie: the arms of `match tokens[..]` regenerated from the source are these patterns
    in this order.  (A re-ordered, added or removed arm stops the build here.) -/
theorem arms_as_in_source : remoteMatchArms = Arm.all.map Arm.pattern := by rfl

/-- Source-shape tie for the post-checks (`:373-409`) and the `stdio`+`tproxy` arm: order and texts. -/
theorem post_checks_as_in_source :
    remotePostChecks.map (·.2) = [Combo.socksHttpUdp.texts, Combo.unixUdp.texts, Combo.unixTproxy.texts] ∧
    remoteStdioTproxyTexts = Combo.stdioTproxy.texts := by decide

/-- The arm that matched, with the sub-slices it bound. -/
inductive Matched where
  | socks1 | http1 | tproxy1
  | port1 (port : Str)
  | stdioSpecial2 (special : Str)
  | stdioTproxy2
  | stdioPort2 (port : Str)
  | unixSpecial2 (uds special : Str)
  | portSpecial2 (port special : Str)
  | unixPort2 (uds port : Str)
  | hostPort2 (host port : Str)
  | stdio3 (rhost rport : Str)
  | special3 (lhost lport special : Str)
  | unix3 (uds rhost rport : Str)
  | port3 (lport rhost rport : Str)
  | full4 (lhost lport rhost rport : Str)
  | wildcard
  deriving DecidableEq, Repr

def Matched.arm : Matched → Arm
  | .socks1 => .socks1 | .http1 => .http1 | .tproxy1 => .tproxy1 | .port1 _ => .port1
  | .stdioSpecial2 _ => .stdioSpecial2 | .stdioTproxy2 => .stdioTproxy2 | .stdioPort2 _ => .stdioPort2
  | .unixSpecial2 _ _ => .unixSpecial2 | .portSpecial2 _ _ => .portSpecial2 | .unixPort2 _ _ => .unixPort2
  | .hostPort2 _ _ => .hostPort2 | .stdio3 _ _ => .stdio3 | .special3 _ _ _ => .special3
  | .unix3 _ _ _ => .unix3 | .port3 _ _ _ => .port3 | .full4 _ _ _ _ => .full4 | .wildcard => .wildcard

/-- Which arm of `match tokens[..]` is taken: slice patterns are tried top to bottom, the first
    one that matches wins. -/
def selectArm : List Str → Matched
  | [t0] =>
    if t0 = kwSocks then .socks1
    else if t0 = kwHttp then .http1
    else if t0 = kwTproxy then .tproxy1
    else .port1 t0
  | [t0, t1] =>
    if t0 = kwStdio ∧ (t1 = kwSocks ∨ t1 = kwHttp) then .stdioSpecial2 t1
    else if t0 = kwStdio ∧ t1 = kwTproxy then .stdioTproxy2
    else if t0 = kwStdio then .stdioPort2 t1
    else if isSpecial t1 ∧ isUnix t0 then .unixSpecial2 t0 t1
    else if isSpecial t1 then .portSpecial2 t0 t1
    else if isUnix t0 then .unixPort2 t0 t1
    else .hostPort2 t0 t1
  | [t0, t1, t2] =>
    if t0 = kwStdio then .stdio3 t1 t2
    else if isSpecial t2 then .special3 t0 t1 t2
    else if isUnix t0 then .unix3 t0 t1 t2
    else .port3 t0 t1 t2
  | [t0, t1, t2, t3] => .full4 t0 t1 t2 t3
  | _ => .wildcard

/-- `parse_port_or_bail!` (`:218-224`). -/
def portOrBail (t : Str) : Except Fail Nat :=
  match parseU16 t with
  | .ok n => .ok n
  | .error k => .error (.err (.port t k))

/-- `parse_remote_special!` (`:225-235`). -/
def remoteSpecial (t : Str) : Except Fail RemoteSpec :=
  if t = kwSocks then .ok .socks
  else if t = kwHttp then .ok .http
  else if t = kwTproxy then .ok .tproxy
  else .error (.panic .special)

/-- `idna::domain_to_ascii(host).map_err(|_| Error::InvalidDomain(host.to_string()))?`. -/
def domainOrBail (o : Oracle) (t : Str) : Except Fail Str :=
  match o.idna t with
  | some a => .ok a
  | none => .error (.err (.invalidDomain t))

/-- The body of the arm taken.  Struct fields are evaluated in the order they are written
    (`local_addr`, then `remote_addr`), tuple elements left to right: this fixes which error is
    reported when several sub-strings are bad. -/
def evalArm (o : Oracle) (proto : Protocol) : Matched → Except Fail Remote
  | .socks1 => .ok ⟨.inet defaultLocal remoteSocksDefaultPort, .socks, proto⟩
  | .http1 => .ok ⟨.inet defaultLocal remoteHttpDefaultPort, .http, proto⟩
  | .tproxy1 => .ok ⟨.inet defaultLocal remoteTproxyDefaultPort, .tproxy, proto⟩
  | .port1 port => do
    let lp ← portOrBail port
    let rp ← portOrBail port
    .ok ⟨.inet defaultUnspec lp, .inet defaultLocal rp, proto⟩
  | .stdioSpecial2 special => do
    let r ← remoteSpecial special
    .ok ⟨.stdio, r, proto⟩
  | .stdioTproxy2 => .error (.err (.unsupportedCombination .stdioTproxy))
  | .stdioPort2 port => do
    let rp ← portOrBail port
    .ok ⟨.stdio, .inet defaultLocal rp, proto⟩
  | .unixSpecial2 uds special => do
    let r ← remoteSpecial special
    .ok ⟨.domainSocket (udsPath uds), r, proto⟩
  | .portSpecial2 port special => do
    let lp ← portOrBail port
    let r ← remoteSpecial special
    .ok ⟨.inet defaultLocal lp, r, proto⟩
  | .unixPort2 uds port => do
    let rp ← portOrBail port
    .ok ⟨.domainSocket (udsPath uds), .inet defaultLocal rp, proto⟩
  | .hostPort2 host port => do
    let lp ← portOrBail port
    let h ← domainOrBail o host
    let rp ← portOrBail port
    .ok ⟨.inet defaultUnspec lp, .inet h rp, proto⟩
  | .stdio3 rhost rport => do
    let h ← domainOrBail o rhost
    let rp ← portOrBail rport
    .ok ⟨.stdio, .inet h rp, proto⟩
  | .special3 lhost lport special => do
    let h ← domainOrBail o lhost
    let lp ← portOrBail lport
    let r ← remoteSpecial special
    .ok ⟨.inet h lp, r, proto⟩
  | .unix3 uds rhost rport => do
    let h ← domainOrBail o rhost
    let rp ← portOrBail rport
    .ok ⟨.domainSocket (udsPath uds), .inet h rp, proto⟩
  | .port3 lport rhost rport => do
    let lp ← portOrBail lport
    let h ← domainOrBail o rhost
    let rp ← portOrBail rport
    .ok ⟨.inet defaultUnspec lp, .inet h rp, proto⟩
  | .full4 lhost lport rhost rport => do
    let lh ← domainOrBail o lhost
    let lp ← portOrBail lport
    let rh ← domainOrBail o rhost
    let rp ← portOrBail rport
    .ok ⟨.inet lh lp, .inet rh rp, proto⟩
  | .wildcard => .error (.panic .arms)

/-- `matches!(.., LocalSpec::DomainSocket(_))`. -/
def LocalSpec.isDomainSocket : LocalSpec → Bool
  | .domainSocket _ => true
  | _ => false

/-- "Check for invalid cases" (`:373-410`), in source order. -/
def postChecks (r : Remote) : Except Fail Remote :=
  if (r.remoteAddr = .socks ∨ r.remoteAddr = .http) ∧ r.protocol = .udp then
    .error (.err (.unsupportedCombination .socksHttpUdp))
  else if r.localAddr.isDomainSocket ∧ r.protocol = .udp then
    .error (.err (.unsupportedCombination .unixUdp))
  else if r.localAddr.isDomainSocket ∧ r.remoteAddr = .tproxy then
    .error (.err (.unsupportedCombination .unixTproxy))
  else .ok r

/-- `Remote::from_str` (`:217-411`), also telling which arm was taken (for the harness' counts). -/
def parseArm (o : Oracle) (s : Str) : Option Arm × Except Fail Remote :=
  match splitProto o s with
  | .error e => (none, .error e)
  | .ok (rest, proto) =>
    match tokenize rest with
    | .error e => (none, .error e)
    | .ok tokens =>
      let m := selectArm (tokens.map (·.text))
      (some m.arm,
        match evalArm o proto m with
        | .error e => .error e
        | .ok r => postChecks r)

/-- `Remote::from_str`. -/
def parse (o : Oracle) (s : Str) : Except Fail Remote := (parseArm o s).2

/-! ### `Display` (`:86-164`) -/

/-- `add_brackets!` (`:51-59`). -/
def addBrackets (h : Str) : Str := if ':' ∈ h then '[' :: h ++ [']'] else h

/-- `u16`'s `Display`. -/
def showPort (n : Nat) : Str := Nat.toDigits 10 n

def Protocol.display : Protocol → Str
  | .tcp => kwTcp
  | .udp => kwUdp

def LocalSpec.display : LocalSpec → Str
  | .inet h p => addBrackets h ++ ':' :: showPort p
  | .stdio => kwStdio
  | .domainSocket path => '[' :: unixPrefix ++ path ++ [']']

def RemoteSpec.display : RemoteSpec → Str
  | .inet h p => addBrackets h ++ ':' :: showPort p
  | .socks => kwSocks
  | .http => kwHttp
  | .tproxy => kwTproxy

/-- `{local_addr}:{remote_addr}/{protocol}`. -/
def Remote.display (r : Remote) : Str :=
  r.localAddr.display ++ ':' :: r.remoteAddr.display ++ '/' :: r.protocol.display

end Penguin.RemoteSpec
