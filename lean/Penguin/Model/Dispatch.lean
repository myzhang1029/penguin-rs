/-
Which handler the client starts for which remote: `handle_remote`
(penguin/src/client/handle_remote/mod.rs:73-133), the `match (&remote.local_addr, &remote.remote_addr,
remote.protocol)` with its fourteen arms in source order (first match wins).

The value matched on is the `Remote` that `impl FromStr for Remote` produced (`Model/RemoteSpec.lean`);
six arms ignore the protocol with the comment "The parser guarantees that the protocol is TCP", and the
last arm is `unreachable!("clap should have rejected this combination")`.  Both are claims about the
PARSER; `Props/C01` proves them from `remote_parse_result_invariants` instead of assuming them.

The arms (pattern text, handler called, listener constructor and arguments) are regenerated from the
source on every run (`Gen/Dispatch.lean`); `arms_as_in_source` stops the build when an arm is added,
removed, re-ordered or calls something else.  Core Lean only.
-/
import Penguin.Model.RemoteSpec
import Penguin.Gen.Dispatch

namespace Penguin.Dispatch
open Penguin.RemoteSpec Penguin.Constants

/-- What the handler listens on. -/
inductive Listener where
  /-- `bind_tcp(lhost, lport)` -/
  | tcp (host : Str) (port : Nat)
  /-- `bind_uds(path)` -/
  | uds (path : Str)
  /-- `ReusableListener::new_stdio()` -/
  | stdio
  deriving DecidableEq, Repr

/-- The handler started, with exactly the arguments the arm passes. -/
inductive Handler where
  /-- `handle_tcp(listener, rhost, rport, hr)`: every accepted connection is bridged to (rhost, rport) -/
  | tcpForward (l : Listener) (rhost : Str) (rport : Nat)
  /-- `handle_udp(lhost, lport, rhost, rport, hr)` -/
  | udpForward (lhost : Str) (lport : Nat) (rhost : Str) (rport : Nat)
  /-- `handle_udp_stdio(rhost, rport, hr)` -/
  | udpStdio (rhost : Str) (rport : Nat)
  /-- `handle_socks(listener, udp_bind_host, hr)`: the host UDP associations are bound on -/
  | socks (l : Listener) (udpBindHost : Str)
  /-- `handle_http(listener, hr)` -/
  | http (l : Listener)
  | tproxyTcp (lhost : Str) (lport : Nat)
  | tproxyUdp (lhost : Str) (lport : Nat)
  /-- the `unreachable!` arm -/
  | unreachable
  deriving DecidableEq, Repr

/-- The literal `"localhost"` the stdio / unix-socket SOCKS arms pass (`:103`, `:107`). -/
def localhostLit : Str := "localhost".toList

/-- `handle_remote` (`mod.rs:80-132`), arm by arm in source order. -/
def dispatch (r : Remote) : Handler :=
  match r.localAddr, r.remoteAddr, r.protocol with
  | .inet lh lp, .inet rh rp, .tcp => .tcpForward (.tcp lh lp) rh rp            -- :82-85
  | .inet lh lp, .inet rh rp, .udp => .udpForward lh lp rh rp                  -- :86-88
  | .domainSocket p, .inet rh rp, _ => .tcpForward (.uds p) rh rp              -- :89-92  protocol ignored
  | .stdio, .inet rh rp, .tcp => .tcpForward .stdio rh rp                      -- :93-95
  | .stdio, .inet rh rp, .udp => .udpStdio rh rp                               -- :96-98
  | .inet lh lp, .socks, _ => .socks (.tcp lh lp) lh                           -- :100-103 protocol ignored
  | .stdio, .socks, _ => .socks .stdio localhostLit                            -- :104-107 protocol ignored
  | .domainSocket p, .socks, _ => .socks (.uds p) localhostLit                 -- :108-111 protocol ignored
  | .inet lh lp, .http, _ => .http (.tcp lh lp)                                -- :113-116 protocol ignored
  | .stdio, .http, _ => .http .stdio                                           -- :117-120 protocol ignored
  | .domainSocket p, .http, _ => .http (.uds p)                                -- :121-124 protocol ignored
  | .inet lh lp, .tproxy, .tcp => .tproxyTcp lh lp                             -- :126-128
  | .inet lh lp, .tproxy, .udp => .tproxyUdp lh lp                             -- :129-131
  | .stdio, .tproxy, _ => .unreachable                                         -- :132-134
  | .domainSocket _, .tproxy, _ => .unreachable

/-- The arms as text, in the model's order: (pattern, handler, listener constructor | arguments). -/
def armTexts : List (String × String × String) :=
  [("LocalSpec::Inet((lhost, lport)), RemoteSpec::Inet((rhost, rport)), Protocol::Tcp", "handle_tcp", "bind_tcp|L, rhost, *rport, hr"),
   ("LocalSpec::Inet((lhost, lport)), RemoteSpec::Inet((rhost, rport)), Protocol::Udp", "handle_udp", "|lhost, *lport, rhost, *rport, hr"),
   ("LocalSpec::DomainSocket(path), RemoteSpec::Inet((rhost, rport)), _", "handle_tcp", "bind_uds|L, rhost, *rport, hr"),
   ("LocalSpec::Stdio, RemoteSpec::Inet((rhost, rport)), Protocol::Tcp", "handle_tcp", "ReusableListener::new_stdio|L, rhost, *rport, hr"),
   ("LocalSpec::Stdio, RemoteSpec::Inet((rhost, rport)), Protocol::Udp", "handle_udp_stdio", "|rhost, *rport, hr"),
   ("LocalSpec::Inet((lhost, lport)), RemoteSpec::Socks, _", "handle_socks", "bind_tcp|L, lhost, hr"),
   ("LocalSpec::Stdio, RemoteSpec::Socks, _", "handle_socks", "ReusableListener::new_stdio|L, \"localhost\", hr"),
   ("LocalSpec::DomainSocket(path), RemoteSpec::Socks, _", "handle_socks", "bind_uds|L, \"localhost\", hr"),
   ("LocalSpec::Inet((lhost, lport)), RemoteSpec::Http, _", "handle_http", "bind_tcp|L, hr"),
   ("LocalSpec::Stdio, RemoteSpec::Http, _", "handle_http", "ReusableListener::new_stdio|L, hr"),
   ("LocalSpec::DomainSocket(path), RemoteSpec::Http, _", "handle_http", "bind_uds|L, hr"),
   ("LocalSpec::Inet((lhost, lport)), RemoteSpec::Tproxy, Protocol::Tcp", "handle_tproxy_tcp", "|lhost, *lport, hr"),
   ("LocalSpec::Inet((lhost, lport)), RemoteSpec::Tproxy, Protocol::Udp", "handle_tproxy_udp", "|lhost, *lport, hr"),
   ("LocalSpec::Stdio | LocalSpec::DomainSocket(_), RemoteSpec::Tproxy, _", "unreachable", "")]

/-- Source-shape tie: the arms regenerated from `handle_remote/mod.rs` are these, in this order. -/
theorem arms_as_in_source : dispatchArms = armTexts := by rfl

/-- Does the handler serve datagrams (UDP) rather than byte streams? -/
def Handler.isUdp : Handler → Bool
  | .udpForward .. | .udpStdio .. | .tproxyUdp .. => true
  | _ => false

/-- The local end a handler occupies: the listener, or the UDP socket address. -/
inductive LocalEnd where
  | stream (l : Listener)
  | dgram (host : Str) (port : Nat)
  | dgramStdio
  | none
  deriving DecidableEq, Repr

def Handler.localEnd : Handler → LocalEnd
  | .tcpForward l _ _ | .socks l _ | .http l => .stream l
  | .udpForward lh lp _ _ | .tproxyUdp lh lp => .dgram lh lp
  | .tproxyTcp lh lp => .stream (.tcp lh lp)
  | .udpStdio .. => .dgramStdio
  | .unreachable => .none

end Penguin.Dispatch
