/-
Bytes, big-endian integers and hex text.  Core Lean only (the drivers link against this).
-/
namespace Penguin

abbrev Bytes := List UInt8

deriving instance DecidableEq for Except

/-- Big-endian 16-bit encoding of `n` (only the low 16 bits are used, as `put_u16` of a `u16`). -/
def be16 (n : Nat) : Bytes :=
  [UInt8.ofNat (n / 256 % 256), UInt8.ofNat (n % 256)]

def be32 (n : Nat) : Bytes :=
  [UInt8.ofNat (n / 16777216 % 256), UInt8.ofNat (n / 65536 % 256),
   UInt8.ofNat (n / 256 % 256), UInt8.ofNat (n % 256)]

def rd16 (a b : UInt8) : Nat := a.toNat * 256 + b.toNat

def rd32 (a b c d : UInt8) : Nat :=
  a.toNat * 16777216 + b.toNat * 65536 + c.toNat * 256 + d.toNat

theorem rd16_lt (a b : UInt8) : rd16 a b < 65536 := by
  have := a.toNat_lt; have := b.toNat_lt; unfold rd16; omega

theorem rd32_lt (a b c d : UInt8) : rd32 a b c d < 4294967296 := by
  have := a.toNat_lt; have := b.toNat_lt; have := c.toNat_lt; have := d.toNat_lt
  unfold rd32; omega

private theorem u8_ofNat_eq (a : UInt8) (n : Nat) (h : n % 256 = a.toNat) : UInt8.ofNat n = a := by
  apply UInt8.toNat_inj.mp
  rw [UInt8.toNat_ofNat']; exact h

theorem be16_rd16 (a b : UInt8) : be16 (rd16 a b) = [a, b] := by
  have ha := a.toNat_lt; have hb := b.toNat_lt
  unfold be16 rd16
  congr 1
  · apply u8_ofNat_eq; omega
  · congr 1; apply u8_ofNat_eq; omega

theorem be32_rd32 (a b c d : UInt8) : be32 (rd32 a b c d) = [a, b, c, d] := by
  have ha := a.toNat_lt; have hb := b.toNat_lt; have hc := c.toNat_lt; have hd := d.toNat_lt
  unfold be32 rd32
  congr 1
  · apply u8_ofNat_eq; omega
  · congr 1
    · apply u8_ofNat_eq; omega
    · congr 1
      · apply u8_ofNat_eq; omega
      · congr 1; apply u8_ofNat_eq; omega

theorem rd16_be16 (n : Nat) (h : n < 65536) :
    rd16 (UInt8.ofNat (n / 256 % 256)) (UInt8.ofNat (n % 256)) = n := by
  unfold rd16; simp only [UInt8.toNat_ofNat']; omega

theorem rd32_be32 (n : Nat) (h : n < 4294967296) :
    rd32 (UInt8.ofNat (n / 16777216 % 256)) (UInt8.ofNat (n / 65536 % 256))
      (UInt8.ofNat (n / 256 % 256)) (UInt8.ofNat (n % 256)) = n := by
  -- `omega` is much quicker on repeated division by 256 than on the divisors 256² and 256³
  have h2 : n / 65536 = n / 256 / 256 := (Nat.div_div_eq_div_mul n 256 256).symm
  have h3 : n / 16777216 = n / 256 / 256 / 256 := by rw [Nat.div_div_eq_div_mul, Nat.div_div_eq_div_mul]
  unfold rd32; simp only [UInt8.toNat_ofNat', h2, h3, Nat.mod_mod]; omega

@[simp] theorem be16_length (n : Nat) : (be16 n).length = 2 := rfl
@[simp] theorem be32_length (n : Nat) : (be32 n).length = 4 := rfl

/-! ### Hex text (driver only; nothing is proved about it) -/

def hexDigit (n : Nat) : Char :=
  if n < 10 then Char.ofNat (48 + n) else Char.ofNat (87 + n)

def toHex (bs : Bytes) : String :=
  String.ofList (bs.foldr (fun b acc => hexDigit (b.toNat / 16) :: hexDigit (b.toNat % 16) :: acc) [])

def hexVal (c : Char) : Option Nat :=
  if '0' ≤ c ∧ c ≤ '9' then some (c.toNat - 48)
  else if 'a' ≤ c ∧ c ≤ 'f' then some (c.toNat - 87)
  else if 'A' ≤ c ∧ c ≤ 'F' then some (c.toNat - 55)
  else none

def ofHexChars : List Char → Option Bytes
  | [] => some []
  | [_] => none
  | a :: b :: rest =>
    match hexVal a, hexVal b, ofHexChars rest with
    | some x, some y, some r => some (UInt8.ofNat (x * 16 + y) :: r)
    | _, _, _ => none

/-- `-` denotes the empty byte string, so every field of a line is a non-empty token. -/
def ofHex (s : String) : Option Bytes :=
  if s = "-" then some [] else ofHexChars s.toList

def hexOrDash (bs : Bytes) : String := if bs.isEmpty then "-" else toHex bs

def tokens (line : String) : List String :=
  (line.trimAscii.toString.splitOn " ").filter (· ≠ "")

end Penguin
